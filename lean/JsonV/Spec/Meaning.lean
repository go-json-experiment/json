/-
C03 — the code-INDEPENDENT meaning of a JSON text (RFC 8259), core Lean only.

`parseTree : Bytes → Option MTree` is a grammar-directed parser written from the RFC
productions (§2 structural characters and whitespace, §3 literals, §4 objects, §5 arrays,
§6 numbers, §7 strings, §8.1 UTF-8).  It knows nothing about the Go implementation:

* strings are decoded by `unescape` (the nine escape productions; `\uXXXX\uXXXX` surrogate
  pairs are combined into one code point which is encoded as UTF-8 (RFC 3629); a surrogate that
  is not part of a pair, ill-formed UTF-8 and raw control characters make the text invalid —
  this is the strict reading the library applies under its default options);
* numbers keep their literal; the float64 they denote is a PARAMETER of the property theorems
  (`FloatParse`).  `f64Round` below is the *specification* of that parameter: the exact rational
  value of the literal rounded to nearest-even binary64, `none` on overflow.  It is executable
  (exact `Nat` arithmetic) and is validated by the harness against `math/big` and `strconv`;
* objects keep their members in textual order with decoded names, duplicates included
  (RFC 8259 allows them; rejecting them is the library's default policy, see Model/AnyDecode);
* there is no nesting limit here (the library's limit of 10000 is in the model).

All functions are total with explicit fuel; `parseTree` uses fuel = 2·(input length) + 2
(one unit per value and one per member/element list entry; see `Lemmas/GlueMeaningFuel.lean`).
-/
import JsonV.Model.Basic

namespace JsonV.Spec.Meaning
open JsonV

/-- The meaning of a JSON text. -/
inductive MTree where
  | null
  | bool (b : Bool)
  | num (literal : Bytes)
  | str (decoded : Bytes)
  | arr (elems : List MTree)
  | obj (members : List (Bytes × MTree))
  deriving Inhabited

/-! ### Whitespace (RFC 8259 §2) -/

def isWs (c : UInt8) : Bool := c = 0x20 || c = 0x09 || c = 0x0A || c = 0x0D

def skipWs : Bytes → Bytes
  | [] => []
  | c :: r => if isWs c then skipWs r else c :: r

/-! ### UTF-8 (RFC 3629 §4 / Unicode table 3-7) -/

def isCont (c : UInt8) : Bool := 0x80 ≤ c && c ≤ 0xBF

/-- One well-formed UTF-8 encoded scalar value at the head of `b`: (its bytes, the rest). -/
def utf8Char (b : Bytes) : Option (Bytes × Bytes) :=
  match b with
  | [] => none
  | b0 :: r0 =>
    if b0 < 0x80 then some ([b0], r0)
    else if b0 < 0xC2 then none
    else if b0 < 0xE0 then
      match r0 with
      | b1 :: r1 => if isCont b1 then some ([b0, b1], r1) else none
      | _ => none
    else if b0 < 0xF0 then
      match r0 with
      | b1 :: b2 :: r2 =>
        let lo : UInt8 := if b0 = 0xE0 then 0xA0 else 0x80
        let hi : UInt8 := if b0 = 0xED then 0x9F else 0xBF
        if lo ≤ b1 && b1 ≤ hi && isCont b2 then some ([b0, b1, b2], r2) else none
      | _ => none
    else if b0 < 0xF5 then
      match r0 with
      | b1 :: b2 :: b3 :: r3 =>
        let lo : UInt8 := if b0 = 0xF0 then 0x90 else 0x80
        let hi : UInt8 := if b0 = 0xF4 then 0x8F else 0xBF
        if lo ≤ b1 && b1 ≤ hi && isCont b2 && isCont b3 then some ([b0, b1, b2, b3], r3) else none
      | _ => none
    else none

/-- UTF-8 encoding of a Unicode scalar value (callers never pass surrogates or values > 0x10FFFF). -/
def utf8Encode (r : Nat) : Bytes :=
  if r < 0x80 then [UInt8.ofNat r]
  else if r < 0x800 then [UInt8.ofNat (0xC0 + r / 64), UInt8.ofNat (0x80 + r % 64)]
  else if r < 0x10000 then
    [UInt8.ofNat (0xE0 + r / 4096), UInt8.ofNat (0x80 + (r / 64) % 64), UInt8.ofNat (0x80 + r % 64)]
  else
    [UInt8.ofNat (0xF0 + r / 262144), UInt8.ofNat (0x80 + (r / 4096) % 64),
     UInt8.ofNat (0x80 + (r / 64) % 64), UInt8.ofNat (0x80 + r % 64)]

/-! ### Strings (RFC 8259 §7) -/

def hexVal (c : UInt8) : Option Nat :=
  if 0x30 ≤ c && c ≤ 0x39 then some (c.toNat - 0x30)
  else if 0x61 ≤ c && c ≤ 0x66 then some (c.toNat - 0x61 + 10)
  else if 0x41 ≤ c && c ≤ 0x46 then some (c.toNat - 0x41 + 10)
  else none

/-- `4HEXDIG` -/
def hex4 (b : Bytes) : Option (Nat × Bytes) :=
  match b with
  | a :: b :: c :: d :: r =>
    match hexVal a, hexVal b, hexVal c, hexVal d with
    | some a, some b, some c, some d => some (a * 4096 + b * 256 + c * 16 + d, r)
    | _, _, _, _ => none
  | _ => none

/-- What follows a backslash: (the UTF-8 bytes the escape denotes, the rest). -/
def escape (b : Bytes) : Option (Bytes × Bytes) :=
  match b with
  | [] => none
  | c :: r =>
    if c = 0x22 then some ([0x22], r)        -- \"
    else if c = 0x5C then some ([0x5C], r)   -- \\
    else if c = 0x2F then some ([0x2F], r)   -- \/
    else if c = 0x62 then some ([0x08], r)   -- \b
    else if c = 0x66 then some ([0x0C], r)   -- \f
    else if c = 0x6E then some ([0x0A], r)   -- \n
    else if c = 0x72 then some ([0x0D], r)   -- \r
    else if c = 0x74 then some ([0x09], r)   -- \t
    else if c = 0x75 then                    -- \uXXXX
      match hex4 r with
      | none => none
      | some (v, r1) =>
        if 0xD800 ≤ v && v < 0xDC00 then
          -- a high surrogate must be followed by an escaped low surrogate; together one code point
          match r1 with
          | 0x5C :: 0x75 :: r2 =>
            match hex4 r2 with
            | some (w, r3) =>
              if 0xDC00 ≤ w && w < 0xE000 then
                some (utf8Encode (0x10000 + (v - 0xD800) * 1024 + (w - 0xDC00)), r3)
              else none
            | none => none
          | _ => none
        else if 0xDC00 ≤ v && v < 0xE000 then none    -- lone low surrogate
        else some (utf8Encode v, r1)
    else none

/-- The characters of a string after the opening quote, up to and including the closing quote:
(decoded bytes, rest after the closing quote). -/
def strBody : Nat → Bytes → Option (Bytes × Bytes)
  | 0, _ => none
  | fuel+1, b =>
    match b with
    | [] => none
    | c :: r =>
      if c = 0x22 then some ([], r)
      else if c = 0x5C then
        match escape r with
        | some (u, r') =>
          match strBody fuel r' with
          | some (s, r'') => some (u ++ s, r'')
          | none => none
        | none => none
      else if c < 0x20 then none
      else
        match utf8Char (c :: r) with
        | some (u, r') =>
          match strBody fuel r' with
          | some (s, r'') => some (u ++ s, r'')
          | none => none
        | none => none

/-- A string token (opening quote already consumed). -/
def lexStr (b : Bytes) : Option (Bytes × Bytes) := strBody (b.length + 1) b

/-- RFC 8259 meaning of a complete string literal `"…"`: the decoded bytes. -/
def unescape (q : Bytes) : Option Bytes :=
  match q with
  | 0x22 :: r =>
    match lexStr r with
    | some (s, []) => some s
    | _ => none
  | _ => none

/-! ### Numbers (RFC 8259 §6) -/

def isDigit (c : UInt8) : Bool := 0x30 ≤ c && c ≤ 0x39

/-- `*DIGIT` -/
def digits : Bytes → Bytes × Bytes
  | [] => ([], [])
  | c :: r => if isDigit c then (let d := digits r; (c :: d.1, d.2)) else ([], c :: r)

/-- `[ frac ]` : `. 1*DIGIT`.  `none` when a decimal point is not followed by a digit
(no valid text continues that way, so the number production fails there). -/
def fracPart (b : Bytes) : Option (Bytes × Bytes) :=
  match b with
  | [] => some ([], [])
  | c :: r =>
    if c = 0x2E then
      let ds := digits r
      if ds.1.isEmpty then none else some (0x2E :: ds.1, ds.2)
    else some ([], c :: r)

/-- `[ exp ]` : `e [ - / + ] 1*DIGIT`.  `none` when an `e` is not followed by `[sign] digit`. -/
def expPart (b : Bytes) : Option (Bytes × Bytes) :=
  match b with
  | [] => some ([], [])
  | c :: r =>
    if c = 0x65 || c = 0x45 then
      let sr : Bytes × Bytes :=
        match r with
        | s :: r' => if s = 0x2D || s = 0x2B then ([s], r') else ([], r)
        | [] => ([], r)
      let ds := digits sr.2
      if ds.1.isEmpty then none else some (c :: sr.1 ++ ds.1, ds.2)
    else some ([], c :: r)

/-- `[ frac ] [ exp ]` after the integer part `pre`. -/
def fracExp (pre : Bytes) (b : Bytes) : Option (Bytes × Bytes) :=
  match fracPart b with
  | none => none
  | some f =>
    match expPart f.2 with
    | none => none
    | some e => some (pre ++ f.1 ++ e.1, e.2)

/-- `number = [ minus ] int [ frac ] [ exp ]` : (literal, rest), longest match. -/
def lexNum (b : Bytes) : Option (Bytes × Bytes) :=
  let sb : Bytes × Bytes := match b with
    | [] => ([], [])
    | c :: r => if c = 0x2D then ([0x2D], r) else ([], c :: r)
  match sb.2 with
  | [] => none
  | c :: r =>
    if c = 0x30 then fracExp (sb.1 ++ [c]) r
    else if 0x31 ≤ c && c ≤ 0x39 then
      let ds := digits r
      fracExp (sb.1 ++ c :: ds.1) ds.2
    else none

/-! ### Literal names (§3) -/

def litNull : Bytes := [0x6E, 0x75, 0x6C, 0x6C]
def litTrue : Bytes := [0x74, 0x72, 0x75, 0x65]
def litFalse : Bytes := [0x66, 0x61, 0x6C, 0x73, 0x65]

/-- `stripPrefix p b = some r` iff `b = p ++ r`. -/
def stripPrefix : Bytes → Bytes → Option Bytes
  | [], b => some b
  | _ :: _, [] => none
  | p :: ps, c :: r => if p = c then stripPrefix ps r else none

/-! ### Values, objects, arrays (§3–§5) -/

/-- A scalar value at the head of `b` (no leading whitespace). -/
def lexScalar (b : Bytes) : Option (MTree × Bytes) :=
  match b with
  | [] => none
  | c :: r =>
    if c = 0x22 then
      match lexStr r with
      | some (s, r') => some (.str s, r')
      | none => none
    else if c = 0x6E then (stripPrefix litNull b).map (fun r' => (.null, r'))
    else if c = 0x74 then (stripPrefix litTrue b).map (fun r' => (.bool true, r'))
    else if c = 0x66 then (stripPrefix litFalse b).map (fun r' => (.bool false, r'))
    else
      match lexNum b with
      | some (l, r') => some (.num l, r')
      | none => none

mutual
/-- `value` at the head of `b` (leading whitespace already skipped): (tree, rest). -/
def parseValue : Nat → Bytes → Option (MTree × Bytes)
  | 0, _ => none
  | fuel+1, b =>
    match b with
    | [] => none
    | c :: r =>
      if c = 0x7B then          -- begin-object
        match skipWs r with
        | [] => none
        | c' :: r' =>
          if c' = 0x7D then some (.obj [], r')
          else
            match parseMembers fuel (c' :: r') with
            | some (ms, r'') => some (.obj ms, r'')
            | none => none
      else if c = 0x5B then     -- begin-array
        match skipWs r with
        | [] => none
        | c' :: r' =>
          if c' = 0x5D then some (.arr [], r')
          else
            match parseElems fuel (c' :: r') with
            | some (xs, r'') => some (.arr xs, r'')
            | none => none
      else lexScalar (c :: r)

/-- `member *( value-separator member ) end-object`, at the start of a member. -/
def parseMembers : Nat → Bytes → Option (List (Bytes × MTree) × Bytes)
  | 0, _ => none
  | fuel+1, b =>
    match b with
    | [] => none
    | c :: r =>
      if c = 0x22 then
        match lexStr r with
        | none => none
        | some (name, r1) =>
          match skipWs r1 with
          | [] => none
          | c2 :: r2 =>
            if c2 = 0x3A then     -- name-separator
              match parseValue fuel (skipWs r2) with
              | none => none
              | some (v, r3) =>
                match skipWs r3 with
                | [] => none
                | c4 :: r4 =>
                  if c4 = 0x2C then     -- value-separator
                    match parseMembers fuel (skipWs r4) with
                    | some (ms, r5) => some ((name, v) :: ms, r5)
                    | none => none
                  else if c4 = 0x7D then some ([(name, v)], r4)
                  else none
            else none
      else none

/-- `value *( value-separator value ) end-array`, at the start of an element. -/
def parseElems : Nat → Bytes → Option (List MTree × Bytes)
  | 0, _ => none
  | fuel+1, b =>
    match parseValue fuel b with
    | none => none
    | some (v, r3) =>
      match skipWs r3 with
      | [] => none
      | c4 :: r4 =>
        if c4 = 0x2C then
          match parseElems fuel (skipWs r4) with
          | some (xs, r5) => some (v :: xs, r5)
          | none => none
        else if c4 = 0x5D then some ([v], r4)
        else none
end

/-- `JSON-text = ws value ws` with a given amount of fuel. -/
def parseTreeF (fuel : Nat) (b : Bytes) : Option MTree :=
  match parseValue fuel (skipWs b) with
  | some (t, r) => if (skipWs r).isEmpty then some t else none
  | none => none

/-- The meaning of a JSON text; `none` iff the text is not valid JSON (strict UTF-8, no lone surrogates). -/
def parseTree (b : Bytes) : Option MTree := parseTreeF (2 * b.length + 2) b

/-! ### Measures on trees -/

mutual
/-- Container nesting depth: scalars 0, a container 1 + the maximum over its children. -/
def MTree.depth : MTree → Nat
  | .arr xs => depthList xs + 1
  | .obj ms => depthMembers ms + 1
  | _ => 0
def depthList : List MTree → Nat
  | [] => 0
  | x :: xs => max x.depth (depthList xs)
def depthMembers : List (Bytes × MTree) → Nat
  | [] => 0
  | (_, v) :: ms => max v.depth (depthMembers ms)
end

/-- Member names of an object in textual order. -/
def names (ms : List (Bytes × MTree)) : List Bytes := ms.map (·.1)

/-- pairwise distinct names -/
def noDupNames : List Bytes → Bool
  | [] => true
  | n :: ns => !ns.contains n && noDupNames ns

mutual
/-- No object anywhere in the tree has two members with the same decoded name. -/
def MTree.noDup : MTree → Bool
  | .arr xs => noDupList xs
  | .obj ms => noDupNames (names ms) && noDupMembers ms
  | _ => true
def noDupList : List MTree → Bool
  | [] => true
  | x :: xs => x.noDup && noDupList xs
def noDupMembers : List (Bytes × MTree) → Bool
  | [] => true
  | (_, v) :: ms => v.noDup && noDupMembers ms
end

/-! ### The float64 denoted by a number literal (specification of the `FloatParse` parameter) -/

def digitsVal (ds : Bytes) : Nat := ds.foldl (fun acc c => acc * 10 + (c.toNat - 0x30)) 0

/-- Split a number literal of the RFC grammar: (negative, integer digits, fraction digits, exponent). -/
def splitNum (lit : Bytes) : Bool × Bytes × Bytes × Int :=
  let (neg, b1) : Bool × Bytes := match lit with
    | 0x2D :: r => (true, r)
    | _ => (false, lit)
  let i := digits b1
  let (fr, b2) : Bytes × Bytes := match i.2 with
    | 0x2E :: r => digits r
    | _ => ([], i.2)
  let e : Int := match b2 with
    | _ :: 0x2D :: r => - Int.ofNat (digitsVal (digits r).1)
    | _ :: 0x2B :: r => Int.ofNat (digitsVal (digits r).1)
    | _ :: r => Int.ofNat (digitsVal (digits r).1)
    | [] => 0
  (neg, i.1, fr, e)

/-- Round the positive rational `a / b` (`a, b > 0`) to the nearest binary64, ties to even:
the bit pattern without sign, `none` if the result is not finite. -/
def roundRat (a b : Nat) : Option Nat :=
  -- k with 2^k ≤ a/b < 2^(k+1)
  let k0 : Int := Int.ofNat a.log2 - Int.ofNat b.log2
  let ge (k : Int) : Bool := if k ≥ 0 then a ≥ b * 2 ^ k.toNat else a * 2 ^ (-k).toNat ≥ b
  let k : Int := if ge k0 then k0 else k0 - 1
  -- exponent of the unit in the last place; -1074 for subnormals
  let p : Int := if k - 52 < -1074 then -1074 else k - 52
  let num : Nat := if p ≥ 0 then a else a * 2 ^ (-p).toNat
  let den : Nat := if p ≥ 0 then b * 2 ^ p.toNat else b
  let q := num / den
  let r := num % den
  let q := if 2 * r > den || (2 * r = den && q % 2 = 1) then q + 1 else q
  -- q ≤ 2^53; value = q * 2^p
  let (q, p) : Nat × Int := if q = 2 ^ 53 then (2 ^ 52, p + 1) else (q, p)
  if q < 2 ^ 52 then some q            -- subnormal (only possible when p = -1074), or zero
  else
    let ef : Int := p + 1075             -- biased exponent field
    if ef ≥ 2047 then none else some (ef.toNat * 2 ^ 52 + (q - 2 ^ 52))

/-- The binary64 bit pattern denoted by a JSON number literal: exact value, round to nearest even;
`none` when the magnitude rounds beyond the largest finite float64 (the library must report an error). -/
def f64Round (lit : Bytes) : Option UInt64 :=
  let (neg, ip, fr, e) := splitNum lit
  let ds := ip ++ fr
  let m := digitsVal ds
  let sign : Nat := if neg then 2 ^ 63 else 0
  if m = 0 then some (UInt64.ofNat sign)
  else
    let e10 : Int := e - Int.ofNat fr.length         -- value = m * 10^e10
    -- decimal magnitude: 10^(nd-1) ≤ m < 10^nd, so 10^(nd+e10-1) ≤ value < 10^(nd+e10)
    let nd : Int := Int.ofNat (Nat.toDigits 10 m).length
    if nd + e10 > 310 then none                      -- ≥ 10^310 > 2^1024
    else if nd + e10 < -330 then some (UInt64.ofNat sign)   -- < 10^-330 < 2^-1075: rounds to zero
    else
      let r := if e10 ≥ 0 then roundRat (m * 10 ^ e10.toNat) 1 else roundRat m (10 ^ (-e10).toNat)
      r.map (fun bits => UInt64.ofNat (sign + bits))

end JsonV.Spec.Meaning
