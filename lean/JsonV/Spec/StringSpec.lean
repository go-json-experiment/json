/-
Code-independent specification of JSON string literals (C11).

* `scalars`, `lossy`, `illFormedCount`: what a byte string *means* as text.  The only ingredient is the
  trusted parameter `Utf8.decodeRune` (Unicode table 3-7): the text is split greedily into maximal
  well-formed sequences; every byte that does not start one is an *ill-formed byte* and stands for exactly
  one U+FFFD.
* `canonQuote`: the RFC 8785 §3.2.2.2 serialisation ("shortest form"), defined per scalar value.
* `Unescapes`: the meaning of the inside of a JSON string literal per RFC 8259 §7, one constructor per
  grammar production (`unescaped`, the eight two-character escapes, `\uXXXX`, a surrogate pair).
-/
import JsonV.Lemmas.Utf8L

namespace JsonV.Spec.StringSpec
open JsonV JsonV.Model.Utf8

private theorem decodeRune_pos (c : UInt8) (t : Bytes) : 1 ≤ (decodeRune (c :: t)).2 := decodeRune_snd_pos c t

/-- The byte at the head of `p` does not start a well-formed UTF-8 sequence. -/
def illFormedHead (p : Bytes) : Bool := (decodeRune p).1 = runeError && (decodeRune p).2 = 1

def replacement : Bytes := [0xEF, 0xBF, 0xBD]

/-- Scalar values of a byte string (U+FFFD for each ill-formed byte). -/
def scalars : Bytes → List Nat
  | [] => []
  | c :: t => (decodeRune (c :: t)).1 :: scalars ((c :: t).drop (decodeRune (c :: t)).2)
termination_by s => s.length
decreasing_by
  have := decodeRune_pos c t
  simp only [List.length_drop, List.length_cons]; omega

/-- The text with each ill-formed byte replaced by exactly one U+FFFD (EF BF BD). -/
def lossy : Bytes → Bytes
  | [] => []
  | c :: t =>
    (if illFormedHead (c :: t) then replacement else (c :: t).take (decodeRune (c :: t)).2) ++
      lossy ((c :: t).drop (decodeRune (c :: t)).2)
termination_by s => s.length
decreasing_by
  have := decodeRune_pos c t
  simp only [List.length_drop, List.length_cons]; omega

/-- Number of ill-formed bytes. -/
def illFormedCount : Bytes → Nat
  | [] => 0
  | c :: t =>
    (if illFormedHead (c :: t) then 1 else 0) + illFormedCount ((c :: t).drop (decodeRune (c :: t)).2)
termination_by s => s.length
decreasing_by
  have := decodeRune_pos c t
  simp only [List.length_drop, List.length_cons]; omega

/-- Well-formed UTF-8: no ill-formed byte. -/
def WellFormed (s : Bytes) : Prop := illFormedCount s = 0

/-! ### RFC 8785 §3.2.2.2 -/

def hexDigitLower (n : Nat) : UInt8 := if n < 10 then UInt8.ofNat (0x30 + n) else UInt8.ofNat (0x61 + (n - 10))

/-- Serialisation of one scalar value: `\"` `\\` `\b` `\f` `\n` `\r` `\t`; other controls below U+0020 as
lower-case `\u00xx`; everything else as itself (UTF-8). -/
def canonChar (r : Nat) : Bytes :=
  if r = 0x22 then [0x5c, 0x22]
  else if r = 0x5c then [0x5c, 0x5c]
  else if r = 0x08 then [0x5c, 0x62]
  else if r = 0x09 then [0x5c, 0x74]
  else if r = 0x0a then [0x5c, 0x6e]
  else if r = 0x0c then [0x5c, 0x66]
  else if r = 0x0d then [0x5c, 0x72]
  else if r < 0x20 then [0x5c, 0x75, 0x30, 0x30, hexDigitLower (r / 16), hexDigitLower (r % 16)]
  else encodeRune r

def canonQuote (s : Bytes) : Bytes := 0x22 :: ((scalars s).flatMap canonChar ++ [0x22])

/-! ### RFC 8259 §7 -/

/-- `escape ( %x22 / %x5C / %x2F / %x62 / %x66 / %x6E / %x72 / %x74 )` with the character each denotes. -/
def simpleEscapes : List (UInt8 × UInt8) :=
  [(0x22, 0x22), (0x5c, 0x5c), (0x2f, 0x2f), (0x62, 0x08), (0x66, 0x0c), (0x6e, 0x0a), (0x72, 0x0d), (0x74, 0x09)]

/-- HEXDIG (either case). -/
def hexDigitVal (c : UInt8) : Option Nat :=
  let c := c.toNat
  if 0x30 ≤ c ∧ c ≤ 0x39 then some (c - 0x30)
  else if 0x41 ≤ c ∧ c ≤ 0x46 then some (c - 0x41 + 10)
  else if 0x61 ≤ c ∧ c ≤ 0x66 then some (c - 0x61 + 10)
  else none

def hex4 (a b c d : UInt8) : Option Nat :=
  match hexDigitVal a, hexDigitVal b, hexDigitVal c, hexDigitVal d with
  | some a, some b, some c, some d => some (a * 4096 + b * 256 + c * 16 + d)
  | _, _, _, _ => none

/-- `Unescapes body m`: the characters `body` between the quotes of a JSON string literal denote the text
`m` (UTF-8).  Lone surrogate escapes have no meaning (RFC 8259 §8.2) and no constructor. -/
inductive Unescapes : Bytes → Bytes → Prop
  | nil : Unescapes [] []
  /-- unescaped = %x20-21 / %x23-5B / %x5D-10FFFF, one well-formed UTF-8 sequence `p` -/
  | unescaped {p rest m : Bytes} {r : Nat} :
      decodeRune p = (r, p.length) → p ≠ [] → illFormedHead p = false →
      0x20 ≤ r → r ≠ 0x22 → r ≠ 0x5c → Unescapes rest m → Unescapes (p ++ rest) (p ++ m)
  | simple {e v : UInt8} {rest m : Bytes} :
      (e, v) ∈ simpleEscapes → Unescapes rest m → Unescapes (0x5c :: e :: rest) (v :: m)
  /-- `\uXXXX` outside the surrogate range -/
  | unicode {a b c d : UInt8} {v : Nat} {rest m : Bytes} :
      hex4 a b c d = some v → isSurrogate v = false → Unescapes rest m →
      Unescapes (0x5c :: 0x75 :: a :: b :: c :: d :: rest) (encodeRune v ++ m)
  /-- a UTF-16 surrogate pair (RFC 8259 §7: U+1D11E is `𝄞`) -/
  | pair {a b c d a' b' c' d' : UInt8} {hi lo : Nat} {rest m : Bytes} :
      hex4 a b c d = some hi → hex4 a' b' c' d' = some lo →
      isHighSurrogate hi = true → isLowSurrogate lo = true → Unescapes rest m →
      Unescapes (0x5c :: 0x75 :: a :: b :: c :: d :: 0x5c :: 0x75 :: a' :: b' :: c' :: d' :: rest)
        (encodeRune (0x10000 + (hi - 0xD800) * 0x400 + (lo - 0xDC00)) ++ m)

/-- `UnescapesLossy body m k`: like `Unescapes`, for content that may also hold raw ill-formed UTF-8 bytes (accepted
under AllowInvalidUTF8): each ill-formed byte — a byte that does not start a well-formed sequence in the remaining
content — stands for exactly one U+FFFD; `k` counts them. -/
inductive UnescapesLossy : Bytes → Bytes → Nat → Prop
  | nil : UnescapesLossy [] [] 0
  | unescaped {p rest m : Bytes} {r k : Nat} :
      decodeRune p = (r, p.length) → p ≠ [] → illFormedHead p = false →
      0x20 ≤ r → r ≠ 0x22 → r ≠ 0x5c → UnescapesLossy rest m k → UnescapesLossy (p ++ rest) (p ++ m) k
  /-- one ill-formed byte ↦ one U+FFFD -/
  | bad {c : UInt8} {rest m : Bytes} {k : Nat} :
      0x80 ≤ c.toNat → illFormedHead (c :: rest) = true → UnescapesLossy rest m k →
      UnescapesLossy (c :: rest) (replacement ++ m) (k + 1)
  | simple {e v : UInt8} {rest m : Bytes} {k : Nat} :
      (e, v) ∈ simpleEscapes → UnescapesLossy rest m k → UnescapesLossy (0x5c :: e :: rest) (v :: m) k
  | unicode {a b c d : UInt8} {v : Nat} {rest m : Bytes} {k : Nat} :
      hex4 a b c d = some v → isSurrogate v = false → UnescapesLossy rest m k →
      UnescapesLossy (0x5c :: 0x75 :: a :: b :: c :: d :: rest) (encodeRune v ++ m) k
  | pair {a b c d a' b' c' d' : UInt8} {hi lo : Nat} {rest m : Bytes} {k : Nat} :
      hex4 a b c d = some hi → hex4 a' b' c' d' = some lo →
      isHighSurrogate hi = true → isLowSurrogate lo = true → UnescapesLossy rest m k →
      UnescapesLossy (0x5c :: 0x75 :: a :: b :: c :: d :: 0x5c :: 0x75 :: a' :: b' :: c' :: d' :: rest)
        (encodeRune (0x10000 + (hi - 0xD800) * 0x400 + (lo - 0xDC00)) ++ m) k

/-- `lit` is a JSON string literal whose meaning is the text `m`. -/
def StringLiteral (lit m : Bytes) : Prop := ∃ body, lit = 0x22 :: (body ++ [0x22]) ∧ Unescapes body m

end JsonV.Spec.StringSpec
