/-
C07 — model of the encoder's output path (jsontext/encode.go, internal/jsonwire/wire.go).  Core Lean only.

Part (i): the four byte-level helpers of wire.go:20-59, one Lean function per Go function.  The Go code scans
backwards from the end of the slice; the models work on the REVERSED buffer (head = last byte) and the
public wrappers reverse in and out, so that every Go loop `for n >= 0 && P(b[n]) { n-- }` is a structural
recursion on the reversed list.

Part (ii): an abstract encoder: `delivered` (what the io.Writer accepted so far), `buf` (encodeBuffer.Buf, the
written but unflushed bytes), `last`/`stack` (Tokens.Last / Tokens.Stack reduced to (isObject, Length())).
`NeedFlush`'s capacity test `len(e.Buf) > 3*cap(e.Buf)/4` is replaced by an adversarial Bool per opportunity
(`Sched.want`), the writer by an adversarial action per call (`WAct`): accept everything, or accept n ≤ len bytes
and return an error.  `Flush`, `avoidFlush`, `UnwriteEmptyObjectMember`, `UnwriteOnlyObjectMemberName` are
modelled on the bytes exactly as written in encode.go:159-332.  The *bytes.Buffer special case of Flush is the
`WAct.ok` behaviour (bb.Write never fails).
-/
import JsonV.Model.Basic

namespace JsonV.Model.Flush
open JsonV

/-! ### (i) wire.go helpers -/

/-- `b[n] == ' ' || b[n] == '\t' || b[n] == '\r' || b[n] == '\n'` -/
def isWs (c : UInt8) : Bool := c == 0x20 || c == 0x09 || c == 0x0d || c == 0x0a

/-- TrimSuffixWhitespace on the reversed buffer. -/
def trimWsR (r : List UInt8) : List UInt8 := r.dropWhile isWs

/-- wire.go:21 -/
def trimSuffixWhitespace (b : Bytes) : Bytes := (trimWsR b.reverse).reverse

/-- TrimSuffixByte on the reversed buffer: `if len(b) > 0 && b[len(b)-1] == c { return b[:len(b)-1] }`. -/
def trimByteR (r : List UInt8) (c : UInt8) : List UInt8 :=
  match r with
  | x :: r' => if x == c then r' else x :: r'
  | [] => []

/-- wire.go:53 -/
def trimSuffixByte (b : Bytes) (c : UInt8) : Bytes := (trimByteR b.reverse c).reverse

/-- wire.go:47 -/
def hasSuffixByte (b : Bytes) (c : UInt8) : Bool :=
  match b.reverse with
  | x :: _ => x == c
  | [] => false

/-- The loop of TrimSuffixString (wire.go:37):
`for len(b) >= 2 && !(b[len(b)-1] == '"' && b[len(b)-2] != '\\') { b = b[:len(b)-1] }`. -/
def scanOpenR : List UInt8 → List UInt8
  | a :: b :: r => if a == 0x22 && b != 0x5c then a :: b :: r else scanOpenR (b :: r)
  | r => r

/-- TrimSuffixString on the reversed buffer: drop a closing quote, run the loop, drop the opening quote. -/
def trimStringR (r : List UInt8) : List UInt8 :=
  trimByteR (scanOpenR (trimByteR r 0x22)) 0x22

/-- wire.go:32 -/
def trimSuffixString (b : Bytes) : Bytes := (trimStringR b.reverse).reverse

/-! ### avoidFlush / UnwriteEmptyObjectMember on bytes -/

/-- The suffix table shared by avoidFlush (encode.go:243) and UnwriteEmptyObjectMember (encode.go:265-279):
(second-to-last byte, last byte, number of value bytes that the unwrite removes = len of `null`, `""`, `{}`, `[]`).
Tied to the literals of the Go source by `Props.C07.tie_avoidFlush_suffixes` / `tie_unwrite_literals`. -/
def emptySuffixes : List (UInt8 × UInt8 × Nat) :=
  [(0x6c, 0x6c, 4), (0x22, 0x22, 2), (0x7b, 0x7d, 2), (0x5b, 0x5d, 2)]

/-- The `switch string(b[len(b)-2:])` of avoidFlush (encode.go:243): "ll", `""`, "{}", "[]".
Argument: the reversed buffer. -/
def endsEmptyR : List UInt8 → Bool
  | x :: y :: _ =>
    (y == 0x6c && x == 0x6c) || (y == 0x22 && x == 0x22) || (y == 0x7b && x == 0x7d) || (y == 0x5b && x == 0x5d)
  | _ => false

/-- The detection part of UnwriteEmptyObjectMember (encode.go:263-283) on the reversed buffer:
the number of value bytes to remove, 0 meaning "not empty" (including the early `return false` for `\""`). -/
def emptyLenR : List UInt8 → Nat
  | x :: y :: z :: _ =>
    if y == 0x6c && x == 0x6c then 4
    else if y == 0x22 && x == 0x22 then (if z == 0x5c then 0 else 2)
    else if y == 0x7b && x == 0x7d then 2
    else if y == 0x5b && x == 0x5d then 2
    else 0
  | _ => 0

/-- The byte part of UnwriteEmptyObjectMember (encode.go:260-292) on the reversed buffer.
`none`: the Go code would slice out of range (`ll` in a 3-byte buffer) — never produced by the encoder;
`some (r, false)`: not empty, nothing changed; `some (r, true)`: the member was removed. -/
def unwriteEmptyR (r : List UInt8) : Option (List UInt8 × Bool) :=
  let n := emptyLenR r
  if n == 0 then some (r, false)
  else if r.length < n then none
  else
    let r := r.drop n
    let r := trimWsR r
    let r := trimByteR r 0x3a
    let r := trimStringR r
    let r := trimWsR r
    let r := trimByteR r 0x2c
    some (r, true)

def unwriteEmptyBytes (b : Bytes) : Option (Bytes × Bool) :=
  (unwriteEmptyR b.reverse).map (fun p => (p.1.reverse, p.2))

/-- The byte part of UnwriteOnlyObjectMemberName (encode.go:318-321). -/
def unwriteNameBytes (b : Bytes) : Bytes := trimSuffixWhitespace (trimSuffixString b)

/-! ### (ii) the encoder's output state -/

/-- One stateEntry reduced to what the output path looks at: isObject() and Length(). -/
structure Frame where
  isObj : Bool
  len : Nat
deriving DecidableEq, Repr

/-- NeedObjectName / needObjectValue (state.go:491/503). -/
def Frame.needName (f : Frame) : Bool := f.isObj && f.len % 2 == 0
def Frame.needValue (f : Frame) : Bool := f.isObj && f.len % 2 == 1
def Frame.inc (f : Frame) : Frame := { f with len := f.len + 1 }

structure Enc where
  delivered : Bytes := []
  buf : Bytes := []
  last : Frame := ⟨false, 0⟩
  stack : List Frame := []
  /-- Flags.Get(OmitTopLevelNewline): set by Marshal/MarshalWrite, clear for an Encoder -/
  omitNL : Bool := false
deriving DecidableEq, Repr

def Enc.total (e : Enc) : Bytes := e.delivered ++ e.buf

/-- Tokens.Depth() -/
def Enc.depth (e : Enc) : Nat := e.stack.length + 1

inductive Tok
  | scalar (text : Bytes)   -- a literal or a number
  | str (body : Bytes)      -- '"' body '"' (already escaped)
  | openObj | closeObj | openArr | closeArr
deriving DecidableEq, Repr

def Tok.text : Tok → Bytes
  | .scalar t => t
  | .str b => 0x22 :: b ++ [0x22]
  | .openObj => [0x7b]
  | .closeObj => [0x7d]
  | .openArr => [0x5b]
  | .closeArr => [0x5d]

def Tok.isClose : Tok → Bool
  | .closeObj | .closeArr => true
  | _ => false

/-- MayAppendDelim (state.go:406), as a function of Tokens.Last / Tokens.Stack. -/
def delim (last : Frame) (stack : List Frame) (t : Tok) : Bytes :=
  if last.needValue then [0x3a]
  else if decide (last.len > 0) && !t.isClose && !stack.isEmpty then [0x2c]
  else []

/-- The state-machine checks that make WriteToken return before touching e.Buf (state.go:283-384). -/
def accepts (last : Frame) (stack : List Frame) : Tok → Bool
  | .scalar _ | .openObj | .openArr => !last.needName
  | .str _ => true
  | .closeObj => last.isObj && !last.needValue && !stack.isEmpty
  | .closeArr => !last.isObj && !stack.isEmpty

/-- appendLiteral/appendString/pushObject/popObject/pushArray/popArray on (Last, Stack). -/
def nextFrames (last : Frame) (stack : List Frame) : Tok → Option (Frame × List Frame)
  | .scalar _ | .str _ => some (last.inc, stack)
  | .openObj => some (⟨true, 0⟩, last.inc :: stack)
  | .openArr => some (⟨false, 0⟩, last.inc :: stack)
  | .closeObj | .closeArr =>
    match stack with
    | p :: s => some (p, s)
    | [] => none

/-- WriteToken/WriteValue/AppendRaw up to `e.Buf = b`: delimiter, whitespace `ws` (chosen by the caller of the model:
a space after the delimiter and/or newline+indent), token text; then the state machine update.
`none` = the call is rejected and nothing changes. -/
def write (e : Enc) (t : Tok) (ws : Bytes) : Option Enc :=
  if !accepts e.last e.stack t then none else
  match nextFrames e.last e.stack t with
  | none => none
  | some (l, s) => some { e with buf := e.buf ++ delim e.last e.stack t ++ ws ++ t.text, last := l, stack := s }

/-- avoidFlush (encode.go:231-249). -/
def avoidFlush (e : Enc) : Bool :=
  if e.last.len == 0 then true
  else if e.last.needValue then true
  else if e.last.needName && decide (e.buf.length ≥ 2) then endsEmptyR e.buf.reverse
  else false

/-- What one Write call of the io.Writer does: accept everything, or accept `n` bytes (clamped to the length) and
return an error.  (A writer returning n < len with a nil error violates io.Writer and is outside the model.) -/
inductive WAct
  | ok
  | fail (n : Nat)
deriving DecidableEq, Repr

/-- Flush (encode.go:159-224), without the buffer-growth heuristics (which only change capacities). -/
def flush (e : Enc) (a : WAct) : Enc :=
  if avoidFlush e then e else
  let b := if e.depth == 1 && !e.omitNL then e.buf ++ [0x0a] else e.buf
  match a with
  | .ok => { e with delivered := e.delivered ++ b, buf := [] }
  | .fail n => { e with delivered := e.delivered ++ b.take n, buf := b.drop n }

/-- UnwriteEmptyObjectMember (encode.go:253-308); the name-stack and namespace updates are not part of this model.
Outside its precondition the Go function panics ("BUG: must be called on an object after writing a value"); the
model then leaves the state alone and reports false. -/
def unwriteEmpty (e : Enc) : Enc × Bool :=
  if !(e.last.isObj && e.last.needName && decide (e.last.len > 0)) then (e, false) else
  match unwriteEmptyBytes e.buf with
  | some (b, true) => ({ e with buf := b, last := ⟨true, e.last.len - 2⟩ }, true)
  | _ => (e, false)

/-- UnwriteOnlyObjectMemberName (encode.go:312-332); precondition `isObject && Length() == 1`. -/
def unwriteName (e : Enc) : Enc :=
  if !(e.last.isObj && e.last.len == 1) then e else
  { e with buf := unwriteNameBytes e.buf, last := ⟨true, 0⟩ }

inductive Op
  | tok (t : Tok) (ws : Bytes)
  | unwriteEmpty
  | unwriteName
deriving DecidableEq, Repr

/-- The adversary's choices at the flush opportunity that follows a write: whether the capacity test of NeedFlush
fires, and what the writer does if Flush reaches it. -/
structure Sched where
  want : Bool
  act : WAct
deriving DecidableEq, Repr

/-- One call.  After an accepted write: `if e.NeedFlush() { return e.Flush() }` with
NeedFlush = `Depth() == 1 || <capacity test>`. -/
def step (e : Enc) (op : Op) (s : Sched) : Enc :=
  match op with
  | .tok t ws =>
    match write e t ws with
    | none => e
    | some e' => if e'.stack.isEmpty || s.want then flush e' s.act else e'
  | .unwriteEmpty => (unwriteEmpty e).1
  | .unwriteName => unwriteName e

def run (e : Enc) : List (Op × Sched) → Enc
  | [] => e
  | (op, s) :: rest => run (step e op s) rest

/-! ### the calling discipline of the marshalers -/

/-- The calls after which a member value is complete. -/
def Tok.valueEnd : Tok → Bool
  | .scalar _ | .str _ | .closeObj | .closeArr => true
  | _ => false

/-- One call under the discipline of arshal_default.go:1228-1243: UnwriteEmptyObjectMember is only ever called
directly after the (accepted) call that completed the member value.  The Bool remembers that ("fresh"); a call of
UnwriteEmptyObjectMember at any other moment is a violation of the function's contract (like the states in which the
Go function panics with "BUG") and is modelled as doing nothing.  A rejected token call changes nothing. -/
def stepD (ef : Enc × Bool) (op : Op) (s : Sched) : Enc × Bool :=
  match op with
  | .tok t ws =>
    match write ef.1 t ws with
    | none => ef
    | some _ => (step ef.1 (.tok t ws) s, t.valueEnd)
  | .unwriteEmpty => if ef.2 then (step ef.1 .unwriteEmpty s, false) else ef
  | .unwriteName => (step ef.1 .unwriteName s, false)

def runD (ef : Enc × Bool) : List (Op × Sched) → Enc × Bool
  | [] => ef
  | (op, s) :: rest => runD (stepD ef op s) rest

end JsonV.Model.Flush
