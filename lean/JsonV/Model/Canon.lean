/-
Token/tree-level model of `jsontext.Value.Canonicalize` (value.go:227-233 → `Value.format` →
`encoderState.WriteValue` with CanonicalizeRawInts, CanonicalizeRawFloats, ReorderRawObjects and the
strict I-JSON defaults).  Core Lean only (linked into the oracle).

The Go code does, in this order:
  1. `reformatValue` streams the value into the encoder buffer: whitespace dropped, every string literal
     validated (well-formed UTF-8, no lone surrogate escapes) and re-quoted minimally (`ReformatString`),
     every number literal through `ReformatNumber`, duplicate member names rejected, depth ≤ maxNestingDepth;
  2. `mustReorderObjects` sorts the members of every object of that compact text, innermost objects first,
     by `objectMember.Compare` on the unquoted names;
  3. `Value.format` commits the buffer.

The model follows the same order on a tree of tokens:
  tokenize (C12: lexer + grammar + depth)  →  parse into `JV`  →  `strict`  →  `respell`  →  `sortTree`
  →  `JV.toks`  →  `renderCompact` (C12).

Pieces reused from the other slices: `Fmt.tokenize`/`renderCompact` (C12), `Quote.appendUnquote`/`appendQuote`
(C11; the verbatim fast path of ReformatString for already-canonical literals is not mirrored: the model always
unquotes and re-quotes, which C11 proves gives the RFC 8785 spelling), `Number.reformatNumber`/`appendFloat`
(C10), `Reorder.memberLe`/`isSorted` (this slice).  `strconv.ParseFloat` and the shortest-digit generation are
the parameter `FloatCodec` (no laws are part of the structure).
-/
import JsonV.Model.Format
import JsonV.Model.Quote
import JsonV.Model.Number
import JsonV.Model.Reorder

namespace JsonV.Canon
open JsonV JsonV.Fmt JsonV.Model JsonV.Model.Utf8

/-! ### the float parameter -/

/-- `parse` is `strconv.ParseFloat(lit, 64)`; `shortest f` is strconv's shortest round-trip decomposition
`0.d₁…d_k × 10^n` of the magnitude of a finite `f` (zero: `([], 0)`), as used by `AppendFloat`. -/
structure FloatCodec where
  parse : Bytes → Number.Fl
  shortest : Number.Fl → List Nat × Int

/-- `jsonwire.AppendFloat(dst, f, 64)` on top of the parameter. -/
def FloatCodec.append (fp : FloatCodec) (f : Number.Fl) : Bytes :=
  Number.appendFloat f.neg (fp.shortest f).1 (fp.shortest f).2

/-- `ReformatNumber` under CanonicalizeRawInts|CanonicalizeRawFloats (C10's model, both flags set). -/
def canonNum (fp : FloatCodec) (lit : Bytes) : Bytes :=
  Number.reformatNumber fp.parse fp.append true true lit

/-! ### strings -/

/-- The text a string literal denotes (`jsonwire.AppendUnquote`). -/
def unq (lit : Bytes) : Bytes := (Quote.appendUnquote lit).1

/-- The strict (I-JSON) test of a literal that is already lexically a string: every escape is valid (no lone
surrogate) and the text is well-formed UTF-8.  (`AppendUnquote` reports any ill-formed byte as an error, so
the second conjunct is implied by the first for the real code; it is kept explicit so that the theorems do not
depend on that implication.) -/
def strOK (lit : Bytes) : Bool := (Quote.appendUnquote lit).2 == Quote.Err.ok && valid (unq lit)

/-- The re-quoted literal: `AppendQuote` without escape flags on the unquoted text. -/
def canonStr (lit : Bytes) : Bytes := (Quote.appendQuote {} (unq lit)).1

def canonAtom (fp : FloatCodec) : Tok → Tok
  | .str r => .str (canonStr r)
  | .num r => .num (canonNum fp r)
  | t => t

/-! ### trees of tokens -/

inductive JV where
  /-- a scalar token: string, number, `null`, `true`, `false` -/
  | atom (t : Tok)
  | arr (es : List JV)
  /-- members as (raw name literal, value) -/
  | obj (ms : List (Bytes × JV))
  deriving Repr

mutual
def JV.toks : JV → List Tok
  | .atom t => [t]
  | .arr es => Tok.ba :: (toksL es ++ [Tok.ea])
  | .obj ms => Tok.bo :: (toksM ms ++ [Tok.eo])
def toksL : List JV → List Tok
  | [] => []
  | e :: es => e.toks ++ toksL es
def toksM : List (Bytes × JV) → List Tok
  | [] => []
  | (n, v) :: ms => Tok.str n :: (v.toks ++ toksM ms)
end

/-! ### parser (fuel = number of tokens + 1; `Lemmas.CanonRound.parse_toks_self`: the fuel suffices) -/

mutual
def parseV : Nat → List Tok → Option (JV × List Tok)
  | 0, _ => none
  | fuel + 1, ts =>
    match ts with
    | [] => none
    | .ba :: r =>
      match parseL fuel r with
      | some (es, r') => some (.arr es, r')
      | none => none
    | .bo :: r =>
      match parseM fuel r with
      | some (ms, r') => some (.obj ms, r')
      | none => none
    | .ea :: _ => none
    | .eo :: _ => none
    | t :: r => some (.atom t, r)
/-- elements up to and including the closing `]` -/
def parseL : Nat → List Tok → Option (List JV × List Tok)
  | 0, _ => none
  | fuel + 1, ts =>
    match ts with
    | .ea :: r => some ([], r)
    | _ =>
      match parseV fuel ts with
      | some (e, r) =>
        match parseL fuel r with
        | some (es, r') => some (e :: es, r')
        | none => none
      | none => none
/-- members up to and including the closing `}` -/
def parseM : Nat → List Tok → Option (List (Bytes × JV) × List Tok)
  | 0, _ => none
  | fuel + 1, ts =>
    match ts with
    | .eo :: r => some ([], r)
    | .str n :: r =>
      match parseV fuel r with
      | some (v, r') =>
        match parseM fuel r' with
        | some (ms, r'') => some ((n, v) :: ms, r'')
        | none => none
      | none => none
    | _ => none
end

def parse (ts : List Tok) : Option JV :=
  match parseV (ts.length + 1) ts with
  | some (t, []) => some t
  | _ => none

/-- The tree of a JSON text (whitespace, delimiters and the nesting limit are handled by `tokenize`). -/
def parseText (b : Bytes) : Option JV :=
  match tokenize b with
  | some ts => parse ts
  | none => none

/-! ### step 1: validation and re-spelling -/

/-- Names of an object as texts. -/
def names (ms : List (Bytes × JV)) : List Bytes := ms.map (fun p => unq p.1)

mutual
/-- I-JSON strictness: every string literal passes `strOK`, no object has two members with the same name. -/
def strict : JV → Bool
  | .atom (.str r) => strOK r
  | .atom _ => true
  | .arr es => strictL es
  | .obj ms => strictM ms && decide (names ms).Nodup
def strictL : List JV → Bool
  | [] => true
  | e :: es => strict e && strictL es
def strictM : List (Bytes × JV) → Bool
  | [] => true
  | (n, v) :: ms => strOK n && strict v && strictM ms
end

mutual
def respell (fp : FloatCodec) : JV → JV
  | .atom t => .atom (canonAtom fp t)
  | .arr es => .arr (respellL fp es)
  | .obj ms => .obj (respellM fp ms)
def respellL (fp : FloatCodec) : List JV → List JV
  | [] => []
  | e :: es => respell fp e :: respellL fp es
def respellM (fp : FloatCodec) : List (Bytes × JV) → List (Bytes × JV)
  | [] => []
  | (n, v) :: ms => (canonStr n, respell fp v) :: respellM fp ms
end

/-! ### step 2: reordering (`mustReorderObjectsFromDecoder`) -/

/-- `,"name":value` as it stands in the buffer (the leading comma is trimmed by the comparator anyway). -/
def memberBytes (p : Bytes × JV) : Bytes := 0x2c :: (p.1 ++ 0x3a :: renderCompact p.2.toks)

/-- The `objectMember` of one member: the unquoted name and its raw text. -/
def mem (p : Bytes × JV) : Reorder.Member := ⟨unq p.1, memberBytes p⟩

/-- The members of one object after its values have been reordered: untouched when the scan found them
strictly increasing, else `slices.SortFunc` with `objectMember.Compare`. -/
def sortObj (ms : List (Bytes × JV)) : List (Bytes × JV) :=
  if Reorder.isSorted (ms.map mem) then ms
  else ms.mergeSort (fun p q => Reorder.memberLe (mem p) (mem q))

mutual
def sortTree : JV → JV
  | .atom t => .atom t
  | .arr es => .arr (sortL es)
  | .obj ms => .obj (sortObj (sortM ms))
def sortL : List JV → List JV
  | [] => []
  | e :: es => sortTree e :: sortL es
/-- the values of the members reordered, the members themselves still in input order -/
def sortM : List (Bytes × JV) → List (Bytes × JV)
  | [] => []
  | (n, v) :: ms => (n, sortTree v) :: sortM ms
end

/-! ### Value.Canonicalize -/

def canonTree (fp : FloatCodec) (t : JV) : JV := sortTree (respell fp t)

/-- `none`: an error is returned and the value is left unmodified. -/
def canonicalize (fp : FloatCodec) (b : Bytes) : Option Bytes :=
  match parseText b with
  | some t => if strict t then some (renderCompact (canonTree fp t).toks) else none
  | none => none

end JsonV.Canon
