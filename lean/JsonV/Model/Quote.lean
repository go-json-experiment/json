/-
Model of the string quoting / unquoting code of `/repo/internal/jsonwire`:

  encode.go:  escapeASCII (table, regenerated: `JsonV.Gen.jsonwire_escapeASCII`), NeedEscape, AppendQuote,
              appendEscapedASCII, appendEscapedUnicode, appendEscapedUTF16, ReformatString
  decode.go:  AppendUnquote, parseHexUint16, hasEscapedUTF16Prefix, and (self-contained, for ReformatString)
              ConsumeString with its `stringNonCanonical` value flag.

Conventions.  Every Go loop is modelled *per iteration*: a non-recursive `…Step` function says what one
iteration of the loop emits and how many input bytes it consumes, and a `…Loop` function iterates it.  The Go
code keeps a pending copy span (`i`/`n`, `lastAppendIndex`) and flushes it lazily; the model emits each
character when it is consumed, which yields the same output bytes (`quoteIdxLoop` at the end of this file is the loop
with the indices; `Props/C11.quote_copy_span` proves the two equal).  Errors are a small enum, never message text.  The two `panic("BUG: unhandled character")` default
branches are kept as the explicit result `Err.bug` (proved unreachable in Props/C11).
-/
import JsonV.Lemmas.Utf8L
import JsonV.Gen.Tables

namespace JsonV.Model.Quote
open JsonV JsonV.Model.Utf8

/-- Error classes of the jsonwire string functions. -/
inductive Err where
  | ok
  | invalidUTF8      -- jsonwire.ErrInvalidUTF8
  | invalidChar      -- NewInvalidCharacterError
  | invalidEscape    -- NewInvalidEscapeSequenceError ("escape sequence" and "surrogate pair")
  | unexpectedEOF    -- io.ErrUnexpectedEOF
  | bug              -- the `panic("BUG: unhandled character")` default branches
  deriving DecidableEq, Repr, Inhabited

/-- The flags the string functions read. -/
structure QFlags where
  html : Bool := false          -- jsonflags.EscapeForHTML
  js : Bool := false            -- jsonflags.EscapeForJS
  allowInvalid : Bool := false  -- jsonflags.AllowInvalidUTF8
  preserve : Bool := false      -- jsonflags.PreserveRawStrings
  deriving DecidableEq, Repr, Inhabited

/-! ### Facts about `Utf8.decodeRune` needed for termination -/

/-- `Utf8.decodeRune_snd_pos` under the name that the `decreasing_by` proofs of `needEscape` and of the loops below
mention. -/
theorem decodeRune_pos (c : UInt8) (t : Bytes) : 1 ≤ (decodeRune (c :: t)).2 := decodeRune_snd_pos c t

/-! ### encode.go -/

/-- `escapeASCII[c]` (only ever indexed with `c < utf8.RuneSelf`). -/
def escapeASCII (c : Nat) : Nat := JsonV.Gen.jsonwire_escapeASCII.getD c 0

/-- `NeedEscape` (encode.go:35). -/
def needEscape : Bytes → Bool
  | [] => false
  | c :: t =>
    if c.toNat < runeSelf then
      if escapeASCII c.toNat > 0 then true else needEscape t
    else
      let d := decodeRune (c :: t)
      if d.1 = runeError ∨ d.1 = 0x2028 ∨ d.1 = 0x2029 then true
      else needEscape ((c :: t).drop d.2)
termination_by s => s.length
decreasing_by
  · simp
  · have := decodeRune_pos c t
    simp only [List.length_drop, List.length_cons]; omega

def hexLower (n : Nat) : UInt8 := if n < 10 then UInt8.ofNat (48 + n) else UInt8.ofNat (87 + n)

/-- `appendEscapedUTF16(dst, x)` for a `uint16` x: the six bytes `\uXXXX`, lower-case hex. -/
def appendEscapedUTF16 (x : Nat) : Bytes :=
  [0x5c, 0x75, hexLower ((x >>> 12) % 16), hexLower ((x >>> 8) % 16), hexLower ((x >>> 4) % 16), hexLower (x % 16)]

/-- `appendEscapedASCII(dst, c)`. -/
def appendEscapedASCII (c : Nat) : Bytes :=
  if c = 0x22 ∨ c = 0x5c then [0x5c, UInt8.ofNat c]
  else if c = 0x08 then [0x5c, 0x62]
  else if c = 0x0c then [0x5c, 0x66]
  else if c = 0x0a then [0x5c, 0x6e]
  else if c = 0x0d then [0x5c, 0x72]
  else if c = 0x09 then [0x5c, 0x74]
  else appendEscapedUTF16 c

/-- `appendEscapedUnicode(dst, r)`; `uint16(r)` truncates. -/
def appendEscapedUnicode (r : Nat) : Bytes :=
  let p := utf16EncodeRune r
  if p.1 ≠ runeError ∧ p.2 ≠ runeError then appendEscapedUTF16 p.1 ++ appendEscapedUTF16 p.2
  else appendEscapedUTF16 (r % 65536)

/-- `isInvalidUTF8(r, rn)` (wire.go:207). -/
def isInvalidUTF8 (r rn : Nat) : Bool := r = runeError && rn = 1

def utf8FFFD : Bytes := [0xEF, 0xBF, 0xBD]

def isHTMLChar (c : Nat) : Bool := c = 0x3c || c = 0x3e || c = 0x26

/-- One iteration of the `AppendQuote` loop on the non-empty input `c :: t`:
(bytes this character contributes to the output, input bytes consumed, hasInvalidUTF8 set). -/
def quoteStep (html js : Bool) (c : UInt8) (t : Bytes) : Bytes × Nat × Bool :=
  if c.toNat < runeSelf then
    if escapeASCII c.toNat = 0 then ([c], 1, false)
    else if !(isHTMLChar c.toNat) || html then (appendEscapedASCII c.toNat, 1, false)
    else ([c], 1, false)
  else
    let d := decodeRune (c :: t)
    if d.1 ≠ runeError ∧ d.1 ≠ 0x2028 ∧ d.1 ≠ 0x2029 then ((c :: t).take d.2, d.2, false)
    else if isInvalidUTF8 d.1 d.2 then (utf8FFFD, d.2, true)
    else if (d.1 = 0x2028 ∨ d.1 = 0x2029) ∧ js then (appendEscapedUnicode d.1, d.2, false)
    else ((c :: t).take d.2, d.2, false)

theorem quoteStep_pos (html js : Bool) (c : UInt8) (t : Bytes) : 1 ≤ (quoteStep html js c t).2.1 := by
  unfold quoteStep
  simp only [apply_ite (fun s : Bytes × Nat × Bool => 1 ≤ s.2.1), decodeRune_pos c t, Nat.le_refl, ite_self]

/-- The `AppendQuote` loop: (output between the quotes, hasInvalidUTF8). -/
def quoteLoop (html js : Bool) : Bytes → Bytes × Bool
  | [] => ([], false)
  | c :: t =>
    let s := quoteStep html js c t
    let r := quoteLoop html js ((c :: t).drop s.2.1)
    (s.1 ++ r.1, s.2.2 || r.2)
termination_by s => s.length
decreasing_by
  have := quoteStep_pos html js c t
  simp only [List.length_drop, List.length_cons]; omega

/-- `AppendQuote(nil, src, flags)` (encode.go:65). -/
def appendQuote (f : QFlags) (src : Bytes) : Bytes × Err :=
  let r := quoteLoop f.html f.js src
  (0x22 :: (r.1 ++ [0x22]), if r.2 && !f.allowInvalid then Err.invalidUTF8 else Err.ok)

/-! ### decode.go helpers -/

def hexVal (c : Nat) : Option Nat :=
  if 0x30 ≤ c ∧ c ≤ 0x39 then some (c - 0x30)
  else if 0x61 ≤ c ∧ c ≤ 0x66 then some (10 + c - 0x61)
  else if 0x41 ≤ c ∧ c ≤ 0x46 then some (10 + c - 0x41)
  else none

/-- `parseHexUint16` (decode.go:568): exactly four hex digits. -/
def parseHexUint16 (b : Bytes) : Option Nat :=
  match b with
  | [a, b, c, d] =>
    match hexVal a.toNat, hexVal b.toNat, hexVal c.toNat, hexVal d.toNat with
    | some a, some b, some c, some d => some (((a * 16 + b) * 16 + c) * 16 + d)
    | _, _, _, _ => none
  | _ => none

def isHexDigit (c : Nat) : Bool := (hexVal c).isSome

/-- Loop body of `hasEscapedUTF16Prefix` (decode.go:390) from index `i`. -/
def hasEscapedUTF16PrefixAux (lower : Bool) : Nat → Bytes → Bool
  | _, [] => true
  | i, c :: t =>
    let c := c.toNat
    if i = 0 ∧ c ≠ 0x5c then false
    else if i = 1 ∧ c ≠ 0x75 then false
    else if i = 2 ∧ lower ∧ c ≠ 0x64 ∧ c ≠ 0x44 then false
    else if i = 3 ∧ lower ∧ ¬(0x63 ≤ c ∧ c ≤ 0x66) ∧ ¬(0x43 ≤ c ∧ c ≤ 0x46) then false
    else if i ≥ 2 ∧ i < 6 ∧ !isHexDigit c then false
    else hasEscapedUTF16PrefixAux lower (i + 1) t

def hasEscapedUTF16Prefix (b : Bytes) (lower : Bool) : Bool := hasEscapedUTF16PrefixAux lower 0 b

/-- `noEscape` closure of AppendUnquote / ConsumeString. -/
def noEscape (c : Nat) : Bool := c < runeSelf && 0x20 ≤ c && c ≠ 0x5c && c ≠ 0x22

/-! ### AppendUnquote (decode.go:257) -/

/-- Effect of one loop iteration. -/
inductive Step where
  /-- append `out`, advance `k` input bytes, optionally assign the named result `err`, continue -/
  | cont (out : Bytes) (k : Nat) (err : Option Err)
  /-- append `out` and return; `none` returns the pending `err` -/
  | stop (out : Bytes) (err : Option Err)
  deriving Repr

/-- Second half of a surrogate pair: `v1` is the (surrogate) value of the first `\uXXXX`, `rest` is the input
after it (`src[n:]` once `n += 6`).  The replacement character is appended unless the pair decodes. -/
def unqSurrogate (v1 : Nat) (rest : Bytes) : Step :=
  match rest with
  | b0 :: b1 :: h1 :: h2 :: h3 :: h4 :: _ =>
    match parseHexUint16 [h1, h2, h3, h4] with
    | some v2 =>
      if b0 ≠ 0x5c ∨ b1 ≠ 0x75 then .cont (encodeRune runeError) 6 (some .invalidEscape)
      else if utf16DecodeRune v1 v2 = runeError then .cont (encodeRune runeError) 6 (some .invalidEscape)
      else .cont (encodeRune (utf16DecodeRune v1 v2)) 12 none
    | none => .cont (encodeRune runeError) 6 (some .invalidEscape)
  | _ =>  -- len(src) < n+6
    if hasEscapedUTF16Prefix rest true then .stop (encodeRune runeError) (some .unexpectedEOF)
    else .cont (encodeRune runeError) 6 (some .invalidEscape)

/-- The `case 'u'` arm; `src` starts with `\u`. -/
def unqEscapeU (src : Bytes) : Step :=
  match src with
  | _ :: _ :: h1 :: h2 :: h3 :: h4 :: rest =>
    match parseHexUint16 [h1, h2, h3, h4] with
    | none => .stop [] (some .invalidEscape)
    | some v1 => if isSurrogate v1 then unqSurrogate v1 rest else .cont (encodeRune v1) 6 none
  | _ =>  -- len(src) < n+6
    if hasEscapedUTF16Prefix src false then .stop [] (some .unexpectedEOF) else .stop [] (some .invalidEscape)

/-- The `case r == '\\'` arm; `src` starts with the backslash. -/
def unqEscape (src : Bytes) : Step :=
  match src with
  | [] | [_] => .stop [] (some .unexpectedEOF)
  | _ :: c1 :: _ =>
    let e := c1.toNat
    if e = 0x22 ∨ e = 0x5c ∨ e = 0x2f then .cont [c1] 2 none
    else if e = 0x62 then .cont [0x08] 2 none
    else if e = 0x66 then .cont [0x0c] 2 none
    else if e = 0x6e then .cont [0x0a] 2 none
    else if e = 0x72 then .cont [0x0d] 2 none
    else if e = 0x74 then .cont [0x09] 2 none
    else if e = 0x75 then unqEscapeU src
    else .stop [] (some .invalidEscape)

/-- One iteration of the main loop of `AppendUnquote` at the remaining input `src`
(the inner `noEscape` loop is unrolled one byte per iteration). -/
def unqStep (src : Bytes) : Step :=
  match src with
  | [] => .stop [] (some .unexpectedEOF)
  | c :: t =>
    if noEscape c.toNat then .cont [c] 1 none
    else if c = 0x22 then .stop [] (if t.isEmpty then none else some .invalidChar)
    else
      let d := decodeRune src
      if d.2 > 1 then .cont (src.take d.2) d.2 none
      else if d.1 = 0x5c then unqEscape src
      else if d.1 = runeError then
        if !fullRune src then .stop [] (some .unexpectedEOF)
        else .cont utf8FFFD d.2 (some .invalidUTF8)
      else if d.1 < 0x20 then .stop [] (some .invalidChar)
      else .stop [] (some .bug)

/-- An iteration that continues consumes at least one byte (what the termination proof of `unqLoop` needs). -/
def Step.Advances : Step → Prop
  | .cont _ k _ => 1 ≤ k
  | .stop _ _ => True

theorem Step.advances_cont (o : Bytes) (k : Nat) (e : Option Err) : (Step.cont o k e).Advances ↔ 1 ≤ k := Iff.rfl
theorem Step.advances_stop (o : Bytes) (e : Option Err) : (Step.stop o e).Advances ↔ True := Iff.rfl

theorem unqSurrogate_advances (v1 : Nat) (rest : Bytes) : (unqSurrogate v1 rest).Advances := by
  unfold unqSurrogate
  split
  · split <;> simp [apply_ite Step.Advances, Step.advances_cont, Step.advances_stop]
  · simp [apply_ite Step.Advances, Step.advances_cont, Step.advances_stop]

theorem unqEscapeU_advances (src : Bytes) : (unqEscapeU src).Advances := by
  unfold unqEscapeU
  split
  · split <;> simp [apply_ite Step.Advances, Step.advances_cont, Step.advances_stop, unqSurrogate_advances]
  · simp [apply_ite Step.Advances, Step.advances_cont, Step.advances_stop]

theorem unqEscape_advances (src : Bytes) : (unqEscape src).Advances := by
  unfold unqEscape
  split <;> simp [apply_ite Step.Advances, Step.advances_cont, Step.advances_stop, unqEscapeU_advances]

theorem unqStep_cont_pos {src o k e} (h : unqStep src = .cont o k e) : 1 ≤ k ∧ src ≠ [] := by
  have hk : (unqStep src).Advances := by
    unfold unqStep
    split
    · trivial
    · rename_i c t
      simp [apply_ite Step.Advances, Step.advances_cont, Step.advances_stop, unqEscape_advances (c :: t), decodeRune_pos c t]
  rw [h] at hk
  exact ⟨hk, by rintro rfl; cases h⟩

/-- The main loop of `AppendUnquote`; `err` is the pending value of the named result. -/
def unqLoop (src : Bytes) (err : Err) : Bytes × Err :=
  match h : unqStep src with
  | .stop o e => (o, e.getD err)
  | .cont o k e =>
    let r := unqLoop (src.drop k) (e.getD err)
    (o ++ r.1, r.2)
termination_by src.length
decreasing_by
  have := unqStep_cont_pos h
  have : src.length ≠ 0 := by simpa using this.2
  simp only [List.length_drop]; omega

/-- `AppendUnquote(nil, src)`. -/
def appendUnquote (src : Bytes) : Bytes × Err :=
  match src with
  | [] => ([], .unexpectedEOF)
  | c :: t => if c = 0x22 then unqLoop t .ok else ([], .invalidChar)

/-! ### ConsumeString (decode.go:117), for ReformatString -/

inductive CStep where
  /-- advance `k` bytes; `nc` = this iteration joins stringNonCanonical -/
  | cont (k : Nat) (nc : Bool)
  /-- return (n + off, err) -/
  | stop (off : Nat) (err : Err) (nc : Bool)
  deriving Repr

def hasUpperHex (b : Bytes) : Bool := b.any (fun c => 0x41 ≤ c.toNat && c.toNat ≤ 0x46)

/-- `\uXXXX` canonical-form test on the first escape (RFC 8785 §3.2.2.2). -/
def escNonCanon (v1 : Nat) (digits : Bytes) : Bool :=
  if v1 = 0x08 ∨ v1 = 0x0c ∨ v1 = 0x0a ∨ v1 = 0x0d ∨ v1 = 0x09 then true
  else if v1 ≥ 0x20 then true
  else hasUpperHex digits

/-- Second half of a surrogate pair under validateUTF8 (`n` already advanced by 6; errors report `n-6`,
i.e. offset 0 of this iteration). -/
def csSurrogate (v1 : Nat) (nc : Bool) (rest : Bytes) : CStep :=
  match rest with
  | b0 :: b1 :: h1 :: h2 :: h3 :: h4 :: _ =>
    match parseHexUint16 [h1, h2, h3, h4] with
    | some v2 =>
      if b0 ≠ 0x5c ∨ b1 ≠ 0x75 then .stop 0 .invalidEscape true
      else if utf16DecodeRune v1 v2 = runeError then .stop 0 .invalidEscape true
      else .cont 12 nc
    | none => .stop 0 .invalidEscape true
  | _ =>
    if hasEscapedUTF16Prefix rest true then .stop 0 .unexpectedEOF nc else .stop 0 .invalidEscape true

def csEscapeU (validate : Bool) (src : Bytes) : CStep :=
  match src with
  | _ :: _ :: h1 :: h2 :: h3 :: h4 :: rest =>
    match parseHexUint16 [h1, h2, h3, h4] with
    | none => .stop 0 .invalidEscape true
    | some v1 =>
      let nc := escNonCanon v1 [h1, h2, h3, h4]
      if validate && isSurrogate v1 then csSurrogate v1 nc rest else .cont 6 nc
  | _ =>
    if hasEscapedUTF16Prefix src false then .stop 0 .unexpectedEOF false else .stop 0 .invalidEscape true

def csEscape (validate : Bool) (src : Bytes) : CStep :=
  match src with
  | [] | [_] => .stop 0 .unexpectedEOF false
  | _ :: c1 :: _ =>
    let e := c1.toNat
    if e = 0x2f then .cont 2 true
    else if e = 0x22 ∨ e = 0x5c ∨ e = 0x62 ∨ e = 0x66 ∨ e = 0x6e ∨ e = 0x72 ∨ e = 0x74 then .cont 2 false
    else if e = 0x75 then csEscapeU validate src
    else .stop 0 .invalidEscape true

def csStep (validate : Bool) (src : Bytes) : CStep :=
  match src with
  | [] => .stop 0 .unexpectedEOF false
  | c :: _ =>
    if noEscape c.toNat then .cont 1 false
    else if c = 0x22 then .stop 1 .ok false
    else
      let d := decodeRune src
      if d.2 > 1 then .cont d.2 false
      else if d.1 = 0x5c then csEscape validate src
      else if d.1 = runeError then
        if !fullRune src then .stop 0 .unexpectedEOF false
        else if validate then .stop 0 .invalidUTF8 true
        else .cont 1 true
      else if d.1 < 0x20 then .stop 0 .invalidChar true
      else .stop 0 .bug false

/-- An iteration that continues consumes at least one byte (what the termination proof of `csLoop` needs). -/
def CStep.Advances : CStep → Prop
  | .cont k _ => 1 ≤ k
  | .stop _ _ _ => True

theorem CStep.advances_cont (k : Nat) (nc : Bool) : (CStep.cont k nc).Advances ↔ 1 ≤ k := Iff.rfl
theorem CStep.advances_stop (off : Nat) (e : Err) (nc : Bool) : (CStep.stop off e nc).Advances ↔ True := Iff.rfl

theorem csSurrogate_advances (v1 : Nat) (nc : Bool) (rest : Bytes) : (csSurrogate v1 nc rest).Advances := by
  unfold csSurrogate
  split
  · split <;> simp [apply_ite CStep.Advances, CStep.advances_cont, CStep.advances_stop]
  · simp [apply_ite CStep.Advances, CStep.advances_cont, CStep.advances_stop]

theorem csEscapeU_advances (v : Bool) (src : Bytes) : (csEscapeU v src).Advances := by
  unfold csEscapeU
  split
  · split <;> simp [apply_ite CStep.Advances, CStep.advances_cont, CStep.advances_stop, csSurrogate_advances]
  · simp [apply_ite CStep.Advances, CStep.advances_cont, CStep.advances_stop]

theorem csEscape_advances (v : Bool) (src : Bytes) : (csEscape v src).Advances := by
  unfold csEscape
  split <;> simp [apply_ite CStep.Advances, CStep.advances_cont, CStep.advances_stop, csEscapeU_advances]

theorem csStep_cont_pos {v src k nc} (h : csStep v src = .cont k nc) : 1 ≤ k ∧ src ≠ [] := by
  have hk : (csStep v src).Advances := by
    unfold csStep
    split
    · trivial
    · rename_i c t
      simp [apply_ite CStep.Advances, CStep.advances_cont, CStep.advances_stop, csEscape_advances v (c :: t), decodeRune_pos c t]
  rw [h] at hk
  exact ⟨hk, by rintro rfl; cases h⟩

/-- Main loop of ConsumeString at offset `n`: (n, err, nonCanonical). -/
def csLoop (validate : Bool) (src : Bytes) (n : Nat) (nc : Bool) : Nat × Err × Bool :=
  match h : csStep validate src with
  | .stop off e nc' => (n + off, e, nc || nc')
  | .cont k nc' => csLoop validate (src.drop k) (n + k) (nc || nc')
termination_by src.length
decreasing_by
  have := csStep_cont_pos h
  have : src.length ≠ 0 := by simpa using this.2
  simp only [List.length_drop]; omega

/-- `ConsumeString(&flags, b, validateUTF8)`: (n, err, flags has stringNonCanonical). -/
def consumeString (validate : Bool) (b : Bytes) : Nat × Err × Bool :=
  match b with
  | [] => (0, .unexpectedEOF, false)
  | c :: t => if c = 0x22 then csLoop validate t 1 false else (0, .invalidChar, false)

/-! ### ReformatString (encode.go:150) -/

/-- One iteration of the PreserveRawStrings loop at `c :: t`: (`some` escape emitted instead of the
character | `none` = the character stays in the pending verbatim span, input bytes consumed). -/
def preserveStep (html js : Bool) (c : UInt8) (t : Bytes) : Option Bytes × Nat :=
  if c.toNat < runeSelf then
    if isHTMLChar c.toNat && html then (some (appendEscapedASCII c.toNat), 1) else (none, 1)
  else
    let d := decodeRune (c :: t)
    if (d.1 = 0x2028 ∨ d.1 = 0x2029) ∧ js then (some (appendEscapedUnicode d.1), d.2)
    else (none, d.2)

theorem preserveStep_pos (html js : Bool) (c : UInt8) (t : Bytes) : 1 ≤ (preserveStep html js c t).2 := by
  unfold preserveStep
  simp only [apply_ite (fun s : Option Bytes × Nat => 1 ≤ s.2), decodeRune_pos c t, Nat.le_refl, ite_self]

/-- The PreserveRawStrings loop over `src[i:n]` with `k = n - i` bytes left; the second argument is `src[i:]`
(the code decodes `src[i:]`, not `src[i:n]`).  A rune never straddles `n` because `src[n-1]` is the closing
quote; the verbatim copy `src[lastAppendIndex:n]` stops at `n` in any case (hence `min`). -/
def preserveLoop (html js : Bool) : Nat → Bytes → Bytes
  | 0, _ => []
  | _, [] => []
  | k + 1, c :: t =>
    let s := preserveStep html js c t
    (match s.1 with
     | some esc => esc
     | none => (c :: t).take (min s.2 (k + 1))) ++
      preserveLoop html js (k + 1 - s.2) ((c :: t).drop s.2)
termination_by k _ => k
decreasing_by
  have := preserveStep_pos html js c t
  omega

/-- `ReformatString(nil, src, flags)`: (output, n, err). -/
def reformatString (f : QFlags) (src : Bytes) : Bytes × Nat × Err :=
  let cs := consumeString (!f.allowInvalid) src
  if cs.2.1 ≠ .ok then ([], cs.1, cs.2.1)
  else
    let n := cs.1
    if !(f.html || f.js) && (!cs.2.2 || f.preserve) then (src.take n, n, .ok)
    else if f.preserve then (preserveLoop f.html f.js n src, n, .ok)
    else
      let b := (appendUnquote (src.take n)).1
      ((appendQuote f b).1, n, .ok)

end JsonV.Model.Quote

/-! ### AppendQuote with the copy-span bookkeeping of the Go code (`i`, `n`)

`appendQuote` above emits every character when it is consumed.  The Go loop instead keeps a pending span
`src[i:n]` and flushes it (`dst = append(dst, src[i:n-…]...)`) only in front of an escape and at the end.
`quoteIdxLoop` is that loop written literally with the indices; `Props/C11.quote_copy_span` proves both equal. -/

namespace JsonV.Model.Quote
open JsonV JsonV.Model.Utf8

/-- `src[i:n]` -/
def slice (src : Bytes) (i n : Nat) : Bytes := (src.drop i).take (n - i)

/-- The `for uint(len(src)) > uint(n)` loop of AppendQuote with its variables `i`, `n`, `dst`, `hasInvalidUTF8`.
Fuel: every iteration advances `n`, so `len(src) - n` iterations suffice (the equality theorem shows it does). -/
def quoteIdxLoop (html js : Bool) (src : Bytes) : Nat → Nat → Nat → Bytes → Bool → Bytes × Bool
  | 0, i, n, dst, inv => (dst ++ slice src i n, inv)
  | fuel + 1, i, n, dst, inv =>
    match src.drop n with
    | [] => (dst ++ slice src i n, inv)                      -- loop exit, `dst = append(dst, src[i:n]...)`
    | c :: t =>
      if c.toNat < runeSelf then
        let n := n + 1
        if escapeASCII c.toNat = 0 then quoteIdxLoop html js src fuel i n dst inv
        else if !(isHTMLChar c.toNat) || html then
          quoteIdxLoop html js src fuel n n (dst ++ slice src i (n - 1) ++ appendEscapedASCII c.toNat) inv
        else quoteIdxLoop html js src fuel i n dst inv
      else
        let d := decodeRune (c :: t)
        let n := n + d.2
        if d.1 ≠ runeError ∧ d.1 ≠ 0x2028 ∧ d.1 ≠ 0x2029 then quoteIdxLoop html js src fuel i n dst inv
        else if isInvalidUTF8 d.1 d.2 then
          quoteIdxLoop html js src fuel n n (dst ++ slice src i (n - d.2) ++ utf8FFFD) true
        else if (d.1 = 0x2028 ∨ d.1 = 0x2029) ∧ js then
          quoteIdxLoop html js src fuel n n (dst ++ slice src i (n - d.2) ++ appendEscapedUnicode d.1) inv
        else quoteIdxLoop html js src fuel i n dst inv

/-- `AppendQuote(nil, src, flags)` written with the index bookkeeping. -/
def appendQuoteIdx (f : QFlags) (src : Bytes) : Bytes × Err :=
  let r := quoteIdxLoop f.html f.js src src.length 0 0 [0x22] false
  (r.1 ++ [0x22], if r.2 && !f.allowInvalid then Err.invalidUTF8 else Err.ok)

end JsonV.Model.Quote
