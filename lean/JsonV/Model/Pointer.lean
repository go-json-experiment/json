/-
Model of `jsontext.Pointer` (jsontext/state.go:82-162), of `appendEscapePointerName`
(state.go:205-218) and of `state.appendStackPointer` (state.go:164-203).

A Go `string`/`[]byte` is a `Bytes`.  `for i, r := range p` is `rangeStr p`: the list of
`(r, p[i:])` in iteration order (Go decodes one rune per iteration; ill-formed UTF-8
yields U+FFFD and advances by one byte).  Every function is structurally recursive
except `tokens` (the `for len(p) > 0` loop), which recurses on the length of the rest.

`appendStackPointer` is modelled on an abstract coder state: the state machine stack
as a list of `(isObject, length)` entries (entry 0 is the virtual top-level array) and the
names stack as one (unquoted) name per open object; `AState.step` is the way Encoder and
Decoder drive `Tokens` and `Names` for each token (encode.go WriteToken / decode.go
ReadToken: `Names.push/pop`, `Names.ReplaceLastQuotedOffset` when `NeedObjectName`).
Core Lean only.
-/
import JsonV.Model.Basic
import JsonV.Model.Utf8
import JsonV.Model.State

namespace JsonV.Model.Pointer
open JsonV JsonV.Model

def cSlash : UInt8 := 0x2f   -- '/'
def cTilde : UInt8 := 0x7e   -- '~'
def c0 : UInt8 := 0x30       -- '0'
def c1 : UInt8 := 0x31       -- '1'

/-! ### `for i, r := range s` -/

/-- `rangeAux skip s`: the iterations of `range` over the rest `s` of a string when the
next `skip` bytes belong to the rune decoded in the previous iteration. -/
def rangeAux : Nat → Bytes → List (Nat × Bytes)
  | _, [] => []
  | 0, b :: rest => ((Utf8.decodeRune (b :: rest)).1, b :: rest) :: rangeAux ((Utf8.decodeRune (b :: rest)).2 - 1) rest
  | k+1, _ :: rest => rangeAux k rest

/-- The pairs `(r, p[i:])` of `for i, r := range p`. -/
def rangeStr (p : Bytes) : List (Nat × Bytes) := rangeAux 0 p

/-- The runes of `for _, r := range p`. -/
def runes (p : Bytes) : List Nat := (rangeStr p).map (·.1)

/-! ### strings helpers -/

/-- `strings.HasPrefix(s, pre)`. -/
def hasPrefix : Bytes → Bytes → Bool
  | _, [] => true
  | [], _ :: _ => false
  | a :: s, b :: pre => a == b && hasPrefix s pre

/-- `strings.CutPrefix(s, pre)`. -/
def cutPrefix : Bytes → Bytes → Option Bytes
  | s, [] => some s
  | [], _ :: _ => none
  | a :: s, b :: pre => if a = b then cutPrefix s pre else none

/-- `strings.TrimPrefix(s, "/")`. -/
def trimSlash : Bytes → Bytes
  | [] => []
  | b :: rest => if b = cSlash then rest else b :: rest

/-- `strings.LastIndexByte(s, c)`; `none` is Go's -1. -/
def lastIndexByte (c : UInt8) : Bytes → Option Nat
  | [] => none
  | b :: rest =>
    match lastIndexByte c rest with
    | some i => some (i + 1)
    | none => if b = c then some 0 else none

/-- `strings.ReplaceAll(s, string([x,y]), string([z]))` for a two-byte pattern:
leftmost non-overlapping matches. -/
def replace2 (x y z : UInt8) : Bytes → Bytes
  | [] => []
  | [a] => [a]
  | a :: b :: rest => if a = x ∧ b = y then z :: replace2 x y z rest else a :: replace2 x y z (b :: rest)

/-! ### escaping (RFC 6901 §3) -/

/-- The bytes appended for one rune by `appendEscapePointerName`. -/
def escRune (r : Nat) : Bytes :=
  if r = 0x7e then [cTilde, c0]
  else if r = 0x2f then [cTilde, c1]
  else Utf8.encodeRune r

/-- `appendEscapePointerName(b, name)`. -/
def appendEscapePointerName (b name : Bytes) : Bytes := b ++ (runes name).flatMap escRune

/-- The escaped form of one reference token. -/
def escape (name : Bytes) : Bytes := appendEscapePointerName [] name

/-- `unescapePointerToken`. -/
def unescape (token : Bytes) : Bytes :=
  if token.contains cTilde then
    replace2 cTilde c0 cTilde (replace2 cTilde c1 cSlash token)
  else token

/-- What `string(name)` looks like after a round trip through `range`/`AppendRune`:
every ill-formed byte replaced by U+FFFD (`strings.ToValidUTF8`-like, one replacement per byte). -/
def sanitize (t : Bytes) : Bytes := (runes t).flatMap Utf8.encodeRune

/-! ### Pointer methods -/

/-- `i+1 == len(p) || (p[i+1] != '0' && p[i+1] != '1')` where `suf = p[i:]`. -/
def badTilde : Bytes → Bool
  | _ :: n :: _ => n != c0 && n != c1
  | _ => true

/-- One iteration of the loop in `IsValid`: `false` means "return false". -/
def validStep (x : Nat × Bytes) : Bool :=
  -- case r == '~' && (i+1 == len(p) || (p[i+1] != '0' && p[i+1] != '1'))
  if x.1 = 0x7e ∧ badTilde x.2 then false
  -- case r == '\ufffd' && !strings.HasPrefix(p[i:], "\ufffd")
  else if x.1 = 0xFFFD ∧ !hasPrefix x.2 [0xEF, 0xBF, 0xBD] then false
  else true

/-- `Pointer.IsValid`. -/
def isValid (p : Bytes) : Bool :=
  (rangeStr p).all validStep &&
  (match p with
   | [] => true
   | b :: _ => b == cSlash)

/-- `Pointer.Contains`. -/
def contains (p pc : Bytes) : Bool :=
  match cutPrefix pc p with
  | none => false
  | some [] => true
  | some (b :: _) => b == cSlash

/-- `max(strings.LastIndexByte(p, '/'), 0)`. -/
def lastSlash (p : Bytes) : Nat :=
  match lastIndexByte cSlash p with
  | some i => i
  | none => 0      -- max(-1, 0)

/-- `Pointer.Parent`. -/
def parent (p : Bytes) : Bytes := p.take (lastSlash p)

/-- `Pointer.LastToken`. -/
def lastToken (p : Bytes) : Bytes := unescape (trimSlash (p.drop (lastSlash p)))

/-- `Pointer.AppendToken`. -/
def appendToken (p tok : Bytes) : Bytes := appendEscapePointerName (p ++ [cSlash]) tok

/-- Prefix of `p` before the first '/', and the rest:
`i := min(uint(IndexByte(p,'/')), uint(len(p)))`, `(p[:i], p[i:])`. -/
def cutAtSlash : Bytes → Bytes × Bytes
  | [] => ([], [])
  | b :: rest => if b = cSlash then ([], b :: rest) else ((cutAtSlash rest).1.cons b, (cutAtSlash rest).2)

theorem cutAtSlash_length (p : Bytes) : (cutAtSlash p).1.length + (cutAtSlash p).2.length = p.length := by
  induction p with
  | nil => rfl
  | cons b rest ih => simp only [cutAtSlash]; split <;> simp <;> omega

theorem trimSlash_length_le (p : Bytes) : (trimSlash p).length ≤ p.length := by
  cases p with
  | nil => simp [trimSlash]
  | cons b rest => simp only [trimSlash]; split <;> simp

/-- The loop body of `Tokens` makes progress: after trimming one '/', a non-empty token is cut,
or a byte was trimmed. -/
theorem tokens_decreasing (p : Bytes) (h : p ≠ []) : (cutAtSlash (trimSlash p)).2.length < p.length := by
  cases p with
  | nil => exact absurd rfl h
  | cons b rest =>
    have := cutAtSlash_length rest
    simp only [trimSlash]
    split
    · simp; omega
    · rename_i hb
      simp only [cutAtSlash, hb, if_false]
      simp; omega

/-- `Pointer.Tokens`, collected into a list. -/
def tokens (p : Bytes) : List Bytes :=
  if _h : p = [] then [] else
    unescape (cutAtSlash (trimSlash p)).1 :: tokens (cutAtSlash (trimSlash p)).2
termination_by p.length
decreasing_by exact tokens_decreasing p _h

/-! ### `appendStackPointer` on an abstract coder state -/

/-- One `stateEntry`: its type bit and `Length()`. -/
structure SEntry where
  isObj : Bool
  len : Nat
deriving DecidableEq, Repr, Inhabited

namespace SEntry
def needObjectName (e : SEntry) : Bool := e.isObj && e.len % 2 == 0
def needObjectValue (e : SEntry) : Bool := e.isObj && e.len % 2 == 1
def isArray (e : SEntry) : Bool := !e.isObj
end SEntry

/-- `strconv.AppendUint(nil, n, 10)`. -/
def decimal (n : Nat) : Bytes := (Nat.toDigits 10 n).map (fun c => UInt8.ofNat c.toNat)

/-- `Tokens` and `Names`, innermost first: `stack.head` is `Tokens.Last`, the last element of
`stack` is the virtual top-level array (`Tokens.index(0)`); `names.head` is the name slot of the
innermost open object (`[]` while it has no name yet: `Names.push` stores `invalidOffset`,
for which `getUnquoted` yields the empty string). -/
structure AState where
  stack : List SEntry := [⟨false, 0⟩]
  names : List Bytes := []
deriving DecidableEq, Repr, Inhabited

/-- The loop `for i := 1; i < Depth(); i++` over the entries from index `i` on (outermost first).
`od` is `objectDepth`, `names` is indexed outermost first.
`none` models the index-out-of-range panic of `Names.getUnquoted`. -/
def stackLoop (wh : Int) (names : List Bytes) : List SEntry → Nat → Bytes → Option Bytes
  | [], _, b => some b
  | e :: rest, od, b =>
    -- isLast := i == Depth()-1
    if rest.isEmpty ∧ (wh < 0 ∧ e.len = 0 ∨ wh = 0 ∧ !e.needObjectValue ∨ wh > 0 ∧ e.needObjectName) then some b
    else if e.isObj then
      match names[od]? with
      | none => none
      | some nm => stackLoop wh names rest (od + 1) (appendEscapePointerName (b ++ [cSlash]) nm)
    else
      -- arrayDelta := -1, or 0 when `isLast && where > 0 && e.isArray()`;
      -- uint64(e.Length() + arrayDelta) wraps around for Length() = 0 and delta = -1: modelled as `none`
      if rest.isEmpty ∧ wh > 0 then stackLoop wh names rest od (b ++ [cSlash] ++ decimal e.len)
      else if e.len = 0 then none
      else stackLoop wh names rest od (b ++ [cSlash] ++ decimal (e.len - 1))

/-- `state.appendStackPointer(b, where)`. -/
def appendStackPointer (s : AState) (b : Bytes) (wh : Int) : Option Bytes :=
  stackLoop wh s.names.reverse (s.stack.reverse.drop 1) 0 b

/-- Tokens as seen by the state machine. -/
inductive Tok where
  | scalar               -- null, false, true, number
  | str (s : Bytes)      -- a string (an object name when one is expected)
  | beginObj | endObj | beginArr | endArr
deriving DecidableEq, Repr, Inhabited

/-- How `WriteToken`/`ReadToken` update `Tokens` and `Names`; `none` = the token is rejected
(the state is then unchanged in the Go code).  Duplicate-name detection is not part of this model. -/
def AState.step (s : AState) (t : Tok) : Option AState :=
  match s.stack with
  | [] => none
  | last :: below =>
    let bump : SEntry := { last with len := last.len + 1 }
    match t with
    | .scalar => if last.needObjectName then none else some { s with stack := bump :: below }
    | .str n =>
      if last.needObjectName then
        match s.names with
        | [] => none
        | _ :: ns => some { stack := bump :: below, names := n :: ns }   -- Names.ReplaceLastQuotedOffset
      else some { s with stack := bump :: below }
    | .beginObj => if last.needObjectName then none
                   else some { stack := ⟨true, 0⟩ :: bump :: below, names := [] :: s.names }  -- Names.push
    | .beginArr => if last.needObjectName then none
                   else some { s with stack := ⟨false, 0⟩ :: bump :: below }
    | .endObj => if !last.isObj || last.needObjectValue || below.isEmpty then none
                 else some { stack := below, names := s.names.drop 1 }                       -- Names.pop
    | .endArr => if last.isObj || below.isEmpty then none
                 else some { s with stack := below }

def AState.run (s : AState) : List Tok → Option AState
  | [] => some s
  | t :: ts => match s.step t with
    | none => none
    | some s' => s'.run ts

def AState.init : AState := {}

/-! ### errors.go: pointerSuffixError and the pointer part of wrapSyntacticError -/

theorem lastIndexByte_lt (c : UInt8) : ∀ (l : Bytes) (i : Nat), lastIndexByte c l = some i → i < l.length
  | [], i, h => by simp [lastIndexByte] at h
  | b :: rest, i, h => by
    simp only [lastIndexByte] at h
    split at h
    · rename_i j hj
      have := lastIndexByte_lt c rest j hj
      simp only [Option.some.injEq] at h; subst h; simp; omega
    · split at h
      · simp only [Option.some.injEq] at h; subst h; simp
      · cases h

/-- `wrapWithObjectName`: `reversePointer = appendEscapePointerName(append(reversePointer, '/'), name)`
where `name = jsonwire.UnquoteMayCopy(quotedName)` is passed in unquoted. -/
def wrapWithObjectName (rev name : Bytes) : Bytes := appendEscapePointerName (rev ++ [cSlash]) name

/-- `wrapWithArrayIndex`: `reversePointer = strconv.AppendUint(append(reversePointer, '/'), index, 10)`. -/
def wrapWithArrayIndex (rev : Bytes) (idx : Nat) : Bytes := rev ++ [cSlash] ++ decimal idx

/-- `pointerSuffixError.appendPointer(pointer)`: `for len(bi) > 0 { i := bytes.LastIndexByte(bi, '/');
bi, bo = bi[:i], append(bo, bi[i:]...) }` — `none` is the slice-bounds panic for `i = -1`. -/
def appendPointer (bi bo : Bytes) : Option Bytes :=
  if _h : bi = [] then some bo else
    match _hl : lastIndexByte cSlash bi with
    | none => none
    | some i => appendPointer (bi.take i) (bo ++ bi.drop i)
termination_by bi.length
decreasing_by
  have := lastIndexByte_lt cSlash bi i _hl
  simp only [List.length_take]; omega

/-- The JSONPointer computed by `wrapSyntacticError(state, err, pos, where)`:
`suffix` is `Some reversePointer` when `err` is a `*pointerSuffixError`;
`mismatch` says `state` is a `*decoderState` and (the unwrapped) `err == errMismatchDelim`. -/
def wrapSyntacticErrorPtr (s : AState) (wh : Int) (suffix : Option Bytes) (mismatch : Bool) : Option Bytes :=
  match appendStackPointer s [] wh with
  | none => none
  | some ptr0 =>
    match (match suffix with
           | some rev => appendPointer rev ptr0
           | none => some ptr0) with
    | none => none
    | some ptr =>
      if mismatch then
        match s.stack with
        | last :: _ :: _ =>                       -- len(d.Tokens.Stack) > 0
          if last.len > 0 then
            if last.isArray then some (parent ptr)                 -- problem is with parent array
            else if !last.needObjectName then some (parent ptr)    -- problem is with parent object
            else some ptr                                          -- the stack pointer already is the parent object
          else some ptr
        | _ => some ptr
      else some ptr

/-! ### StackDepth / StackIndex (decode.go:1181-1209, encode.go:956-984) -/

/-- `StackDepth()`: `Tokens.Depth() - 1`. -/
def stackDepth (m : Machine) : Nat := m.depth - 1

/-- `StackIndex(i)`: `Tokens.index(i)` is `Last` for `i == len(Stack)` and `Stack[i]` otherwise (`none`: the Go code
panics with an index out of range); kind 0 for level 0, '{' or '[' above. -/
def stackIndex (m : Machine) (i : Nat) : Option (UInt8 × Nat) :=
  (if i = m.stack.length then some m.last else m.stack[i]?).map fun e =>
    (if i > 0 ∧ e.isObject then 0x7b else if i > 0 ∧ e.isArray then 0x5b else 0, e.length)

/-! ### the same on the packed state machine (`state{Tokens stateMachine; Names objectNameStack}`) -/

/-- `Tokens` as the packed `Machine` of Model/State.lean and `Names` (innermost first, one slot per open object). -/
structure MState where
  m : Machine := {}
  names : List Bytes := []
deriving Repr, Inhabited

/-- `Names.ReplaceLastQuotedOffset`: overwrite the slot of the innermost object. -/
def replaceHead (names : List Bytes) (n : Bytes) : List Bytes :=
  match names with
  | [] => []          -- `ns.offsets[len-1]` would panic; never reached (one slot per open object)
  | _ :: ns => n :: ns

/-- ReadToken / WriteToken: the machine operation of the token plus `Names.push` on '{',
`Names.ReplaceLastQuotedOffset` on a member name (tested BEFORE `appendString`), `Names.pop` on '}'. -/
def MState.step (maxDepth : Nat) (s : MState) : Tok → Except SMErr MState
  | .scalar => (s.m.appendLiteral).map (fun m => { s with m := m })
  | .str n =>
    let names' := if s.m.last.needObjectName then replaceHead s.names n else s.names
    (s.m.appendString).map (fun m => { m := m, names := names' })
  | .beginObj => (s.m.pushObject maxDepth).map (fun m => { m := m, names := [] :: s.names })
  | .endObj => (s.m.popObject).map (fun m => { m := m, names := s.names.drop 1 })
  | .beginArr => (s.m.pushArray maxDepth).map (fun m => { s with m := m })
  | .endArr => (s.m.popArray).map (fun m => { s with m := m })

def MState.run (maxDepth : Nat) (s : MState) : List Tok → Except SMErr MState
  | [] => .ok s
  | t :: ts => match s.step maxDepth t with
    | .error e => .error e
    | .ok s' => s'.run maxDepth ts

/-- What `appendStackPointer` reads off the packed entries: `e.isObject()` and `e.Length()`, index 0 … Depth()-1
(here innermost first), and the names. -/
def MState.view (s : MState) : AState :=
  { stack := (s.m.last :: s.m.stack.reverse).map (fun e => ⟨e.isObject, e.length⟩), names := s.names }

/-- `state.appendStackPointer(b, where)` on the packed machine. -/
def MState.appendStackPointer (s : MState) (b : Bytes) (wh : Int) : Option Bytes :=
  Pointer.appendStackPointer s.view b wh

end JsonV.Model.Pointer
