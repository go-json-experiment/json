/-
C19 "scoped": how one (un)marshal call saves, changes and restores the option struct.

In this code base the option struct that the arshalers receive (`mo`/`uo *jsonopts.Struct`) IS the coder's own
struct (`&xe.Struct`, arshal.go:233/456): there is no copy.  Everything below therefore works on ONE `Struct`.

The statements of the Go code that touch it are regenerated as data (`Gen/Scope.lean`, tools/translate/scope.go):
  * the window `flagsOriginal := mo.Flags … if err != nil` of the two closures of `makeStructArshaler`,
  * the bodies of `MarshalEncode` / `UnmarshalDecode`,
  * the statements around each call of user code (`WithinArshalCall`),
and `run` below interprets such a script.  `Props/C19Scope.lean` proves the hand copies `memberMarshal` … equal to the
regenerated scripts, and the list of ALL option-writing statements of packages json/jsontext/jsonwire equal to
`knownWriteSites` (each of which is one constructor of `Act` or belongs to one of the scripts).

Core Lean only (the oracle links this file).
-/
import JsonV.Model.Opts
import JsonV.Gen.Scope

namespace JsonV.Model.Scope
open JsonV.Model JsonV.Gen JsonV.Gen.Scope

/-! ### flag words used by the scripts (regenerated constants) -/
namespace W
def allowDup := bv jsonflags.c_AllowDuplicateNames
def allowInvalidUTF8 := bv jsonflags.c_AllowInvalidUTF8
def withinArshalCall := bv jsonflags.c_WithinArshalCall
def tagFlags := bv jsonflags.c_TagFlags
def stringTag := bv jsonflags.c_StringTag
def formatTag := bv jsonflags.c_FormatTag
def anyWhitespace := bv jsonflags.c_AnyWhitespace
def multiline := bv jsonflags.c_Multiline
def spaceAfterColon := bv jsonflags.c_SpaceAfterColon
def spaceAfterComma := bv jsonflags.c_SpaceAfterComma
def indent := bv jsonflags.c_Indent
def omitTopLevelNewline := bv jsonflags.c_OmitTopLevelNewline
end W

/-- Result of a callee: `nil`, or an error that the struct unmarshaler treats as fatal / non-fatal
(`isFatalError`; every marshal error is fatal). -/
inductive Outcome where
  | ok
  | err (fatal : Bool)
deriving DecidableEq, Repr, Inhabited

/-- `cmp.Or(errUnmarshal, err)`: the first error is kept. -/
def Outcome.or : Outcome → Outcome → Outcome
  | .ok, o => o
  | e, _ => e

def Outcome.isFatal : Outcome → Bool
  | .err true => true
  | _ => false

def Outcome.isErr : Outcome → Bool
  | .ok => false
  | _ => true

/-- `(*Struct).InitializeMultiline` (internal/jsonopts/options.go:183-195), one `if` each. -/
def imColon (s : Struct) : Struct :=
  if !s.flags.has W.spaceAfterColon then { s with flags := s.flags.set (W.spaceAfterColon ||| one) } else s
def imComma (s : Struct) : Struct :=
  if !s.flags.has W.spaceAfterComma then { s with flags := s.flags.set W.spaceAfterComma } else s
def imIndent (s : Struct) : Struct :=
  if !s.flags.has W.indent then { s with flags := s.flags.set (W.indent ||| one), indent := [0x09] } else s
def initializeMultiline (s : Struct) : Struct := imIndent (imComma (imColon s))

/-- `jsonopts.ChangedWhitespace(s1, s2)` (options.go:198-203). -/
def changedWhitespace (s1 s2 : Struct) : Bool :=
  s1.flags.get W.multiline != s2.flags.get W.multiline ||
  s1.flags.get W.spaceAfterColon != s2.flags.get W.spaceAfterColon ||
  s1.flags.get W.spaceAfterComma != s2.flags.get W.spaceAfterComma ||
  (s2.flags.get W.multiline && (s1.indent != s2.indent || s1.indentPrefix != s2.indentPrefix))

/-! ### interpreter of the regenerated scripts -/

/-- What one execution of a script depends on besides the option struct. -/
structure Env where
  /-- `f.string` of the struct field -/
  str : Bool := false
  /-- `f.format` of the struct field -/
  fmt : Bytes := []
  /-- `globalEnableFormatTag` -/
  globalFormatTag : Bool := false
  /-- `x.Tokens.Last.NeedObjectName()` when the call starts -/
  needName : Bool := false
  /-- the callee (`marshal(enc, v, mo)`, the user code, `marshalEncode(out, in, &xe.Struct)`): it receives the SAME
  struct and returns it as it left it -/
  child : Struct → Struct × Outcome

structure M where
  s : Struct
  opts : List Opt := []
  regs : List Bool := []
  savedFlags : Flags := Flags.empty
  savedStruct : Struct := {}
  savedGet : Bool := false
  deferRestore : Bool := false
  err : Outcome := .ok
  returned : Bool := false

def guardOK (e : Env) (m : M) : Guard → Bool
  | .str => e.str
  | .fmt => e.fmt != []
  | .opts => !m.opts.isEmpty
  | .needName => e.needName
  | .notSaved => !m.savedGet
  | .reg i => m.regs.getD i false

def evalCond (s : Struct) : Cond → Bool
  | .has w => s.flags.has (bv w)
  | .get w => s.flags.get (bv w)

def stepPrim (e : Env) (m : M) : Prim → M
  | .saveFlags => { m with savedFlags := m.s.flags }
  | .restoreFlags => { m with s := { m.s with flags := m.savedFlags } }
  | .set w => { m with s := { m.s with flags := m.s.flags.set (bv w) } }
  | .clear w => { m with s := { m.s with flags := m.s.flags.clear (bv w) } }
  | .assignFormat => { m with s := { m.s with format := e.fmt } }
  | .clearFormat => { m with s := { m.s with format := [] } }
  | .child => let r := e.child m.s; { m with s := r.1, err := r.2 }
  | .body => let r := e.child m.s; { m with s := r.1, err := r.2 }
  | .retIfErr => if m.err.isErr then { m with returned := true } else m
  | .retIfFatal => if m.err.isFatal then { m with returned := true } else m
  | .appendFormatTag => if e.globalFormatTag then { m with opts := m.opts ++ [.formatTagSupport true] } else m
  | .saveStruct => { m with savedStruct := m.s }
  | .deferRestoreStruct => { m with deferRestore := true }
  | .joinOpts => { m with s := m.s.join m.opts }
  | .guardGet w =>
      if m.savedStruct.flags.get (bv w) != m.s.flags.get (bv w) then { m with err := .err true, returned := true } else m
  | .test c => { m with regs := m.regs ++ [evalCond m.s c] }
  | .initMultiline => { m with s := initializeMultiline m.s }
  | .guardWhitespace =>
      if changedWhitespace m.savedStruct m.s then { m with err := .err true, returned := true } else m
  | .transformErr => m
  | .ret => { m with returned := true }
  | .saveGet w => { m with savedGet := m.s.flags.get (bv w) }

/-- One statement: nothing after a `return`; a skipped `if` still allocates its register (as false). -/
def step (e : Env) (m : M) (st : Stmt) : M :=
  if m.returned then m
  else if st.guards.all (guardOK e m) then stepPrim e m st.prim
  else match st.prim with
    | .test _ => { m with regs := m.regs ++ [false] }
    | _ => m

/-- The function body, then the deferred restore. -/
def run (e : Env) (script : List Stmt) (m : M) : M :=
  let m' := script.foldl (step e) m
  if m'.deferRestore then { m' with s := m'.savedStruct } else m'

def runOn (e : Env) (script : List Stmt) (opts : List Opt) (s : Struct) : Struct × Outcome :=
  let m := run e script { s := s, opts := opts }
  (m.s, m.err)

/-! ### hand copies of the scripts (tied to `Gen.Scope.*` in Props/C19Scope) -/

/-- arshal_default.go:1220-1233. -/
def memberMarshal : List Stmt := [
  ⟨[], .saveFlags⟩,
  ⟨[.str], .set (jsonflags.c_StringTag + 1)⟩,
  ⟨[.fmt], .set (jsonflags.c_FormatTag + 1)⟩,
  ⟨[.fmt], .assignFormat⟩,
  ⟨[], .child⟩,
  ⟨[], .restoreFlags⟩,
  ⟨[], .clearFormat⟩,
  ⟨[], .retIfErr⟩]

/-- arshal_default.go:1393-1410. -/
def memberUnmarshal : List Stmt := [
  ⟨[], .saveFlags⟩,
  ⟨[.str], .set (jsonflags.c_StringTag + 1)⟩,
  ⟨[.fmt], .set (jsonflags.c_FormatTag + 1)⟩,
  ⟨[.fmt], .assignFormat⟩,
  ⟨[], .child⟩,
  ⟨[], .restoreFlags⟩,
  ⟨[], .clearFormat⟩,
  ⟨[], .retIfFatal⟩]

/-- arshal.go:200-231. -/
def marshalEncodeS : List Stmt := [
  ⟨[], .appendFormatTag⟩,
  ⟨[.opts], .saveStruct⟩,
  ⟨[.opts], .deferRestoreStruct⟩,
  ⟨[.opts], .joinOpts⟩,
  ⟨[.opts, .needName], .guardGet jsonflags.c_AllowDuplicateNames⟩,
  ⟨[.opts, .needName], .guardGet jsonflags.c_AllowInvalidUTF8⟩,
  ⟨[.opts], .test (.has jsonflags.c_AnyWhitespace)⟩,
  ⟨[.opts, .reg 0], .test (.get jsonflags.c_Multiline)⟩,
  ⟨[.opts, .reg 0, .reg 1], .initMultiline⟩,
  ⟨[.opts, .reg 0], .guardWhitespace⟩,
  ⟨[], .body⟩,
  ⟨[], .transformErr⟩,
  ⟨[], .ret⟩]

/-- arshal.go:430-452. -/
def unmarshalDecodeS : List Stmt := [
  ⟨[], .appendFormatTag⟩,
  ⟨[.opts], .saveStruct⟩,
  ⟨[.opts], .deferRestoreStruct⟩,
  ⟨[.opts], .joinOpts⟩,
  ⟨[.opts, .needName], .guardGet jsonflags.c_AllowDuplicateNames⟩,
  ⟨[.opts, .needName], .guardGet jsonflags.c_AllowInvalidUTF8⟩,
  ⟨[], .body⟩,
  ⟨[], .transformErr⟩,
  ⟨[], .ret⟩]

/-- arshal_funcs.go:221-230, :314-323; arshal_methods.go:222-231, :327-336 (after the fix 0821077: the flag is reset
only by the outermost user call). -/
def userCallS : List Stmt := [
  ⟨[], .saveGet jsonflags.c_WithinArshalCall⟩,
  ⟨[], .set (jsonflags.c_WithinArshalCall + 1)⟩,
  ⟨[], .child⟩,
  ⟨[.notSaved], .set jsonflags.c_WithinArshalCall⟩]

/-! ### what a callee may do with the option struct -/

/-- The three places that clear tag flags in the struct they were given. -/
inductive ClearKind where
  | tags     -- jsontext WriteToken / ReadToken of `{` or `[`: `Flags.Clear(TagFlags)` on the coder's struct
  | string   -- pointer / interface arshalers: `Flags.Clear(StringTag)`
  | format   -- bytes arshaler, format "array": `Flags.Clear(FormatTag)`
deriving DecidableEq, Repr, Inhabited

def ClearKind.word : ClearKind → BitVec 64
  | .tags => W.tagFlags
  | .string => W.stringTag
  | .format => W.formatTag

/-- Everything the (un)marshal machinery below one call can do to the option struct, as a tree: the constructors are
exactly the option-writing statements of `knownWriteSites` that are reachable from a (un)marshal call on the caller's
coder, composed sequentially; `fail` stands for any point where an error is produced. -/
inductive Act where
  | skip
  | fail (fatal : Bool)
  | clear (k : ClearKind)
  | seq (a b : Act)
  /-- user code run through MarshalToFunc / UnmarshalFromFunc / MarshalJSONTo / UnmarshalJSONFrom; what it does with the
  coder it was handed (tokens, nested MarshalEncode / UnmarshalDecode calls) is `body` -/
  | user (body : Act)
  /-- one member of a struct (marshal or unmarshal side), with its `string` / `format` tag options -/
  | member (marshal : Bool) (str : Bool) (fmt : Bytes) (body : Act)
  /-- MarshalEncode / UnmarshalDecode on this coder with per-call options -/
  | call (marshal : Bool) (opts : List Opt) (needName : Bool) (body : Act)
deriving Repr, Inhabited

/-- Sequential composition as the Go code does it: a fatal error returns at once, a non-fatal one is recorded
(`cmp.Or`) and the loop goes on. -/
def seqResult (r : Struct × Outcome) (next : Struct → Struct × Outcome) : Struct × Outcome :=
  if r.2.isFatal then r else let r2 := next r.1; (r2.1, r.2.or r2.2)

/-- Effect of a callee on the option struct, and its outcome.  `g` = `globalEnableFormatTag`. -/
def exec (g : Bool) : Act → Struct → Struct × Outcome
  | .skip, s => (s, .ok)
  | .fail f, s => (s, .err f)
  | .clear k, s => ({ s with flags := s.flags.clear k.word }, .ok)
  | .seq a b, s => seqResult (exec g a s) (exec g b)
  | .user body, s => runOn { child := exec g body } userCallS [] s
  | .member mar str fmt body, s =>
      runOn { str := str, fmt := fmt, child := exec g body } (if mar then memberMarshal else memberUnmarshal) [] s
  | .call mar opts nn body, s =>
      runOn { globalFormatTag := g, needName := nn, child := exec g body } (if mar then marshalEncodeS else unmarshalDecodeS) opts s

/-! ### the option struct a callee sees (the closed forms proved in Lemmas/ScopeL: `member_closed`, `user_closed`,
`call_closed`) -/

/-- The flags a struct member's value is (un)marshaled with. -/
def tagged (str : Bool) (fmt : Bytes) (s : Struct) : Struct :=
  let s1 : Struct := if str then { s with flags := s.flags.set (bv (jsonflags.c_StringTag + 1)) } else s
  if fmt != [] then { s1 with flags := s1.flags.set (bv (jsonflags.c_FormatTag + 1)), format := fmt } else s1

/-- `mayAppendSupportFormatTag`. -/
def callOpts (g : Bool) (opts : List Opt) : List Opt := if g then opts ++ [.formatTagSupport true] else opts

/-- The option struct the body of `UnmarshalDecode` runs with. -/
def enterUnmarshal (o : List Opt) (s : Struct) : Struct := s.join o

/-- The option struct the body of `MarshalEncode` runs with. -/
def enterMarshal (o : List Opt) (s : Struct) : Struct :=
  let j := s.join o
  if j.flags.has (bv jsonflags.c_AnyWhitespace) && j.flags.get (bv jsonflags.c_Multiline) then initializeMultiline j else j

/-- The two guards at an object-name position. -/
def nameGuardFails (nn : Bool) (s j : Struct) : Bool :=
  nn && (s.flags.get (bv jsonflags.c_AllowDuplicateNames) != j.flags.get (bv jsonflags.c_AllowDuplicateNames) ||
         s.flags.get (bv jsonflags.c_AllowInvalidUTF8) != j.flags.get (bv jsonflags.c_AllowInvalidUTF8))

/-- The whitespace guard of `MarshalEncode`. -/
def wsGuardFails (o : List Opt) (s : Struct) : Bool :=
  (s.join o).flags.has (bv jsonflags.c_AnyWhitespace) && changedWhitespace s (enterMarshal o s)

/-- `Marshal`/`MarshalWrite`/`Unmarshal`/`UnmarshalRead`: a pooled coder is `reset` with the call options
(jsontext/encode.go:118-129: `Struct{}.Join(opts...)`, `InitializeMultiline` under Multiline — encoder only), marshal
additionally sets OmitTopLevelNewline; the struct is dropped with the pooled coder afterwards. -/
def enterPooled (g marshal : Bool) (opts : List Opt) : Struct :=
  let o := if g then opts ++ [.formatTagSupport true] else opts
  let s := Struct.join {} o
  if marshal then
    let s := if s.flags.get W.multiline then initializeMultiline s else s
    { s with flags := s.flags.set (W.omitTopLevelNewline ||| one) }
  else s

/-- `NewEncoder(w, opts...)` / `NewDecoder(r, opts...)`: the caller-owned coder's own options. -/
def newCoder (encoder : Bool) (opts : List Opt) : Struct :=
  let s := Struct.join {} opts
  if encoder && s.flags.get W.multiline then initializeMultiline s else s

/-! ### the list of all option-writing statements (tied to `Gen.Scope.writeSites`) -/

def knownWriteSites : List (String × String × String × Nat) := [
  -- pooled entry points: `enterPooled`; `&xe.Struct` is handed to marshalEncode/unmarshalDecode (no copy)
  ("json", "Marshal", "Flags.Set", jsonflags.c_OmitTopLevelNewline + 1),
  ("json", "Marshal", "&Struct", 0),
  ("json", "MarshalWrite", "Flags.Set", jsonflags.c_OmitTopLevelNewline + 1),
  ("json", "MarshalWrite", "&Struct", 0),
  -- `marshalEncodeS`
  ("json", "MarshalEncode", "=Struct", 0),
  ("json", "MarshalEncode", "Struct.Join", 0),
  ("json", "MarshalEncode", "Struct.InitializeMultiline", 0),
  ("json", "MarshalEncode", "&Struct", 0),
  ("json", "Unmarshal", "&Struct", 0),
  ("json", "UnmarshalRead", "&Struct", 0),
  -- `unmarshalDecodeS`
  ("json", "UnmarshalDecode", "=Struct", 0),
  ("json", "UnmarshalDecode", "Struct.Join", 0),
  ("json", "UnmarshalDecode", "&Struct", 0),
  -- `&mo.Flags` passed to jsonwire.AppendQuote (reads only: jsonwire has no write site)
  ("json", "makeStringArshaler", "&Flags", 0),
  ("json", "makeStringArshaler", "&Flags", 0),
  -- `Act.clear .format`
  ("json", "makeBytesArshaler", "Flags.Clear", jsonflags.c_FormatTag),
  ("json", "makeBytesArshaler", "Flags.Clear", jsonflags.c_FormatTag),
  -- `memberMarshal` (and `&mo.Flags` to AppendQuote for the member name)
  ("json", "makeStructArshaler", "&Flags", 0),
  ("json", "makeStructArshaler", "Flags.Set", jsonflags.c_StringTag + 1),
  ("json", "makeStructArshaler", "Flags.Set", jsonflags.c_FormatTag + 1),
  ("json", "makeStructArshaler", "=Format", 0),
  ("json", "makeStructArshaler", "=Flags", 0),
  ("json", "makeStructArshaler", "=Format", 0),
  -- `memberUnmarshal` (and `&uo.Flags` to matchFoldedName, reads only)
  ("json", "makeStructArshaler", "&Flags", 0),
  ("json", "makeStructArshaler", "&Flags", 0),
  ("json", "makeStructArshaler", "Flags.Set", jsonflags.c_StringTag + 1),
  ("json", "makeStructArshaler", "Flags.Set", jsonflags.c_FormatTag + 1),
  ("json", "makeStructArshaler", "=Format", 0),
  ("json", "makeStructArshaler", "=Flags", 0),
  ("json", "makeStructArshaler", "=Format", 0),
  -- `Act.clear .string`
  ("json", "makePointerArshaler", "Flags.Clear", jsonflags.c_StringTag),
  ("json", "makePointerArshaler", "Flags.Clear", jsonflags.c_StringTag),
  ("json", "makeInterfaceArshaler", "Flags.Clear", jsonflags.c_StringTag),
  ("json", "makeInterfaceArshaler", "Flags.Clear", jsonflags.c_StringTag),
  -- a pooled decoder of its own (arshal_embedded.go:59-62), not the call's coder
  ("json", "marshalEmbeddedFallbackAll", "Flags.Set", jsonflags.c_AllowDuplicateNames + jsonflags.c_AllowInvalidUTF8 + 1),
  ("json", "marshalEmbeddedFallbackAll", "&Flags", 0),
  -- `userCallS` (four copies)
  ("json", "MarshalToFunc", "Flags.Set", jsonflags.c_WithinArshalCall + 1),
  ("json", "MarshalToFunc", "Flags.Set", jsonflags.c_WithinArshalCall),
  ("json", "UnmarshalFromFunc", "Flags.Set", jsonflags.c_WithinArshalCall + 1),
  ("json", "UnmarshalFromFunc", "Flags.Set", jsonflags.c_WithinArshalCall),
  ("json", "makeMethodArshaler", "Flags.Set", jsonflags.c_WithinArshalCall + 1),
  ("json", "makeMethodArshaler", "Flags.Set", jsonflags.c_WithinArshalCall),
  ("json", "makeMethodArshaler", "Flags.Set", jsonflags.c_WithinArshalCall + 1),
  ("json", "makeMethodArshaler", "Flags.Set", jsonflags.c_WithinArshalCall),
  -- `&uo.Flags`-style read alias while parsing tags; JoinOptions / DefaultOptionsV2 build fresh structs
  ("json", "parseFieldOptions", "&Flags", 0),
  ("json", "JoinOptions", "Struct.Join", 0),
  ("json", "JoinOptions", "&Struct", 0),
  ("json", "DefaultOptionsV2", "&Struct", 0),
  -- JoinUnknownOption (part of `Struct.joinOne`: `.marshalers`, `.unmarshalers`)
  ("json", "init", "Flags.Set", jsonflags.c_Marshalers + 1),
  ("json", "init", "=Marshalers", 0),
  ("json", "init", "Flags.Set", jsonflags.c_Unmarshalers + 1),
  ("json", "init", "=Unmarshalers", 0),
  -- coder construction / Reset: `newCoder`, `enterPooled`; Options() hands out the live struct
  ("jsontext", "decoderState_reset", "Struct.Join", 0),
  ("jsontext", "decoderState_reset", "=Struct", 0),
  ("jsontext", "Decoder_Options", "&Struct", 0),
  ("jsontext", "decoderState_options", "&Struct", 0),
  -- `Act.clear .tags`
  ("jsontext", "decoderState_ReadToken", "Flags.Clear", jsonflags.c_TagFlags),
  ("jsontext", "decoderState_ReadToken", "Flags.Clear", jsonflags.c_TagFlags),
  ("jsontext", "encoderState_reset", "Struct.Join", 0),
  ("jsontext", "encoderState_reset", "=Struct", 0),
  ("jsontext", "encoderState_reset", "Struct.InitializeMultiline", 0),
  ("jsontext", "Encoder_Options", "&Struct", 0),
  ("jsontext", "encoderState_options", "&Struct", 0),
  ("jsontext", "encoderState_WriteToken", "&Flags", 0),
  ("jsontext", "encoderState_WriteToken", "&Flags", 0),
  ("jsontext", "encoderState_WriteToken", "Flags.Clear", jsonflags.c_TagFlags),
  ("jsontext", "encoderState_WriteToken", "Flags.Clear", jsonflags.c_TagFlags),
  -- `&e.Flags` to jsonwire (reads only)
  ("jsontext", "encoderState_AppendRaw", "&Flags", 0),
  ("jsontext", "encoderState_reformatValue", "&Flags", 0),
  ("jsontext", "encoderState_reformatValue", "&Flags", 0),
  ("jsontext", "encoderState_reformatObject", "&Flags", 0),
  ("jsontext", "AppendQuote", "&Flags", 0),
  -- pooled coders of their own (Value.Format / AppendFormat / reorder)
  ("jsontext", "AppendFormat", "Flags.Set", jsonflags.c_OmitTopLevelNewline + 1),
  ("jsontext", "Value_format", "Flags.Set", jsonflags.c_OmitTopLevelNewline + 1),
  ("jsontext", "mustReorderObjects", "Flags.Set", jsonflags.c_AllowDuplicateNames + jsonflags.c_AllowInvalidUTF8 + 1)]

end JsonV.Model.Scope
