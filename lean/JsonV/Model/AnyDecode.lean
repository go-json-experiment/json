/-
C03 — model of the two internal routes by which the library decodes a JSON text into an
untyped Go value, at tree level.  Core Lean only.

Mirrored Go code (default options unless said otherwise):

* `fastValue / fastMembers / fastElems`  =  arshal_any.go `unmarshalValueAny`, `unmarshalObjectAny`,
  `unmarshalArrayAny` — the specialised decoder for `any`: recursive descent over tokens, duplicate
  names detected by looking the decoded name up in the map being built (`if _, ok := obj[name]; ok`),
  string VALUES interned through `makeString` (names come from `Token.String`, not interned),
  numbers through `strconv.ParseFloat` (parameter `fp`; `none` = `ErrRange`).
* `genValue / genMembers / genElems`  =  arshal_default.go `makeInterfaceArshaler.unmarshal` (with a nil
  interface), `makeMapArshaler.unmarshal` for `map[string]any`, `makeSliceArshaler.unmarshal` for `[]any`,
  and the `bool`, `string`, `float64` arshalers the interface arshaler dispatches to on `PeekKind`.
  Names go through the string arshaler, hence through `makeString` (the cache evolves differently
  from the fast route).  The duplicate test is `va.MapIndex(k).IsValid()` on the map being built.
  `fastOK` is the test `optimizeCommon && t == anyType && !AllowDuplicateNames|FormatTag &&
  (no Unmarshalers with fromAny)` evaluated by the interface arshaler: when it holds the arshaler calls
  `unmarshalValueAny`.  `opt` is the part of that test that depends on the options only; element
  types of `map[string]any` and `[]any` are `any`, so nested values use `fastOK := opt`.
* `makeString` = intern.go: a 256-slot cache indexed by `hash64` (the REGENERATED body
  `Gen.json_hash64`, Tie A) of the first/last bytes; the cached string is returned only when it
  equals the bytes.

Abstractions (stated in meta/C03.json):
* tokens come from the RFC lexers of `Spec/Meaning.lean` (`lexStr`, `lexNum`, `lexScalar`, `skipWs`);
  the agreement of the real scanners with them is checked by the harness (Tie B), not proved here;
* the Decoder's delimiter state machine is abstracted to "a colon after each name, a comma before
  each non-first element"; the Go loop `for dec.PeekKind() != '}' { body }` is rotated: the test for
  the first iteration is made right after the opening token, the tests for later iterations at the end
  of the body.  Every violation is a fatal SyntacticError raised by the next Read*;
* errors are classes.  Under the default options `isFatalError` is true for every error, so
  decoding stops at the first error in document order (the `cmp.Or` bookkeeping for
  ReportErrorsWithLegacySemantics is not modelled);
* `depth` is `len(Tokens.Stack)`: `pushObject/pushArray` fail with errMaxDepth when it equals
  `maxNestingDepth` (regenerated constant);
* a Go map is an association list in insertion order; `mapInsert` overwrites like `m[k] = v`.
-/
import JsonV.Spec.Meaning
import JsonV.Gen.Constants
import JsonV.Gen.Straight

namespace JsonV.Model.AnyDecode
open JsonV JsonV.Spec.Meaning

/-- Error classes. `mismatch`: a JSON kind that the typed target cannot hold (SemanticError). -/
inductive Err where
  | syntax | dup | range | mismatch
  deriving DecidableEq, Repr, Inhabited

/-- Untyped Go values; `F` is the representation of float64 (a parameter, see `FloatParse`). -/
inductive GoAny (F : Type) where
  | nil
  | bool (b : Bool)
  | str (s : Bytes)
  | f64 (x : F)
  | slice (xs : List (GoAny F))
  | map (ms : List (Bytes × GoAny F))
  deriving Inhabited

/-- `strconv.ParseFloat(lit, 64)` on a literal of the JSON grammar: `none` = ErrRange. Trusted parameter. -/
abbrev FloatParse (F : Type) := Bytes → Option F

def maxDepth : Nat := JsonV.Gen.jsontext.c_maxNestingDepth

/-! ### makeString (intern.go) -/

/-- `stringCache = [256]string`, all entries initially "". -/
structure Cache where
  slots : Array Bytes

def Cache.empty : Cache := ⟨Array.replicate 256 []⟩
def Cache.get (c : Cache) (i : Nat) : Bytes := c.slots.getD i []
def Cache.set (c : Cache) (i : Nat) (s : Bytes) : Cache := ⟨c.slots.setIfInBounds i s⟩

def le32 (b0 b1 b2 b3 : UInt8) : BitVec 32 :=
  BitVec.ofNat 32 (b0.toNat + b1.toNat * 256 + b2.toNat * 65536 + b3.toNat * 16777216)
def le16 (b0 b1 : UInt8) : BitVec 32 := BitVec.ofNat 32 (b0.toNat + b1.toNat * 256)

/-- The hash computed by `makeString` from the fixed-width prefix and suffix (callers guarantee 2 ≤ len). -/
def hashOf (b : Bytes) : BitVec 32 :=
  let n := b.length
  let g (i : Nat) : UInt8 := b.getD i 0
  if n ≥ 8 then
    JsonV.Gen.json_hash64 (le32 (g 0) (g 1) (g 2) (g 3)) (le32 (g 4) (g 5) (g 6) (g 7)) ^^^
    JsonV.Gen.json_hash64 (le32 (g (n-8)) (g (n-7)) (g (n-6)) (g (n-5))) (le32 (g (n-4)) (g (n-3)) (g (n-2)) (g (n-1)))
  else if n ≥ 4 then
    JsonV.Gen.json_hash64 (le32 (g 0) (g 1) (g 2) (g 3)) (le32 (g (n-4)) (g (n-3)) (g (n-2)) (g (n-1)))
  else
    JsonV.Gen.json_hash64 (le16 (g 0) (g 1)) (le16 (g (n-2)) (g (n-1)))

/-- The cache slot `makeString` uses for `b`, `none` when `b` is not cached (length < 2 or > 256). -/
def slotOf (b : Bytes) : Option Nat :=
  if b.length < JsonV.Gen.json.c_makeString_minCachedLen ∨ b.length > JsonV.Gen.json.c_makeString_maxCachedLen then none
  else some ((hashOf b).toNat % 256)

/-- `makeString(c, b)`: (the returned string, the cache afterwards). -/
def makeString (c : Cache) (b : Bytes) : Bytes × Cache :=
  match slotOf b with
  | none => (b, c)                        -- return string(b)
  | some i =>
    let s := c.get i
    if s = b then (s, c)                  -- if s := (*c)[i]; s == string(b) { return s }
    else (b, c.set i b)                   -- s := string(b); (*c)[i] = s; return s

/-! ### Go maps as association lists -/

def mapHas {α : Type} (m : List (Bytes × α)) (k : Bytes) : Bool := m.any (fun e => e.1 == k)

/-- `m[k] = v` -/
def mapInsert {α : Type} : List (Bytes × α) → Bytes → α → List (Bytes × α)
  | [], k, v => [(k, v)]
  | (k', v') :: m, k, v => if k' = k then (k, v) :: m else (k', v') :: mapInsert m k v

/-- Result of a decoding step: (value, unread input, cache) or the first error. -/
abbrev Res (α : Type) := Except Err (α × Bytes × Cache)

section
variable {F : Type} (fp : FloatParse F)

/-! ### The specialised route: arshal_any.go -/

mutual
/-- `unmarshalValueAny` (with `unmarshalObjectAny`/`unmarshalArrayAny` up to their loops).
`b` has no leading whitespace (`PeekKind` skipped it); `d` = number of open containers. -/
def fastValue : Nat → Nat → Cache → Bytes → Res (GoAny F)
  | 0, _, _, _ => .error .syntax
  | fuel+1, d, c, b =>
    match b with
    | [] => .error .syntax
    | k :: r =>
      if k = 0x7B then            -- case '{': unmarshalObjectAny; ReadToken pushes the object
        if d = maxDepth then .error .syntax else
        match skipWs r with        -- obj := make(map[string]any); for dec.PeekKind() != '}'
        | [] => .error .syntax
        | k' :: r' =>
          if k' = 0x7D then .ok (.map [], r', c)
          else
            match fastMembers fuel (d + 1) [] c (k' :: r') with
            | .ok (ms, r'', c') => .ok (.map ms, r'', c')
            | .error e => .error e
      else if k = 0x5B then       -- case '[': unmarshalArrayAny; arr := []any{}
        if d = maxDepth then .error .syntax else
        match skipWs r with
        | [] => .error .syntax
        | k' :: r' =>
          if k' = 0x5D then .ok (.slice [], r', c)
          else
            match fastElems fuel (d + 1) [] c (k' :: r') with
            | .ok (xs, r'', c') => .ok (.slice xs, r'', c')
            | .error e => .error e
      else                        -- default: xd.ReadValue(&flags); switch val.Kind()
        match lexScalar (k :: r) with
        | none => .error .syntax
        | some (.null, r') => .ok (.nil, r', c)
        | some (.bool v, r') => .ok (.bool v, r', c)
        | some (.str s, r') =>
          let m := makeString c s    -- makeString(xd.StringCache, val)
          .ok (.str m.1, r', m.2)
        | some (.num l, r') =>
          match fp l with            -- strconv.ParseFloat(string(val), 64)
          | some x => .ok (.f64 x, r', c)
          | none => .error .range
        | some (_, _) => .error .syntax    -- unreachable: lexScalar yields scalars only

/-- Body of the loop of `unmarshalObjectAny`, entered at the start of a member. -/
def fastMembers : Nat → Nat → List (Bytes × GoAny F) → Cache → Bytes → Res (List (Bytes × GoAny F))
  | 0, _, _, _, _ => .error .syntax
  | fuel+1, d, obj, c, b =>
    match b with
    | [] => .error .syntax
    | k :: r =>
      if k = 0x22 then                   -- tok, err := dec.ReadToken(); name := tok.String()
        match lexStr r with
        | none => .error .syntax
        | some (name, r1) =>
          if mapHas obj name then .error .dup      -- if _, ok := obj[name]; ok
          else
            match skipWs r1 with
            | [] => .error .syntax
            | k2 :: r2 =>
              if k2 = 0x3A then
                match fastValue fuel d c (skipWs r2) with   -- val, err := unmarshalValueAny(dec, uo)
                | .error e => .error e
                | .ok (v, r3, c3) =>
                  let obj' := mapInsert obj name v          -- obj[name] = val
                  match skipWs r3 with
                  | [] => .error .syntax
                  | k4 :: r4 =>
                    if k4 = 0x2C then fastMembers fuel d obj' c3 (skipWs r4)
                    else if k4 = 0x7D then .ok (obj', r4, c3)
                    else .error .syntax
              else .error .syntax
      else .error .syntax

/-- Body of the loop of `unmarshalArrayAny`, entered at the start of an element. -/
def fastElems : Nat → Nat → List (GoAny F) → Cache → Bytes → Res (List (GoAny F))
  | 0, _, _, _, _ => .error .syntax
  | fuel+1, d, arr, c, b =>
    match fastValue fuel d c b with          -- val, err := unmarshalValueAny(dec, uo)
    | .error e => .error e
    | .ok (v, r3, c3) =>
      let arr' := arr ++ [v]                  -- arr = append(arr, val)
      match skipWs r3 with
      | [] => .error .syntax
      | k4 :: r4 =>
        if k4 = 0x2C then fastElems fuel d arr' c3 (skipWs r4)
        else if k4 = 0x5D then .ok (arr', r4, c3)
        else .error .syntax
end

/-! ### The generic route: arshal_default.go -/

def isNumStart (k : UInt8) : Bool := k = 0x2D || (0x30 ≤ k && k ≤ 0x39)

mutual
/-- `makeInterfaceArshaler(t).unmarshal` into a nil interface of a type equivalent to `any`.
`fastOK` = the optimisation test (t == anyType and the options allow it); `opt` = the options part. -/
def genValue (opt : Bool) : Bool → Nat → Nat → Cache → Bytes → Res (GoAny F)
  | _, 0, _, _, _ => .error .syntax
  | fastOK, fuel+1, d, c, b =>
    match b with
    | [] => .error .syntax
    | k :: r =>
      if k = 0x6E then                 -- if dec.PeekKind() == 'n' { dec.ReadToken(); va.SetZero() }
        match stripPrefix litNull (k :: r) with
        | some r' => .ok (.nil, r', c)
        | none => .error .syntax
      else if fastOK then fastValue fp (fuel + 1) d c (k :: r)      -- v, err := unmarshalValueAny(dec, uo)
      else if k = 0x66 || k = 0x74 then      -- boolType: tok ← ReadToken; va.SetBool(tok.Bool())
        match lexScalar (k :: r) with
        | some (.bool v, r') => .ok (.bool v, r', c)
        | _ => .error .syntax
      else if k = 0x22 then                  -- stringType: ReadValue; UnquoteMayCopy; makeString
        match lexStr r with
        | some (s, r') =>
          let m := makeString c s
          .ok (.str m.1, r', m.2)
        | none => .error .syntax
      else if isNumStart k then              -- float64Type: ReadValue; strconv.ParseFloat
        match lexNum (k :: r) with
        | some (l, r') =>
          match fp l with
          | some x => .ok (.f64 x, r', c)
          | none => .error .range
        | none => .error .syntax
      else if k = 0x7B then                  -- mapStringAnyType: ReadToken '{'; va.Set(reflect.MakeMap(t))
        if d = maxDepth then .error .syntax else
        match skipWs r with
        | [] => .error .syntax
        | k' :: r' =>
          if k' = 0x7D then .ok (.map [], r', c)
          else
            match genMembers opt fuel (d + 1) [] c (k' :: r') with
            | .ok (ms, r'', c') => .ok (.map ms, r'', c')
            | .error e => .error e
      else if k = 0x5B then                  -- sliceAnyType: ReadToken '['; i == 0 ⇒ va.Set(emptySlice)
        if d = maxDepth then .error .syntax else
        match skipWs r with
        | [] => .error .syntax
        | k' :: r' =>
          if k' = 0x5D then .ok (.slice [], r', c)
          else
            match genElems opt fuel (d + 1) [] c (k' :: r') with
            | .ok (xs, r'', c') => .ok (.slice xs, r'', c')
            | .error e => .error e
      else .error .syntax                    -- default: _, err := dec.ReadValue(); return err

/-- Loop body of the `map[string]any` arshaler (map initially empty, so `seen` is not allocated). -/
def genMembers (opt : Bool) : Nat → Nat → List (Bytes × GoAny F) → Cache → Bytes → Res (List (Bytes × GoAny F))
  | 0, _, _, _, _ => .error .syntax
  | fuel+1, d, m, c, b =>
    match b with
    | [] => .error .syntax
    | k :: r =>
      if k = 0x22 then                   -- unmarshalKey = string arshaler: ReadValue, makeString
        match lexStr r with
        | none => .error .syntax
        | some (raw, r1) =>
          let ks := makeString c raw
          let name := ks.1
          if mapHas m name then .error .dup      -- va.MapIndex(k.Value).IsValid() && !AllowDuplicateNames
          else
            match skipWs r1 with
            | [] => .error .syntax
            | k2 :: r2 =>
              if k2 = 0x3A then
                match genValue opt opt fuel d ks.2 (skipWs r2) with     -- unmarshalVal(dec, v, uo)
                | .error e => .error e
                | .ok (v, r3, c3) =>
                  let m' := mapInsert m name v                  -- va.SetMapIndex(k.Value, v.Value)
                  match skipWs r3 with
                  | [] => .error .syntax
                  | k4 :: r4 =>
                    if k4 = 0x2C then genMembers opt fuel d m' c3 (skipWs r4)
                    else if k4 = 0x7D then .ok (m', r4, c3)
                    else .error .syntax
              else .error .syntax
      else .error .syntax

/-- Loop body of the `[]any` arshaler. -/
def genElems (opt : Bool) : Nat → Nat → List (GoAny F) → Cache → Bytes → Res (List (GoAny F))
  | 0, _, _, _, _ => .error .syntax
  | fuel+1, d, arr, c, b =>
    match genValue opt opt fuel d c b with       -- unmarshal(dec, v, uo) on va.Index(i)
    | .error e => .error e
    | .ok (v, r3, c3) =>
      let arr' := arr ++ [v]
      match skipWs r3 with
      | [] => .error .syntax
      | k4 :: r4 =>
        if k4 = 0x2C then genElems opt fuel d arr' c3 (skipWs r4)
        else if k4 = 0x5D then .ok (arr', r4, c3)
        else .error .syntax
end

/-! ### Entry points: `unmarshalDecode(dec, out, uo, last=true)` followed by `CheckEOF` -/

/-- Drop the cache and require that only whitespace follows (`CheckEOF`). -/
def finish (r : Res (GoAny F)) : Except Err (GoAny F) :=
  match r with
  | .error e => .error e
  | .ok (v, rest, _) => if (skipWs rest).isEmpty then .ok v else .error .syntax

/-- Fuel used by the entry points: two units per input byte always suffice (see `Lemmas/GlueMeaningFuel`). -/
def fuelFor (b : Bytes) : Nat := 2 * b.length + 2

/-- `json.Unmarshal(b, &x)` with `var x any`, default options: the specialised route. -/
def fast (c : Cache) (b : Bytes) : Except Err (GoAny F) :=
  finish (fastValue fp (fuelFor b) 0 c (skipWs b))

/-- Target of interface type.  `isAny`: the static type is exactly `any` (false for a named empty
interface); `opt`: the options permit the specialised decoder. -/
def unmarshalIface (isAny opt : Bool) (c : Cache) (b : Bytes) : Except Err (GoAny F) :=
  finish (genValue fp opt (isAny && opt) (fuelFor b) 0 c (skipWs b))

/-- The generic machinery all the way down (options that disable the specialised decoder but keep
the default semantics, e.g. an `Unmarshalers` value with `fromAny` whose functions decline). -/
def generic (c : Cache) (b : Bytes) : Except Err (GoAny F) := unmarshalIface fp true false c b

/-- Target `map[string]any` (nil): the map arshaler at the top; `null` leaves the nil map. -/
def unmarshalMap (opt : Bool) (c : Cache) (b : Bytes) : Except Err (GoAny F) :=
  finish (
    match skipWs b with
    | [] => .error .syntax
    | k :: r =>
      if k = 0x7B then
        match skipWs r with
        | [] => .error .syntax
        | k' :: r' =>
          if k' = 0x7D then .ok (.map [], r', c)
          else
            match genMembers fp opt (2 * b.length + 1) 1 [] c (k' :: r') with
            | .ok (ms, r'', c') => .ok (.map ms, r'', c')
            | .error e => .error e
      else if k = 0x6E then
        match stripPrefix litNull (k :: r) with
        | some r' => .ok (.nil, r', c)
        | none => .error .syntax
      else if k = 0x5B then .error .mismatch
      else match lexScalar (k :: r) with
        | some _ => .error .mismatch
        | none => .error .syntax)

/-- Target `[]any` (nil): the slice arshaler at the top. -/
def unmarshalSlice (opt : Bool) (c : Cache) (b : Bytes) : Except Err (GoAny F) :=
  finish (
    match skipWs b with
    | [] => .error .syntax
    | k :: r =>
      if k = 0x5B then
        match skipWs r with
        | [] => .error .syntax
        | k' :: r' =>
          if k' = 0x5D then .ok (.slice [], r', c)
          else
            match genElems fp opt (2 * b.length + 1) 1 [] c (k' :: r') with
            | .ok (xs, r'', c') => .ok (.slice xs, r'', c')
            | .error e => .error e
      else if k = 0x6E then
        match stripPrefix litNull (k :: r) with
        | some r' => .ok (.nil, r', c)
        | none => .error .syntax
      else if k = 0x7B then .error .mismatch
      else match lexScalar (k :: r) with
        | some _ => .error .mismatch
        | none => .error .syntax)

end

/-! ### From the meaning of a text to the Go value it must produce -/

section
variable {F : Type} (fp : FloatParse F)

mutual
/-- The untyped Go value of a tree; `none` when some number overflows float64. -/
def toGo : MTree → Option (GoAny F)
  | .null => some .nil
  | .bool b => some (.bool b)
  | .str s => some (.str s)
  | .num l => (fp l).map .f64
  | .arr xs => (toGoList xs).map .slice
  | .obj ms => (toGoMembers ms).map .map
def toGoList : List MTree → Option (List (GoAny F))
  | [] => some []
  | x :: xs =>
    match toGo x with
    | none => none
    | some v => (toGoList xs).map (v :: ·)
def toGoMembers : List (Bytes × MTree) → Option (List (Bytes × GoAny F))
  | [] => some []
  | (k, x) :: ms =>
    match toGo x with
    | none => none
    | some v => (toGoMembers ms).map ((k, v) :: ·)
end

end

end JsonV.Model.AnyDecode
