/-
C05 — Decoding is independent of how the input arrives or is consumed.

Proved here, for ALL inputs, all split points and all chunkings (no bounds):

  * `num_resume`, `str_resume`        resuming a scanner at the saved (offset, state/flags) over any extension of the
                                      buffer equals scanning the extended buffer from scratch;
  * `num_stable`, `str_stable`,       a definitive result (nil before the end of the buffer, or a syntax error) does
    `lit_resume`, `ws_resume`         not change when more input is appended; blanks/literals continue correctly;
  * `chunk_indep_num/str/lit/ws`      the refill loops of jsontext/decode.go (consumeNumber, consumeString,
                                      consumeLiteral, consumeWhitespace) return the same (offset, flags, error class)
                                      for EVERY chunking of the input as for the input in one piece;
  * `window_inv`, `no_input_lost`     the decode-buffer bookkeeping (fetch with any chunk size, advancing, invalidating)
                                      keeps  stream = first InputOffset bytes ++ UnreadBuffer ++ not-yet-read.

  * `sim_tokens`, `sim_tokens_events`  the streaming DECODER model (Model/Stream.lean: Window + refill loops + the
                                      token-level control flow of ReadToken, state machine, namespaces) returns for
                                      every chunking, call by call, what the whole-buffer model of slice C01
                                      (Model/TokenLoop.lean) returns: kinds, spans, absolute offsets, error class+offset;
  * `fault_stutter`, `fault_stutter_run`  a transient fault is returned without moving the decoder, and the transcript
                                      without the faulted calls is the fault-free transcript, for any reader;
  * `value_span_tokens`               the bytes of a string/number token are exactly input[start:stop].

  * `sim_full`, `sim_full_events`      the same for SCRIPTS mixing ReadToken / ReadValue / SkipValue: the streaming
                                      consumeValue/consumeObject/consumeArray answer what `Validate.consumeValue`
                                      answers on the whole input;
  * `value_span_full`, `fault_stutter_full`  ReadValue hands out exactly input[a:b] with InputOffset = b; a fault inside
                                      a value is returned without moving the decoder.

Not proved (kept as `def … : Prop`, validated by the harness only): StackPointer / error pointers
(`sim_pointers_full`); a fault inside SkipValue's token loop leaves the decoder part-way by design.
PeekKind with its cache IS proved: `sim_peek_full`, `fault_stutter_peek`.
-/
import JsonV.Lemmas.ResumeNum
import JsonV.Lemmas.ResumeStr
import JsonV.Lemmas.ResumeLit
import JsonV.Lemmas.ResumeWindow
import JsonV.Lemmas.ResumeStreamRun
import JsonV.Lemmas.ResumeStreamCalls
import JsonV.Lemmas.ResumeStreamPeek

namespace JsonV.Props.C05
open JsonV JsonV.Model JsonV.Model.Resume JsonV.Model.Window

/-! ## Resumable scanners -/

/-- `num_resume`.  If `ConsumeNumberResumable(b, 0, init)` stops where decoderState.consumeNumber refills — it returned
io.ErrUnexpectedEOF, or nil with the whole buffer consumed — then for EVERY extension `e`, resuming at the
returned offset and state over `b ++ e` yields the same offset and error class as scanning `b ++ e` from
scratch, and the same state whenever that state can be used again. -/
theorem num_resume (b e : Bytes)
    (h : Resumable b.length (consumeNumberResumable b 0 0)) :
    NumEquiv (b ++ e).length
      (consumeNumberResumable (b ++ e) (consumeNumberResumable b 0 0).1 (consumeNumberResumable b 0 0).2.1)
      (consumeNumberResumable (b ++ e) 0 0) :=
  num_resume_equiv b e h

/-- the hypothesis of `num_resume` is met by "1." (io.ErrUnexpectedEOF at the '.', state beforeFractionalDigits) … -/
example : consumeNumberResumable [0x31, 0x2E] 0 0 = (1, 3, .eof) := by decide
example : Resumable 2 (consumeNumberResumable [0x31, 0x2E] 0 0) := by unfold Resumable; decide
/-- … and by "12" (nil at the end of the buffer, state withinIntegerDigits) -/
example : Resumable 2 (consumeNumberResumable [0x31, 0x32] 0 0) := by unfold Resumable; decide
/-- the states really may differ when the result is definitive: "12x" resumed from ("12", withinIntegerDigits) -/
example : consumeNumberResumable [0x31, 0x32, 0x78] 2 2 = (2, 3, .ok) ∧
          consumeNumberResumable [0x31, 0x32, 0x78] 0 0 = (2, 2, .ok) := by decide

/-- a definitive result of the number scanner (not io.ErrUnexpectedEOF, not at the end of the buffer) is final -/
theorem num_stable (b e : Bytes) (h : Definitive b.length (consumeNumberResumable b 0 0)) :
    consumeNumberResumable (b ++ e) 0 0 = consumeNumberResumable b 0 0 :=
  Resume.num_stable b e h

example : Definitive 3 (consumeNumberResumable [0x31, 0x32, 0x78] 0 0) := by unfold Definitive; decide

/-- `str_resume`.  If `ConsumeStringResumable(&f, b, 0, v)` returns io.ErrUnexpectedEOF with resume offset `n` and
flags `f'`, then for EVERY extension `e`, `ConsumeStringResumable(&f', b ++ e, n, v)` returns exactly what
`ConsumeStringResumable(&f, b ++ e, 0, v)` returns: same offset, same flags, same error class. -/
theorem str_resume (f : VFlags) (b e : Bytes) (v : Bool) (n : Nat) (f' : VFlags)
    (h : consumeStringResumable f b 0 v = (n, f', .eof)) :
    consumeStringResumable f' (b ++ e) n v = consumeStringResumable f (b ++ e) 0 v :=
  str_resume_eq f b e v n f' h

/-- the hypothesis is met by `"\` (a string cut inside an escape: resume offset 1, stringNonVerbatim already set) -/
example : consumeStringResumable .none [0x22, 0x5C] 0 true = (1, .nv, .eof) := by
  simp [consumeStringResumable, strLoop_cons]
  decide

/-- a definitive result of the string scanner (nil or a syntax error) is final -/
theorem str_stable (f : VFlags) (b e : Bytes) (v : Bool)
    (h : (consumeStringResumable f b 0 v).2.2 ≠ .eof) :
    consumeStringResumable f (b ++ e) 0 v = consumeStringResumable f b 0 v :=
  Resume.str_stable f b e v h

example : (consumeStringResumable .none [0x22, 0x22] 0 true).2.2 ≠ .eof := by
  simp [consumeStringResumable, strLoop_cons]
  decide

/-- the model's last branch of the string loop stands for exactly the `r < ' '` arm of the Go switch: the
`default: panic("BUG: unhandled character")` arm cannot be reached -/
theorem str_panic_arm_unreachable (c : UInt8) (r1 : Bytes)
    (hn : noEscape c = false) (hq : (c == 0x22) = false)
    (h2 : ¬ (Utf8.decodeRune (c :: r1)).2 > 1)
    (h5 : ((Utf8.decodeRune (c :: r1)).1 == 0x5C) = false)
    (hre : ((Utf8.decodeRune (c :: r1)).1 == Utf8.runeError) = false) :
    (Utf8.decodeRune (c :: r1)).1 < 0x20 :=
  strStep_default_unreachable c r1 hn hq h2 h5 hre

/-- its hypotheses are met by the control character 0x01 -/
example : noEscape 0x01 = false ∧ ((0x01 : UInt8) == 0x22) = false ∧ ¬ (Utf8.decodeRune [0x01]).2 > 1 ∧
    ((Utf8.decodeRune [0x01]).1 == 0x5C) = false ∧ ((Utf8.decodeRune [0x01]).1 == Utf8.runeError) = false := by decide

/-- `ws_resume`: blanks are consumed up to the end of the buffer and continue in the appended input, or stop
at the first non-blank byte whatever is appended. -/
theorem ws_resume (b e : Bytes) :
    consumeWhitespace (b ++ e) =
      if consumeWhitespace b = b.length then b.length + consumeWhitespace e else consumeWhitespace b :=
  consumeWhitespace_append b e

/-- `lit_resume`: io.ErrUnexpectedEOF from ConsumeLiteral means the whole buffer matched (so rescanning from the
start, as decoderState.consumeLiteral does, loses nothing); any other result is final. -/
theorem lit_resume (b lit e : Bytes) :
    ((consumeLiteral b lit).2 = .eof → (consumeLiteral b lit).1 = b.length) ∧
    ((consumeLiteral b lit).2 ≠ .eof → consumeLiteral (b ++ e) lit = consumeLiteral b lit) :=
  ⟨consumeLiteral_eof_len b lit, consumeLiteral_stable b lit e⟩

example : (consumeLiteral [0x6E, 0x75] [0x6E, 0x75, 0x6C, 0x6C]).2 = .eof := by decide
example : (consumeLiteral [0x6E, 0x78] [0x6E, 0x75, 0x6C, 0x6C]).2 ≠ .eof := by decide

/-! ## Chunk independence of the refill loops -/

/-- `chunk_indep` (numbers): decoderState.consumeNumber over any chunking `c :: cs` of the input returns what it
returns on the input in one piece. -/
theorem chunk_indep_num (c : Bytes) (cs : List Bytes) :
    consumeNumberChunks c 0 0 cs = consumeNumberChunks (c ++ cs.flatten) 0 0 [] :=
  num_chunk_indep c cs

/-- `chunk_indep` (strings): decoderState.consumeString over any chunking returns (offset, flags, error class) of
one scan of the whole input. -/
theorem chunk_indep_str (f : VFlags) (v : Bool) (c : Bytes) (cs : List Bytes) :
    consumeStringChunks f c 0 v cs = consumeStringResumable f (c ++ cs.flatten) 0 v :=
  str_chunk_indep f v c cs

/-- `chunk_indep` (literals) -/
theorem chunk_indep_lit (c lit : Bytes) (cs : List Bytes) :
    consumeLiteralChunks c lit cs = consumeLiteral (c ++ cs.flatten) lit :=
  consumeLiteralChunks_eq cs c lit

/-- `chunk_indep` (whitespace) -/
theorem chunk_indep_ws (c : Bytes) (cs : List Bytes) :
    consumeWhitespaceChunks c 0 cs = consumeWhitespaceChunks (c ++ cs.flatten) 0 [] :=
  consumeWhitespaceChunks_inv cs c 0 (Nat.zero_le _)

/-- consequently two chunkings of the same bytes cannot be told apart by any of the four loops -/
theorem chunk_indep_any_two (c d : Bytes) (cs ds : List Bytes) (f : VFlags) (v : Bool) (lit : Bytes)
    (h : c ++ cs.flatten = d ++ ds.flatten) :
    consumeNumberChunks c 0 0 cs = consumeNumberChunks d 0 0 ds ∧
    consumeStringChunks f c 0 v cs = consumeStringChunks f d 0 v ds ∧
    consumeLiteralChunks c lit cs = consumeLiteralChunks d lit ds ∧
    consumeWhitespaceChunks c 0 cs = consumeWhitespaceChunks d 0 ds := by
  refine ⟨?_, ?_, ?_, ?_⟩
  · rw [chunk_indep_num, chunk_indep_num d, h]
  · rw [chunk_indep_str, chunk_indep_str f v d, h]
  · rw [chunk_indep_lit, chunk_indep_lit d, h]
  · rw [chunk_indep_ws, chunk_indep_ws d, h]

example : ([0x31] : Bytes) ++ [[0x2E], [0x35]].flatten = [0x31, 0x2E] ++ [[0x35]].flatten := by decide

/-! ## The decode buffer -/

/-- `window_inv`: starting from a fresh streaming decoder, after ANY sequence of fetches (of any sizes), position
updates and invalidations: `prevStart ≤ prevEnd ≤ len(buf)`, no byte count is off, and the stream from
`InputOffset` on is `UnreadBuffer` followed by what the reader still holds. -/
theorem window_inv (stream : Bytes) (ops : List Op) : Inv stream (run (init stream) ops) :=
  inv_run stream ops _ (inv_init stream)

/-- the same for a decoder over a whole slice -/
theorem window_inv_whole (stream : Bytes) (ops : List Op) : Inv stream (run (initWhole stream) ops) :=
  inv_run stream ops _ (inv_initWhole stream)

/-- `no_input_lost`: at every moment the bytes taken from the reader are exactly the first InputOffset bytes
followed by UnreadBuffer. -/
theorem no_input_lost (stream : Bytes) (ops : List Op) :
    let w := run (init stream) ops
    stream = stream.take w.inputOffset ++ w.unread ++ w.pending ∧
    w.inputOffset + w.unread.length + w.pending.length = stream.length :=
  inv_unread stream _ (window_inv stream ops)

/-- `window_inv` in its literal form, for decoders that never overwrite their buffer (whole slice, *bytes.Buffer):
`stream = consumed ++ buf ++ pending` with `consumed.length = baseOffset`, for every chunking. -/
theorem window_inv_exact (stream : Bytes) (ops : List Op) (hno : ∀ op ∈ ops, op.isInvalidate = false) :
    InvExact stream (run (init stream) ops) :=
  invExact_run stream ops hno _ (invExact_init stream)

example : ∀ op ∈ [Op.fetch 3, Op.advance 1 2, Op.fetch 1], op.isInvalidate = false := by decide

/-! ## The streaming decoder: ReadToken sequences (Model/Stream.lean against Model/TokenLoop.lean)

The streaming model = the Window + the four refill loops over an adversarial reader (`Event`: chunk, possibly empty /
fault / eof) + the token-level control flow of ReadToken; `Stream.run o n s` are the results of `n` consecutive
ReadToken calls (continuing after errors), `Stream.wholeRun o n ws` the same calls of the whole-buffer model
`TokenLoop.readToken` (slice C01), in one vocabulary: `tok kind start stop` with ABSOLUTE offsets (`stop` is
`InputOffset` afterwards), `err offset class` (the offset `wrapSyntacticError` reports, `baseOffset + pos`), `fault`.
The model is tied to the real Decoder by correspondence (`dec stream`, recorded reader events). -/

open JsonV.Model.Stream in
/-- `sim_tokens`.  For EVERY chunking `cs` of the input and every number of calls, the ReadToken calls of the
streaming decoder return, call by call, exactly what they return on the whole input in one piece: token kinds,
token spans, absolute offsets, error classes and error offsets (and, as the simulation relation `Sim` is kept, the
same state machine and namespaces). -/
theorem sim_tokens (o : Validate.VOpts) (n : Nat) (cs : List Bytes) :
    Stream.run o n (Stream.init (cs.map Event.chunk)) = Stream.wholeRun o n { r := cs.flatten } := by
  have h := run_sim o n (Stream.init (cs.map Event.chunk)) { r := avail (cs.map Event.chunk) }
    (sim_init _) (noFault_chunks cs)
  rw [avail_chunks] at h
  exact h

open JsonV.Model.Stream in
/-- the same for any reader that does not fault: empty reads and the position of `eof` do not matter either -/
theorem sim_tokens_events (o : Validate.VOpts) (n : Nat) (es : List Event) (h : NoFault es) :
    Stream.run o n (Stream.init es) = Stream.wholeRun o n { r := avail es } :=
  run_sim o n _ _ (sim_init es) h

open JsonV.Model.Stream in
/-- consequently two chunkings of the same bytes cannot be told apart by any sequence of ReadToken calls -/
theorem sim_tokens_any_two (o : Validate.VOpts) (n : Nat) (cs ds : List Bytes) (h : cs.flatten = ds.flatten) :
    Stream.run o n (Stream.init (cs.map Event.chunk)) = Stream.run o n (Stream.init (ds.map Event.chunk)) := by
  rw [sim_tokens, sim_tokens, h]

open JsonV.Model.Stream in
example : NoFault [Event.chunk [0x5B], Event.chunk [], Event.chunk [0x31, 0x5D], Event.eof] := by
  intro h; simp at h

open JsonV.Model.Stream in
/-- `fault_stutter`, one call: from decoders at the same point (`Sim`), a ReadToken that returns the transient error
leaves the streaming decoder at the same point as before (same state machine and namespaces, same InputOffset, same
remaining input: buffered ++ still to come), with strictly fewer reader events left — so the calls that follow
behave as if the fault had not occurred (`fault_stutter_run`). -/
theorem fault_stutter (o : Validate.VOpts) (s : SState) (ws : WState) (h : Sim s ws)
    (hf : (Stream.readToken o s).1 = .fault) :
    Sim (Stream.readToken o s).2 ws ∧ (Stream.readToken o s).2.events.length < s.events.length := by
  rcases readToken_sim o s ws h with ⟨_, hs, hl⟩ | ⟨ho, _, _⟩
  · exact ⟨hs, hl.length_lt⟩
  · rw [hf] at ho; exact absurd ho.symm (wholeRead_ne_fault o ws)

open JsonV.Model.Stream in
/-- `fault_stutter`, whole runs: for ANY reader (faults anywhere, any number of them), removing the calls that
returned the transient error from the transcript leaves exactly the transcript of the decoder over the whole input. -/
theorem fault_stutter_run (o : Validate.VOpts) (n : Nat) (es : List Event) :
    (Stream.run o n (Stream.init es)).filter (fun x => x != .fault) =
      Stream.wholeRun o ((Stream.run o n (Stream.init es)).filter (fun x => x != .fault)).length { r := avail es } :=
  run_stutter o n _ _ (sim_init es)

open JsonV.Model.Stream in
/-- a fault does occur in the model: `[1` then a fault: the second call returns it, the third succeeds -/
example : Stream.run {} 3 (Stream.init [Event.chunk [0x5B], Event.fault, Event.chunk [0x31, 0x5D]]) =
    [.tok 0x5B 0 1, .fault, .tok 0x30 1 2] := by decide

open JsonV.Model.Stream in
/-- `value_span` for tokens: a token reported at absolute offsets `[a, b)` lies inside the input, `InputOffset` is
`b` afterwards, and for strings and numbers — the tokens that carry bytes — the bytes the decoder hands out,
`d.buf[d.prevStart:d.prevEnd]`, are exactly `input[a:b]` (`input` = what was consumed so far ++ buffered ++ to come). -/
theorem value_span_tokens (o : Validate.VOpts) (s : SState) (ws : WState) (h : Sim s ws) (pre : Bytes)
    (hpre : pre.length = ws.off) (k : UInt8) (a b : Nat) (ht : (Stream.readToken o s).1 = .tok k a b) :
    ws.off ≤ a ∧ a ≤ b ∧ b ≤ (pre ++ ws.r).length ∧
    (Stream.readToken o s).2.w.inputOffset = b ∧
    ((k == 0x22 || k == 0x30) = true →
      (Stream.readToken o s).2.w.baseOffset + (Stream.readToken o s).2.w.prevStart = a ∧
      (Stream.readToken o s).2.prevBytes = ((pre ++ ws.r).drop a).take (b - a)) :=
  readToken_span o s ws h pre hpre k a b ht

open JsonV.Model.Stream in
/-- `Sim` is met initially (so every reachable pair of states satisfies it, by `readToken_sim`) -/
example (es : List Event) : Sim (Stream.init es) { r := avail es } := sim_init es

/-! ## The streaming decoder: scripts of ReadToken / ReadValue / SkipValue

`Stream.readValue` = the head shared with ReadToken, then the streaming consumeValue / consumeObject / consumeArray
(`sValue …`: every blank run, literal, string and number inside the value goes through its refill loop at its
position), then the state machine; `Stream.skipValue` = PeekKind without its cache, then a ReadToken loop (for `{`,
`[`) or a ReadValue.  The whole-buffer side is `Validate.consumeValue` (slice C01, the function `valid_iff` /
`value_complete` speak about) for containers and `TokenLoop.lexToken` for scalars, behind `TokenLoop.readToken`'s head. -/

open JsonV.Model.Stream in
/-- `sim_full` (ReadToken / ReadValue / SkipValue).  For EVERY chunking `cs` of the input and EVERY script of calls,
the streaming decoder returns, call by call, exactly what the decoder over the whole input returns: token and value
kinds, spans, absolute offsets (`stop` = InputOffset afterwards), error classes and offsets; the state machine and
the namespaces stay equal too (`Sim` is kept). -/
theorem sim_full (o : Validate.VOpts) (calls : List Stream.Call) (cs : List Bytes) :
    Stream.runScript o calls (Stream.init (cs.map Event.chunk)) = Stream.wholeScript o calls { r := cs.flatten } := by
  have h := script_sim o calls (Stream.init (cs.map Event.chunk)) { r := avail (cs.map Event.chunk) }
    (sim_init _) (noFault_chunks cs)
  rw [avail_chunks] at h
  exact h

open JsonV.Model.Stream in
/-- the same for any reader that does not fault (empty reads, `eof` anywhere) -/
theorem sim_full_events (o : Validate.VOpts) (calls : List Stream.Call) (es : List Event) (h : NoFault es) :
    Stream.runScript o calls (Stream.init es) = Stream.wholeScript o calls { r := avail es } :=
  script_sim o calls _ _ (sim_init es) h

open JsonV.Model.Stream in
/-- two chunkings of the same bytes cannot be told apart by any script -/
theorem sim_full_any_two (o : Validate.VOpts) (calls : List Stream.Call) (cs ds : List Bytes) (h : cs.flatten = ds.flatten) :
    Stream.runScript o calls (Stream.init (cs.map Event.chunk)) =
      Stream.runScript o calls (Stream.init (ds.map Event.chunk)) := by
  rw [sim_full, sim_full, h]

open JsonV.Model.Stream in
/-- a script that uses all three calls on `[{"a":[1,2]},3]` cut into four chunks -/
example : Stream.runScript {} [.readToken, .readValue, .skipValue, .readToken]
    (Stream.init ([[0x5B, 0x7B, 0x22], [0x61, 0x22, 0x3A, 0x5B, 0x31], [0x2C, 0x32, 0x5D, 0x7D, 0x2C], [0x33, 0x5D]].map Event.chunk)) =
    [.tok 0x5B 0 1, .tok 0x7B 1 12, .skip 14, .tok 0x5D 14 15] := by decide +kernel

open JsonV.Model.Stream in
/-- `value_span_full`: a value returned by ReadValue at absolute offsets `[a, b)` lies inside the input, `InputOffset`
is `b` afterwards, `prevStart` is `a`, and the bytes handed out — `d.buf[d.prevStart:d.prevEnd]` — are exactly
`input[a:b]`, whatever the kind of the value and however the input arrived. -/
theorem value_span_full (o : Validate.VOpts) (s : SState) (ws : WState) (h : Sim s ws) (pre : Bytes)
    (hpre : pre.length = ws.off) (k : UInt8) (a b : Nat) (ht : (Stream.readValue o s).1 = .tok k a b) :
    ws.off ≤ a ∧ a ≤ b ∧ b ≤ (pre ++ ws.r).length ∧
    (Stream.readValue o s).2.w.inputOffset = b ∧
    (Stream.readValue o s).2.w.baseOffset + (Stream.readValue o s).2.w.prevStart = a ∧
    (Stream.readValue o s).2.prevBytes = ((pre ++ ws.r).drop a).take (b - a) :=
  readValue_span o s ws h pre hpre k a b ht

open JsonV.Model.Stream in
/-- `fault_stutter_full` for ReadValue: a ReadValue that returns the transient error — wherever inside the value the
fault struck — leaves the decoder at the same point (same state machine and namespaces, same InputOffset, same
remaining input), with strictly fewer reader events left: the retried call sees the fault-free situation. -/
theorem fault_stutter_full (o : Validate.VOpts) (s : SState) (ws : WState) (h : Sim s ws)
    (hf : (Stream.readValue o s).1 = .fault) :
    Sim (Stream.readValue o s).2 ws ∧ (Stream.readValue o s).2.events.length < s.events.length := by
  rcases readValue_sim o s ws h with ⟨_, hs, hl⟩ | ⟨ho, _, _⟩
  · exact ⟨hs, hl.length_lt⟩
  · rw [hf] at ho; exact absurd ho.symm (wholeReadWith_ne_fault _ ws)

open JsonV.Model.Stream in
/-- and a call that does not fault agrees with the whole-input decoder even when the reader faults elsewhere -/
theorem readValue_agrees (o : Validate.VOpts) (s : SState) (ws : WState) (h : Sim s ws)
    (hf : (Stream.readValue o s).1 ≠ .fault) :
    (Stream.readValue o s).1 = (Stream.wholeReadValue o ws).1 ∧ Sim (Stream.readValue o s).2 (Stream.wholeReadValue o ws).2 := by
  rcases readValue_sim o s ws h with ⟨hx, _, _⟩ | ⟨ho, hs, _⟩
  · exact absurd hx hf
  · exact ⟨ho, hs⟩

open JsonV.Model.Stream in
/-- a fault inside a value does occur in the model: `[1,` fault `2]`: the first ReadValue returns it, the second succeeds -/
example : Stream.runScript {} [.readValue, .readValue]
    (Stream.init [Event.chunk [0x5B, 0x31, 0x2C], Event.fault, Event.chunk [0x32, 0x5D]]) = [.fault, .tok 0x5B 0 5] := by decide +kernel

/-! ## PeekKind and its cache

`Stream.peekKind / readTokenP / readValueP` model `peekPos` / `peekErr` as the code does: PeekKind returns a cached kind,
re-reads after a cached error; a read call returns a cached error once (it may be the transient I/O error) and clears
the cache; with a cached position it skips the head of the call.  SkipValue runs on the decoder with the cache dropped. -/

open JsonV.Model.Stream in
/-- `sim_peek_full`.  For EVERY chunking and EVERY script over ReadToken / ReadValue / SkipValue / PeekKind the
streaming decoder with its peek cache returns, call by call, what the decoder over the whole input returns (for
PeekKind: the kind, 0 for an error that the next read call reports). -/
theorem sim_peek_full (o : Validate.VOpts) (calls : List CallP) (cs : List Bytes) :
    runScriptP o calls { s := Stream.init (cs.map Event.chunk) } = wholeScriptP o calls { r := cs.flatten } := by
  have h := scriptP_sim o calls { s := Stream.init (cs.map Event.chunk) } { r := avail (cs.map Event.chunk) }
    (simP_init _) (noFault_chunks cs) (by simp)
  rw [avail_chunks] at h
  exact h

open JsonV.Model.Stream in
/-- the same for any reader that does not fault -/
theorem sim_peek_full_events (o : Validate.VOpts) (calls : List CallP) (es : List Event) (h : NoFault es) :
    runScriptP o calls { s := Stream.init es } = wholeScriptP o calls { r := avail es } :=
  scriptP_sim o calls _ _ (simP_init es) h (by simp)

open JsonV.Model.Stream in
/-- cache transparency: PeekKind calls can be deleted from a script without changing the other results (on the
whole-input side PeekKind does nothing, and the streaming side equals it) -/
theorem peek_transparent (o : Validate.VOpts) (calls : List CallP) (cs : List Bytes) :
    (runScriptP o calls { s := Stream.init (cs.map Event.chunk) }).filter (fun x => match x with | .kind _ => false | _ => true) =
    (wholeScriptP o calls { r := cs.flatten }).filter (fun x => match x with | .kind _ => false | _ => true) := by
  rw [sim_peek_full]

open JsonV.Model.Stream in
/-- `fault_stutter` for PeekKind: a fault during PeekKind is cached (the decoders stay at the same point, the reader
has fewer events left); the next ReadToken or ReadValue returns it, clears the cache and leaves the decoders at the
same point, so the retried call continues as if no fault had occurred (`sim_peek_full_events` from there on). -/
theorem fault_stutter_peek (o : Validate.VOpts) (p : PState) (ws : WState) (h : SimP p ws)
    (hf : (peekKind p).2.peekErr = some .fault) :
    SimP (peekKind p).2 ws ∧ (peekKind p).2.s.events.length < p.s.events.length ∧
    (readTokenP o (peekKind p).2).1 = .fault ∧ SimP (readTokenP o (peekKind p).2).2 ws ∧
    (readValueP o (peekKind p).2).1 = .fault ∧ SimP (readValueP o (peekKind p).2).2 ws :=
  peek_fault_stutter o p ws h hf

open JsonV.Model.Stream in
/-- it happens: `[` then a fault: PeekKind returns 0, ReadToken returns the fault, the retried ReadToken succeeds -/
example : runScriptP {} [.peekKind, .readToken, .readToken] { s := Stream.init [Event.fault, Event.chunk [0x5B]] } =
    [.kind 0, .out .fault, .out (.tok 0x5B 0 1)] := by decide +kernel

/-! ## Full statements that are NOT proved (validated by the harness: transcripts over all readers) -/

/-- what the property observes beyond the results: `StackPointer`, and the JSONPointer of errors -/
structure PointerModel where
  /-- an executable model of the decoder with `d.Names` that returns, for a reader and a script, the pointer
  observations after every call -/
  pointers : List Stream.Event → List Stream.Call → List Bytes

/-- `sim_pointers_full`: StackPointer after every call and the JSONPointer of every error do not depend on the
chunking (needs a model of `objectNameStack` with its lazily copied buffer offsets; finding D3 lived here). -/
def sim_pointers_full (M : PointerModel) : Prop :=
  ∀ (cs : List Bytes) (calls : List Stream.Call),
    M.pointers (cs.map Stream.Event.chunk) calls = M.pointers [Stream.Event.chunk cs.flatten] calls

end JsonV.Props.C05
