/-
C12 — Reformatting a value never changes what it means.

Property theorems about the token-level model of `Value.Compact` / `Value.Indent` / `Value.Format` with the
raw-preserving options (`JsonV.Fmt.format`, Model/Format.lean) and about the strict model with the validation options
and string respelling (`formatV`, Model/FormatStrict.lean), for ALL byte strings, ALL token lists and ALL layouts made
of blanks.  The models are tied to the running code by the correspondence check of harness/c12.go (oracle family
`fmt`).  String respelling is proved here for every option set but one (`formatV_respell_all`, `respellable_iff`);
number canonicalisation and member reordering are validated on the implementation by the harness predicates
(reordering is proved in slice C13).
-/
import JsonV.Lemmas.FormatCompact
import JsonV.Lemmas.FormatDepth
import JsonV.Lemmas.GlueFormatNum
import JsonV.Lemmas.GlueFormatStr
import JsonV.Lemmas.FormatStrictL
import JsonV.Lemmas.GlueTreeConverse
import JsonV.Lemmas.GlueStrict
import JsonV.Lemmas.FormatRespell
import JsonV.Lemmas.GlueNameKey
import JsonV.Props.C01
import JsonV.Gen.Lits

namespace JsonV.Props.C12
open JsonV JsonV.Fmt

/-- Tie A: the model's nesting limit is the regenerated `maxNestingDepth`. -/
theorem maxDepth_tie : maxDepth = 10000 := rfl

/-! ### rendering loses nothing (the meaning-preservation core) -/

/-- For every well-nested token list and every layout made of blanks (any indent prefix, indent string,
Multiline / SpaceAfterColon / SpaceAfterComma), the tokenizer reads the rendered text back as exactly the
same tokens: rendering adds delimiters and whitespace and nothing else. -/
theorem tokenize_render (o : WsOpts) (ho : o.Blank) (ts : List Tok) (h : WellNested ts) :
    tokenize (render o ts) = some ts :=
  render_tokenize o ho ts h

theorem tokenize_renderCompact (ts : List Tok) (h : WellNested ts) : tokenize (renderCompact ts) = some ts :=
  render_tokenize compactOpts ⟨rfl, rfl⟩ ts h

theorem tokenize_renderIndent (pre ind : Bytes) (hp : allWs pre = true) (hi : allWs ind = true)
    (spColon spComma multi : Bool) (ts : List Tok) (h : WellNested ts) :
    tokenize (renderIndent pre ind spColon spComma multi ts) = some ts :=
  render_tokenize _ ⟨hp, hi⟩ ts h

/-- hypotheses are satisfiable: `{"a":[1,null]}` -/
example : WellNested [.bo, .str [0x22, 0x61, 0x22], .ba, .num [0x31], .null, .ea, .eo] := by decide
example : (⟨[0x20], [0x09], true, true, false⟩ : WsOpts).Blank := ⟨by decide, by decide⟩
example : render ⟨[], [0x09], true, true, false⟩ [.bo, .str [0x22, 0x61, 0x22], .ba, .num [0x31], .null, .ea, .eo]
    = [0x7b, 0x0a, 0x09, 0x22, 0x61, 0x22, 0x3a, 0x20, 0x5b, 0x0a, 0x09, 0x09, 0x31, 0x2c, 0x0a, 0x09, 0x09,
       0x6e, 0x75, 0x6c, 0x6c, 0x0a, 0x09, 0x5d, 0x0a, 0x7d] := by decide

/-- Whatever the tokenizer accepts is one well-nested JSON value made of valid literals. -/
theorem tokenize_wellNested (b : Bytes) (ts : List Tok) (h : tokenize b = some ts) : WellNested ts :=
  wellNested_of_tokenize b ts h

example : tokenize [0x20, 0x5b, 0x31, 0x20, 0x2c, 0x0a, 0x22, 0x5c, 0x6e, 0x22, 0x5d] =
    some [.ba, .num [0x31], .str [0x22, 0x5c, 0x6e, 0x22], .ea] := by decide

/-- The lexer never runs out of fuel: any fuel above the length of the text gives the same answer. -/
theorem lex_fuel (n : Nat) (b : Bytes) (h : b.length < n) : lexF n b = lex b :=
  lexF_fuel n (b.length + 1) b h (Nat.lt_succ_self _)

/-! ### ok ⇔ valid, output valid, meaning, fixed point -/

/-- Formatting succeeds exactly when the tokenizer (lexical grammar + token grammar + depth limit) accepts, for every
text; what the tokenizer accepts is said declaratively by `format_ok_iff` and against C01's grammar by
`format_ok_iff_text`. -/
theorem format_ok_iff_partial (o : WsOpts) (b : Bytes) : (format o b).isSome = (tokenize b).isSome := by
  unfold format; cases tokenize b <;> rfl

/-- and then the input is a well-nested value and the output is its rendering -/
theorem format_eq_some (o : WsOpts) (b b' : Bytes) :
    format o b = some b' ↔ ∃ ts, tokenize b = some ts ∧ WellNested ts ∧ b' = render o ts := by
  unfold format
  constructor
  · intro h
    cases ht : tokenize b with
    | none => simp [ht] at h
    | some ts =>
      simp only [ht, Option.some.injEq] at h
      exact ⟨ts, rfl, wellNested_of_tokenize b ts ht, h.symm⟩
  · rintro ⟨ts, ht, _, rfl⟩
    simp [ht]

/-- **succeed iff valid**, declaratively: formatting succeeds exactly on the blank layouts of well-nested token
lists — the lexemes (tokens plus the delimiters the grammar requires) in order, each preceded by any
whitespace, whitespace at the end.  With `wellNested_literals` the literals are those of RFC 8259 (C01). -/
theorem format_ok_iff (o : WsOpts) (b : Bytes) :
    (format o b).isSome = true ↔ ∃ ts, WellNested ts ∧ Layout (punct [.top0] ts) b := by
  rw [format_ok_iff_partial, Option.isSome_iff_exists]
  exact exists_congr fun ts => tokenize_eq_some_iff b ts

/-- **Meaning preserved**: the output has exactly the tokens of the input — same structure, string and
number literals byte-identical (raw-preserving options), member order unchanged; only whitespace differs. -/
theorem format_meaning (o : WsOpts) (ho : o.Blank) (b b' : Bytes) (h : format o b = some b') :
    tokenize b' = tokenize b := by
  obtain ⟨ts, ht, hw, rfl⟩ := (format_eq_some o b _).mp h
  rw [ht]; exact render_tokenize o ho ts hw

/-- **Output valid**: the result is accepted again (under any layout options). -/
theorem format_valid (o o' : WsOpts) (ho : o.Blank) (b b' : Bytes) (h : format o b = some b') :
    (format o' b').isSome = true := by
  rw [format_ok_iff_partial, format_meaning o ho b b' h, ← format_ok_iff_partial o, h]; rfl

/-- **Fixed point**: formatting the output again with the same options returns it unchanged. -/
theorem format_idem (o : WsOpts) (ho : o.Blank) (b b' : Bytes) (h : format o b = some b') :
    format o b' = some b' := by
  have hm := format_meaning o ho b b' h
  unfold format at h ⊢
  rw [hm]; exact h

theorem compact_idem (b b' : Bytes) (h : compact b = some b') : compact b' = some b' :=
  format_idem compactOpts ⟨rfl, rfl⟩ b b' h

/-- Re-formatting the output under other options is the same as formatting the input under those options
(Compact after Indent = Compact, Indent after Compact = Indent …). -/
theorem format_format (o o' : WsOpts) (ho : o.Blank) (b b' : Bytes) (h : format o b = some b') :
    format o' b' = format o' b := by
  have hm := format_meaning o ho b b' h
  unfold format; rw [hm]

/-- hypotheses are satisfiable: `[1 ,2]` compacts to `[1,2]` -/
example : compact [0x5b, 0x31, 0x20, 0x2c, 0x32, 0x5d] = some [0x5b, 0x31, 0x2c, 0x32, 0x5d] := by decide

/-- **Already formatted is a fixed point**: a text that is the rendering of a well-nested list formats to itself. -/
theorem format_fixed_when_formatted (o : WsOpts) (ho : o.Blank) (ts : List Tok) (h : WellNested ts) :
    format o (render o ts) = some (render o ts) := by
  unfold format; rw [render_tokenize o ho ts h]

theorem compact_fixed_when_compact (b : Bytes) (ts : List Tok) (h : WellNested ts) (hb : b = renderCompact ts) :
    compact b = some b := by
  subst hb; exact format_fixed_when_formatted compactOpts ⟨rfl, rfl⟩ ts h

/-! ### Glue with C01 (Spec/Grammar.lean) -/

/-- Tie A: the whitespace bytes of the model are the character literals of `jsonwire.ConsumeWhitespace`. -/
theorem tie_ws : ∀ c : UInt8, isWs c = true ↔ [c.toNat] ∈ JsonV.Gen.jsonwire_ConsumeWhitespace_strs := by
  intro c
  constructor
  · intro h
    rcases ws_cases h with rfl | rfl | rfl | rfl <;> decide
  · intro h
    simp only [JsonV.Gen.jsonwire_ConsumeWhitespace_strs, List.mem_cons, List.cons.injEq, and_true, List.not_mem_nil,
      or_false] at h
    have e : c = UInt8.ofNat c.toNat := by simp
    rcases h with h | h | h | h <;> rw [e, h] <;> decide

/-- `scanNum` accepts exactly the numbers of RFC 8259 §6 (`JNumber`). -/
theorem scanNum_iff (lit : Bytes) : scanNum .start lit = some (lit, []) ↔ Spec.Grammar.JNumber lit :=
  scanNum_iff' lit

/-- `scanStr` accepts exactly the strings of RFC 8259 §7 in the permissive UTF-8 mode (`JString false`). -/
theorem scanStr_iff (lit : Bytes) : (Tok.str lit).valid = true ↔ Spec.Grammar.JString false lit :=
  str_valid_iff lit

/-- the literals of a well-nested list are literals of the C01 grammar -/
theorem wellNested_literals (ts : List Tok) (h : WellNested ts) :
    (∀ raw, Tok.str raw ∈ ts → Spec.Grammar.JString false raw) ∧ (∀ raw, Tok.num raw ∈ ts → Spec.Grammar.JNumber raw) :=
  ⟨fun raw hm => (str_valid_iff raw).mp (h.1 _ hm),
   fun raw hm => (num_valid_iff raw).mp (h.1 _ hm)⟩

example : Spec.Grammar.JNumber [0x2d, 0x31, 0x2e, 0x35, 0x65, 0x33] := (scanNum_iff _).mp (by decide)
example : Spec.Grammar.JString false [0x22, 0x5c, 0x75, 0x64, 0x38, 0x30, 0x30, 0xff, 0x22] := (scanStr_iff _).mp (by decide)

/-- the tokenizer accepts exactly the blank layouts of well-nested lists (both directions, all texts) -/
theorem tokenize_iff_layout (b : Bytes) (ts : List Tok) :
    tokenize b = some ts ↔ WellNested ts ∧ Layout (punct [.top0] ts) b :=
  tokenize_eq_some_iff b ts

/-- **The model's tokenizer accepts exactly the texts of the C01 grammar** (`JText`: RFC 8259 with permissive
strings, duplicate names allowed, nesting ≤ maxNestingDepth), for every name-key function.  ⇒: an accepted token
list is the token list of a tree (`accepts_is_tree`), whose blank layout is a `JValue` (`coreV`); ⇐: induction on
the derivation builds the tree and its layout (`build_value`). -/
theorem tokenize_iff_text (key : Bytes → Bytes) (b : Bytes) :
    (tokenize b).isSome = true ↔ Spec.Grammar.JText ⟨false, true⟩ maxDepth key b := by
  rw [Option.isSome_iff_exists]
  exact ⟨fun ⟨ts, ht⟩ => tokenize_text key b ts ht, text_tokenize key b⟩

/-- **succeed iff valid, against the C01 grammar**: Compact/Indent (any whitespace options) succeed exactly on
the texts of `JText` in the permissive mode. -/
theorem format_ok_iff_text (key : Bytes → Bytes) (o : WsOpts) (b : Bytes) :
    (format o b).isSome = true ↔ Spec.Grammar.JText ⟨false, true⟩ maxDepth key b := by
  rw [format_ok_iff_partial]; exact tokenize_iff_text key b

/-- and the strict model accepts only texts of the permissive grammar; the exact grammar instance (string mode and
duplicate policy of the options) is `formatV_ok_iff_text` -/
theorem formatV_ok_text (key : Bytes → Bytes) (o : FOpts) (b : Bytes) (h : (formatV o b).isSome = true) :
    Spec.Grammar.JText ⟨false, true⟩ maxDepth key b := by
  obtain ⟨b', hb⟩ := Option.isSome_iff_exists.mp h
  obtain ⟨ts, ht, _⟩ := (formatV_eq_some o b b').mp hb
  exact tokenize_text key b ts ((tokenizeV_eq_some o b ts).mp ht).1

/-- Tie A: the literals the renderer emits are the literals of AppendIndent / appendWhitespace / reformatValue /
reformatObject / reformatArray (regenerated from encode.go). -/
theorem tie_render_literals :
    JsonV.Gen.jsontext_encoderState_AppendIndent_strs = [[10]] ∧ JsonV.Gen.jsontext_encoderState_AppendIndent_ints = [0, 1] ∧
    (nl ⟨[], [], true, false, false⟩ 0).map UInt8.toNat ∈ JsonV.Gen.jsontext_encoderState_AppendIndent_strs ∧
    JsonV.Gen.jsontext_encoderState_appendWhitespace_strs = [Delim.colon.bytes.map UInt8.toNat, (sp true).map UInt8.toNat,
      Delim.comma.bytes.map UInt8.toNat, (sp true).map UInt8.toNat] ∧
    (∀ t ∈ [Tok.null, Tok.tru, Tok.fls], t.bytes.map UInt8.toNat ∈ JsonV.Gen.jsontext_encoderState_reformatValue_strs) ∧
    (∀ l ∈ [Lex.tok .bo, .tok .eo, .delim .colon, .delim .comma], l.bytes.map UInt8.toNat ∈ JsonV.Gen.jsontext_encoderState_reformatObject_strs) ∧
    (sp true).map UInt8.toNat ∈ JsonV.Gen.jsontext_encoderState_reformatObject_strs ∧
    (∀ l ∈ [Lex.tok .ba, .tok .ea, .delim .comma], l.bytes.map UInt8.toNat ∈ JsonV.Gen.jsontext_encoderState_reformatArray_strs) ∧
    (sp true).map UInt8.toNat ∈ JsonV.Gen.jsontext_encoderState_reformatArray_strs := by
  decide +kernel

/-! ### Strict model: Value.Format with the validation options (and PreserveRawStrings) -/

/-- Under AllowInvalidUTF8(false) every string of an accepted text is a string of the strict grammar of C01
(well-formed UTF-8, surrogate escapes paired). -/
theorem strict_strings (o : FOpts) (hu : o.allowInvalidUTF8 = false) (ts : List Tok) (hk : tokensOK o ts = true) :
    ∀ raw, Tok.str raw ∈ ts → Spec.Grammar.JString true raw := by
  intro raw hm
  have := ((tokensOK_iff o ts).mp hk).1 _ hm
  simp only [strOKV, hu, Bool.false_or] at this
  exact (strictStr_iff raw).mp this

/-- **succeed iff valid** for the strict model: Format succeeds exactly when IsValid (same validation options)
holds, i.e. on the blank layouts of well-nested lists that pass the two validation predicates. -/
theorem formatV_ok_iff (o : FOpts) (b : Bytes) :
    ((formatV o b).isSome = isValidV o b) ∧
    ((formatV o b).isSome = true ↔ ∃ ts, WellNested ts ∧ tokensOK o ts = true ∧ Layout (punct [.top0] ts) b) := by
  have hv : (formatV o b).isSome = isValidV o b := by
    unfold formatV isValidV; cases tokenizeV o b <;> rfl
  refine ⟨hv, ?_⟩
  · rw [hv, isValidV, Option.isSome_iff_exists]
    refine exists_congr fun ts => ?_
    rw [tokenizeV_eq_some, tokenize_eq_some_iff, and_right_comm, and_assoc]

/-- **succeed iff valid for the strict model, against the C01 grammar**: `Value.Format` with the modelled options
succeeds exactly on the texts of `JText` with the selected string mode (strict UTF-8 unless AllowInvalidUTF8),
duplicate policy (names unique unless AllowDuplicateNames, compared by C01's `nameKey`) and nesting ≤ maxNestingDepth. -/
theorem formatV_ok_iff_text (o : FOpts) (b : Bytes) :
    (formatV o b).isSome = true ↔
      Spec.Grammar.JText ⟨!o.allowInvalidUTF8, o.allowDup⟩ maxDepth (nameKey o) b := by
  rw [(formatV_ok_iff o b).1, isValidV, Option.isSome_iff_exists]
  exact ⟨fun ⟨ts, ht⟩ => tokenizeV_text o b ts ht, text_tokenizeV o b⟩

/-- the token-level validity of this slice is C01's model of `Value.IsValid`, for all four option combinations -/
theorem isValidV_eq_isValid (o : FOpts) (b : Bytes) :
    isValidV o b = Model.Validate.isValid ⟨o.allowInvalidUTF8, o.allowDup⟩ b := by
  have h1 := formatV_ok_iff_text o b
  rw [(formatV_ok_iff o b).1] at h1
  have h2 := JsonV.Props.C01.valid_iff ⟨o.allowInvalidUTF8, o.allowDup⟩ b
  have h3 : isValidV o b = true ↔ Model.Validate.isValid ⟨o.allowInvalidUTF8, o.allowDup⟩ b = true := h1.trans h2.symm
  cases hv : isValidV o b <;> cases hw : Model.Validate.isValid ⟨o.allowInvalidUTF8, o.allowDup⟩ b <;> simp_all

/-- validity does not depend on the formatting options -/
theorem isValidV_congr (o o' : FOpts) (h1 : o.allowInvalidUTF8 = o'.allowInvalidUTF8) (h2 : o.allowDup = o'.allowDup)
    (b : Bytes) : isValidV o b = isValidV o' b := by
  have hk : ∀ ts, tokensOK o ts = tokensOK o' ts := by
    intro ts
    have hs : strOKV o = strOKV o' := by funext t; cases t <;> simp [strOKV, h1]
    have hkey : nameKey o = nameKey o' := by funext raw; simp [nameKey, h1, h2]
    simp [tokensOK, hs, h2, hkey]
  unfold isValidV tokenizeV
  cases tokenize b <;> simp [hk]

/-- **Meaning preserved, strict model, PreserveRawStrings without an escape option**: the output has exactly the
tokens of the input and passes the same validation. -/
theorem formatV_meaning (o : FOpts) (hv : o.verbatim) (hw : o.ws.Blank) (b b' : Bytes) (h : formatV o b = some b') :
    tokenizeV o b' = tokenizeV o b := by
  obtain ⟨ts, ht, rfl⟩ := (formatV_eq_some o b b').mp h
  obtain ⟨h1, h2⟩ := (tokenizeV_eq_some o b ts).mp ht
  rw [ht, respell_verbatim o hv]
  exact render_tokenizeV o o.ws hw ts (wellNested_of_tokenize b ts h1) h2

/-- **Fixed point, strict model.** -/
theorem formatV_idem (o : FOpts) (hv : o.verbatim) (hw : o.ws.Blank) (b b' : Bytes) (h : formatV o b = some b') :
    formatV o b' = some b' := by
  have hm := formatV_meaning o hv hw b b' h
  unfold formatV at h ⊢
  rw [hm]; exact h

/-- **Output valid, strict model** (under the same validation options). -/
theorem formatV_valid (o : FOpts) (hv : o.verbatim) (hw : o.ws.Blank) (b b' : Bytes) (h : formatV o b = some b') :
    isValidV o b' = true := by
  obtain ⟨ts, ht, _⟩ := (formatV_eq_some o b b').mp h
  rw [isValidV, formatV_meaning o hv hw b b' h, ht]
  rfl

/-- the strict model restricted to the permissive options is the model of Compact/Indent -/
theorem formatV_permissive (w : WsOpts) (b : Bytes) :
    formatV { allowInvalidUTF8 := true, allowDup := true, preserve := true, ws := w } b = format w b := by
  have hk : ∀ ts, tokensOK { allowInvalidUTF8 := true, allowDup := true, preserve := true, ws := w } ts = true := by
    intro ts
    simp only [tokensOK, Bool.true_or, Bool.and_true, List.all_eq_true]
    intro t _; cases t <;> simp [strOKV]
  unfold formatV tokenizeV format
  cases tokenize b with
  | none => rfl
  | some ts =>
    simp [hk, respell_verbatim { allowInvalidUTF8 := true, allowDup := true, preserve := true, ws := w } ⟨rfl, rfl, rfl⟩]

-- `{"a":1,"a":2}`: rejected by default, accepted with AllowDuplicateNames; `"\ud800"` needs AllowInvalidUTF8
example : formatV {} [0x7b, 0x22, 0x61, 0x22, 0x3a, 0x31, 0x2c, 0x22, 0x61, 0x22, 0x3a, 0x32, 0x7d] = none := by decide +kernel
example : (formatV { allowDup := true } [0x7b, 0x22, 0x61, 0x22, 0x3a, 0x31, 0x2c, 0x20, 0x22, 0x61, 0x22, 0x3a, 0x32, 0x7d]).isSome = true := by decide +kernel
example : isValidV {} [0x22, 0x5c, 0x75, 0x64, 0x38, 0x30, 0x30, 0x22] = false := by decide +kernel
example : isValidV { allowInvalidUTF8 := true } [0x22, 0x5c, 0x75, 0x64, 0x38, 0x30, 0x30, 0x22] = true := by decide +kernel
example : (⟨true, true, true, false, false, compactOpts⟩ : FOpts).verbatim := ⟨rfl, rfl, rfl⟩

/-- **Meaning preserved and fixed point when strings are respelled** (both validation options; every combination of
PreserveRawStrings / EscapeForHTML / EscapeForJS / AllowInvalidUTF8 except PreserveRawStrings together with an escape
option AND AllowInvalidUTF8 — in particular `Value.Format()` with the default options, with the escape options, and
`Value.Compact/Indent` with an escape option under strict UTF-8): the output is accepted under
the same validation options, its tokens are the input tokens with every string respelled (ReformatString, slice
C11: the RFC 8785 spelling of the same text), every string keeps its unquoted text, all other tokens are unchanged,
and formatting the output again returns it unchanged.  The hypothesis `NameKeyUnquote` (the name key of a literal is its
unquoted text) is discharged by `nameKey_unquote` below: `formatV_respell_all` is the unconditional form. -/
theorem formatV_respell (o : FOpts) (hR : o.respellable) (hw : o.ws.Blank) (hd : o.allowDup = true ∨ NameKeyUnquote)
    (b b' : Bytes) (h : formatV o b = some b') :
    ∃ ts, tokenizeV o b = some ts ∧ tokenizeV o b' = some (ts.map (respellTok o)) ∧
      (∀ k ∈ ts, match k with
        | Tok.str raw => respellTok o k = .str (respellStr o raw) ∧
            (Model.Wire.unquote (respellStr o raw)).1 = (Model.Wire.unquote raw).1
        | k => respellTok o k = k) ∧
      formatV o b' = some b' := by
  obtain ⟨ts, ht, h⟩ := (formatV_eq_some o b b').mp h
  obtain ⟨h1, h2, h3, h4⟩ := respell_tokens o hR hd b ts ht
  have hb' : tokenizeV o b' = some (ts.map (respellTok o)) := by
    rw [← h]; exact render_tokenizeV o o.ws hw _ h1 h2
  refine ⟨ts, ht, hb', ?_, (formatV_eq_some o b' b').mpr ⟨_, hb', by rw [h3, h]⟩⟩
  intro k hk
  cases k with
  | str raw => exact ⟨rfl, by rw [wire_unquote_unqS, wire_unquote_unqS]; exact h4 raw hk⟩
  | _ => rfl

/-- the default options of `Value.Format` have no escape option -/
example : ({} : FOpts).respellable := Or.inl ⟨rfl, rfl⟩
example : ({ html := true, js := true } : FOpts).respellable := Or.inr (Or.inl rfl)
example : ({ preserve := true, html := true, js := true } : FOpts).respellable := Or.inr (Or.inr rfl)

/-- For EVERY string option set (also PreserveRawStrings with an escape option) under strict UTF-8: each string of an
accepted text keeps its unquoted text when respelled (slice C11's `reformat_meaning_strict`). -/
theorem respell_string_meaning_strict (o : FOpts) (hu : o.allowInvalidUTF8 = false) (b : Bytes) (ts : List Tok)
    (h : tokenizeV o b = some ts) (raw : Bytes) (hm : Tok.str raw ∈ ts) :
    (Model.Wire.unquote (respellStr o raw)).1 = (Model.Wire.unquote raw).1 := by
  have hj := strs_of_tokenizeV o b ts h raw hm
  rw [hu] at hj
  rw [wire_unquote_unqS, wire_unquote_unqS]
  exact respellStr_meaning_strict o hu raw (by simpa using hj)

/-- the name key of a literal of the selected mode is its unquoted text (slice quote/wire, Lemmas/GlueNameKey.lean) -/
theorem nameKey_unquote : NameKeyUnquote := JsonV.Lemmas.GlueNameKey.fmt_nameKey_unquote

/-- `formatV_respell` without any hypothesis on the names: both duplicate policies. -/
theorem formatV_respell_all (o : FOpts) (hR : o.respellable) (hw : o.ws.Blank) (b b' : Bytes)
    (h : formatV o b = some b') :
    ∃ ts, tokenizeV o b = some ts ∧ tokenizeV o b' = some (ts.map (respellTok o)) ∧
      (∀ k ∈ ts, match k with
        | Tok.str raw => respellTok o k = .str (respellStr o raw) ∧
            (Model.Wire.unquote (respellStr o raw)).1 = (Model.Wire.unquote raw).1
        | k => respellTok o k = k) ∧
      formatV o b' = some b' :=
  formatV_respell o hR hw (Or.inr nameKey_unquote) b b' h

/-- **Fixed point of `Value.Format`** for every respellable option set, stated alone. -/
theorem formatV_idem_all (o : FOpts) (hR : o.respellable) (hw : o.ws.Blank) (b b' : Bytes) (h : formatV o b = some b') :
    formatV o b' = some b' := by
  obtain ⟨_, _, _, _, hid⟩ := formatV_respell_all o hR hw b b' h
  exact hid

/-- **Fixed point for `Value.Format` with the default options** (strict UTF-8, no duplicates, strings respelled). -/
theorem format_default_idem (w : WsOpts) (hw : w.Blank) (b b' : Bytes) (h : formatV { ws := w } b = some b') :
    formatV { ws := w } b' = some b' :=
  formatV_idem_all { ws := w } (Or.inl ⟨rfl, rfl⟩) hw b b' h

/-- the only option sets not covered: PreserveRawStrings ∧ (EscapeForHTML ∨ EscapeForJS) ∧ AllowInvalidUTF8 -/
theorem respellable_iff (o : FOpts) :
    o.respellable ↔ ¬ (o.preserve = true ∧ (o.html = true ∨ o.js = true) ∧ o.allowInvalidUTF8 = true) := by
  unfold FOpts.respellable FOpts.noEscape
  cases o.preserve <;> cases o.html <;> cases o.js <;> cases o.allowInvalidUTF8 <;> simp

/-- Full statements over ALL option sets.  The only open part is PreserveRawStrings together with EscapeForHTML /
EscapeForJS AND AllowInvalidUTF8 (the escape loop over a raw literal that may contain ill-formed UTF-8; slice C11's
`preserve_*` theorems need the strict scanner); everything else is `formatV_respell_all` / `formatV_idem_all`.
Validated by the harness predicates and by the `fmt formatv` correspondence: the output tokens are the input tokens with every
string replaced by a literal of the same unescaped value, and formatting is idempotent. -/
def formatV_meaning_full : Prop :=
  ∀ (o : FOpts) (b b' : Bytes), o.ws.Blank → formatV o b = some b' →
    ∃ ts ts', tokenizeV o b = some ts ∧ tokenizeV o b' = some ts' ∧
      ts.length = ts'.length ∧ ∀ (i : Nat) (t t' : Tok), ts[i]? = some t → ts'[i]? = some t' →
        (match t, t' with
         | Tok.str raw, Tok.str raw' => (Model.Wire.unquote raw).1 = (Model.Wire.unquote raw').1
         | t, t' => t = t')

def formatV_idem_full : Prop :=
  ∀ (o : FOpts) (b b' : Bytes), o.ws.Blank → formatV o b = some b' → formatV o b' = some b'

/-! ### the nesting limit applies to every container, empty or not -/

/-- At every opening bracket of a well-nested list fewer than `maxDepth` containers are open — regardless of
what the bracket encloses. -/
theorem depth_le_max (pre rest : List Tok) (t : Tok) (ht : t.isOpen = true) (h : WellNested (pre ++ t :: rest)) :
    opens pre < maxDepth + closes pre := by
  have := accepts_depth pre [.top0] t rest ht h.2
  simp only [List.length_cons, List.length_nil] at this
  omega

/-- **An empty container at depth max+1 is rejected**: if exactly `maxDepth` containers are open after `pre`,
then neither `pre { } post` nor `pre [ ] post` is well nested, so no text is tokenized to it and formatting
any text with these tokens fails (`format_eq_some`).  (reformatObject/reformatArray test the depth before the
empty-container fast path; tied by `fmt compact` on the depth-boundary texts.) -/
theorem empty_at_limit_rejected (pre post : List Tok) (h : opens pre = closes pre + maxDepth) :
    ¬ WellNested (pre ++ .bo :: .eo :: post) ∧ ¬ WellNested (pre ++ .ba :: .ea :: post) ∧
    ∀ b, tokenize b ≠ some (pre ++ .bo :: .eo :: post) ∧ tokenize b ≠ some (pre ++ .ba :: .ea :: post) := by
  have h1 : ¬ WellNested (pre ++ .bo :: .eo :: post) := fun hw => by
    have := depth_le_max pre (.eo :: post) .bo rfl hw; omega
  have h2 : ¬ WellNested (pre ++ .ba :: .ea :: post) := fun hw => by
    have := depth_le_max pre (.ea :: post) .ba rfl hw; omega
  exact ⟨h1, h2, fun b => ⟨fun ht => h1 (wellNested_of_tokenize b _ ht), fun ht => h2 (wellNested_of_tokenize b _ ht)⟩⟩

/-- the hypothesis is satisfiable: `maxDepth` opening brackets -/
example : opens (List.replicate maxDepth Tok.ba) = closes (List.replicate maxDepth Tok.ba) + maxDepth := by
  simp [opens, closes, List.countP_replicate, Tok.isOpen, Tok.isClose]

/-- nesting below the limit is accepted: `[[{}]]` -/
example : WellNested [.ba, .ba, .bo, .eo, .ea, .ea] := by decide

/-! ### the compact form contains no whitespace outside strings -/

/-- The compact output is the bare concatenation of tokens and delimiters, and no lexeme other than a
string literal contains a whitespace byte. -/
theorem compact_no_ws (ts : List Tok) (hv : ∀ t ∈ ts, t.valid = true) :
    renderCompact ts = ((punct [.top0] ts).map Lex.bytes).flatten ∧
    ∀ l ∈ punct [.top0] ts, (∀ raw, l ≠ .tok (.str raw)) → ∀ c ∈ l.bytes, isWs c = false :=
  ⟨flatWs_compact ts _, fun l hl hs => lexeme_no_ws l (punct_valid ts _ hv l hl) hs⟩

/-! ### commit rule: untouched on error, no write when already formatted -/

/-- On error the Value is left unmodified and nothing is written. -/
theorem valueFormat_err_unchanged (o : WsOpts) (v : Bytes) (h : (valueFormat o v).err = true) :
    (valueFormat o v).val = v ∧ (valueFormat o v).wrote = false ∧ format o v = none := by
  unfold valueFormat at h ⊢
  cases hf : format o v with
  | none => simp
  | some out => simp only [hf] at h; split at h <;> simp at h

/-- On error AppendFormat returns dst with all of src appended. -/
theorem appendFormat_err (o : WsOpts) (dst src : Bytes) (h : (appendFormat o dst src).2 = true) :
    (appendFormat o dst src).1 = dst ++ src := by
  unfold appendFormat at h ⊢
  cases hf : format o src with
  | none => rfl
  | some out => simp [hf] at h

example : (appendFormat compactOpts [0x41] [0x5b, 0x2c, 0x5d]) = ([0x41, 0x5b, 0x2c, 0x5d], true) := by decide

/-- An already formatted value is not rewritten. -/
theorem already_formatted_not_rewritten (o : WsOpts) (ho : o.Blank) (ts : List Tok) (h : WellNested ts) :
    valueFormat o (render o ts) = ⟨render o ts, false, false⟩ := by
  unfold valueFormat
  rw [format_fixed_when_formatted o ho ts h]; simp

/-- After one successful Format the same call is a no-op that does not write to the buffer. -/
theorem valueFormat_twice (o : WsOpts) (ho : o.Blank) (v : Bytes) (h : (valueFormat o v).err = false) :
    valueFormat o (valueFormat o v).val = ⟨(valueFormat o v).val, false, false⟩ := by
  cases hf : format o v with
  | none => simp [valueFormat, hf] at h
  | some out =>
    have hid := format_idem o ho v out hf
    by_cases hv : v = out
    · subst hv
      simp [valueFormat, hf]
    · have : (valueFormat o v).val = out := by simp [valueFormat, hf, hv]
      rw [this]
      simp [valueFormat, hid]

example : valueFormat compactOpts [0x5b, 0x20, 0x5d] = ⟨[0x5b, 0x5d], false, true⟩ := by decide
example : valueFormat compactOpts [0x5b, 0x5d] = ⟨[0x5b, 0x5d], false, false⟩ := by decide
example : valueFormat compactOpts [0x5b, 0x5d, 0x5d] = ⟨[0x5b, 0x5d, 0x5d], true, false⟩ := by decide

end JsonV.Props.C12
