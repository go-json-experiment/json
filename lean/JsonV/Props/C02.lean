/-
C02 — Marshal never emits malformed JSON, whatever the value or user code does.

The property theorems of C02 and the few definitions they are stated with (`optOf`, `l3Bytes`, `EmitsTree`, the
escape script); the proofs live in Lemmas/EncInv*.lean.

What is PROVED here, for all inputs: every byte fragment that the marshal fast paths append to the
encoder buffer without going through `WriteToken`/`WriteValue` is a valid JSON value, and valid values
compose into valid arrays and objects of ANY length and nesting (`render_valid`, for every tree).
What is only VALIDATED (harness/c02.go, 6·10^4 / 2·10^6 generated programs): that the reflection code
emits only such fragments in such a structure, and everything about user code — see `marshal_valid_full`,
`one_value` and meta/C02.json.

`validValue`/`validAt` (Spec/ValidJson.lean) accept whitespace-free RFC 8259 values, with RFC 7493's
restrictions selected by `Opt.strict` / `Opt.noDup` and nesting limited by `Opt.maxDepth`.
-/
import JsonV.Spec.ValidJson
import JsonV.Model.EncInv
import JsonV.Model.State
import JsonV.Lemmas.EncInvL
import JsonV.Lemmas.EncInvCompose
import JsonV.Lemmas.EncInvTree
import JsonV.Lemmas.EncInvState
import JsonV.Lemmas.EncInvFloor
import JsonV.Lemmas.EncInvSound
import JsonV.Lemmas.EncInvGrammar
import JsonV.Lemmas.EncInvInst
import JsonV.Lemmas.NumFloat
import JsonV.Lemmas.NumJNumber
import JsonV.Props.C01
import JsonV.Lemmas.QuoteJString
import JsonV.Lemmas.EncInvNames
import JsonV.Lemmas.GlueNameKey
import JsonV.Lemmas.EncInvL3

namespace JsonV.Props.C02
open JsonV JsonV.Model JsonV.Spec.ValidJson JsonV.Model.EncInv
open JsonV.Lemmas.EncInvL JsonV.Lemmas.EncInvCompose JsonV.Lemmas.EncInvTree JsonV.Lemmas.EncInvState
open JsonV.Lemmas.EncInvFloor JsonV.Lemmas.EncInvSound JsonV.Lemmas.EncInvGrammar JsonV.Lemmas.EncInvInst
open JsonV.Spec.Grammar JsonV.Model.Quote

/-! ### the raw fragments are values (arshal_default.go:143, 479, 578, 829, 1509; arshal_any.go:125, 241) -/

/-- `strconv.AppendInt(·, i, 10)` is a JSON number for EVERY integer, at every nesting depth. -/
theorem int_digits_valid (o : Opt) (d : Nat) (i : Int) : validAt o d (intDigits i) = true :=
  validAt_intDigits o d i

/-- `strconv.AppendUint(·, n, 10)` is a JSON number for every natural number. -/
theorem uint_digits_valid (o : Opt) (d n : Nat) : validAt o d (natDigits n) = true :=
  validAt_natDigits o d n

/-- The rendering consists of digits only, is not empty, and has a leading zero only for 0. -/
theorem uint_digits_shape (n : Nat) : natDigits n ≠ [] ∧ (∀ c ∈ natDigits n, JsonV.Spec.ValidJson.isDigit c = true) ∧
    (∀ c ds, natDigits n = c :: ds → c = 0x30 → n = 0) :=
  ⟨natDigits_ne_nil n, natDigits_digits n, natDigits_head n⟩

/-- A sign appears exactly for negative integers (and then the magnitude follows). -/
theorem int_digits_sign (i : Int) :
    (i < 0 → intDigits i = 0x2d :: natDigits i.natAbs) ∧ (¬ i < 0 → intDigits i = natDigits i.toNat) := by
  constructor <;> intro h <;> simp [intDigits, h]

/-- `null`, `true`, `false`. -/
theorem lit_valid (o : Opt) (d : Nat) (q : Quoter o) :
    validAt o d (Frag.null.bytes q.quote) = true ∧ validAt o d ((Frag.bool true).bytes q.quote) = true ∧
    validAt o d ((Frag.bool false).bytes q.quote) = true :=
  ⟨validAt_null o d, validAt_true o d, validAt_false o d⟩

/-- `{}` and `[]` are values wherever one more container level is allowed. -/
theorem empty_containers_valid (o : Opt) (d : Nat) (h : d < o.maxDepth) :
    validAt o d [0x7b, 0x7d] = true ∧ validAt o d [0x5b, 0x5d] = true :=
  ⟨validAt_emptyObj o d h, validAt_emptyArr o d h⟩

/-- What `quote` returns is a value, given its law (a `Quoter` carries it; proved in C11). -/
theorem quoted_valid (o : Opt) (d : Nat) (q : Quoter o) (s : Bytes) : validAt o d (q.quote s) = true :=
  validAt_string o d _ (q.valid s)

/-- Every fragment is a value at every depth that leaves room for it. -/
theorem frag_valid (o : Opt) (q : Quoter o) (f : Frag) (d : Nat) (hd : d + f.depth ≤ o.maxDepth) :
    validAt o d (f.bytes q.quote) = true :=
  JsonV.Lemmas.EncInvTree.frag_valid o q f d hd

/-! ### composition, for lists of any length -/

/-- If every element is a valid value (one level deeper) then `[` x₁ `,` … `,` xₙ `]` is a valid value. -/
theorem array_compose (o : Opt) (d : Nat) (xs : List Bytes) (hd : d < o.maxDepth)
    (h : ∀ x ∈ xs, validAt o (d + 1) x = true) : validAt o d (arr xs) = true :=
  array_compose' o d xs hd h

/-- Same for objects: names are string literals, values are valid, and — when duplicates are not
allowed — the names are pairwise distinct as JSON strings (`nameKey` = the decoded name). -/
theorem object_compose (o : Opt) (d : Nat) (ms : List (Bytes × Bytes)) (hd : d < o.maxDepth)
    (h : ∀ m ∈ ms, validString o m.1 = true ∧ validAt o (d + 1) m.2 = true)
    (hk : o.noDup = true → (ms.map fun m => o.key m.1).Nodup) : validAt o d (obj ms) = true :=
  object_compose' o d ms hd h hk

/-- Nesting costs exactly one level: the children are judged at depth `d + 1`, the container is valid when
`d < maxDepth` (previous two theorems) and is NOT valid once the limit is reached, whatever it contains. -/
theorem compose_depth (o : Opt) (d : Nat) (h : ¬ d < o.maxDepth) (xs : List Bytes) (ms : List (Bytes × Bytes)) :
    validAt o d (arr xs) = false ∧ validAt o d (obj ms) = false :=
  ⟨invalid_beyond_maxDepth o d h 0x5b (.inl rfl) _, invalid_beyond_maxDepth o d h 0x7b (.inr rfl) _⟩

/-- The recogniser is local: a value followed by a delimiter is recognised as that value and leaves the
delimiter (this is what makes the composition theorems go through for every length). -/
theorem value_then_delimiter (o : Opt) (d : Nat) (x r : Bytes) (hx : validAt o d x = true) (hr : okFollow r) :
    parse o .value d (x ++ r) = some r := by
  have := parse_append o .value d x r [] ((validAt_iff o d x).mp hx) (fun _ => hr)
  simpa using this

/-! ### every tree of fragments renders to a valid value -/

/-- **Skeleton of `marshal_valid`.**  For every tree (any width, any nesting) built from the raw fragments,
with distinct names per object when duplicates are not allowed and nesting within the limit,
the rendered bytes are exactly one valid JSON value. -/
theorem render_valid (o : Opt) (q : Quoter o) (t : OutTree) (hw : t.WellFormed o q.quote)
    (hd : t.depth ≤ o.maxDepth) : validValue o (t.render q.quote) = true := by
  have := render_valid_aux o q t 0 hw (by omega)
  simpa [validAt, validValue] using this

/-! ### no private notion of validity: the grammar of slice C01 (Spec/Grammar.lean) -/

/-- **The recogniser is sound for RFC 8259 / RFC 7493.**  Whatever `validValue` accepts is a `JText` of slice C01's
grammar: strings in the selected UTF-8 mode (`strict`), member names pairwise different under `o.key` unless
duplicates are allowed, nesting at most `o.maxDepth`.  (`validValue` accepts no insignificant whitespace, so it
is an under-approximation; it is sound, which is the direction every theorem of this file needs.) -/
theorem validValue_sound (o : Opt) (b : Bytes) (h : validValue o b = true) :
    JText (gopts o) o.maxDepth o.key b :=
  JsonV.Lemmas.EncInvSound.validValue_sound o b h

/-- the same at any depth, for values -/
theorem validAt_sound (o : Opt) (d : Nat) (b : Bytes) (h : validAt o d b = true) :
    JValue (gopts o) o.maxDepth o.key d b :=
  JsonV.Lemmas.EncInvSound.validAt_sound o d b h

/-- `render_valid` read through `validValue_sound`: with a `Quoter` (law stated on the recogniser), every
well-formed tree renders to a text of the grammar. -/
theorem render_valid_text (o : Opt) (q : Quoter o) (t : OutTree) (hw : t.WellFormed o q.quote)
    (hd : t.depth ≤ o.maxDepth) : JText (gopts o) o.maxDepth o.key (t.render q.quote) :=
  validValue_sound o _ (render_valid o q t hw hd)

/-- **Every well-formed tree of fragments renders to an RFC 8259 / RFC 7493 text** — stated against the grammar
alone: the only thing asked of `quote` is that it returns string literals of the grammar. -/
theorem render_text (o : Opt) (quote : Bytes → Bytes) (hq : ∀ s, JString o.strict (quote s)) (t : OutTree)
    (hw : t.WellFormed o quote) (hd : t.depth ≤ o.maxDepth) :
    JText (gopts o) o.maxDepth o.key (t.render quote) :=
  ⟨[], _, [], .nil, render_jvalue o quote hq t 0 hw (by omega), .nil, by simp⟩

/-! ### the parameters instantiated with the models proved by slices C11 and C10 -/

/-- Slice C11's model of `jsonwire.AppendQuote` returns a strict string literal of the grammar for EVERY byte
string and EVERY flag set, EscapeForHTML / EscapeForJS included (ill-formed input comes out as U+FFFD)
— `appendQuote_is_jstring` of Lemmas/QuoteJString.lean. -/
theorem quote_is_string (f : QFlags) (v : Bool) (s : Bytes) : JString v (appendQuote f s).1 :=
  JsonV.Lemmas.QuoteJString.appendQuote_is_jstring f v s

/-- **`render_text` for the modelled AppendQuote, no hypothesis on `quote` left.** -/
theorem render_text_real (o : Opt) (f : QFlags) (t : OutTree)
    (hw : t.WellFormed o (realQuote f)) (hd : t.depth ≤ o.maxDepth) :
    JText (gopts o) o.maxDepth o.key (t.render (realQuote f)) :=
  render_text o (realQuote f) (fun s => quote_is_string f o.strict s) t hw hd

/-- What `WellFormed` asks of object names, for the modelled AppendQuote and the default key (AppendUnquote): the
key of a quoted Go string is that string with ill-formed bytes replaced by U+FFFD — so the condition is on the
Go-side names (what Go map keys / struct field names / `seenIdxs` provide), not on their quoted spellings. -/
theorem name_key_real (f : QFlags) (n : Bytes) :
    ({} : Opt).key (realQuote f n) = JsonV.Spec.StringSpec.lossy n :=
  key_realQuote f n

/-- Slice C10's models of strconv.AppendUint / AppendInt are the functions the fragment model uses, so
`int_digits_valid`, `uint_digits_valid` and `frag_valid` speak about them. -/
theorem ints_are_c10 (n : Nat) (i : Int) :
    JsonV.Model.Number.formatUint n = natDigits n ∧ JsonV.Model.Number.formatInt i = intDigits i :=
  ⟨formatUint_eq n, formatInt_eq i⟩

/-- The integer renderings of C10 are numbers of the grammar. -/
theorem ints_are_numbers (n : Nat) (i : Int) :
    JNumber (JsonV.Model.Number.formatUint n) ∧ JNumber (JsonV.Model.Number.formatInt i) := by
  rw [formatUint_eq, formatInt_eq]; exact ⟨jnumber_natDigits n, jnumber_intDigits i⟩

/-- Floats: slice num's `float_is_JNumber` (Props/C10Glue.lean; both are `NumJNumber.jnumber_appendFloat`, cited here
directly to keep Props/C10Glue.lean, and with it the tokenizer's lemma modules, out of this file's imports) — jsonwire.AppendFloat's output on every
well-formed shortest decomposition is a number of the grammar; so a float fragment `Frag.num` can always be
built from it (`float_frag`), and the law that `Frag.num` carries is not a parameter. -/
theorem float_fragment (neg : Bool) (ds : List Nat) (n : Int) (h : JsonV.Lemmas.NumFloat.WFD ds n) :
    JNumber (JsonV.Model.Number.appendFloat neg ds n) :=
  JsonV.Lemmas.NumJNumber.jnumber_appendFloat neg ds n h

/-- the recogniser's number scanner accepts every number of the grammar (completeness for numbers), which is what
`Frag.num` stores -/
theorem number_complete (lit : Bytes) (h : JNumber lit) : pNumber lit = some [] :=
  pNumber_complete lit h

/-- the float fragment for a well-formed decomposition -/
def float_frag (neg : Bool) (ds : List Nat) (n : Int) (h : JsonV.Lemmas.NumFloat.WFD ds n) : Frag :=
  .num (JsonV.Model.Number.appendFloat neg ds n) (pNumber_complete _ (float_fragment neg ds n h))

/-! ### what Marshal emits is what the decoder-side validator accepts -/

/-- the recogniser options that correspond to the validator options of slice C01 (`Model/Validate.lean`):
same UTF-8 mode, same duplicate policy, the decoder's nesting limit and the decoder's notion of a name's key -/
def optOf (vo : JsonV.Model.Validate.VOpts) : Opt :=
  { strict := !vo.allowInvalidUTF8, noDup := !vo.allowDup, maxDepth := JsonV.Model.Validate.maxNestingDepth,
    key := JsonV.Props.C01.nameKey vo }

/-- **`render_accepted`.**  The rendering of every well-formed tree of fragments is ACCEPTED by the model of
`jsontext.Value.IsValid` (slice C01's validator, which `valid_iff` shows to accept exactly the grammar): what the
marshal side emits is what the decoder side accepts, under the same options — in particular it is rejected
neither for syntax, nor for UTF-8, nor for duplicate names, nor for depth. -/
theorem render_accepted (vo : JsonV.Model.Validate.VOpts) (quote : Bytes → Bytes)
    (hq : ∀ s, JString (!vo.allowInvalidUTF8) (quote s)) (t : OutTree)
    (hw : t.WellFormed (optOf vo) quote) (hd : t.depth ≤ JsonV.Model.Validate.maxNestingDepth) :
    JsonV.Model.Validate.isValid vo (t.render quote) = true := by
  apply (JsonV.Props.C01.valid_iff vo _).2
  have := render_text (optOf vo) quote hq t hw hd
  simpa [optOf, JsonV.Lemmas.EncInvSound.gopts, JsonV.Props.C01.gopts] using this

/-- `render_accepted` with the modelled AppendQuote, nothing assumed about `quote`. -/
theorem render_accepted_real (vo : JsonV.Model.Validate.VOpts) (f : QFlags)
    (t : OutTree) (hw : t.WellFormed (optOf vo) (realQuote f))
    (hd : t.depth ≤ JsonV.Model.Validate.maxNestingDepth) :
    JsonV.Model.Validate.isValid vo (t.render (realQuote f)) = true :=
  render_accepted vo (realQuote f) (fun s => quote_is_string f _ s) t hw hd

/-! ### the condition on names, stated on the Go side -/

/-- The decoder's key of a quoted Go name is the name with ill-formed bytes replaced by U+FFFD (slice quote,
Lemmas/GlueNameKey.lean) — the analogue of `name_key_real` for the key that `render_accepted` uses. -/
theorem name_key_decoder (vo : JsonV.Model.Validate.VOpts) (f : QFlags) (n : Bytes) :
    (optOf vo).key (realQuote f n) = JsonV.Spec.StringSpec.lossy n := by
  show JsonV.Props.C01.nameKey vo (appendQuote f n).1 = _
  unfold JsonV.Props.C01.nameKey
  exact JsonV.Lemmas.GlueNameKey.unescapedName_appendQuote vo f n

/-- **`render_accepted` with the names condition on the Go side.**  If within every object of the tree the Go-side
names are pairwise different once ill-formed bytes are replaced by U+FFFD (`NamesOK … lossy`; only required when
duplicates are not allowed), the rendering with the modelled AppendQuote is accepted by the decoder-side validator
model.  Nothing is assumed about quoted spellings or keys. -/
theorem render_accepted_names (vo : JsonV.Model.Validate.VOpts) (f : QFlags) (t : OutTree)
    (hn : t.NamesOK (!vo.allowDup) JsonV.Spec.StringSpec.lossy) (hd : t.depth ≤ JsonV.Model.Validate.maxNestingDepth) :
    JsonV.Model.Validate.isValid vo (t.render (realQuote f)) = true :=
  render_accepted_real vo f t
    (JsonV.Lemmas.EncInvNames.wf_of_namesOK (optOf vo) (realQuote f) _ (name_key_decoder vo f) t hn) hd

/-! ### one default marshal path end to end: the L3 model of slices C04/C14 as a tree emitter -/

open JsonV.Lemmas.EncInvL3 in
/-- The bytes the L3 model `mar` (Model/Marshal.lean: bool, ints, floats, strings, slices, arrays, map[string]T,
pointers, structs, `any`; Deterministic) writes with the modelled AppendQuote: its tree, as a fragment tree, rendered. -/
def l3Bytes (mo : JsonV.Model.MOpts) (f : QFlags) (T : JsonV.Model.GoType) (v : JsonV.Model.GoVal) : Option Bytes :=
  match JsonV.Model.mar mo T v with
  | .ok j => some ((toOut j).render (realQuote f))
  | .error _ => none

open JsonV.Lemmas.EncInvL3 in
/-- **The L3 marshal model emits trees** (the `EmitsTree` obligation, for this model): whenever it succeeds on a
well-typed value of a well-formed type (struct field names valid UTF-8, float literals JSON numbers — the two things
the L3 model leaves to its parameters), its output is the rendering of a `WellFormed` fragment tree, for every option
record whose key sends a quoted name to the normalised name (both the AppendUnquote key and the decoder's key do). -/
theorem l3_emits_tree (o : Opt) (f : QFlags) (hk : ∀ n, o.key (realQuote f n) = JsonV.Spec.StringSpec.lossy n)
    (mo : JsonV.Model.MOpts) (T : JsonV.Model.GoType) (v : JsonV.Model.GoVal) (out : Bytes)
    (hwf : T.wf = true) (hn : namesUtf8 T = true) (ht : JsonV.Model.hasType T v = true) (hf : floatsOK v = true)
    (h : l3Bytes mo f T v = some out) :
    ∃ t : OutTree, t.WellFormed o (realQuote f) ∧ out = t.render (realQuote f) := by
  unfold l3Bytes at h
  cases hm : JsonV.Model.mar mo T v with
  | error e => simp [hm] at h
  | ok j =>
    simp only [hm, Option.some.injEq] at h
    exact ⟨toOut j, l3_wellFormed o (realQuote f) hk mo T v j hwf hn ht hf hm, h.symm⟩

open JsonV.Lemmas.EncInvL3 in
/-- **`marshal_valid` for the L3 model, end to end.**  For every well-formed type of the modelled universe
(structs, maps, slices, arrays, pointers, interfaces, scalars) and every well-typed value, if the model marshals it
(it always does: C04 `mar_total`) and the output nests within the limit, the BYTES are exactly one RFC 8259 / RFC 7493
text that the decoder-side validator model accepts — under either duplicate policy and either UTF-8 mode, with every
escaping flag.  The tie between the L3 model and the reflection code of arshal_default.go is CORRESPONDENCE ONLY
(the `arsh` operations of slices c04/c14 in the harness); this theorem is about the model. -/
theorem l3_marshal_valid (vo : JsonV.Model.Validate.VOpts) (f : QFlags) (mo : JsonV.Model.MOpts)
    (T : JsonV.Model.GoType) (v : JsonV.Model.GoVal) (j : JsonV.Spec.JTree)
    (hwf : T.wf = true) (hn : namesUtf8 T = true) (ht : JsonV.Model.hasType T v = true) (hf : floatsOK v = true)
    (h : JsonV.Model.mar mo T v = .ok j) (hd : (toOut j).depth ≤ JsonV.Model.Validate.maxNestingDepth) :
    l3Bytes mo f T v = some ((toOut j).render (realQuote f)) ∧
    JsonV.Model.Validate.isValid vo ((toOut j).render (realQuote f)) = true := by
  refine ⟨by simp [l3Bytes, h], ?_⟩
  exact render_accepted_real vo f (toOut j)
    (l3_wellFormed (optOf vo) (realQuote f) (name_key_decoder vo f) mo T v j hwf hn ht hf h) hd

/-! ### what remains between these theorems and C02 -/

/-- A marshal model (bytes out, or failure) EMITS TREES when every successful output is the rendering — with the
modelled AppendQuote — of a well-formed tree of fragments within the depth limit. -/
def EmitsTree {Val : Type} (marshal : Opt → QFlags → Val → Option Bytes) :
    Prop :=
  ∀ o f v out, marshal o f v = some out →
    ∃ t : OutTree, t.WellFormed o (realQuote f) ∧ t.depth ≤ o.maxDepth ∧ out = t.render (realQuote f)

/-- Proved: for ANY marshal model that emits trees, a successful output is exactly one RFC 8259 / RFC 7493 text. -/
theorem marshal_valid_of_emitsTree {Val : Type} (marshal : Opt → QFlags → Val → Option Bytes)
    (he : EmitsTree marshal) (o : Opt) (f : QFlags) (v : Val) (out : Bytes)
    (h : marshal o f v = some out) : JText (gopts o) o.maxDepth o.key out := by
  obtain ⟨t, hw, hd, rfl⟩ := he o f v out h
  exact render_text_real o f t hw hd

/-- **Precisely what remains unproved for C02 on the default (no user code, no whitespace) paths:** that the
reflection code of arshal_default.go / arshal_any.go / arshal_embedded.go, as a function from (options, Go value)
to bytes-or-error, emits trees — i.e. that it only ever appends the fragments of `Model/EncInv.lean` in the nesting
of an `OutTree`, with pairwise different names per object when duplicates are not allowed and within the nesting
limit. For the tree-level L3 model of slices C04/C14 (`Model/Marshal.lean`) the obligation IS proved above
(`l3_emits_tree`, `l3_marshal_valid`); that model is tied to the code by differential testing only, and it does not
cover user code, options beyond two, omit*/string/format tags, embedded fallbacks or non-string map keys. There is
no byte-level Lean model of the reflection code itself, so the statement is a predicate on `code`, to be
instantiated with a byte-level model of the reflection code once one exists; harness/c02.go validates the
conclusion of `marshal_valid_of_emitsTree` on the real code for 6·10^4 / 2·10^6 generated programs per run. -/
def marshal_valid_full {Val : Type} (code : Opt → QFlags → Val → Option Bytes) : Prop := EmitsTree code

/-! ### the exactly-one-value check (arshal_methods.go:221-229, arshal_funcs.go:220-228) -/

/-- A scalar token leaves the stack alone and advances the current container by exactly one. -/
theorem scalar_one_value (m m' : Machine)
    (h : m.appendLiteral = .ok m' ∨ m.appendString = .ok m' ∨ m.appendNumber = .ok m') :
    m'.stack = m.stack ∧ m'.last = m.last.increment :=
  scalar_step m m' h

/-- Opening a container and closing THAT container (whatever its entry `e` has become in between) restores
the stack and advances the enclosing container by exactly one. -/
theorem container_one_value (k : Nat) (m m1 m2 : Machine) (e : Entry) :
    ((m.pushArray k = .ok m1 ∧ Machine.popArray { stack := m1.stack, last := e } = .ok m2) ∨
     (m.pushObject k = .ok m1 ∧ Machine.popObject { stack := m1.stack, last := e } = .ok m2)) →
    m2.stack = m.stack ∧ m2.last = m.last.increment := by
  rintro (⟨h1, h2⟩ | ⟨h1, h2⟩)
  · exact push_pop_array k m m1 m2 e h1 h2
  · exact push_pop_object k m m1 m2 e h1 h2

/-- the machine inside `[v` (one element written), as after `WriteToken('[')`, `WriteToken(v)` -/
def inArray1 : Machine := { stack := [Entry.typeArray.increment], last := Entry.typeArray.increment }

/-- `]` `[` v v : leave the array the script was called in and build another one. -/
def escapeScript (k : Nat) (m : Machine) : Except SMErr Machine := do
  let m ← m.popArray
  let m ← m.pushArray k
  let m ← m.appendLiteral
  m.appendLiteral

/-- **The (depth, length) comparison alone does not imply "one value was written".**  On the bare state
machine the escape script succeeds, ends at the same depth with length + 1 — exactly what the comparison
tests — yet it has closed the enclosing array and opened another (the saved parent entry changed).
This was defect D6 of /repo (found by harness/c02.go).  Since commit a29e0ae the code no longer relies on
that comparison alone: the state machine carries a floor that user code cannot pop below — see
`escape_refused_under_floor` and `one_value` below. -/
theorem depth_length_check_insufficient : ∃ m', escapeScript 10000 inArray1 = .ok m' ∧
    m'.depthLength = (inArray1.depth, inArray1.last.length + 1) ∧ m'.stack ≠ inArray1.stack :=
  ⟨{ stack := [Entry.typeArray.increment.increment], last := Entry.typeArray.increment.increment },
    by rfl, by decide, by decide⟩

/-- The same script under the floor of its entry depth (what MarshalJSONTo / MarshalToFunc now run under):
the very first token is refused with `errEnclosingEnd`. -/
theorem escape_refused_under_floor :
    runF 10000 inArray1.stack.length inArray1 [.popA, .pushA, .lit, .lit] = .error .enclosingEnd := by
  rfl

/-- **Exactly one value.**  Let a script of state-machine operations run under the floor of its entry depth
(`runF`: `popObject`/`popArray` are refused when `stack.length ≤ floor`, as in state.go since a29e0ae).
If it ends without error at the entry depth with the length of the current container advanced by one —
the test of arshal_methods.go:227 / arshal_funcs.go:226 — then the script is exactly one complete JSON value:
nothing left open, nothing closed that it did not open itself (with matching kinds), one top-level item
(`wroteOneValue`, an executable reading: a scalar token or one balanced container).
Side condition: the 61-bit element counter does not wrap during the script. -/
theorem one_value (k : Nat) (m t : Machine) (ops : List Op)
    (h : runF k m.stack.length m ops = .ok t) (hd : t.depth = m.depth)
    (hl : t.last.length = m.last.length + 1) (hb : m.last.length + ops.length < 2^61) :
    wroteOneValue ops :=
  one_value_floor k m t ops h hd hl hb

/-- In general (any start, any kinds, counting included): a successful run under the floor follows `scan`. -/
theorem run_follows_scan (k : Nat) (m t : Machine) (ops : List Op)
    (h : runF k m.stack.length m ops = .ok t) (hb : m.last.length + ops.length < 2^61) :
    ∃ ks n, scan [] 0 ops = some (ks, n) ∧ t.stack.length = m.stack.length + ks.length := by
  obtain ⟨e0', ks', n', hscan, ⟨_, hpos⟩, _⟩ := run_scan_entry k m t ops h hb
  refine ⟨ks', n', hscan, ?_⟩
  rcases hpos with ⟨h1, _, h3⟩ | ⟨es, h1, h2, _⟩
  · simp [h1, h3]
  · simp [h1, h2]

example : wroteOneValue [.pushA, .lit, .pushO, .str, .num, .popO, .popA] := by decide
example : ¬ wroteOneValue [.popA, .pushA, .lit, .lit] := by decide
example : ∃ t, runF 10000 inArray1.stack.length inArray1 [.pushO, .str, .lit, .popO] = .ok t ∧
    t.depth = inArray1.depth ∧ t.last.length = inArray1.last.length + 1 :=
  ⟨_, rfl, by decide, by decide⟩

/-! ### the hypotheses are satisfiable -/

/-- a `Quoter` exists for the default options (here: one that maps everything to `""`) -/
def trivialQuoter (o : Opt) : Quoter o := ⟨fun _ => [0x22, 0x22], fun _ => by simp [validString, strBody]⟩

example : validValue {} (arr [intDigits (-12), natDigits 0, [0x6e, 0x75, 0x6c, 0x6c]]) = true :=
  array_compose {} 0 _ (by decide) (by
    intro x hx
    simp only [List.mem_cons, List.not_mem_nil, or_false] at hx
    rcases hx with rfl | rfl | rfl
    · exact int_digits_valid _ _ _
    · exact uint_digits_valid _ _ _
    · exact validAt_null _ _)

example : (OutTree.arr [.atom (.int (-5)), .obj [([0x61], .atom .emptyArr)], .arr []]).WellFormed {} (trivialQuoter {}).quote := by
  simp [OutTree.WellFormed, wfList, wfMembers, renderMembers]

example : okFollow [0x2c, 0x31] := okFollow_cons _ (.inl rfl)

-- `render_text_real` applies: a tree with an object is well formed for the modelled AppendQuote (one name: nothing to compare)
example : (OutTree.arr [.atom (.int (-5)), .obj [([0x61, 0xff], .atom .emptyArr)], .atom (.str [0x22])]).WellFormed {}
    (realQuote {}) := by
  simp [OutTree.WellFormed, wfList, wfMembers, renderMembers]

example : JText (gopts {}) 10000 ({} : Opt).key
    ((OutTree.arr [.atom (.int (-5)), .obj [([0x61, 0xff], .atom .emptyArr)], .atom (.str [0x22])]).render (realQuote {})) :=
  render_text_real {} {} _ (by simp [OutTree.WellFormed, wfList, wfMembers, renderMembers])
    (by simp [OutTree.depth, depthList, depthMembers, Frag.depth])

-- `render_accepted_real` applies: the decoder-side validator model accepts the rendering of that tree
example : JsonV.Model.Validate.isValid {}
    ((OutTree.arr [.atom (.int (-5)), .obj [([0x61, 0xff], .atom .emptyArr)], .atom (.str [0x22])]).render (realQuote {})) = true :=
  render_accepted_real {} {} _ (by simp [OutTree.WellFormed, wfList, wfMembers, renderMembers])
    (by simp [OutTree.depth, depthList, depthMembers, Frag.depth]; decide)

-- `l3_marshal_valid` applies: []bool{true} and struct{A []bool "a"}{…} through the L3 model
example : JsonV.Model.Validate.isValid {}
    ((JsonV.Lemmas.EncInvL3.toOut (.obj [([0x61], .arr [.bool true])])).render (realQuote {})) = true :=
  (l3_marshal_valid {} {} {} (.struct [([0x61], .slice .bool)]) (.structOf [([0x61], .sliceOf [.bool true])])
    (.obj [([0x61], .arr [.bool true])]) (by decide) (by decide) (by decide) (by decide) (by rfl)
    (by simp [JsonV.Lemmas.EncInvL3.toOut, JsonV.Lemmas.EncInvL3.toOutM, JsonV.Lemmas.EncInvL3.toOutL, OutTree.depth,
      depthList, depthMembers, Frag.depth]; decide)).2

end JsonV.Props.C02
