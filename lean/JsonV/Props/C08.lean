/-
C08 — Ambiguous input is rejected by default: duplicate names and invalid UTF-8.

The property theorems.  Those about the mechanisms are read off `JsonV.Lemmas.Dup*`; `poisoned`, the two `struct_*_detect`
theorems and the text-level ones (`valid_iff_unquoted_names`, `utf8_*`, `marshal_no_dups`) are put together here from these,
Lemmas/Merge*, DupGrammar, GlueNameKey and the end results of slices C01, C02, C04, C14.  They cover the mechanisms with which the library
detects duplicate names — the struct `seenIdxs` bit set (`uintSet`), the coder namespace (`objectNamespace`,
both representations and the switch between them) and the invalidation of namespaces after a failed call —
for ALL sequences of operations — and, over the L2/L3 model of slice C14, the end-to-end statement that a
successful default Unmarshal implies a duplicate-free input tree.  What remains unproved is kept as
`def …_full : Prop` at the end and is validated by the harness (harness/c08.go).

`Gen.*` is regenerated from /repo on every run (Tie A): bodies of `uintSet64.has/set`, the `stateEntry` masks.
-/
import JsonV.Model.UintSet
import JsonV.Model.Namespace
import JsonV.Model.State
import JsonV.Lemmas.DupUintSet
import JsonV.Lemmas.DupNamespace
import JsonV.Lemmas.DupStruct
import JsonV.Lemmas.DupPoison
import JsonV.Gen.Straight
import JsonV.Gen.Constants
import JsonV.Gen.Lits
import JsonV.Spec.Tree
import JsonV.Model.Unmarshal
import JsonV.Lemmas.MergeClauses
import JsonV.Lemmas.MergeDup
import JsonV.Lemmas.DupGrammar
import JsonV.Lemmas.GlueNameKey
import JsonV.Props.C01
import JsonV.Props.C02
import JsonV.Spec.Meaning
import JsonV.Props.C04L3
import JsonV.Props.C14
import JsonV.Lemmas.EncInvState

namespace JsonV.Props.C08
open JsonV JsonV.Model JsonV.Lemmas.Dup

/-! ### Tie A: regenerated code = hand model -/

theorem tie_uintSet64_has (s i : BitVec 64) : Gen.json_uintSet64_has s i = UintSet64.has s i.toNat := rfl

theorem tie_uintSet64_set (s i : BitVec 64) : Gen.json_uintSet64_set s i = UintSet64.set s i.toNat := rfl

/-- On the 64-bit fast path (`i < 64`) `uintSet.has/insert` are the regenerated `uintSet64` bodies on `lo`. -/
theorem tie_lo (s : UintSet) (i : Nat) (hi : i < 64) :
    s.has i = Gen.json_uintSet64_has s.lo (BitVec.ofNat 64 i) ∧
    (s.insert i).1 = ⟨Gen.json_uintSet64_set s.lo (BitVec.ofNat 64 i), s.hi⟩ ∧
    (s.insert i).2 = !Gen.json_uintSet64_has s.lo (BitVec.ofNat 64 i) := by
  have e : (BitVec.ofNat 64 i).toNat = i := by simp [BitVec.toNat_ofNat]; omega
  simp [UintSet.has, UintSet.insert, UintSet.wordBits, hi, tie_uintSet64_has, tie_uintSet64_set, e]

example : (3 : Nat) < 64 := by decide

/-- The thresholds of the model are the integer literals of `objectNamespace.insert`, in source order
(`ns.length() > 64 || len(ns.allUnquotedNames) > 1024`); `reset` trims with the same two numbers.
Editing a threshold in state.go breaks this theorem (not only the correspondence). -/
theorem tie_thresholds :
    Gen.jsontext_objectNamespace_insert_ints = [(nsCountThreshold : Int), (nsBytesThreshold : Int)] ∧
    Gen.jsontext_objectNamespace_reset_ints = [0, 0, (nsCountThreshold : Int), (nsBytesThreshold : Int)] := by
  decide

/-- Every integer literal of `uintSet.has` and `uintSet.insert` is the word size of the model
(`i < 64`, `i -= 64`, `i/64`, `i%64`), plus the `+1` of the growth step `iHi+1-len(s.hi)`. -/
theorem tie_uintset_literals :
    Gen.json_uintSet_has_ints = List.replicate 4 (UintSet.wordBits : Int) ∧
    Gen.json_uintSet_insert_ints = List.replicate 4 (UintSet.wordBits : Int) ++ [1] := by
  decide

/-- The namespace bits of `stateEntry` used by the model are the regenerated masks. -/
theorem tie_namespace_bits :
    Entry.disableNamespaceBit.toNat = Gen.jsontext.c_stateDisableNamespace ∧
    Entry.invalidNamespaceBit.toNat = Gen.jsontext.c_stateInvalidNamespace ∧
    Gen.jsontext.c_stateNamespaceMask = Gen.jsontext.c_stateDisableNamespace + Gen.jsontext.c_stateInvalidNamespace := by
  decide

/-! ### `uintSet`: a set of naturals, for every index and every growth of `hi` -/

/-- `insert i` reports `true` iff `i` was not in the set. -/
theorem uintset_spec (s : UintSet) (i : Nat) : (s.insert i).2 = true ↔ s.has i = false := by
  rw [insert_snd, has_eq_bit]; cases bit s i <;> simp

/-- After `insert i` exactly `i` was added. -/
theorem uintset_has_insert (s : UintSet) (i j : Nat) : (s.insert i).1.has j = true ↔ (j = i ∨ s.has j = true) := by
  rw [has_eq_bit, has_eq_bit, bit_insert]; simp

theorem uintset_empty (i : Nat) : UintSet.empty.has i = false := by
  rw [has_eq_bit]; exact bit_empty i

/-- Every sequence of inserts (any naturals, any order), starting from the zero value:
`has j` holds afterwards iff `j` was inserted, and the k-th insert returned `true` iff its index
does not occur earlier in the sequence. -/
theorem uintset_seq_spec (is : List Nat) :
    (∀ j, (UintSet.empty.insertAll is).1.has j = true ↔ j ∈ is) ∧
    (UintSet.empty.insertAll is).2.length = is.length ∧
    (∀ k (hk : k < is.length), (UintSet.empty.insertAll is).2[k]? = some true ↔ is[k] ∉ is.take k) := by
  obtain ⟨h1, h2, h3⟩ := insertAll_spec is UintSet.empty
  refine ⟨?_, h2, ?_⟩
  · intro j; rw [has_eq_bit, h1, bit_empty]; simp
  · intro k hk; rw [h3 k hk, bit_empty]; simp

/-! ### `objectNamespace`: both representations, the switch, any history -/

/-- The representation invariant holds for the zero value; the next two theorems: `insert` and `removeLast` preserve it. -/
theorem ns_wf_empty : WF Namespace.empty := wf_empty

theorem ns_wf_insert (ns : Namespace) (h : WF ns) (x : Bytes) : WF (ns.insert x).1 := (insert_spec ns h x).2.2

theorem ns_wf_removeLast (ns : Namespace) (h : WF ns) : WF ns.removeLast := (removeLast_spec ns h).2.1

/-- `insert name` returns `false` iff the name is already held — in linear mode, in map mode, and on the
very insert that switches the mode. -/
theorem insert_iff (ns : Namespace) (h : WF ns) (x : Bytes) : (ns.insert x).2 = false ↔ x ∈ ns.names := by
  rw [(insert_spec ns h x).1]; simp

example : WF Namespace.empty := wf_empty

/-- A rejected insert changes no name; an accepted one appends exactly the name. -/
theorem insert_names (ns : Namespace) (h : WF ns) (x : Bytes) :
    (ns.insert x).1.names = if x ∈ ns.names then ns.names else ns.names ++ [x] := (insert_spec ns h x).2.1

/-- `removeLast` drops exactly the last name (on the empty namespace, where Go panics, the model is the identity). -/
theorem removeLast_names (ns : Namespace) (h : WF ns) : ns.removeLast.names = ns.names.dropLast :=
  (removeLast_spec ns h).1

/-- When the map representation is used: from the first insert that finds more than 64 names or more than
1024 name bytes, and for ever after (removeLast never switches back). -/
theorem mode_switch (ns : Namespace) (x : Bytes) :
    (ns.insert x).1.usesMap = (ns.usesMap || decide (ns.length > 64) || decide (ns.totalBytes > 1024)) :=
  usesMap_insert ns x

theorem mode_removeLast (ns : Namespace) (h : WF ns) : ns.removeLast.usesMap = ns.usesMap :=
  (removeLast_spec ns h).2.2

/-- `reset` (reuse of the slot for a sibling object or the next top-level value) forgets everything, the map too. -/
theorem reset_empty (ns : Namespace) : ns.reset = Namespace.empty ∧ ns.reset.usesMap = false ∧ ns.reset.names = [] :=
  ⟨rfl, rfl, rfl⟩

/-- Any history of inserts, removeLast and reset, across the mode switch, is indistinguishable from the mode-free
reference (a plain list with "append unless present"): same results, same names. -/
theorem history_mode_free (ops : List Namespace.Op) :
    ((Namespace.run Namespace.empty ops).1.names, (Namespace.run Namespace.empty ops).2) = specRun [] ops :=
  (run_spec ops Namespace.empty wf_empty).1

/-- The names held by a namespace after any history are pairwise distinct. -/
theorem no_dups_invariant (ops : List Namespace.Op) : (Namespace.run Namespace.empty ops).1.names.Nodup :=
  (run_spec ops Namespace.empty wf_empty).2.1

/-- Feeding the member names of one object to a fresh namespace: all are accepted iff they are pairwise distinct
(so an object of any size is rejected iff it has two equal names). -/
theorem object_accept_iff_nodup (names : List Bytes) :
    (Namespace.run Namespace.empty (names.map Namespace.Op.ins)).2.all id = true ↔ names.Nodup := by
  have h := congrArg Prod.snd (history_mode_free (names.map Namespace.Op.ins))
  simp only at h
  rw [h, specRun_all_iff]; simp

/-! ### Struct unmarshaling: `seenIdxs` and the namespace together -/

/-- With any field-resolution function, the names of an object (a list of any length) pass the `seenIdxs`
check iff no two of them resolve to the same field. -/
theorem struct_dup_detect {α : Type} (resolve : α → Option Nat) (names : List α) :
    seenAccepts resolve names UintSet.empty = true ↔
      names.Pairwise (fun a b => ∀ f, resolve a = some f → resolve b ≠ some f) := by
  rw [seenAccepts_iff, fieldIds, List.Nodup, List.pairwise_filterMap]
  constructor
  · rintro ⟨h, _⟩
    exact h.imp (fun hab f hf hb => hab f hf f hb rfl)
  · intro h
    refine ⟨?_, fun f _ => bit_empty f⟩
    refine h.imp ?_
    intro a b hab f hf f' hf' e
    subst e
    exact hab f hf hf'

/-- Names that resolve to a declared field are checked by field, all others by the object's namespace:
the object is accepted iff the resolved field ids are pairwise distinct and the unresolved (skipped or
fallback) names are pairwise distinct. -/
theorem struct_members_detect {α : Type} (resolve : α → Option Nat) (unq : α → Bytes) (names : List α) :
    structAccepts resolve unq names UintSet.empty Namespace.empty = true ↔
      (fieldIds resolve names).Nodup ∧ (unknownNames resolve unq names).Nodup := by
  rw [structAccepts_iff resolve unq names UintSet.empty Namespace.empty wf_empty]
  constructor
  · rintro ⟨⟨h1, _⟩, h2, _⟩; exact ⟨h1, h2⟩
  · rintro ⟨h1, h2⟩
    exact ⟨⟨h1, fun f _ => bit_empty f⟩, h2, fun u _ => by simp [Namespace.empty]⟩

/-- If the current object's namespace was disabled when a marshal/unmarshal call failed, then after
`InvalidateDisabledNamespaces` every transition of the state machine is refused (a string — hence any
further object name — with `errInvalidNamespace`).  A refused transition returns no new state, so this
holds for every later call as well. -/
theorem poisoned (m : Machine) (maxDepth : Nat) (h : m.last.isActiveNamespace = false) :
    let m' := m.invalidateDisabledNamespaces
    m'.appendString = .error .invalidNamespace ∧
    (∀ r, m'.appendLiteral ≠ .ok r) ∧ (∀ r, m'.appendNumber ≠ .ok r) ∧
    (∀ r, m'.pushObject maxDepth ≠ .ok r) ∧ (∀ r, m'.pushArray maxDepth ≠ .ok r) ∧
    (∀ r, m'.popObject ≠ .ok r) ∧ (∀ r, m'.popArray ≠ .ok r) := by
  intro m'
  have hv : m'.last.isValidNamespace = false := last_invalid m h
  -- every operation tests `!isValidNamespace` before it returns a state
  have key : ¬ ¬ (!m'.last.isValidNamespace) = true := by rw [hv]; exact fun h => h rfl
  open JsonV.Lemmas.EncInvState in
  refine ⟨by simp [Machine.appendString, hv], fun r h => ?_, fun r h => ?_, fun r h => ?_, fun r h => ?_,
    fun r h => ?_, fun r h => ?_⟩
  · simp only [Machine.appendLiteral, guard_ok] at h; exact key h.2.1
  · simp only [Machine.appendNumber, Machine.appendLiteral, guard_ok] at h; exact key h.2.1
  · simp only [Machine.pushObject, guard_ok] at h; exact key h.2.1
  · simp only [Machine.pushArray, guard_ok] at h; exact key h.2.1
  · simp only [Machine.popObject, guard_ok] at h; exact key h.2.2.1
  · simp only [Machine.popArray, guard_ok] at h; exact key h.2.1

example : (Entry.disableNamespace Entry.typeObject).isActiveNamespace = false := by decide

/-! ### End to end over the L2/L3 model of slice C14 (`Spec.JTree`, `Model.unm`)

`unm o T j prior` models `json.Unmarshal` under the DEFAULT options into a destination of type `T` holding `prior`
(types: bool, ints, uints, float64, string, slices, arrays, map[string]T, pointers, structs with exact-name fields,
`any`).  The tree `j` has names already unescaped, so "equal names" below means equal after unescaping. -/

open JsonV.Spec in
/-- Default options: a successful Unmarshal — into ANY modelled type, with ANY prior content of the destination —
implies that no object anywhere in the input repeats a name.  "Anywhere" is literal: the model (like the
library, which validates them with the coder namespaces) also checks the values of skipped unknown struct
members, the surplus elements of a Go array, and values of the wrong JSON kind handed to string/number types,
so `dupFree` speaks about the whole tree and not only about the part the type gives a destination to. -/
theorem unm_no_dups (o : UOpts) (ho : o.allowDup = false) (T : GoType) (j : JTree) (prior v : GoVal)
    (h : unm o T j prior = .ok v) : j.dupFree = true :=
  JsonV.Lemmas.Merge.unm_dupFree o ho T j prior v h

open JsonV.Spec in
example : unm {} (.map .any) (.obj [([0x61], .num [0x31])]) .nilMap =
    .ok (.mapOf [([0x61], .ifaceOf (.float [0x31]))]) := by
  simp [unm, objFold, unmAny, anyPrior, alookup, aset, GoType.zero]

open JsonV.Spec in
/-- Contrapositive: a repeated name at any depth (also inside a skipped member) makes the call fail. -/
theorem unm_rejects_dup (o : UOpts) (ho : o.allowDup = false) (T : GoType) (j : JTree) (prior : GoVal)
    (h : j.dupFree = false) : ∃ e, unm o T j prior = .error e := by
  cases hr : unm o T j prior with
  | error e => exact ⟨e, rfl⟩
  | ok v => rw [unm_no_dups o ho T j prior v hr] at h; cases h

open JsonV.Spec in
example : (JTree.obj [([0x7a], .obj [([0x61], .null), ([0x61], .null)])]).dupFree = false := by decide

open JsonV.Spec in
/-- One object level of `dupFree` is exactly the coder namespace: the member names, fed in order to a fresh
`objectNamespace` (either representation, across the switch), are all accepted, and the member values are
duplicate-free in turn. -/
theorem dupFree_obj_namespace (ms : List (Bytes × JTree)) :
    (JTree.obj ms).dupFree = true ↔
      (Namespace.run Namespace.empty ((akeys ms).map Namespace.Op.ins)).2.all id = true ∧
      ∀ n x, (n, x) ∈ ms → x.dupFree = true := by
  rw [JsonV.Lemmas.Merge.dupFree_obj, object_accept_iff_nodup]

/-! ### What the L3 theorems above do not cover

Names that differ as strings but resolve to the same destination (case-insensitive struct fields, `"0"`/`"-0"` and
`"1"`/`"1.0"` map keys, embedded fallbacks, raw `jsontext.Value` targets) are outside the model's type universe
(exact-name fields, string keys); they are the `…_full` definitions at the end of the file, validated by the harness.
The step from JSON text to names (unescaping) is `valid_iff_unquoted_names` below. -/

/-! ### AllowDuplicateNames over the L3 model (`UOpts.allowDup` of Model/Unmarshal.lean) -/

section AllowDup
open JsonV.Spec

/-- With AllowDuplicateNames nothing else changes: on duplicate-free input the result (value or error) is the
default one — every type, every prior value. -/
theorem permissive_eq (o : UOpts) (T : GoType) (j : JTree) (p : GoVal) (hd : j.dupFree = true) :
    unm { o with allowDup := true } T j p = unm { o with allowDup := false } T j p :=
  C14.permissive_eq o T j p hd

/-- With AllowDuplicateNames a later member arrives as if in a second call: merge for objects, replace
otherwise (C14) — for every type and prior value, whether or not the name occurred before. -/
theorem later_wins (o : UOpts) (ho : o.allowDup = true) (T : GoType) (ms : List (Bytes × JTree)) (k : Bytes)
    (x : JTree) (p : GoVal) :
    unm o T (.obj (ms ++ [(k, x)])) p = unmChain o T [.obj ms, .obj [(k, x)]] p :=
  C14.later_wins o ho T ms k x p

end AllowDup

/-! ### Text level: names are compared after unescaping; AllowInvalidUTF8 only adds ill-formed literals; Marshal

These use the neighbours' results: slice C01 `valid_iff` (the validator — and by `token_value` the token path —
accepts exactly the grammar `JText`, names unique under the validator's name key), slice C11 / Lemmas/GlueNameKey
(`unescapedName_valueString`: that key IS the unquoted name; `nameKey_appendQuote`: the key of a quoted Go string is the
string with one U+FFFD per ill-formed byte), slice C02 `l3_marshal_valid` and slice C04 `mar_dupFree`. -/

section Text
open JsonV.Spec.Grammar JsonV.Model.Validate JsonV.Lemmas.DupGrammar

/-- The unquoted (unescaped) text of a string literal: `jsonwire.AppendUnquote` (C01's model; equal to slice C11's
`appendUnquote` by `GlueQuote.unquote_eq`). -/
def unq (q : Bytes) : Bytes := (JsonV.Model.Wire.unquote q).1

/-- **Text → names step.**  In both UTF-8 modes and under both duplicate policies, `Value.IsValid` accepts exactly
the texts of the RFC 8259 grammar whose member names — unless AllowDuplicateNames — are pairwise different AFTER
UNESCAPING in every object at every depth: `"a"`, `"\u0061"` and `"\u0061"` spelled with other hex case are one name. -/
theorem valid_iff_unquoted_names (o : VOpts) (b : Bytes) :
    isValid o b = true ↔ JText (JsonV.Props.C01.gopts o) maxNestingDepth unq b := by
  rw [JsonV.Props.C01.valid_iff]
  have key : ∀ q, JString (!o.allowInvalidUTF8) q → JsonV.Props.C01.nameKey o q = unq q :=
    fun q h => JsonV.Lemmas.GlueNameKey.unescapedName_valueString o q h
  constructor
  · intro h; exact jtext_transfer _ _ _ _ _ rfl b h (fun q _ hq => ⟨hq, key q hq⟩)
  · intro h; exact jtext_transfer _ _ _ _ _ rfl b h (fun q _ hq => ⟨hq, (key q hq).symm⟩)

/-- `{"a":1,"\u0061":2}` : the two spellings unquote to the same name, the text is rejected by default and accepted
with AllowDuplicateNames. -/
def escDupText : Bytes :=
  [0x7B, 0x22, 0x61, 0x22, 0x3A, 0x31, 0x2C, 0x22, 0x5C, 0x75, 0x30, 0x30, 0x36, 0x31, 0x22, 0x3A, 0x32, 0x7D]
example : unq [0x22, 0x61, 0x22] = unq [0x22, 0x5C, 0x75, 0x30, 0x30, 0x36, 0x31, 0x22] := by decide +kernel
example : isValid {} escDupText = false := by decide +kernel
example : isValid { allowDup := true } escDupText = true := by decide +kernel
/-- … and its tree (`Spec.Meaning.parseTree`, names unescaped) repeats the name `a`, so by C03 `dup_rejected`
unmarshaling it into `any` fails under the default options. -/
example : JsonV.Spec.Meaning.parseTree escDupText = some (.obj [([0x61], .num [0x31]), ([0x61], .num [0x32])]) := by rfl

/-- the validator options with / without AllowInvalidUTF8 (same duplicate policy `d`) -/
def strictOpts (d : Bool) : VOpts := { allowInvalidUTF8 := false, allowDup := d }
def lenientOpts (d : Bool) : VOpts := { allowInvalidUTF8 := true, allowDup := d }

/-- AllowInvalidUTF8 rejects nothing the default accepts (and compares names the same way). -/
theorem utf8_strict_imp_lenient (d : Bool) (b : Bytes) (h : isValid (strictOpts d) b = true) :
    isValid (lenientOpts d) b = true := by
  rw [valid_iff_unquoted_names] at h ⊢
  exact jtext_transfer (JsonV.Props.C01.gopts (strictOpts d)) (JsonV.Props.C01.gopts (lenientOpts d)) _ unq unq rfl b h
    (fun q _ hq => ⟨hq.mono, rfl⟩)

/-- If every string literal occurring in the text is well-formed, the two modes give the same verdict. -/
theorem utf8_same_without_illformed (d : Bool) (b : Bytes)
    (hall : ∀ q, q <:+: b → JString false q → JString true q) :
    isValid (lenientOpts d) b = isValid (strictOpts d) b := by
  cases hs : isValid (strictOpts d) b with
  | true => exact utf8_strict_imp_lenient d b hs
  | false =>
    cases hl : isValid (lenientOpts d) b with
    | false => rfl
    | true =>
      rw [valid_iff_unquoted_names] at hl
      have : isValid (strictOpts d) b = true := by
        rw [valid_iff_unquoted_names]
        exact jtext_transfer (JsonV.Props.C01.gopts (lenientOpts d)) (JsonV.Props.C01.gopts (strictOpts d)) _ unq unq rfl b hl
          (fun q hq hj => ⟨hall q hq hj, rfl⟩)
      rw [this] at hs; cases hs

/-- **The ONLY difference made by AllowInvalidUTF8 at the syntax level**: a text accepted with the option and rejected
without it contains (as a contiguous piece) a string literal of the lenient grammar that is not a literal of the strict
grammar, i.e. one holding ill-formed UTF-8 or an unpaired surrogate escape.  (What such a literal DECODES to — one U+FFFD
per ill-formed byte — is slice C11's `unquote_fffd_count_mixed`.) -/
theorem utf8_only_diff (d : Bool) (b : Bytes) (hl : isValid (lenientOpts d) b = true)
    (hs : isValid (strictOpts d) b = false) : ∃ q, q <:+: b ∧ JString false q ∧ ¬ JString true q := by
  apply Classical.byContradiction
  intro hno
  have hall : ∀ q, q <:+: b → JString false q → JString true q := by
    intro q hq hj
    apply Classical.byContradiction
    intro hn
    exact hno ⟨q, hq, hj, hn⟩
  rw [utf8_same_without_illformed d b hall, hs] at hl
  cases hl

-- `"` FF `"` : accepted only with the option
example : isValid (lenientOpts false) [0x22, 0xFF, 0x22] = true ∧ isValid (strictOpts false) [0x22, 0xFF, 0x22] = false := by
  decide +kernel

end Text

section MarshalText
open JsonV.Spec JsonV.Spec.Grammar JsonV.Model.Validate JsonV.Lemmas.EncInvL3 JsonV.Lemmas.EncInvInst JsonV.Model.Quote

/-- **Marshal never emits duplicate names (default options), L3 model end to end.**  For every well-formed type of the
modelled universe and every well-typed value, the tree written by `mar` has no object repeating a name, and the BYTES
(rendered with the modelled AppendQuote under any escaping flags) are one text of the strict grammar — well-formed UTF-8,
paired surrogates — whose member names are pairwise different after unescaping in every object at every depth.
Map keys that are not valid UTF-8 cannot collide here because under the default options they are a marshal error
(`hasType` excludes them; Model/Marshal.lean `MErr.invalidUTF8`, arshal_default.go:213-256); the collision of keys that
become equal only after U+FFFD replacement (AllowInvalidUTF8) is `lossy_collision_rejected` below.
The tie between `mar` and the reflection code is slices C04/C14's correspondence. -/
theorem marshal_no_dups (f : QFlags) (mo : MOpts) (T : GoType) (v : GoVal) (j : JTree)
    (hwf : T.wf = true) (hn : namesUtf8 T = true) (ht : hasType T v = true) (hf : floatsOK v = true)
    (h : mar mo T v = .ok j) (hd : (toOut j).depth ≤ maxNestingDepth) :
    j.dupFree = true ∧ JText ⟨true, false⟩ maxNestingDepth unq ((toOut j).render (realQuote f)) := by
  refine ⟨JsonV.Props.C04L3.mar_dupFree mo T hwf v j ht h, ?_⟩
  have hv := (JsonV.Props.C02.l3_marshal_valid {} f mo T v j hwf hn ht hf h hd).2
  exact (valid_iff_unquoted_names {} _).1 hv

/-- **Keys that collide only after U+FFFD replacement.**  With AllowInvalidUTF8 two different Go strings whose ill-formed
bytes are replaced alike (`"\xff"`, `"\xfe"`) are written as names with the same key, whatever the escaping flags; for
string-keyed maps the marshaler therefore leaves the coder namespace enabled (arshal_default.go:1085-1100
`mapKeyWithUniqueRepresentation`, arshal_any.go:138) and the namespace refuses the second name: no duplicate is emitted,
Marshal reports ErrDuplicateName. -/
theorem lossy_collision_rejected (o : VOpts) (f : QFlags) (s1 s2 : Bytes)
    (h : JsonV.Spec.StringSpec.lossy s1 = JsonV.Spec.StringSpec.lossy s2) :
    ((Namespace.empty.insert (JsonV.Lemmas.WireValue.nameKey o (appendQuote f s1).1)).1.insert
      (JsonV.Lemmas.WireValue.nameKey o (appendQuote f s2).1)).2 = false := by
  rw [JsonV.Lemmas.GlueNameKey.nameKey_appendQuote, JsonV.Lemmas.GlueNameKey.nameKey_appendQuote, h]
  rw [insert_iff _ (ns_wf_insert _ wf_empty _), insert_names _ wf_empty]
  simp [Namespace.empty]

example : JsonV.Spec.StringSpec.lossy [0xFF] = JsonV.Spec.StringSpec.lossy [0xFE] := by decide +kernel

end MarshalText

section Full
variable {T V G : Type}
variable (unmText : (allowDup allowBadUTF8 : Bool) → T → Bytes → Option V)
variable (mar : (allowDup allowBadUTF8 : Bool) → G → Option Bytes)
variable (semDupFree : T → Bytes → Prop) (utf8OK noDupNames : Bytes → Prop)
variable (sanitize : Bytes → Bytes)

/-- Default options, text level, every target kind: whatever is accepted had no two names that resolve to the same Go
struct field / map key although they differ after unescaping (case-insensitive fields, `0`/`-0`, `1`/`1.0`, embedded
fallbacks), and was well-formed UTF-8.  (Names equal after unescaping: proved, `valid_iff_unquoted_names` + `unm_no_dups`.) -/
def unm_no_semantic_dups_full : Prop :=
  ∀ t b v, unmText false false t b = some v → semDupFree t b ∧ utf8OK b

/-- Marshal of EVERY Go value (beyond the L3 universe: non-string keys, TextMarshaler keys, embedded fallbacks, user
MarshalJSON / MarshalJSONTo, raw values) never emits duplicate names nor ill-formed UTF-8 under default options.
(L3 universe: proved, `marshal_no_dups`.) -/
def marshal_no_dups_full : Prop :=
  ∀ g out, mar false false g = some out → noDupNames out ∧ utf8OK out

/-- AllowInvalidUTF8 at the VALUE level: unmarshaling with the option equals unmarshaling the sanitized text (one U+FFFD
per ill-formed byte) without it.  (Syntax level: proved, `utf8_strict_imp_lenient` / `utf8_only_diff`; one literal:
C11 `unquote_fffd_count_mixed`.  Missing: an unmarshal model over BYTES with the option.) -/
def utf8_only_diff_full : Prop :=
  ∀ t b, unmText false true t b = unmText false false t (sanitize b)

end Full

end JsonV.Props.C08
