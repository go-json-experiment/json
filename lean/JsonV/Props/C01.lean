/-
C01 — Decoder/validator accepts exactly the JSON grammar (RFC 8259 / RFC 7493).

The property theorems; the work is in Lemmas/Wire*.lean, except for the theorems that tie slice C05's chunked scanners
to the grammar (`number_chunk_indep_grammar`, `string_resume_transfer`, `string_chunk_indep_grammar`), proved here.
Models: Model/WireDecode.lean (internal/jsonwire/decode.go) and Model/Validate.lean (the value path of
jsontext/decode.go); specification: Spec/Grammar.lean.  `Gen.*` is regenerated from /repo on every run (Tie A).
-/
import JsonV.Model.Validate
import JsonV.Model.TokenLoop
import JsonV.Spec.Grammar
import JsonV.Lemmas.WireBasic
import JsonV.Lemmas.WireNumberScan
import JsonV.Lemmas.WireString
import JsonV.Lemmas.WireValue
import JsonV.Lemmas.WireFuel
import JsonV.Lemmas.WireComplete
import JsonV.Lemmas.WireTokenTop
import JsonV.Lemmas.GlueResume
import JsonV.Lemmas.GlueResumeStr
import JsonV.Gen.Constants
import JsonV.Gen.Tables
import JsonV.Gen.Lits

namespace JsonV.Props.C01
open JsonV JsonV.Model.Wire JsonV.Model.Validate JsonV.Spec.Grammar
open JsonV.Lemmas.WireBasic JsonV.Lemmas.WireNumber JsonV.Lemmas.WireString JsonV.Lemmas.WireValue

/-! ### Tie A: regenerated constants and tables = what the models use -/

theorem tie_maxDepth : maxNestingDepth = 10000 := by decide

theorem tie_number_states :
    Gen.jsonwire.c_consumeNumberInit = stInit ∧ Gen.jsonwire.c_beforeIntegerDigits = stBeforeIntegerDigits ∧
    Gen.jsonwire.c_withinIntegerDigits = stWithinIntegerDigits ∧
    Gen.jsonwire.c_beforeFractionalDigits = stBeforeFractionalDigits ∧
    Gen.jsonwire.c_withinFractionalDigits = stWithinFractionalDigits ∧
    Gen.jsonwire.c_beforeExponentDigits = stBeforeExponentDigits ∧
    Gen.jsonwire.c_withinExponentDigits = stWithinExponentDigits := by decide

theorem tie_value_flags : Gen.jsonwire.c_stringNonVerbatim = ValueFlags.nv.toNat ∧
    Gen.jsonwire.c_stringNonCanonical = ValueFlags.nc.toNat := by decide

/-- `escapeASCII[c] == 0` (the regenerated table) is the model's `simpleByte`, for every ASCII byte. -/
theorem tie_escapeASCII : ∀ c : UInt8, c < 0x80 →
    (simpleByte c = true ↔ Gen.jsonwire_escapeASCII.getD c.toNat 1 = 0) := by
  intro c hc
  have h := List.getD_of_range_map simpleByte_table (UInt8.lt_iff_toNat_lt.1 hc) 1
  rw [UInt8.ofNat_toNat] at h
  rw [← h]; exact beq_iff_eq

/-- the regenerated `normKind` table is the model's `normKind`, for every byte. -/
theorem tie_normKind : ∀ c : UInt8, (normKind c).toNat = Gen.jsontext_normKind.getD c.toNat 999 := by
  intro c
  have h := List.getD_of_range_map (normKind_table.trans (List.map_id _).symm) c.toNat_lt 999
  rwa [UInt8.ofNat_toNat, eq_comm] at h

/-- the whitespace bytes of the model are exactly the character literals of `jsonwire.ConsumeWhitespace`
(regenerated from the source: space, tab, CR, LF) -/
theorem tie_ws_literals : ∀ c : UInt8, isWs c = Gen.jsonwire_ConsumeWhitespace_strs.contains [c.toNat] := by
  apply forall_u8; decide +kernel

/-- the only character literal of `jsonwire.ConsumeSimpleString` is the double quote (twice), and
`hasEscapedUTF16Prefix` compares against exactly the literals the model uses
(`\\ u d D c f C F 0 9 a f A F`, indices `0 1 2 3 2 6`). -/
theorem tie_string_literals :
    Gen.jsonwire_ConsumeSimpleString_strs = [[0x22], [0x22]] ∧
    Gen.jsonwire_hasEscapedUTF16Prefix_strs =
      [[0x5C], [0x75], [0x64], [0x44], [0x63], [0x66], [0x43], [0x46], [0x30], [0x39], [0x61], [0x66], [0x41], [0x46]] ∧
    Gen.jsonwire_hasEscapedUTF16Prefix_ints = [0, 1, 2, 3, 2, 6] := by decide

/-! ### Whitespace -/

/-- `ConsumeWhitespace` consumes exactly the maximal whitespace prefix: what it consumes is `ws`,
what follows does not start with whitespace, and no other cut has these two properties. -/
theorem ws_spec (b : Bytes) :
    consumeWhitespace b ≤ b.length ∧ JWs (b.take (consumeWhitespace b)) ∧
    (∀ c r, b.drop (consumeWhitespace b) = c :: r → ¬ WsByte c) ∧
    (∀ m, m ≤ b.length → JWs (b.take m) → (∀ c r, b.drop m = c :: r → ¬ WsByte c) → m = consumeWhitespace b) :=
  ⟨ws_le b, ws_take b, ws_stop b, ws_unique b⟩

/-! ### Literals -/

/-- `ConsumeLiteral(b, lit)` succeeds iff `lit` is a prefix of `b`, and then consumes exactly `lit`. -/
theorem literal_iff (b lit : Bytes) (n : Nat) : consumeLiteral b lit = (n, .ok) ↔ n = lit.length ∧ lit <+: b :=
  literal_ok_iff b lit n

/-- io.ErrUnexpectedEOF iff the input is a proper prefix of the literal (all of it is consumed). -/
theorem literal_eof (b lit : Bytes) (n : Nat) :
    consumeLiteral b lit = (n, .eof) ↔ n = b.length ∧ b <+: lit ∧ b ≠ lit :=
  literal_eof_iff b lit n

/-- otherwise: an invalid character, reported at the first position where input and literal differ. -/
theorem literal_invalid (b lit : Bytes) (n : Nat) :
    consumeLiteral b lit = (n, .invalidChar) ↔
      n < b.length ∧ n < lit.length ∧ b.take n = lit.take n ∧ b[n]? ≠ lit[n]? :=
  literal_invalid_iff b lit n

theorem literal_total (b lit : Bytes) :
    (consumeLiteral b lit).2 = .ok ∨ (consumeLiteral b lit).2 = .eof ∨ (consumeLiteral b lit).2 = .invalidChar :=
  literal_class b lit

/-- the inlinable fast paths `ConsumeNull/False/True` answer non-zero iff the literal is a prefix -/
theorem fast_literal_iff (b : Bytes) :
    (consumeNull b ≠ 0 ↔ nullLit <+: b) ∧ (consumeFalse b ≠ 0 ↔ falseLit <+: b) ∧ (consumeTrue b ≠ 0 ↔ trueLit <+: b) :=
  ⟨exact_iff litNull b (by decide), exact_iff litFalse b (by decide), exact_iff litTrue b (by decide)⟩

example : consumeLiteral [0x6E, 0x75, 0x6C, 0x6C, 0x2C] litNull = (4, .ok) := by decide
example : consumeLiteral [0x6E, 0x75] litNull = (2, .eof) := by decide
example : consumeLiteral [0x6E, 0x75, 0x78] litNull = (2, .invalidChar) := by decide

/-! ### Numbers -/

/-- `ConsumeNumber(b) = (n, nil)` iff the first `n` bytes are a number of the RFC 8259 grammar and the
scanner could not have gone on: either the input ends there or one more byte is no longer a prefix of
any number.  (All byte strings `b`, no length bound.) -/
theorem number_iff (b : Bytes) (n : Nat) :
    consumeNumber b = (n, .ok) ↔
      n ≤ b.length ∧ JNumber (b.take n) ∧ (n = b.length ∨ ¬ NumPrefix (b.take (n + 1))) :=
  consumeNumber_ok_iff b n

/-- `ConsumeNumber` reports io.ErrUnexpectedEOF iff the whole input is a proper prefix of a number:
it can be extended to a number but is not one. -/
theorem number_eof (b : Bytes) : (consumeNumber b).2 = .eof ↔ NumPrefix b ∧ ¬ JNumber b :=
  consumeNumber_eof_iff b

/-- otherwise an invalid character is reported at `n`: exactly when the first `n` bytes are a viable prefix that
is not a number and the next byte makes the input unextendable. -/
theorem number_invalid (b : Bytes) (n : Nat) :
    consumeNumber b = (n, .invalidChar) ↔
      n < b.length ∧ NumPrefix (b.take n) ∧ ¬ JNumber (b.take n) ∧ ¬ NumPrefix (b.take (n + 1)) :=
  consumeNumber_invalid_iff b n

theorem number_invalid_sound (b : Bytes) (n : Nat) (h : consumeNumber b = (n, .invalidChar)) :
    n < b.length ∧ NumPrefix (b.take n) ∧ ¬ JNumber (b.take n) ∧ ¬ NumPrefix (b.take (n + 1)) :=
  (number_invalid b n).1 h

theorem number_total (b : Bytes) :
    (consumeNumber b).2 = .ok ∨ (consumeNumber b).2 = .eof ∨ (consumeNumber b).2 = .invalidChar :=
  good_class _ _ _ _ (good_consumeNumber b)

-- the hypotheses are satisfiable: `-12.5e+3,` scans 8 bytes; `1e` is a truncated number; `-x` is invalid at 1
example : consumeNumber [0x2D, 0x31, 0x32, 0x2E, 0x35, 0x65, 0x2B, 0x33, 0x2C] = (8, .ok) := by decide
example : consumeNumber [0x31, 0x65] = (1, .eof) := by decide
example : consumeNumber [0x2D, 0x78] = (1, .invalidChar) := by decide
example : JNumber [0x2D, 0x30, 0x2E, 0x35] :=
  JNumber.mk [0x2D] [0x30] [0x2E, 0x35] [] (by simp) JInt.zero
    (JFrac.some [0x35] ⟨by simp, by intro c hc; simp at hc; subst hc; unfold Digit; decide⟩) JExp.none

/-- The inlinable fast path is sound: a non-zero `ConsumeSimpleNumber` is exactly `ConsumeNumber`'s answer. -/
theorem simple_number_sound (b : Bytes) (n : Nat) (h : consumeSimpleNumber b = n) (hn : n > 0) :
    consumeNumber b = (n, .ok) := by
  subst h; exact simple_number_sound' b (by omega)

example : consumeSimpleNumber [0x34, 0x32, 0x2C] = 2 := by decide

/-! ### Strings -/

/-- A non-zero `ConsumeSimpleString` is exactly `ConsumeString`'s answer (either UTF-8 mode),
and the string is verbatim and canonical (no flag set). -/
theorem simple_string_sound (b : Bytes) (v : Bool) (n : Nat) (h : consumeSimpleString b = n) (hn : n > 0) :
    consumeString b v = (n, {}, .ok) := by
  subst h; exact simple_string_sound' b v (by omega)

example : consumeSimpleString [0x22, 0x61, 0x22, 0x3A] = 3 := by decide

/-- Soundness of `ConsumeString`: what it accepts is a string of the grammar, in strict mode
(`validateUTF8 = true`: well-formed UTF-8, surrogate escapes paired) or in lax mode. -/
theorem string_sound (b : Bytes) (v : Bool) (n : Nat) (f : ValueFlags) (h : consumeString b v = (n, f, .ok)) :
    n ≤ b.length ∧ JString v (b.take n) :=
  consumeString_sound b v n f h

/-- Completeness of `ConsumeString`: a string of the grammar at the start of the input is accepted, with
exactly its length (either UTF-8 mode; in lax mode raw bytes ≥ 0x80 and unpaired surrogate escapes are chars). -/
theorem string_complete (b : Bytes) (v : Bool) (n : Nat) (hn : n ≤ b.length) (h : JString v (b.take n)) :
    ∃ f, consumeString b v = (n, f, .ok) :=
  consumeString_complete b v n hn h

/-- `ConsumeString(b, validateUTF8)` accepts `n` bytes ⇔ the first `n` bytes are a string of the grammar
(all byte strings, both UTF-8 modes).  In particular a surrogate escape is accepted under strict
UTF-8 only as the first half of a high/low pair. -/
theorem string_iff (b : Bytes) (v : Bool) (n : Nat) :
    (∃ f, consumeString b v = (n, f, .ok)) ↔ n ≤ b.length ∧ JString v (b.take n) :=
  ⟨fun ⟨f, h⟩ => consumeString_sound b v n f h, fun ⟨hn, h⟩ => consumeString_complete b v n hn h⟩

/-- strings are prefix-free (so the end of a string is determined by the grammar alone) -/
theorem string_prefix_free (v : Bool) (p q : Bytes) (hp : JString v p) (hq : JString v q) (hpq : p <+: q) : p = q :=
  hp.prefix_free hq hpq

-- a low surrogate escape followed by a low surrogate escape is rejected by the model in strict mode
example : consumeString [0x22, 0x5C, 0x75, 0x64, 0x65, 0x61, 0x64, 0x5C, 0x75, 0x64, 0x65, 0x61, 0x64, 0x22] true
    = (1, ⟨true, true⟩, .invalidEscape) := by decide

-- `"a\u00e9"` + `,` : 10 bytes accepted, non-verbatim (flag 1) and non-canonical (flag 2: é must not be escaped)
example : consumeString [0x22, 0x61, 0x5C, 0x75, 0x30, 0x30, 0x65, 0x39, 0x22, 0x2C] true = (9, ⟨true, true⟩, .ok) := by decide

/-! ### Values: the validator (Value.IsValid / ReadValue) against the grammar -/

/-- the grammar options selected by the decoder options.  (`gopts` and `nameKey` are `WireValue.G` and
`WireValue.nameKey` written out again; the lemmas are stated with those, and the theorems below apply them as they
are because the two pairs unfold to the same terms.) -/
def gopts (o : VOpts) : GOpts := ⟨!o.allowInvalidUTF8, o.allowDup⟩

/-- the text names are compared by: the model of what `objectNamespace.insertQuoted` stores
(the name unescaped by AppendUnquote, or its inner bytes when the scanner found it verbatim) -/
def nameKey (o : VOpts) (quoted : Bytes) : Bytes := unescapedName quoted (valueString o quoted).2.1

/-- Soundness of the value path: whatever `consumeValue` accepts at depth `d + 1` (the decoder's
one-based depth) is a value of the RFC 8259 grammar nested at most `maxNestingDepth` deep, with strings in
the selected UTF-8 mode and — unless AllowDuplicateNames — member names of every object pairwise
different after unescaping. -/
theorem value_sound (o : VOpts) (fuel d : Nat) (r : Bytes) (n : Nat) (hd : d ≤ maxNestingDepth)
    (h : consumeValue o fuel (d + 1) r = (n, .ok)) :
    n ≤ r.length ∧ JValue (gopts o) maxNestingDepth (nameKey o) d (r.take n) :=
  (sound_all o fuel).1 d r n hd h

/-- Soundness of `Value.IsValid`: accepted ⇒ `ws value ws` of the grammar instance selected by the
options (RFC 7493 by default: strict UTF-8, unique names). -/
theorem valid_sound (o : VOpts) (b : Bytes) (h : isValid o b = true) :
    JText (gopts o) maxNestingDepth (nameKey o) b := by
  unfold isValid at h
  have : (validText o b).2 = .ok := by simpa using h
  exact validText_sound o b (validText o b).1 (Prod.ext rfl this)

/-- "`fuelFor` suffices": the validator model never answers with the artificial out-of-fuel class, for any
input (the fuel `3·|b| + 4` covers the at most three nested calls per consumed byte). -/
theorem valid_no_fuel (o : VOpts) (b : Bytes) : (validText o b).2 ≠ .fuel :=
  JsonV.Lemmas.WireFuel.validText_no_fuel o b

/-- Soundness of the stream recogniser: a ReadValue loop that ends with io.EOF has read a concatenation of
texts of the grammar separated by optional whitespace — io.EOF is reported only at a value boundary. -/
theorem stream_sound (o : VOpts) (b : Bytes) (cnt off : Nat) (h : stream o b = (cnt, off, .ioEOF)) :
    JStream (gopts o) maxNestingDepth (nameKey o) b :=
  JsonV.Lemmas.WireFuel.stream_sound' o b cnt off h

/-- Completeness of the value path: every value of the grammar instance selected by the options is accepted
at every depth it can occur, with exactly its length, whatever follows it — provided what follows is nothing or
starts with a delimiter (blank, `,`, `]`, `}`), which only matters for numbers — and given the fuel `3·|input| + 1`. -/
theorem value_complete (o : VOpts) (d : Nat) (v rest : Bytes) (fuel : Nat)
    (h : JValue (gopts o) maxNestingDepth (nameKey o) d v)
    (hrest : ∀ c t, rest = c :: t → (isWs c || c == 0x2C || c == 0x5D || c == 0x7D) = true)
    (hf : 3 * (v ++ rest).length + 1 ≤ fuel) :
    consumeValue o fuel (d + 1) (v ++ rest) = (v.length, .ok) :=
  (JsonV.Lemmas.WireComplete.value_complete o d v h).1 rest fuel
    (JsonV.Lemmas.WireComplete.follow_of_delim v rest hrest) hf

/-- Completeness of `Value.IsValid`: every text `ws value ws` of the grammar instance selected by the options
(nesting ≤ 10000; strict UTF-8 and paired surrogates unless AllowInvalidUTF8; names unique after unescaping unless
AllowDuplicateNames) is accepted. -/
theorem valid_complete (o : VOpts) (b : Bytes) (h : JText (gopts o) maxNestingDepth (nameKey o) b) :
    isValid o b = true := by
  have := JsonV.Lemmas.WireComplete.validText_complete o b h
  simp [isValid, this]

/-- **Value.IsValid accepts exactly the grammar**, for every byte string and every combination of the two options. -/
theorem valid_iff (o : VOpts) (b : Bytes) :
    isValid o b = true ↔ JText (gopts o) maxNestingDepth (nameKey o) b :=
  ⟨valid_sound o b, valid_complete o b⟩

-- a text of the grammar: `[1]`
example : JText (gopts {}) maxNestingDepth (nameKey {}) [0x5B, 0x31, 0x5D] :=
  (valid_iff {} _).1 (by decide +kernel)

/-- Completeness of the stream recogniser: a stream of the grammar is read to a clean io.EOF at its very end. -/
theorem stream_complete (o : VOpts) (b : Bytes) (h : JStream (gopts o) maxNestingDepth (nameKey o) b) :
    ∃ cnt, stream o b = (cnt, b.length, .ioEOF) :=
  JsonV.Lemmas.WireComplete.stream_complete o b h

/-- **Over a stream, the ReadValue loop accepts exactly the grammar**: it reaches io.EOF — at the very end of the
input — iff the input is a concatenation of texts separated by optional whitespace, read with maximal munch for
numbers (see `JStream`: `1.52.5` is NOT accepted although `1.5` and `2.5` are texts). -/
theorem stream_iff (o : VOpts) (b : Bytes) :
    (∃ cnt, stream o b = (cnt, b.length, .ioEOF)) ↔ JStream (gopts o) maxNestingDepth (nameKey o) b :=
  ⟨fun ⟨cnt, h⟩ => stream_sound o b cnt b.length h, stream_complete o b⟩

/-- io.EOF can only be reported at the end of the input (never in front of unread bytes). -/
theorem stream_eof_at_end (o : VOpts) (b : Bytes) (cnt off : Nat) (h : stream o b = (cnt, off, .ioEOF)) :
    off = b.length := by
  obtain ⟨cnt', h'⟩ := stream_complete o b (stream_sound o b cnt off h)
  rw [h] at h'
  simpa using congrArg (fun x => x.2.1) h'

-- `1 2` is a stream of two values; in `1.52.5` the second read fails at offset 4
example : stream {} [0x31, 0x20, 0x32] = (2, 3, .ioEOF) := by decide +kernel
example : stream {} [0x31, 0x2E, 0x35, 0x32, 0x2E, 0x35] = (1, 4, .invalidChar) := by decide +kernel

/-! ### Read by tokens or by values -/

/-- **The token path and the value path give the same verdict**: for every byte string (shorter than 2^61 bytes —
the state machine packs its counters into 61 bits — which every Go slice is) and every combination of the two
options, the ReadToken loop (Model/TokenLoop.lean: `readToken` over slice C06's state machine, with the duplicate-name
namespaces) reads the input as exactly one complete top-level value followed by io.EOF iff `Value.IsValid`'s value
path accepts it.  Proved by a simulation that follows the value path's recursion: wherever the value path accepts
a value the token loop reads its tokens and arrives in the corresponding machine state, wherever it rejects the
token loop does not end with io.EOF either (Lemmas/WireTokenSim.lean). -/
theorem token_value (o : VOpts) (b : Bytes) (hlen : b.length + 2 < 2 ^ 61) :
    Model.TokenLoop.isValidByTokens o b = isValid o b :=
  JsonV.Lemmas.WireTokenTop.token_valid_eq o b hlen

/-- Hence the token path accepts exactly the grammar as well. -/
theorem tokens_iff (o : VOpts) (b : Bytes) (hlen : b.length + 2 < 2 ^ 61) :
    Model.TokenLoop.isValidByTokens o b = true ↔ JText (gopts o) maxNestingDepth (nameKey o) b := by
  rw [token_value o b hlen]; exact valid_iff o b

/-- `tokens_complete` / `tokens_sound`, the two halves spelled out -/
theorem tokens_complete (o : VOpts) (b : Bytes) (hlen : b.length + 2 < 2 ^ 61)
    (h : JText (gopts o) maxNestingDepth (nameKey o) b) : Model.TokenLoop.isValidByTokens o b = true :=
  (tokens_iff o b hlen).2 h

theorem tokens_sound (o : VOpts) (b : Bytes) (hlen : b.length + 2 < 2 ^ 61)
    (h : Model.TokenLoop.isValidByTokens o b = true) : JText (gopts o) maxNestingDepth (nameKey o) b :=
  (tokens_iff o b hlen).1 h

-- `{"a":[1,null]}` read by tokens: one value, clean end
example : Model.TokenLoop.isValidByTokens {} [0x7B, 0x22, 0x61, 0x22, 0x3A, 0x5B, 0x31, 0x2C, 0x6E, 0x75, 0x6C, 0x6C, 0x5D, 0x7D] = true := by
  decide +kernel

/-- **Stream-level agreement**: over any input (shorter than 2^61 bytes) the ReadToken loop and the ReadValue loop
complete the same number of top-level values, and one ends with io.EOF iff the other does. -/
theorem token_stream (o : VOpts) (b : Bytes) (hlen : b.length + 2 < 2 ^ 61) :
    (Model.TokenLoop.tokens o b).1 = (stream o b).1 ∧
    ((Model.TokenLoop.tokens o b).2.2 = .ioEOF ↔ (stream o b).2.2 = .ioEOF) :=
  JsonV.Lemmas.WireTokenTop.token_stream_eq o b hlen

/-- Hence the ReadToken loop, too, ends with io.EOF exactly on the streams of the grammar. -/
theorem tokens_stream_iff (o : VOpts) (b : Bytes) (hlen : b.length + 2 < 2 ^ 61) :
    (Model.TokenLoop.tokens o b).2.2 = .ioEOF ↔ JStream (gopts o) maxNestingDepth (nameKey o) b := by
  rw [(token_stream o b hlen).2]
  constructor
  · intro h
    rcases hs : stream o b with ⟨cnt, off, e⟩
    rw [hs] at h
    simp only at h; subst h
    exact stream_sound o b cnt off hs
  · intro h
    obtain ⟨cnt, hc⟩ := stream_complete o b h
    rw [hc]

/-! ### Glue with slice C05 (Model/Resume.lean): the two model copies of the scanners are equal -/

section Glue
open JsonV.Lemmas.GlueResume

/-- `Resume.consumeWhitespace` is `Wire.consumeWhitespace`. -/
theorem glue_whitespace (b : Bytes) : Model.Resume.consumeWhitespace b = consumeWhitespace b := ws_eq b

/-- `Resume.consumeLiteral` is `Wire.consumeLiteral` (error enums identified by `eR`). -/
theorem glue_literal (b lit : Bytes) :
    ((Model.Resume.consumeLiteral b lit).1, eR (Model.Resume.consumeLiteral b lit).2) = consumeLiteral b lit :=
  lit_eq b lit

/-- `Resume.consumeNumberResumable` is `Wire.consumeNumberResumable`, for every buffer, resume offset and
state word: C05's resumability theorems (`num_resume`, `num_stable`, `chunk_indep_num`) are theorems
about the scanner the grammar theorems above speak about. -/
theorem glue_number (b : Bytes) (off st : Nat) :
    mapNum (Model.Resume.consumeNumberResumable b off st) = consumeNumberResumable b off st :=
  number_resumable_eq b off st

/-- Chunk independence meets the grammar: however the input is cut into chunks `c :: cs`, the decoder's
refill loop for numbers (`decoderState.consumeNumber`, modelled by C05) answers `(n, nil)` exactly when
the first `n` bytes of the concatenated input are a number of the grammar that cannot be extended. -/
theorem number_chunk_indep_grammar (c : Bytes) (cs : List Bytes) (n : Nat) :
    Model.Resume.consumeNumberChunks c 0 0 cs = (n, .ok) ↔
      n ≤ (c ++ cs.flatten).length ∧ JNumber ((c ++ cs.flatten).take n) ∧
        (n = (c ++ cs.flatten).length ∨ ¬ NumPrefix ((c ++ cs.flatten).take (n + 1))) := by
  rw [JsonV.Model.Resume.num_chunk_indep c cs, ← number_iff]
  generalize c ++ cs.flatten = b
  rw [wire_number_eq, Model.Resume.consumeNumberChunks]
  rcases Model.Resume.consumeNumberResumable b 0 0 with ⟨m, st, e⟩
  cases e <;> simp [eR]
  all_goals (split <;> simp_all)

theorem join_empty_left (f : ValueFlags) : ValueFlags.join {} f = f := empty_join f

/-- `Resume.consumeStringResumable` is `Wire.consumeStringResumable` (offset, flags joined onto the incoming
flags, error class), for every buffer, resume offset and UTF-8 mode. -/
theorem glue_string (f : Model.Resume.VFlags) (b : Bytes) (off : Nat) (v : Bool) :
    (Model.Resume.consumeStringResumable f b off v).1 = (consumeStringResumable b off v).1 ∧
    fR (Model.Resume.consumeStringResumable f b off v).2.1 = (fR f).join (consumeStringResumable b off v).2.1 ∧
    eR (Model.Resume.consumeStringResumable f b off v).2.2 = (consumeStringResumable b off v).2.2 :=
  string_resumable_eq f b off v

/-- C05's `str_resume`, transferred to the scanner of this slice: if scanning `b` ends in
io.ErrUnexpectedEOF with resume offset `n` and flags `f`, then for EVERY extension `e` resuming at `n`
answers what a fresh scan of `b ++ e` answers (offset, error class, and flags once `f` is joined in). -/
theorem string_resume_transfer (b e : Bytes) (v : Bool) (n : Nat) (f : ValueFlags)
    (h : consumeStringResumable b 0 v = (n, f, .eof)) :
    (consumeStringResumable (b ++ e) n v).1 = (consumeStringResumable (b ++ e) 0 v).1 ∧
    f.join (consumeStringResumable (b ++ e) n v).2.1 = (consumeStringResumable (b ++ e) 0 v).2.1 ∧
    (consumeStringResumable (b ++ e) n v).2.2 = (consumeStringResumable (b ++ e) 0 v).2.2 := by
  rw [wire_string_eq b 0 v] at h
  rcases hr : Model.Resume.consumeStringResumable .none b 0 v with ⟨n', f', e'⟩
  rw [hr] at h
  obtain ⟨rfl, rfl, he⟩ : n' = n ∧ fR f' = f ∧ eR e' = .eof := by simpa [mapStr] using h
  cases eR_inj e' .eof he
  obtain ⟨a1, a2, a3⟩ := glue_string f' (b ++ e) n' v
  rw [wire_string_eq (b ++ e) 0 v, ← JsonV.Model.Resume.str_resume_eq .none b e v n' f' hr]
  exact ⟨a1.symm, a2.symm, a3.symm⟩

/-- Chunk independence meets the grammar, for strings: however the input is cut into chunks, the decoder's
refill loop for strings (`decoderState.consumeString`, modelled by C05) answers `(n, _, nil)` exactly when the
first `n` bytes of the concatenated input are a string of the grammar (in the selected UTF-8 mode). -/
theorem string_chunk_indep_grammar (c : Bytes) (cs : List Bytes) (v : Bool) (n : Nat) :
    (∃ f, Model.Resume.consumeStringChunks .none c 0 v cs = (n, f, .ok)) ↔
      n ≤ (c ++ cs.flatten).length ∧ JString v ((c ++ cs.flatten).take n) := by
  rw [← string_iff, consumeString, wire_string_eq]
  simp only [JsonV.Model.Resume.str_chunk_indep]
  exact (mapStr_eq_iff (e := .ok)).symm

end Glue

end JsonV.Props.C01
