/-
C20 — Resource use is bounded: depth limit, cycle detection, termination.

The property theorems; most are read off Lemmas/Depth*.lean, `token_value_agree` and `ctx_example` are proved here.  `Gen.*` is regenerated from /repo on every
run (Tie A): the two constants the limits depend on.

What is proved here, for ALL inputs of the models:
* token path: the stack of the state machine never exceeds `max`; a push is refused with
  errMaxDepth exactly when the stack holds `max` entries; `max` nested pushes succeed, the next fails;
* value path: a nest entered at `Tokens.Depth() = start` is accepted iff `start + levels ≤ max+1`,
  refused with errMaxDepth otherwise — also when the innermost container is empty;
* both paths agree on the limit, also when a value is split between tokens and a raw value;
* marshal traversal of a heap graph ends (value or error) on EVERY finite graph (`cycle_bounded`);
  without the `pointsToPointerLike` clause of makePointerArshaler it does not end on `p = &p`
  (finding D2, fixed in repo commit 407e50b); with the `AtMaxDepth` guard no container is written
  at depth max+1, without it an empty slice/map is (finding D11, fixed in c2b1a73).
-/
import JsonV.Lemmas.DepthL
import JsonV.Lemmas.DepthValueL
import JsonV.Lemmas.DepthCycleL
import JsonV.Lemmas.DepthTree
import JsonV.Lemmas.DepthTerm
import JsonV.Lemmas.FormatMain
import JsonV.Lemmas.FieldsFuel
import JsonV.Lemmas.FieldsEscape
import JsonV.Lemmas.CmpL
import JsonV.Lemmas.GlueMeaningFuel
import JsonV.Lemmas.ResumeNum
import JsonV.Model.TokenLoop
import JsonV.Lemmas.ResumeStreamCons
import JsonV.Props.C01
import JsonV.Gen.Constants

namespace JsonV.Props.C20
open JsonV.Model JsonV.Model.Depth JsonV.Model.Cycle
open JsonV.Lemmas.DepthL JsonV.Lemmas.DepthValueL JsonV.Lemmas.DepthCycleL

theorem maxNestingDepth_eq : JsonV.Gen.jsontext.c_maxNestingDepth = 10000 := by decide

theorem startDetectingCyclesAfter_eq : JsonV.Gen.json.c_startDetectingCyclesAfter = 1000 := by decide

/-- cycle detection starts before the depth limit is reached (otherwise a cycle through slices would be
reported as "exceeded max depth" at best) -/
theorem cycle_detection_before_limit :
    JsonV.Gen.json.c_startDetectingCyclesAfter + 1 < JsonV.Gen.jsontext.c_maxNestingDepth := by decide

/-- `depth_inv`: whatever sequence of successful calls drives the machine, the stack holds at most
`max` entries, i.e. `Depth() ≤ max+1`. -/
theorem depth_inv (max : Nat) (m : Machine) (h : Reach max m) :
    m.stack.length ≤ max ∧ m.depth ≤ max + 1 := by
  have := reach_stack_le h
  exact ⟨this, by simp [Machine.depth]; exact this⟩

/-- the same for any script of calls, failing ones included (a failed call changes nothing) -/
theorem depth_inv_script (max : Nat) (ops : List Op) :
    (run max ops Machine.init).depth ≤ max + 1 ∧ Reach max (run max ops Machine.init) := by
  refine ⟨?_, run_reach max ops _ Reach.init⟩
  have := run_stack_le max ops Machine.init (by simp [Machine.init])
  simp [Machine.depth]; exact this

example : Reach 2 (run 2 [.pushA, .pushO, .str, .pushA, .lit] Machine.init) ∧
    (run 2 [.pushA, .pushO, .str, .pushA, .lit] Machine.init).depth = 3 :=
  ⟨(depth_inv_script 2 _).2, by decide⟩

/-- `push_fails_iff`: a push is refused with errMaxDepth iff the earlier checks pass and the stack
holds exactly `max` entries. -/
theorem push_fails_iff (max : Nat) (m : Machine) :
    (m.pushArray max = .error .maxDepth ↔
      (m.last.needObjectName = false ∧ m.last.isValidNamespace = true ∧ m.stack.length = max)) ∧
    (m.pushObject max = .error .maxDepth ↔
      (m.last.needObjectName = false ∧ m.last.isValidNamespace = true ∧ m.stack.length = max)) :=
  ⟨pushArray_maxDepth_iff max m, pushObject_maxDepth_iff max m⟩

/-- …and succeeds iff the earlier checks pass and the stack holds fewer (by `depth_inv`: not exactly `max`). -/
theorem push_ok_iff (max : Nat) (m : Machine) :
    ((∃ m', m.pushArray max = .ok m') ↔
      (m.last.needObjectName = false ∧ m.last.isValidNamespace = true ∧ m.stack.length ≠ max)) ∧
    ((∃ m', m.pushObject max = .ok m') ↔
      (m.last.needObjectName = false ∧ m.last.isValidNamespace = true ∧ m.stack.length ≠ max)) :=
  ⟨pushArray_ok_iff max m, pushObject_ok_iff max m⟩

example : Machine.pushArray 0 Machine.init = .error .maxDepth :=
  (push_fails_iff 0 Machine.init).1.2 ⟨by decide, by decide, rfl⟩
example : ∃ m', Machine.pushArray 1 Machine.init = .ok m' := ⟨_, rfl⟩

/-- `accept_max_refuse_next`: from reset, any mix of `n ≤ max` nested containers is accepted and
leaves `Depth() = n+1`; any mix of more than `max` is refused with errMaxDepth. -/
theorem accept_max_refuse_next (max : Nat) (ks : List Bool) :
    (ks.length ≤ max → ∃ m', pushes max ks Machine.init = .ok m' ∧ m'.depth = ks.length + 1) ∧
    (max < ks.length → pushes max ks Machine.init = .error .maxDepth) := by
  constructor
  · intro h
    obtain ⟨m', h1, h2, _⟩ := pushes_ok max ks Machine.init fresh_init (by simpa [Machine.init] using h)
    exact ⟨m', h1, by simp [Machine.depth, h2, Machine.init]⟩
  · intro h
    exact pushes_refused max ks Machine.init fresh_init (by simp [Machine.init]) (by simpa [Machine.init] using h)

/-- with the constant of the source: exactly 10000 is accepted, 10001 is refused -/
theorem token_limit_10000 (ks : List Bool) :
    (ks.length = 10000 → ∃ m', pushes JsonV.Gen.jsontext.c_maxNestingDepth ks Machine.init = .ok m' ∧ m'.depth = 10001) ∧
    (ks.length = 10001 → pushes JsonV.Gen.jsontext.c_maxNestingDepth ks Machine.init = .error .maxDepth) := by
  rw [maxNestingDepth_eq]
  constructor
  · intro h
    obtain ⟨m', h1, h2⟩ := (accept_max_refuse_next 10000 ks).1 (by omega)
    exact ⟨m', h1, by omega⟩
  · intro h
    exact (accept_max_refuse_next 10000 ks).2 (by omega)

example : ∃ ks : List Bool, ks.length = 10001 := ⟨List.replicate 10001 true, List.length_replicate⟩

/-- A nest of `ks.length` levels (any mix) around a scalar, entered at `Tokens.Depth() = start`
with `start ≤ max+1` (true by `depth_inv`), is accepted iff `start + ks.length ≤ max + 1`. -/
theorem nestDepthOk_iff (max start : Nat) (ks : List Bool) (hs : start ≤ max + 1) :
    nestDepthOk max start (nest ks) = true ↔ start + ks.length ≤ max + 1 := by
  unfold nestDepthOk
  by_cases h : start + ks.length ≤ max + 1
  · have := value_nest_ok max start (2 * (nest ks).length + 1) ks [] h (by rw [nest_length]; omega)
    simp only [List.append_nil] at this
    simp [this, h]
  · have := value_nest_refused max start (2 * (nest ks).length + 1) ks [] hs (by omega) (by rw [nest_length]; omega)
    simp only [List.append_nil] at this
    simp [this, h]

/-- …and the refusal is errMaxDepth (not a syntax error, not exhaustion of the model's fuel). -/
theorem nest_refusal_is_maxDepth (max start : Nat) (ks : List Bool) (hs : start ≤ max + 1)
    (h : max + 1 < start + ks.length) :
    value max (2 * (nest ks).length + 1) start (nest ks) = .error .maxDepth := by
  have := value_nest_refused max start (2 * (nest ks).length + 1) ks [] hs h (by rw [nest_length]; omega)
  simpa using this

/-- An empty innermost container is a level like any other on the value path (the test precedes the
`[]`/`{}` shortcut) — unlike the marshal shortcut for empty slices and maps, see Model/Cycle.lean. -/
theorem nestEmpty_iff (max start : Nat) (ks : List Bool) (k : Bool) (hs : start + ks.length ≤ max + 1) :
    nestDepthOk max start (nestEmpty ks k) = true ↔ start + ks.length + 1 ≤ max + 1 := by
  unfold nestDepthOk
  by_cases h : start + ks.length + 1 ≤ max + 1
  · have := value_nestEmpty_ok max start (2 * (nestEmpty ks k).length + 1) ks k [] h (by rw [nestEmpty_length]; omega)
    simp only [List.append_nil] at this
    simp [this, h]
  · have := value_nestEmpty_refused max start (2 * (nestEmpty ks k).length + 1) ks k [] (by omega) (by rw [nestEmpty_length]; omega)
    simp only [List.append_nil] at this
    simp [this, h]

/-- with the constant of the source, from the top level: 10000 levels accepted, 10001 refused -/
theorem value_limit_10000 (ks : List Bool) :
    (ks.length = 10000 → nestDepthOk JsonV.Gen.jsontext.c_maxNestingDepth 1 (nest ks) = true) ∧
    (ks.length = 10001 → nestDepthOk JsonV.Gen.jsontext.c_maxNestingDepth 1 (nest ks) = false) := by
  rw [maxNestingDepth_eq]
  constructor
  · intro h; exact (nestDepthOk_iff 10000 1 ks (by omega)).2 (by omega)
  · intro h
    cases hb : nestDepthOk 10000 1 (nest ks) with
    | false => rfl
    | true => have := (nestDepthOk_iff 10000 1 ks (by omega)).1 hb; omega

/-- The `==` in `depth == maxNestingDepth+1` is sound only because of `depth_inv`: entered beyond the
invariant the test never fires.  (So `depth_inv` is a proof obligation of the value path, not a nicety.) -/
theorem value_test_needs_depth_inv (max : Nat) (ks : List Bool) (rest : List Sym) (start : Nat)
    (h : max + 1 < start) : value max (2 * ks.length + 1) start (nest ks ++ rest) = .ok rest := by
  rw [nest, List.append_assoc, Nat.add_comm]
  exact wrap max [Sym.sc] 1 (.ok ()) ⟨_, _, rfl, by decide, by decide⟩ ks start rest (fun _ => rfl) fun i _ => by omega

/-- Descend `ks1` levels by tokens, then hand the remaining `ks2` levels to the value path:
accepted iff the whole nest has at most `max` levels — the same verdict as descending by tokens. -/
theorem token_value_agree (max : Nat) (ks1 ks2 : List Bool) (m : Machine)
    (h : pushes max ks1 Machine.init = .ok m) :
    (nestDepthOk max m.depth (nest ks2) = true ↔ ks1.length + ks2.length ≤ max) ∧
    ((∃ m', pushes max ks2 m = .ok m') ↔ ks1.length + ks2.length ≤ max) := by
  have hle : 0 + ks1.length ≤ max := (pushes_ok_iff max ks1 _ fresh_init (Nat.zero_le _)).1 ⟨m, h⟩
  obtain ⟨m0, h0, hlen, hf⟩ := pushes_ok max ks1 Machine.init fresh_init hle
  rw [h] at h0; cases h0
  rw [Nat.zero_add] at hle
  have hlen' : m.stack.length = ks1.length := hlen.trans (Nat.zero_add _)
  constructor
  · rw [nestDepthOk_iff max m.depth ks2 (Nat.succ_le_succ (hlen' ▸ hle)), Machine.depth, hlen']
    omega
  · rw [pushes_ok_iff max ks2 m hf (hlen' ▸ hle), hlen']

example : ∃ m, pushes 3 [true, false] Machine.init = .ok m :=
  ((accept_max_refuse_next 3 [true, false]).1 (by decide)).imp fun _ h => h.1

/-- the traversal of the current code: both clauses present, constants of the source -/
def srcCfg : Cfg := { max := JsonV.Gen.jsontext.c_maxNestingDepth, after := JsonV.Gen.json.c_startDetectingCyclesAfter }

/-- `cycle_bounded`: on EVERY finite heap graph, from any legal token depth and whatever the visited set,
the traversal as implemented (with the `pointsToPointerLike` clause of makePointerArshaler) ends with a
value or an error.  No hypothesis on the graph: dangling edges and interface-in-interface are answered
`dangling`, every cycle is cut by the visited set or by the depth limit. -/
theorem cycle_bounded (cfg : Cfg) (ht : cfg.trackPtrLike = true) (g : Heap) (depth : Nat) (seen : List Nat)
    (n : Nat) (hd : depth ≤ cfg.max + 1) :
    ∃ fuel, ∀ fuel', fuel ≤ fuel' → marshal cfg g fuel' depth seen n ≠ .outOfFuel :=
  ⟨(cfg.max + 1 - depth) * (3 * g.length + 3) + 3 * JsonV.Lemmas.Fields.U g.length seen + flag g n + 1, fun fuel' hf =>
    marshal_terminates cfg g ht fuel' depth seen n hd (by omega)⟩

/-- for the constants of the source, from the top level: an explicit bound on the recursion
(a few times `maxNestingDepth · |g|` calls deep) -/
theorem cycle_bounded_src (g : Heap) (n : Nat) :
    marshal srcCfg g (10001 * (3 * g.length + 3)) 1 [] n ≠ .outOfFuel := by
  apply marshal_terminates srcCfg g rfl _ 1 [] n (by simp [srcCfg])
  have hu := JsonV.Lemmas.Fields.U_le g.length []
  have hf := flag_le g n
  have : srcCfg.max + 1 - 1 = 10000 := by simp [srcCfg, maxNestingDepth_eq]
  rw [this]
  omega

/-- With the clause the pointer-only cycles are reported as cycles (`type P *P; p = &p`, `var x any; x = &x`). -/
theorem pointer_cycle_reported (cfg : Cfg) (ht : cfg.trackPtrLike = true) (fuel depth : Nat) :
    marshal cfg selfPtr (fuel + 2) depth [] 0 = .cycle ∧
    marshal cfg selfIface (fuel + 4) depth [] 0 = .cycle :=
  ⟨selfPtr_cycle cfg ht fuel depth, selfIface_cycle cfg ht fuel depth⟩

/-- The clause is necessary: WITHOUT it (the traversal before repo commit 407e50b, finding D2) no amount
of fuel ends the traversal of `p = &p` or of `x = &x` — the visited set is then consulted only when
`Tokens.Depth() > startDetectingCyclesAfter`, and a pointer hop does not change the token depth. -/
theorem pointer_cycle_unbounded_without_clause (cfg : Cfg) (ht : cfg.trackPtrLike = false) (h : 1 ≤ cfg.after) :
    ∀ fuel, marshal cfg selfPtr fuel 1 [] 0 = .outOfFuel ∧ marshal cfg selfIface fuel 1 [] 0 = .outOfFuel :=
  fun fuel => ⟨selfPtr_diverges_old cfg ht fuel 1 [] h, (selfIface_diverges_old cfg ht fuel 1 [] h).1⟩

example : (1 : Nat) ≤ ({ srcCfg with trackPtrLike := false } : Cfg).after := by decide

/-- With the `AtMaxDepth` guard on every shortcut that skips WriteToken (repo commit c2b1a73 for empty slices
and maps; true of the source configuration, where structs and arrays have no shortcut at all), no container is
written at `Depth() = max+1`, empty or not: the answer is errMaxDepth (or the cycle error). -/
theorem container_at_limit (cfg : Cfg) (hg : ∀ k, cfg.shortcut k = true → cfg.guarded k = true) (g : Heap) (fuel : Nat)
    (seen : List Nat) (n : Nat) (nd : Node) (hn : g[n]? = some nd) (hk : nd.kind.deepens = true) :
    marshal cfg g (fuel + 1) (cfg.max + 1) seen n = .maxDepth ∨ marshal cfg g (fuel + 1) (cfg.max + 1) seen n = .cycle := by
  rw [container_at_limit_refused cfg g fuel seen n nd hn hk (hg nd.kind)]
  split <;> simp

/-- the hypothesis holds of the source configuration -/
example : ∀ k, srcCfg.shortcut k = true → srcCfg.guarded k = true := fun _ _ => rfl

/-- The guard is necessary on EVERY such shortcut: one that lacks it writes an empty container at
`Depth() = max+1` — empty slices/maps before c2b1a73 (finding D11), or a fast path for member-less structs
that forgets the guard. -/
theorem empty_container_accepted_without_guard (cfg : Cfg) (g : Heap) (fuel : Nat)
    (n : Nat) (nd : Node) (hn : g[n]? = some nd) (hk : nd.kind.deepens = true)
    (hsc : cfg.shortcut nd.kind = true) (hg : cfg.guarded nd.kind = false) (he : nd.succ = []) :
    marshal cfg g (fuel + 1) (cfg.max + 1) [] n = .ok :=
  unguarded_shortcut_accepts cfg g fuel [] n nd hn hk hsc hg he (by simp)

/-- a configuration with an UNGUARDED `{}` shortcut for member-less structs (not the source) -/
def structShortcutCfg : Cfg where
  max := 2
  after := 1000
  shortcut := fun k => k == Kind.slice || k == Kind.map || k == Kind.struct
  guarded := fun k => k != Kind.struct

/-- at max = 2: three nested slices with an empty innermost one are refused, like the text `[[[]]]`
on the value path; the old shortcut wrote them; so does an unguarded shortcut for a member-less struct
innermost.  (Illustrations, not theorems.) -/
example : marshal { max := 2, after := 1000 } [⟨.slice, [1]⟩, ⟨.slice, [2]⟩, ⟨.slice, []⟩] 10 1 [] 0 = .maxDepth := by decide
example : marshal { max := 2, after := 1000, guarded := (fun _ => false) } [⟨.slice, [1]⟩, ⟨.slice, [2]⟩, ⟨.slice, []⟩] 10 1 [] 0 = .ok := by decide
example : marshal { max := 2, after := 1000 } [⟨.slice, [1]⟩, ⟨.slice, [2]⟩, ⟨.struct, []⟩] 10 1 [] 0 = .maxDepth := by decide
example : marshal structShortcutCfg [⟨.slice, [1]⟩, ⟨.slice, [2]⟩, ⟨.struct, []⟩] 10 1 [] 0 = .ok := by decide
example : nestDepthOk 2 1 (nestEmpty [false, false] false) = false := by decide

/-! ### Value path on ARBITRARY texts (wire's model of consumeValue/consumeArray/consumeObject, the grammar of
Spec/Grammar.lean parameterised by the nesting limit): trees with siblings, names, strings, whitespace -/

section Trees
open JsonV.Model.Validate JsonV.Spec.Grammar JsonV.Lemmas.WireValue JsonV.Lemmas.WireComplete JsonV.Lemmas.DepthTree

/-- `G o` is the grammar instance of the options (Props/C01.lean calls it `gopts`). -/
abbrev TextWithin (o : VOpts) (k : Nat) (b : Bytes) : Prop := JText (G o) k (nameKey o) b

/-- the limit of wire's value-path model is the constant of the source -/
theorem tree_limit_tie : Validate.maxNestingDepth = 10000 := by decide

/-- **Accepted**: every text of the grammar whose nesting is at most `k ≤ 10000` — any tree, with siblings —
is accepted by `Value.IsValid` (corollary of C01 `valid_iff` and monotonicity of the grammar in the limit). -/
theorem tree_depth_accepted (o : VOpts) (k : Nat) (hk : k ≤ 10000) (b : Bytes) (h : TextWithin o k b) :
    isValid o b = true :=
  JsonV.Props.C01.valid_complete o b (jtext_mono (by rw [tree_limit_tie]; exact hk) h)

/-- …and a text is accepted IFF it is a text of the grammar with nesting at most 10000.  (The hypothesis is not
used: the equivalence holds of every `b`.) -/
theorem tree_depth_iff (o : VOpts) (M : Nat) (b : Bytes) (_h : TextWithin o M b) :
    isValid o b = true ↔ TextWithin o Validate.maxNestingDepth b :=
  JsonV.Props.C01.valid_iff o b

/-- **Refused, with the depth error, at the offset of the offending bracket — whatever follows it.**
`Ctx o 0 p`: `p` opens 10000 nested containers from the top level, every earlier sibling on the way being a complete
value within the limit (objects: with their names, unique unless AllowDuplicateNames, and the colon of the
member being entered).  The next opening bracket would be level 10001: `validText` (IsValid / ReadValue /
Unmarshal's framing) answers errMaxDepth with ByteOffset = the offset of that bracket.  The remainder `rest` is
arbitrary — the refusal does not depend on the text being well-formed after the bracket. -/
theorem tree_bracket_refused (o : VOpts) (w p : Bytes) (c : UInt8) (rest : Bytes) (hw : JWs w) (hctx : Ctx o 0 p)
    (hc : c = 0x5B ∨ c = 0x7B) :
    validText o (w ++ (p ++ c :: rest)) = (w.length + p.length, .maxDepth) :=
  validText_ctx o w p c rest hw hctx hc

/-- **Every text of the grammar whose nesting exceeds 10000** (a text within some limit `M` that is not a text
within 10000 — e.g. `M = 10001`: nesting exactly 10001) **is refused with errMaxDepth at the offset of its first
bracket at nesting 10001**: it decomposes as blanks, a context, that bracket and a remainder. -/
theorem tree_depth_rejected (o : VOpts) (M : Nat) (b : Bytes) (h : TextWithin o M b)
    (hn : ¬ TextWithin o Validate.maxNestingDepth b) :
    ∃ w p c rest, b = w ++ (p ++ c :: rest) ∧ JWs w ∧ Ctx o 0 p ∧ (c = 0x5B ∨ c = 0x7B) ∧
      validText o b = (w.length + p.length, .maxDepth) ∧ isValid o b = false := by
  obtain ⟨w1, v, w2, hw1, hv, hw2, rfl⟩ := h
  have hnv : ¬ JV o 0 v := fun hjv => hn ⟨w1, v, w2, hw1, hjv, hw2, rfl⟩
  obtain ⟨p, c, rest, rfl, hctx, hc⟩ := exceeds_has_ctx o M hv (Nat.zero_le _) hnv
  have hval := validText_ctx o w1 p c (rest ++ w2) hw1 hctx hc
  rw [show w1 ++ (p ++ c :: rest) ++ w2 = w1 ++ (p ++ c :: (rest ++ w2)) by simp [List.append_assoc]]
  exact ⟨w1, p, c, rest ++ w2, rfl, hw1, hctx, hc, hval, by unfold isValid; rw [hval]; rfl⟩

/-- the hypotheses are satisfiable: `[` ×10000 is a context from the top level … -/
theorem ctx_example : Ctx {} 0 (List.replicate 10000 0x5B) := by
  have key : ∀ n d, d + n = Validate.maxNestingDepth → Ctx {} d (List.replicate n 0x5B) := by
    intro n
    induction n with
    | zero => intro d hd; simp at hd; subst hd; exact .here
    | succ n ih =>
      intro d hd
      have := Ctx.arr (o := {}) d [] [] (List.replicate n 0x5B) (by omega) (by simp) (by simp) JWs.nil (ih (d + 1) (by omega))
      simpa [sepd, List.replicate_succ] using this
  exact key 10000 0 (by rw [tree_limit_tie])

/-- … so `[`×10001 followed by ANYTHING is refused at offset 10000 -/
example (rest : Bytes) : validText {} (List.replicate 10000 0x5B ++ 0x5B :: rest) = (10000, .maxDepth) := by
  have := tree_bracket_refused {} [] (List.replicate 10000 0x5B) 0x5B rest JWs.nil ctx_example (Or.inl rfl)
  rw [List.nil_append, List.length_nil, Nat.zero_add, List.length_replicate] at this
  exact this

end Trees

/-! ### Termination of the modelled loops: no model ever exhausts its fuel

Each model of a Go loop carries explicit fuel; `terminates_*` says that the fuel the model is started with is never
exhausted, for EVERY input — i.e. the modelled loop terminates.  What each covers in /repo:

* `terminates_validText`, `terminates_readValue`: jsontext/decode.go consumeValue / consumeObject / consumeArray
  (recursion and both `for` loops), with internal/jsonwire/decode.go ConsumeWhitespace, ConsumeLiteral,
  ConsumeSimpleString / ConsumeStringResumable (the rune loop), ConsumeSimpleNumber / ConsumeNumberResumable
  — as used by Value.IsValid, Decoder.ReadValue, Unmarshal's framing and v1.Valid (C01, C09);
* `terminates_stream`: the caller's `for { ReadValue }` loop over a stream until io.EOF or an error (C01 model);
* `terminates_lex`: the lexer of the Format/Compact/Indent model (one step per lexeme or blank; C12);
* `terminates_structFields`: the breadth-first walk of makeStructFields over embedded struct types, including
  recursive type graphs (fields.go; C15), `terminates_needEscape`: jsonwire.NeedEscape's loop (C15);
* `terminates_compareUTF16`: the loop of jsonwire.CompareUTF16 (C13);
* `terminates_meaningParse`: the value/members/elements recursion of the meaning parser used by C03/C04 (any fuel
  ≥ 2·|b| gives the same answer as any successful run);
* `terminates_marshalTraversal` (`cycle_bounded_src` above): the recursion of marshal over Go values;
* `terminates_valueSkeleton`: the skeleton model of this file.
* `terminates_tokens`: the caller's `for { ReadToken }` loop (also the loop inside SkipValue), every input;
* `terminates_streaming`: the four refill loops of the streaming decoder, every finite list of reader events.
NOT covered by a no-fuel theorem (validated by the watchdogs of the harness only): Encoder.WriteValue's reformatValue
model (C06 proves its result when it succeeds, not fuel adequacy), v1.Indent's placeholder loop, Unmarshal's recursion
over Go values. -/

section Termination
open JsonV.Model.Validate

theorem terminates_validText (o : VOpts) (b : Bytes) : (validText o b).2 ≠ .fuel :=
  JsonV.Lemmas.WireFuel.validText_no_fuel o b

theorem terminates_readValue (o : VOpts) (fuel : Nat) (b : Bytes) (hf : 3 * b.length + 1 ≤ fuel) :
    (readValueTop o fuel b).2 ≠ .fuel :=
  JsonV.Lemmas.WireFuel.readValueTop_no_fuel o fuel b hf

theorem terminates_stream (o : VOpts) (b : Bytes) : (stream o b).2.2 ≠ .fuel :=
  JsonV.Lemmas.DepthTerm.stream_no_fuel o b

theorem terminates_lex (n : Nat) (b : Bytes) (h : b.length < n) : JsonV.Fmt.lexF n b = JsonV.Fmt.lex b :=
  JsonV.Fmt.lexF_fuel n (b.length + 1) b h (Nat.lt_succ_self _)

theorem terminates_structFields (g : JsonV.Model.Fields.Graph) (root : JsonV.Model.Fields.StructId) :
    (JsonV.Model.Fields.search g root).queue = [] :=
  JsonV.Lemmas.Fields.search_queue_nil g root

theorem terminates_needEscape (fuel : Nat) (b : Bytes) (h : b.length ≤ fuel) :
    JsonV.Model.Fields.needEscapeAux fuel b = JsonV.Model.Fields.needEscape b :=
  JsonV.Lemmas.Fields.needEscape_fuel fuel b h

theorem terminates_compareUTF16 (f : Nat) (x y : Bytes) (h : x.length ≤ f ∨ y.length ≤ f) :
    JsonV.Model.Compare.go f x y = JsonV.Model.Compare.compareUTF16 x y :=
  JsonV.Lemmas.CmpL.go_fuel f x.length x y h (Or.inl (Nat.le_refl _))

theorem terminates_meaningParse (n : Nat) : JsonV.Lemmas.GlueMeaningFuel.FuelOK n :=
  JsonV.Lemmas.GlueMeaningFuel.fuelOK n

theorem terminates_marshalTraversal (g : Heap) (n : Nat) :
    marshal srcCfg g (10001 * (3 * g.length + 3)) 1 [] n ≠ .outOfFuel := cycle_bounded_src g n

/-- the skeleton value path: more fuel never changes an answer (that `2·|text|+1` answers every nest is
`nestDepthOk_iff` / `nest_refusal_is_maxDepth`) -/
theorem terminates_valueSkeleton (max fuel fuel' depth : Nat) (inp : List Sym) (r : Except VErr (List Sym))
    (h : value max fuel depth inp = r) (hr : r ≠ .error .fuel) (hle : fuel ≤ fuel') : value max fuel' depth inp = r :=
  value_fuel_le max h hr hle

/-- The ReadToken loop model (`TokenLoop.tokens`: ReadToken until io.EOF or an error, the loop behind SkipValue and
the token-by-token callers) never exhausts its fuel `|b| + 1`, for EVERY input: a token consumes at least one byte
(the `bug` arm) and at most the remaining input, and no lexer reports the out-of-fuel class.  (No length bound is
needed; for inputs shorter than 2^61 bytes wire's `token_value`/`token_stream` (C01) then say what the answer is.) -/
theorem terminates_tokens (o : VOpts) (b : Bytes) : (JsonV.Model.TokenLoop.tokens o b).2.2 ≠ .fuel :=
  JsonV.Lemmas.DepthTerm.tokens_no_fuel o b

/-- The streaming decoder's refill loops (Model/Stream.lean `refill`: the `for { scan; if needs more { fetch; continue } }`
loops of decoderState.consumeWhitespace/consumeLiteral/consumeString/consumeNumber, decode.go:838-967) terminate for every
finite list of reader events: `refill` is defined by recursion on the event list — every re-entry of the scanner consumes
one event — and what it leaves is a suffix of the events it was given (a fault is reported only after a fault event).
That the answers of whole scripts of ReadToken/ReadValue/SkipValue over any chunking equal those of the whole-buffer
model (whose fuel is adequate by `terminates_validText`/`terminates_tokens`) is c05's `sim_full` (Props/C05.lean). -/
theorem terminates_streaming {α β : Type} (step : Bytes → α → α ⊕ β) (atEof : Bytes → α → β)
    (es : List JsonV.Model.Stream.Event) (v : Bytes) (a : α) :
    JsonV.Model.Stream.Consumed es (JsonV.Model.Stream.refill step atEof v a es).evs
      (JsonV.Model.Stream.refill step atEof v a es).isFault ∧
    (JsonV.Model.Stream.refill step atEof v a es).evs.length ≤ es.length := by
  have h := JsonV.Model.Stream.refill_consumed step atEof es v a
  exact ⟨h, h.length_le⟩

end Termination

/-! ### `scan_index_safe` at model level

The byte-scanner models (Model/WireDecode.lean, Model/Resume.lean, Model/Validate.lean, Model/TokenLoop.lean) contain
NO indexed access: no `b[i]!`, `get!`, `getD` or `head!` on bytes (the harness greps the sources on every run).  Every
byte is obtained by pattern matching on the remaining input with an explicit `[]` arm — the model's counterpart of
the Go guards `uint(len(b)) > uint(n)` / `d.needMore(pos)` — so an out-of-range access cannot be expressed.  What
remains to state is that the OFFSETS the scanners hand back (which the Go code uses to re-slice `d.buf[:pos]`)
are within the input: -/

section IndexSafe
open JsonV.Model.Wire JsonV.Model.Validate

theorem scan_index_safe (o : VOpts) (b : Bytes) :
    consumeWhitespace b ≤ b.length ∧
    (JsonV.Model.Resume.consumeNumberResumable b 0 0).1 ≤ b.length ∧
    (∀ v n f, consumeString b v = (n, f, .ok) → n ≤ b.length) ∧
    (∀ fuel d n, d ≤ Validate.maxNestingDepth → consumeValue o fuel (d + 1) b = (n, .ok) → n ≤ b.length) ∧
    (∀ fuel n, readValueTop o fuel b = (n, .ok) → n ≤ b.length) :=
  ⟨JsonV.Lemmas.WireBasic.ws_le b, JsonV.Model.Resume.num_bound b,
   fun v n f h => (JsonV.Lemmas.WireString.consumeString_sound b v n f h).1,
   fun fuel d n hd h => ((JsonV.Lemmas.WireValue.sound_all o fuel).1 d b n hd h).1,
   fun fuel n h => (JsonV.Lemmas.WireValue.readValueTop_ok o fuel b n h).1⟩

/-- full statement, not proved: the offset reported with EVERY outcome (errors included) is within the input -/
def scan_offsets_full : Prop :=
  ∀ (o : VOpts) (b : Bytes), (validText o b).1 ≤ b.length

/-- …proved for the depth refusal: the reported offset is a valid index, and the byte there is the bracket -/
theorem depth_offset_in_range (o : VOpts) (w p : Bytes) (c : UInt8) (rest : Bytes) (hw : JsonV.Spec.Grammar.JWs w)
    (hctx : JsonV.Lemmas.DepthTree.Ctx o 0 p) (hc : c = 0x5B ∨ c = 0x7B) :
    (w ++ (p ++ c :: rest))[(validText o (w ++ (p ++ c :: rest))).1]? = some c := by
  rw [JsonV.Lemmas.DepthTree.validText_ctx o w p c rest hw hctx hc]
  simp

end IndexSafe

end JsonV.Props.C20
