/-
C19, clause "options that the documentation lists as not affecting an operation never change its result" — the part a
proof can reach: a FRAME argument on regenerated read sets.

`Gen/Reads.lean` (tools/translate/reads.go) lists, per function group of the library, every jsonflags constant that is
mentioned other than as a Set/Clear argument (and every read of a value slot of jsonopts.Struct, counted as the flag
guarding it), and the scope flags.go documents for each flag.  Every Flags.Get/Has has a constant argument (checked by
the translator), so a function can only depend on a flag it mentions.  What is NOT covered: which group calls which
(a marshal-side function calling unmarshal-side code), so the theorems speak about function groups, and the behavioural
differential test (harness c19NonInterference / c19ExplicitDefault) validates the paths as a whole.
-/
import JsonV.Gen.Reads
import JsonV.Model.OptProj
import JsonV.Lemmas.ReadsL

namespace JsonV.Props.C19Reads
open JsonV.Model JsonV.Model.OptProj JsonV.Gen JsonV.Gen.Reads JsonV.Lemmas.ReadsL

/-- OR of the flags whose documented scope is one of `scopes`. -/
def docMask (scopes : List String) : Nat :=
  (doc.filter (fun e => scopes.contains e.2.2)).foldl (fun a e => a ||| e.2.1) 0

def marshalOnly : Nat := docMask ["marshal only", "marshal"]
def unmarshalOnly : Nat := docMask ["unmarshal only", "unmarshal"]
def encodeOnly : Nat := docMask ["encode only"]

/-- Every flag of flags.go carries one of the seven scope comments, and the table lists all 42 flags (+ the value bit). -/
theorem doc_complete :
    doc.all (fun e => ["reserved for the boolean value itself", "encode or decode", "encode only", "marshal or unmarshal",
      "marshal only", "unmarshal only", "marshal", "unmarshal"].contains e.2.2) = true ∧
    doc.foldl (fun a e => a ||| e.2.1) 0 = jsonflags.c_AllFlags + 1 ∧ doc.length = 43 := by decide

/-- The documented-irrelevant sets, spelled out. -/
theorem doc_sets :
    marshalOnly = jsonflags.c_Deterministic + jsonflags.c_FormatNilMapAsNull + jsonflags.c_FormatNilSliceAsNull +
      jsonflags.c_OmitZeroStructFields + jsonflags.c_Marshalers + jsonflags.c_OmitEmptyWithLegacySemantics ∧
    unmarshalOnly = jsonflags.c_RejectUnknownMembers + jsonflags.c_Unmarshalers + jsonflags.c_MergeWithLegacySemantics +
      jsonflags.c_ParseBytesWithLooseRFC4648 + jsonflags.c_ParseTimeWithLooseRFC3339 + jsonflags.c_UnmarshalAnyWithRawNumber +
      jsonflags.c_UnmarshalArrayFromAnyLength ∧
    encodeOnly = jsonflags.c_OmitTopLevelNewline + jsonflags.c_PreserveRawStrings + jsonflags.c_CanonicalizeRawInts +
      jsonflags.c_CanonicalizeRawFloats + jsonflags.c_ReorderRawObjects + jsonflags.c_EscapeForHTML + jsonflags.c_EscapeForJS +
      jsonflags.c_Multiline + jsonflags.c_SpaceAfterColon + jsonflags.c_SpaceAfterComma + jsonflags.c_Indent +
      jsonflags.c_IndentPrefix := by decide

def encodePath : Nat := reads_jsontext_encode ||| reads_jsontext_shared ||| reads_jsonwire_encode ||| reads_jsonwire_shared
def decodePath : Nat := reads_jsontext_decode ||| reads_jsontext_shared ||| reads_jsonwire_decode ||| reads_jsonwire_shared
def marshalPath : Nat := reads_json_marshal ||| reads_json_shared ||| encodePath
def unmarshalPath : Nat := reads_json_unmarshal ||| reads_json_shared ||| decodePath

/-- No marshal-side function group (package json functions taking an Encoder, shared helpers, the encoder half of
jsontext, the encode half of jsonwire) mentions an unmarshal-only flag or reads the Unmarshalers slot. -/
theorem unmarshal_only_not_read_on_marshal_path : unmarshalOnly &&& marshalPath = 0 := by rw [doc_sets.2.1]; decide

/-- … and conversely. -/
theorem marshal_only_not_read_on_unmarshal_path : marshalOnly &&& unmarshalPath = 0 := by rw [doc_sets.1]; decide

/-- No decode-side or unmarshal-side group mentions an encode-only flag or reads Indent/IndentPrefix. -/
theorem encode_only_not_read_on_unmarshal_path : encodeOnly &&& unmarshalPath = 0 := by rw [doc_sets.2.2]; decide

/-- jsonwire mentions coder flags only; of the marshal/unmarshal flags jsontext mentions exactly
ReportErrorsWithLegacySemantics (error wrapping), jsonwire none. -/
theorem text_layer_reads :
    (reads_jsonwire_encode ||| reads_jsonwire_decode ||| reads_jsonwire_shared) &&& (jsonflags.c_AllArshalV2Flags ||| jsonflags.c_AllArshalV1Flags) = 0 ∧
    (reads_jsontext_encode ||| reads_jsontext_decode ||| reads_jsontext_shared) &&& (jsonflags.c_AllArshalV2Flags ||| jsonflags.c_AllArshalV1Flags)
      = jsonflags.c_ReportErrorsWithLegacySemantics := by decide

/-- What the (un)marshal and coder code WRITES into a flags word: the tag flags, WithinArshalCall, and (on pooled coders
of their own) OmitTopLevelNewline / AllowDuplicateNames / AllowInvalidUTF8 — never a public arshal option. -/
theorem flags_written :
    writes_json_marshal ||| writes_json_unmarshal ||| writes_json_shared ||| writes_jsontext_encode ||| writes_jsontext_decode |||
      writes_jsontext_shared ||| writes_jsonwire_encode ||| writes_jsonwire_decode ||| writes_jsonwire_shared =
    jsonflags.c_TagFlags + jsonflags.c_WithinArshalCall + jsonflags.c_OmitTopLevelNewline + jsonflags.c_AllowDuplicateNames +
      jsonflags.c_AllowInvalidUTF8 := by decide

theorem model_masks_within_reads :
    encoderMask.toNat &&& encodePath = encoderMask.toNat ∧ decoderMask.toNat &&& decodePath = decoderMask.toNat ∧
    quoteMask.toNat &&& reads_jsonwire_encode = quoteMask.toNat ∧ formatMask.toNat &&& encodePath = formatMask.toNat ∧
    marshalMask.toNat &&& reads_json_marshal = marshalMask.toNat ∧ unmarshalMask.toNat &&& reads_json_unmarshal = unmarshalMask.toNat ∧
    matchingMask.toNat &&& reads_json_shared = matchingMask.toNat := by decide

/-- Agreement on the read set gives the same option record, hence the same result of ANY function of the model. -/
theorem noninterf_encoder {α β : Type} (run : Encoder.Opts → α → β) (s s' : Struct) (h : AgreeOn encoderMask s s') (x : α) :
    run (encoder s) x = run (encoder s') x := by rw [encoder_agree h]
theorem noninterf_decoder {α β : Type} (run : Validate.VOpts → α → β) (s s' : Struct) (h : AgreeOn decoderMask s s') (x : α) :
    run (decoder s) x = run (decoder s') x := by rw [decoder_agree h]
theorem noninterf_quote {α β : Type} (run : Quote.QFlags → α → β) (s s' : Struct) (h : AgreeOn quoteMask s s') (x : α) :
    run (quote s) x = run (quote s') x := by rw [quote_agree h]
theorem noninterf_format {α β : Type} (run : Fmt.FOpts → α → β) (s s' : Struct) (h : AgreeOn formatMask s s') (x : α) :
    run (format s) x = run (format s') x := by rw [format_agree h]
theorem noninterf_marshal {α β : Type} (run : MOpts → α → β) (s s' : Struct) (h : AgreeOn marshalMask s s') (x : α) :
    run (OptProj.marshal s) x = run (OptProj.marshal s') x := by rw [marshal_agree h]
theorem noninterf_unmarshal {α β : Type} (run : UOpts → α → β) (s s' : Struct) (h : AgreeOn unmarshalMask s s') (x : α) :
    run (OptProj.unmarshal s) x = run (OptProj.unmarshal s') x := by rw [unmarshal_agree h]
theorem noninterf_matching {α β : Type} (run : Fold.MatchFlags → α → β) (s s' : Struct) (h : AgreeOn matchingMask s s') (x : α) :
    run (matching s) x = run (matching s') x := by rw [matching_agree h]

/-- Setting (to true or false) any unmarshal-only option leaves the marshal-side models' options unchanged:
Marshal (nil slices/maps), the Encoder, string quoting, Value.Format. -/
theorem unmarshal_only_irrelevant_to_marshal_models (s : Struct) (w : BitVec 64)
    (hw : w &&& ~~~(bv unmarshalOnly ||| 1#64) = 0#64) :
    let s' : Struct := { s with flags := s.flags.set w }
    OptProj.marshal s' = OptProj.marshal s ∧ encoder s' = encoder s ∧ quote s' = quote s ∧ format s' = format s := by
  intro s'
  rw [doc_sets.2.1] at hw
  have h (m : BitVec 64) hm := agree_set m w s (disj_of_subset w _ m hw hm)
  exact ⟨(marshal_agree (h _ (by decide))).symm, (encoder_agree (h _ (by decide))).symm,
    (quote_agree (h _ (by decide))).symm, (format_agree (h _ (by decide))).symm⟩

/-- Setting any marshal-only or encode-only option leaves the unmarshal-side models' options unchanged:
Unmarshal (array length, duplicate names), the Decoder/validator, field-name matching. -/
theorem marshal_only_irrelevant_to_unmarshal_models (s : Struct) (w : BitVec 64)
    (hw : w &&& ~~~(bv (marshalOnly ||| encodeOnly) ||| 1#64) = 0#64) :
    let s' : Struct := { s with flags := s.flags.set w }
    OptProj.unmarshal s' = OptProj.unmarshal s ∧ decoder s' = decoder s ∧ matching s' = matching s := by
  intro s'
  rw [doc_sets.1, doc_sets.2.2] at hw
  have h (m : BitVec 64) hm := agree_set m w s (disj_of_subset w _ m hw hm)
  exact ⟨(unmarshal_agree (h _ (by decide))).symm, (decoder_agree (h _ (by decide))).symm,
    (matching_agree (h _ (by decide))).symm⟩

-- the hypotheses are satisfiable by real options: RejectUnknownMembers(true), Deterministic(false)
example : bv (jsonflags.c_RejectUnknownMembers + 1) &&& ~~~(bv unmarshalOnly ||| 1#64) = 0#64 := by rw [doc_sets.2.1]; decide
example : bv jsonflags.c_Deterministic &&& ~~~(bv (marshalOnly ||| encodeOnly) ||| 1#64) = 0#64 := by
  rw [doc_sets.1, doc_sets.2.2]; decide
example : AgreeOn marshalMask {} { flags := (Flags.empty.set (bv (jsonflags.c_RejectUnknownMembers + 1))) } :=
  agree_set _ _ {} (by decide)

end JsonV.Props.C19Reads
