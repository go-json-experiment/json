/-
C07 — Encoded bytes do not depend on buffering, flushing or the writer.

The property theorems (lemmas in Lemmas/Flush*.lean, models in Model/Flush.lean); the specifications of the wire.go trim
helpers and `unwrite_local` are proved here from the lemmas on the reversed buffer.
Model: `Enc` = (delivered, buf, Tokens.Last, Tokens.Stack, OmitTopLevelNewline); every call is followed by a flush
opportunity whose capacity test is an adversarial Bool (`Sched.want`) and whose Write call is an adversarial
`WAct` (accept all | accept n bytes and fail).
-/
import JsonV.Lemmas.FlushFull
import JsonV.Lemmas.FlushDetect
import JsonV.Gen.Constants
import JsonV.Gen.Lits

namespace JsonV.Props.C07
open JsonV JsonV.Model.Flush

/-- Tie A: the buffer constants that the harness sweeps (regenerated from encode.go on every run). -/
theorem buffer_constants :
    JsonV.Gen.jsontext.c_encoderState_Flush_maxBufferSize = 4096 ∧
    JsonV.Gen.jsontext.c_encoderState_Flush_growthSizeFactor = 2 ∧
    JsonV.Gen.jsontext.c_encoderState_Flush_growthRateFactor = 2 := by decide

/-- Tie A: the hand-modelled suffix list of avoidFlush is the list of string literals of the Go function
(`ll`, `""`, `{}`, `[]`, in source order), and its integer literals are the `== 0` and `>= 2` / `len-2` of the source. -/
theorem tie_avoidFlush_suffixes :
    emptySuffixes.map (fun s => [s.1.toNat, s.2.1.toNat]) = JsonV.Gen.jsontext_encoderState_avoidFlush_strs ∧
    JsonV.Gen.jsontext_encoderState_avoidFlush_ints = [0, 2, 2] := by decide

/-- The model's avoidFlush / UnwriteEmptyObjectMember tests are exactly look-ups in that table. -/
theorem endsEmptyR_table (x y : UInt8) (r : List UInt8) :
    endsEmptyR (x :: y :: r) = emptySuffixes.any (fun s => y == s.1 && x == s.2.1) := by
  simp [endsEmptyR, emptySuffixes, Bool.or_assoc]

theorem emptyLenR_table (x y z : UInt8) (r : List UInt8) :
    emptyLenR (x :: y :: z :: r) =
      match emptySuffixes.find? (fun s => y == s.1 && x == s.2.1) with
      | some s => if s.1 = 0x22 ∧ z = 0x5c then 0 else s.2.2
      | none => 0 := by
  simp only [emptyLenR, emptySuffixes, List.find?]
  by_cases h1 : (y == 0x6c && x == 0x6c) = true
  · simp [h1]
  · by_cases h2 : (y == 0x22 && x == 0x22) = true
    · simp [h1, h2]
    · by_cases h3 : (y == 0x7b && x == 0x7d) = true
      · simp [h1, h2, h3]
      · by_cases h4 : (y == 0x5b && x == 0x5d) = true
        · simp [h1, h2, h3, h4]
        · simp [h1, h2, h3, h4]

/-- Tie A: the string literals of UnwriteEmptyObjectMember after the panic message, in source order:
`ll` `null` | `""` `\` `""` | `{}` `{}` | `[]` `[]` | `:` | `,` — each case label is a table suffix, followed by the
literal whose length is the table's byte count (with the `\` test inside the `""` case), then the colon and comma that
TrimSuffixByte removes; the integer literals are n=0, `len(b) >= 3`, `len-2`, `len-3`, `n == 0`. -/
theorem tie_unwrite_literals :
    JsonV.Gen.jsontext_encoderState_UnwriteEmptyObjectMember_strs.tail =
      [[0x6c, 0x6c], [0x6e, 0x75, 0x6c, 0x6c], [0x22, 0x22], [0x5c], [0x22, 0x22], [0x7b, 0x7d], [0x7b, 0x7d],
       [0x5b, 0x5d], [0x5b, 0x5d], [0x3a], [0x2c]] ∧
    JsonV.Gen.jsontext_encoderState_UnwriteEmptyObjectMember_ints = [0, 3, 2, 3, 0] ∧
    (emptySuffixes.map (fun s => s.2.2) = [[0x6e, 0x75, 0x6c, 0x6c], [0x22, 0x22], [0x7b, 0x7d], [0x5b, 0x5d]].map List.length) := by
  decide +kernel

/-- TrimSuffixWhitespace, for every input: what is removed is whitespace only, and what remains does not end in
whitespace (this determines the result uniquely). -/
theorem trim_ws_spec (b : Bytes) :
    ∃ ws, WsOnly ws ∧ b = trimSuffixWhitespace b ++ ws ∧
      ∀ c, (trimSuffixWhitespace b).getLast? = some c → isWs c = false := by
  obtain ⟨wsr, hws, e⟩ := trimWsR_decomp b.reverse
  refine ⟨wsr.reverse, fun c hc => hws c (List.mem_reverse.mp hc), ?_, ?_⟩
  · have := congrArg List.reverse e
    simpa [trimSuffixWhitespace] using this
  · intro c hc
    refine trimWsR_head b.reverse c ?_
    simpa [trimSuffixWhitespace] using hc

/-- … in the form used by the encoder: trailing whitespace after a non-whitespace byte is removed exactly. -/
theorem trim_ws_append (p ws : Bytes) (hws : WsOnly ws) (hp : ∀ c, p.getLast? = some c → isWs c = false) :
    trimSuffixWhitespace (p ++ ws) = p :=
  trimSuffixWhitespace_append p ws hws hp

example : trimSuffixWhitespace [0x7b, 0x20, 0x0a, 0x09] = [0x7b] := by decide

/-- TrimSuffixByte removes exactly one trailing `c`, and nothing else. -/
theorem trim_byte_spec (p : Bytes) (c : UInt8) :
    trimSuffixByte (p ++ [c]) c = p ∧
    (∀ b : Bytes, (∀ q, b ≠ q ++ [c]) → trimSuffixByte b c = b) := by
  refine ⟨by simp [trimSuffixByte], fun b hb => ?_⟩
  rcases List.eq_nil_or_concat b with rfl | ⟨q, a, rfl⟩
  · rfl
  · have hne : a ≠ c := fun e => hb q (by rw [e, List.concat_eq_append])
    simp [trimSuffixByte, trimByteR_cons_ne hne]

/-- HasSuffixByte b c ⇔ b ends in c. -/
theorem has_suffix_spec (b : Bytes) (c : UInt8) : hasSuffixByte b c = true ↔ ∃ p, b = p ++ [c] := by
  rcases List.eq_nil_or_concat b with rfl | ⟨q, a, rfl⟩
  · simp [hasSuffixByte]
  · have : hasSuffixByte (q.concat a) c = (a == c) := by simp [hasSuffixByte]
    rw [this, beq_iff_eq, List.concat_eq_append]
    exact ⟨fun h => ⟨q, by rw [h]⟩, fun ⟨p, hp⟩ => by simpa using List.append_inj_right' hp rfl⟩

/-- TrimSuffixString removes exactly a trailing string literal: for every prefix `p` that does not end in a
backslash and every body in which each `"` is preceded by a backslash,
`TrimSuffixString(p ++ '"' ++ body ++ '"') = p`. -/
theorem trim_string_spec (p body : Bytes) (hb : QuotesEscaped body) (hp : p.getLast? ≠ some 0x5c) :
    trimSuffixString (p ++ (0x22 :: body ++ [0x22])) = p :=
  trimSuffixString_append p body hb hp

/-- Every JSON string body (unescaped bytes other than `"` and `\`, or `\` followed by any byte) satisfies the
hypothesis of `trim_string_spec`. -/
theorem strBody_quotesEscaped (body : Bytes) (h : StrBody body) : QuotesEscaped body := h.quotesEscaped

-- the hypotheses are satisfiable, also with escaped quotes and escaped backslashes before the closing quote:
-- `{"a\"\\"`  ↦  `{`
example : trimSuffixString ([0x7b] ++ (0x22 :: [0x61, 0x5c, 0x22, 0x5c, 0x5c] ++ [0x22])) = [0x7b] :=
  trim_string_spec [0x7b] [0x61, 0x5c, 0x22, 0x5c, 0x5c]
    (StrBody.plain _ _ (by decide) (by decide) (StrBody.esc _ _ (StrBody.esc _ _ StrBody.nil))).quotesEscaped (by decide)

/-- The same calls under the fault-free writer (flush decisions unchanged). -/
def faultFree (l : List (Op × Sched)) : List (Op × Sched) := l.map (fun p => (p.1, ⟨p.2.want, .ok⟩))

/-- `flush_indep`: for every sequence of WriteToken/WriteValue/AppendRaw calls (accepted or rejected), every two
schedules of flush decisions and writer behaviours give the same `delivered ++ buf` and the same token state. -/
theorem flush_indep (omitNL : Bool) (l₁ l₂ : List (Op × Sched)) (ht : tokOnly l₁)
    (hops : l₁.map Prod.fst = l₂.map Prod.fst) :
    (run { omitNL := omitNL } l₁).total = (run { omitNL := omitNL } l₂).total ∧
    (run { omitNL := omitNL } l₁).last = (run { omitNL := omitNL } l₂).last ∧
    (run { omitNL := omitNL } l₁).stack = (run { omitNL := omitNL } l₂).stack :=
  (run_tok_sim l₁ l₂ _ _ (Sim.refl { omitNL := omitNL }) rfl ht hops).observed

/-- `short_write_nothing_lost`: under every schedule of short writes and write errors, what the writer accepted
followed by what is still buffered is the fault-free stream; nothing is lost or duplicated, and every call was
accepted or rejected exactly as in the fault-free run (same token state). -/
theorem short_write_nothing_lost (omitNL : Bool) (l : List (Op × Sched)) (ht : tokOnly l) :
    (run { omitNL := omitNL } l).delivered ++ (run { omitNL := omitNL } l).buf =
      (run { omitNL := omitNL } (faultFree l)).total ∧
    (run { omitNL := omitNL } l).last = (run { omitNL := omitNL } (faultFree l)).last ∧
    (run { omitNL := omitNL } l).stack = (run { omitNL := omitNL } (faultFree l)).stack :=
  flush_indep omitNL l (faultFree l) ht (by simp [faultFree, Function.comp_def])

/-- `marshalWrite_prefix`: at every moment (in particular when a call returns the write error) what the writer has
accepted is a prefix of the fault-free stream. -/
theorem marshalWrite_prefix (omitNL : Bool) (l : List (Op × Sched)) (ht : tokOnly l) :
    (run { omitNL := omitNL } l).delivered <+: (run { omitNL := omitNL } (faultFree l)).total := by
  rw [← (short_write_nothing_lost omitNL l ht).1]
  exact List.prefix_append _ _

/-- What the writer accepted never shrinks or changes afterwards (all calls, including the unwrite calls). -/
theorem delivered_monotone (e : Enc) (l : List (Op × Sched)) : e.delivered <+: (run e l).delivered :=
  prefix_run (fun _ => rfl) (fun _ _ _ _ => rfl) Enc.delivered step_delivered_prefix l e

/-- With a writer that accepts everything, a call that completes a top-level value leaves nothing buffered. -/
theorem faultfree_top_level_flushes_all (e e' : Enc) (t : Tok) (ws : Bytes) (want : Bool)
    (hb : bottomIsObj e.last e.stack = false) (hw : write e t ws = some e') (htop : e'.stack = [])
    (hlen : e'.last.len ≠ 0) : (step e (.tok t ws) ⟨want, .ok⟩).buf = [] := by
  have hb' : bottomIsObj e'.last e'.stack = false := by obtain ⟨_, _, hf, rfl⟩ := write_some hw; exact hf.bottom hb
  have hav : avoidFlush e' = false := by rw [avoidFlush_top hb' htop]; simpa using hlen
  simp [step, hw, htop, flush_ok_buf hav]

-- hypotheses satisfiable: the top-level value `null` written by an Encoder (newline appended, all delivered)
example : (step {} (.tok (.scalar [0x6e, 0x75, 0x6c, 0x6c]) []) ⟨false, .ok⟩) =
    { delivered := [0x6e, 0x75, 0x6c, 0x6c, 0x0a], buf := [], last := ⟨false, 1⟩ } := by decide +kernel

-- a non-trivial instance of flush_indep: `{"a":1}` with a flush forced after every token and a writer that
-- accepts one byte per call and fails, versus no flush until the end
example :
    let ops : List Op := [.tok .openObj [], .tok (.str [0x61]) [], .tok (.scalar [0x31]) [], .tok .closeObj []]
    (run {} (ops.map (fun o => (o, ⟨true, .fail 1⟩)))).total = (run {} (ops.map (fun o => (o, ⟨false, .ok⟩)))).total ∧
    (run {} (ops.map (fun o => (o, ⟨true, .fail 1⟩)))).delivered = [0x7b, 0x22] := by decide +kernel

/-- The invariant holds after every sequence of token calls, whatever was flushed and whatever the writer did. -/
theorem inv_run (omitNL : Bool) : ∀ (l : List (Op × Sched)), tokOnly l → Inv (run { omitNL := omitNL } l) := by
  intro l ht
  exact rel_run (R := fun a _ => Inv a) (P := fun op => ∃ t ws, op = .tok t ws) (fun _ => rfl) (fun _ _ _ _ => rfl)
    (by rintro a _ _ s _ h ⟨t, ws, rfl⟩; exact inv_step_tok h t ws s) l l _ { omitNL := omitNL } (inv_init omitNL) rfl (tokOnly_mem ht)

/-- The omitempty slow path (arshal_default.go:1180-1243) for a member whose value is one of the four empty
encodings: write the name, write the value (`null`, `""`, `{` `}` or `[` `]`), call UnwriteEmptyObjectMember;
each call with its own arbitrary flush decision and writer behaviour, arbitrary whitespace before name and value. -/
inductive EmptyCycle : List (Op × Sched) → Prop
  | null (name ws1 ws2 : Bytes) (s₁ s₂ s₃ : Sched) : QuotesEscaped name → WsOnly ws1 → WsOnly ws2 →
      EmptyCycle [(.tok (.str name) ws1, s₁), (.tok (.scalar [0x6e, 0x75, 0x6c, 0x6c]) ws2, s₂), (.unwriteEmpty, s₃)]
  | str (name ws1 ws2 : Bytes) (s₁ s₂ s₃ : Sched) : QuotesEscaped name → WsOnly ws1 → WsOnly ws2 →
      EmptyCycle [(.tok (.str name) ws1, s₁), (.tok (.str []) ws2, s₂), (.unwriteEmpty, s₃)]
  | obj (name ws1 ws2 : Bytes) (s₁ s₂ s₃ s₄ : Sched) : QuotesEscaped name → WsOnly ws1 → WsOnly ws2 →
      EmptyCycle [(.tok (.str name) ws1, s₁), (.tok .openObj ws2, s₂), (.tok .closeObj [], s₃), (.unwriteEmpty, s₄)]
  | arr (name ws1 ws2 : Bytes) (s₁ s₂ s₃ s₄ : Sched) : QuotesEscaped name → WsOnly ws1 → WsOnly ws2 →
      EmptyCycle [(.tok (.str name) ws1, s₁), (.tok .openArr ws2, s₂), (.tok .closeArr [], s₃), (.unwriteEmpty, s₄)]

/-- `unwrite_local`: in every state that satisfies the invariant (`inv_run`: every state reached by token calls
under any flush/writer schedule; `InvS.toInv` of `shape_invariant`: every state of a run with retractions) and expects a member name, the omitempty cycle ends in EXACTLY the state it
started from: every flush opportunity inside the cycle is suppressed by avoidFlush, the bytes that
UnwriteEmptyObjectMember removes (comma, whitespace, name, colon, whitespace, value) are all still in `buf`,
`delivered` is untouched and `buf` is restored byte for byte. -/
theorem unwrite_local (s : Enc) (hinv : Inv s) (hobj : s.last.isObj = true) (hname : s.last.needName = true)
    (l : List (Op × Sched)) (hl : EmptyCycle l) : run s l = s := by
  obtain ⟨dl, bf, ⟨io, k⟩, st, nl⟩ := s
  simp only at hobj; subst hobj
  have hk : k % 2 = 0 := by simpa [Frame.needName] using hname
  have hst : st ≠ [] := stack_ne_nil_of_obj hinv.bottom rfl
  have hsep : ∀ name, MemberSep bf (delim ⟨true, k⟩ st (.str name)) := fun _ => memberSep_of_inv hinv hname rfl
  -- after the name and an empty value, however the value was written, the unwrite restores the state
  have back : ∀ (name ws1 ws2 val : Bytes) (s₁ : Sched) (rest : List (Op × Sched)), QuotesEscaped name →
      WsOnly ws1 → WsOnly ws2 → EmptyText val →
      (∀ bf', run ⟨dl, bf', ⟨true, k + 1⟩, st, nl⟩ rest =
        (unwriteEmpty ⟨dl, bf' ++ [0x3a] ++ ws2 ++ val, ⟨true, k + 2⟩, st, nl⟩).1) →
      run ⟨dl, bf, ⟨true, k⟩, st, nl⟩ ((.tok (.str name) ws1, s₁) :: rest) = ⟨dl, bf, ⟨true, k⟩, st, nl⟩ := by
    intro name ws1 ws2 val s₁ rest hn h1 h2 hv hrest
    rw [run, step_name dl bf k st nl hk name ws1 s₁, hrest,
      unwrite_after_member dl bf k st nl hk _ ws1 name ws2 val h2 h1 hn (hsep name) hv]
  cases hl with
  | null name ws1 ws2 s₁ s₂ s₃ hn h1 h2 =>
    refine back name ws1 ws2 _ s₁ _ hn h1 h2 .null fun bf' => ?_
    rw [run, step_scalar_value dl bf' k st nl hk _ (.inl rfl) ws2 s₂]; rfl
  | str name ws1 ws2 s₁ s₂ s₃ hn h1 h2 =>
    refine back name ws1 ws2 _ s₁ _ hn h1 h2 .str fun bf' => ?_
    rw [run, step_scalar_value dl bf' k st nl hk _ (.inr rfl) ws2 s₂]; rfl
  | obj name ws1 ws2 s₁ s₂ s₃ s₄ hn h1 h2 =>
    refine back name ws1 ws2 _ s₁ _ hn h1 h2 .obj fun bf' => ?_
    exact congrArg (fun e => (unwriteEmpty e).1) (step_compound_value dl bf' k st nl hk true ws2 s₂ s₃)
  | arr name ws1 ws2 s₁ s₂ s₃ s₄ hn h1 h2 =>
    refine back name ws1 ws2 _ s₁ _ hn h1 h2 .arr fun bf' => ?_
    exact congrArg (fun e => (unwriteEmpty e).1) (step_compound_value dl bf' k st nl hk false ws2 s₂ s₃)

-- hypotheses satisfiable and the statement non-trivial: after `{"a":1` has been flushed (buffer empty, the writer
-- has everything) the member `,"b":[]` is written with a flush wanted after every token and then retracted
example :
    let s := run {} [(.tok .openObj [], ⟨false, .ok⟩), (.tok (.str [0x61]) [], ⟨false, .ok⟩), (.tok (.scalar [0x31]) [], ⟨true, .ok⟩)]
    s.buf = [] ∧ s.delivered = [0x7b, 0x22, 0x61, 0x22, 0x3a, 0x31] ∧
    run s [(.tok (.str [0x62]) [], ⟨true, .ok⟩), (.tok .openArr [], ⟨true, .ok⟩), (.tok .closeArr [], ⟨true, .ok⟩), (.unwriteEmpty, ⟨true, .ok⟩)] = s := by
  decide +kernel

/-- The same for UnwriteOnlyObjectMemberName (Deterministic maps with non-string keys, arshal_default.go:918-931):
writing the first name of an object and unwriting it restores the state exactly. -/
theorem unwrite_name_local (s : Enc) (hinv : Inv s) (hobj : s.last = ⟨true, 0⟩)
    (name ws1 : Bytes) (hn : QuotesEscaped name) (h1 : WsOnly ws1) (s₁ s₂ : Sched) :
    run s [(.tok (.str name) ws1, s₁), (.unwriteName, s₂)] = s := by
  obtain ⟨dl, bf, lst, st, nl⟩ := s
  simp only at hobj; subst hobj
  have hst : st ≠ [] := stack_ne_nil_of_obj hinv.bottom rfl
  obtain ⟨b, o, hb, ho⟩ := hinv.opened rfl hst
  simp only at hb; subst hb
  simp only [run]
  rw [step_name dl _ 0 st nl rfl, delim_of_needName (l := ⟨true, 0⟩) rfl hst rfl]
  have := unwriteNameBytes_first b o ws1 name ho.1 ho.2.2 h1 hn
  simp only [if_true, List.append_nil] at this ⊢
  simp at this
  simp [step, unwriteName, this]

/-- UnwriteEmptyObjectMember reports true on each of the four empty encodings (one direction of `empty_detect`). -/
theorem empty_detect_partial (pre sep ws1 name ws2 val : Bytes) (h2 : WsOnly ws2) (h1 : WsOnly ws1)
    (hn : QuotesEscaped name) (hs : MemberSep pre sep) (hv : EmptyText val) :
    unwriteEmptyBytes (pre ++ sep ++ ws1 ++ (0x22 :: name ++ [0x22]) ++ [0x3a] ++ ws2 ++ val) = some (pre, true) :=
  unwriteEmptyBytes_member pre sep ws1 name ws2 val h2 h1 hn hs hv

-- a string value that merely ends in `""` because its last character is an escaped quote is not retracted
example : unwriteEmptyBytes [0x7b, 0x22, 0x61, 0x22, 0x3a, 0x22, 0x5c, 0x22, 0x22] =
    some ([0x7b, 0x22, 0x61, 0x22, 0x3a, 0x22, 0x5c, 0x22, 0x22], false) := by decide +kernel

/-! ### flush independence with retractions at arbitrary positions

`runD` is `run` under the calling discipline of arshal_default.go (Model/Flush.lean `stepD`): a call of
UnwriteEmptyObjectMember is performed only directly after the accepted call that completed a member value.  All
other features are unrestricted: the call may follow empty AND non-empty values (then it is a no-op), the value may
be a container whose own members were retracted before (`"E":{` … `}` then `"E":{}` itself, to any depth),
UnwriteOnlyObjectMemberName may be called at any moment, token calls may be rejected, and every call has its own
adversarial flush decision and writer behaviour.  `SaneCall`: whitespace arguments are whitespace, string bodies have
their quotes escaped, a literal/number is `null` or ends in a byte other than `l " { } [ ]`. -/

/-- `flush_indep_full`: for every disciplined call sequence and every two schedules, `delivered ++ buf` and the token
state are the same — an unwrite never needs bytes that were already delivered. -/
theorem flush_indep_full (omitNL : Bool) (l₁ l₂ : List (Op × Sched)) (hops : l₁.map Prod.fst = l₂.map Prod.fst)
    (hsane : ∀ p ∈ l₁, SaneCall p.1) :
    (runD ({ omitNL := omitNL }, false) l₁).1.total = (runD ({ omitNL := omitNL }, false) l₂).1.total ∧
    (runD ({ omitNL := omitNL }, false) l₁).1.last = (runD ({ omitNL := omitNL }, false) l₂).1.last ∧
    (runD ({ omitNL := omitNL }, false) l₁).1.stack = (runD ({ omitNL := omitNL }, false) l₂).1.stack :=
  (runD_sim l₁ l₂ ({ omitNL := omitNL }, false) ({ omitNL := omitNL }, false) ⟨simU_init omitNL, rfl⟩
    hops hsane).1.sim.observed

/-- `short_write_nothing_lost`, with retractions: accepted ++ buffered is the fault-free stream. -/
theorem short_write_nothing_lost_full (omitNL : Bool) (l : List (Op × Sched)) (hsane : ∀ p ∈ l, SaneCall p.1) :
    (runD ({ omitNL := omitNL }, false) l).1.delivered ++ (runD ({ omitNL := omitNL }, false) l).1.buf =
      (runD ({ omitNL := omitNL }, false) (faultFree l)).1.total :=
  (flush_indep_full omitNL l (faultFree l) (by simp [faultFree, Function.comp_def]) hsane).1

/-- `marshalWrite_prefix`, with retractions: whatever was retracted later, what the writer accepted is a prefix of the
fault-free stream at that moment (retractions only ever touch `buf`). -/
theorem marshalWrite_prefix_full (omitNL : Bool) (l : List (Op × Sched)) (hsane : ∀ p ∈ l, SaneCall p.1) :
    (runD ({ omitNL := omitNL }, false) l).1.delivered <+: (runD ({ omitNL := omitNL }, false) (faultFree l)).1.total := by
  rw [← short_write_nothing_lost_full omitNL l hsane]
  exact List.prefix_append _ _

theorem delivered_monotone_full (a : Enc × Bool) (l : List (Op × Sched)) : a.1.delivered <+: (runD a l).1.delivered :=
  prefix_run (fun _ => rfl) (fun _ _ _ _ => rfl) (fun a => a.1.delivered) stepD_delivered_prefix l a

/-- The shape invariant (Lemmas/FlushShape.lean `InvS`: the bytes a later unwrite would scan are in `buf`, laid out
as `[,] ws "name" : ws value`, recursively through just-opened containers) holds along every disciplined run. -/
theorem shape_invariant (omitNL : Bool) (l : List (Op × Sched)) (hsane : ∀ p ∈ l, SaneCall p.1) :
    InvS (runD ({ omitNL := omitNL }, false) l).1 (runD ({ omitNL := omitNL }, false) l).2 :=
  (runD_sim l l ({ omitNL := omitNL }, false) _ ⟨simU_init omitNL, rfl⟩ rfl hsane).1.inv₁.fresh

-- non-trivial instance: `{"a":1` then `,"E":{` , `"X":[]` retracted, `}` , `"E":{}` retracted, `,"s":"x"` with a
-- retraction attempt after the non-empty value, `}` — with a flush wanted after every call and a writer that takes
-- 3 bytes per call, versus never flushing before the end: same stream `{"a":1,"s":"x"}\n`
example :
    let ops : List Op := [.tok .openObj [], .tok (.str [0x61]) [], .tok (.scalar [0x31]) [],
      .tok (.str [0x45]) [], .tok .openObj [], .tok (.str [0x58]) [], .tok .openArr [], .tok .closeArr [], .unwriteEmpty,
      .tok .closeObj [], .unwriteEmpty, .tok (.str [0x73]) [], .tok (.str [0x78]) [], .unwriteEmpty, .tok .closeObj []]
    (runD ({}, false) (ops.map (fun o => (o, ⟨true, .fail 3⟩)))).1.total =
      (runD ({}, false) (ops.map (fun o => (o, ⟨false, .ok⟩)))).1.total ∧
    (runD ({}, false) (ops.map (fun o => (o, ⟨false, .ok⟩)))).1.delivered =
      [0x7b, 0x22, 0x61, 0x22, 0x3a, 0x31, 0x2c, 0x22, 0x73, 0x22, 0x3a, 0x22, 0x78, 0x22, 0x7d, 0x0a] ∧
    (runD ({}, false) (ops.map (fun o => (o, ⟨true, .fail 3⟩)))).1.delivered.length > 6 := by decide +kernel

/-- `empty_detect_full`: after `[,] ws "name" : ws value` where the value is ANY JSON value of the grammar (any
options, any depth, with interior whitespace or not), UnwriteEmptyObjectMember reports true exactly when the value
is `null`, `""`, `{}` or `[]`. -/
theorem empty_detect_full (o : Spec.Grammar.GOpts) (md : Nat) (key : Bytes → Bytes) (d : Nat)
    (pre sep ws1 name ws2 val : Bytes) (h1 : WsOnly ws1) (h2 : WsOnly ws2) (hn : QuotesEscaped name)
    (hs : MemberSep pre sep) (hv : Spec.Grammar.JValue o md key d val) :
    (∃ r, unwriteEmptyBytes (pre ++ sep ++ ws1 ++ (0x22 :: name ++ [0x22]) ++ [0x3a] ++ ws2 ++ val) = some (r, true)) ↔
      EmptyText val := by
  constructor
  · rintro ⟨r, hr⟩
    have hne := emptyLenR_of_unwrite_true hr
    rw [List.reverse_append] at hne
    exact emptyText_of_jvalue hv _ hne
  · intro he
    exact ⟨pre, empty_detect_partial pre sep ws1 name ws2 val h2 h1 hn hs he⟩

-- hypotheses satisfiable with a non-empty value: after `{"a":1` nothing is retracted
example : ¬ ∃ r, unwriteEmptyBytes (([0x7b] : Bytes) ++ [] ++ [] ++ (0x22 :: [0x61] ++ [0x22]) ++ [0x3a] ++ [] ++ [0x31]) = some (r, true) := by
  have hv : Spec.Grammar.JValue ⟨true, false⟩ 10000 id 1 [0x31] :=
    Spec.Grammar.JValue.num 1 [0x31] (Spec.Grammar.JNumber.mk [] [0x31] [] [] (Or.inl rfl)
      (Spec.Grammar.JInt.nonzero 0x31 [] (by unfold Spec.Grammar.Digit19; decide) (by intro c hc; cases hc)) Spec.Grammar.JFrac.none Spec.Grammar.JExp.none)
  rw [empty_detect_full ⟨true, false⟩ 10000 id 1 [0x7b] [] [] [0x61] [] [0x31] (by intro c hc; cases hc) (by intro c hc; cases hc)
    (by intro l1 l2 e; cases l1 <;> simp at e)
    (MemberSep.first [] 0x7b (by decide) (by decide) (by decide)) hv]
  intro h; cases h

/-- The classification behind it, in terms of avoidFlush's two-byte test: a JSON value ending in `ll`, `""`, `{}`,
`[]` is one of the four empty encodings or a string ending in an escaped quote (`…\""`), which is what the code's
extra backslash test is for. -/
theorem jvalue_ends_classification (o : Spec.Grammar.GOpts) (md : Nat) (key : Bytes → Bytes) (d : Nat) (v : Bytes)
    (hv : Spec.Grammar.JValue o md key d v) (he : endsEmptyR v.reverse = true) :
    EmptyText v ∨ ∃ q, v = q ++ [0x5c, 0x22, 0x22] :=
  JsonV.Model.Flush.jvalue_ends_classification hv he

-- the second alternative is real: the JSON string `"\""` (one escaped quote) ends in `""`
example : endsEmptyR ([0x22, 0x5c, 0x22, 0x22] : Bytes).reverse = true ∧ ¬ EmptyText [0x22, 0x5c, 0x22, 0x22] := by
  refine ⟨by decide, ?_⟩
  intro h; cases h

/-! ### the array case of avoidFlush's first test is necessary (the pattern of seed R4Kb)

The regenerated literals of avoidFlush (Tie A) do not change when its first case is narrowed from
`Last.Length() == 0` to `Last.isObject() && Last.Length() == 0` (no literal is added or removed), so that change is
invisible to `tie_avoidFlush_suffixes`; it is caught by the harness (Marshal vs MarshalWrite).  At model level the
case is load-bearing: with the narrowed test, one flush directly after `[` makes UnwriteEmptyObjectMember miss the
empty array, and the stream depends on the schedule. -/

/-- avoidFlush with its first case narrowed to objects. -/
def avoidFlushNarrow (e : Enc) : Bool :=
  if e.last.isObj && e.last.len == 0 then true
  else if e.last.needValue then true
  else if e.last.needName && decide (e.buf.length ≥ 2) then endsEmptyR e.buf.reverse
  else false

def flushNarrow (e : Enc) (a : WAct) : Enc :=
  if avoidFlushNarrow e then e else
  let b := if e.depth == 1 && !e.omitNL then e.buf ++ [0x0a] else e.buf
  match a with
  | .ok => { e with delivered := e.delivered ++ b, buf := [] }
  | .fail n => { e with delivered := e.delivered ++ b.take n, buf := b.drop n }

def stepNarrow (e : Enc) (op : Op) (s : Sched) : Enc :=
  match op with
  | .tok t ws =>
    match write e t ws with
    | none => e
    | some e' => if e'.stack.isEmpty || s.want then flushNarrow e' s.act else e'
  | .unwriteEmpty => (unwriteEmpty e).1
  | .unwriteName => unwriteName e

def runNarrow (e : Enc) : List (Op × Sched) → Enc
  | [] => e
  | (op, s) :: rest => runNarrow (stepNarrow e op s) rest

/-- `{"a":[` `]` + UnwriteEmptyObjectMember + `}`: without a flush the member is retracted (`{}`), with one flush
after `[` (allowed by the narrowed test) it stays (`{"a":[]}`); the real avoidFlush gives `{}` under both. -/
theorem avoidFlush_array_case_needed :
    let ops : List Op := [.tok .openObj [], .tok (.str [0x61]) [], .tok .openArr [], .tok .closeArr [], .unwriteEmpty, .tok .closeObj []]
    (runNarrow {} (ops.map (fun o => (o, ⟨false, .ok⟩)))).total = [0x7b, 0x7d, 0x0a] ∧
    (runNarrow {} (ops.map (fun o => (o, ⟨true, .ok⟩)))).total = [0x7b, 0x22, 0x61, 0x22, 0x3a, 0x5b, 0x5d, 0x7d, 0x0a] ∧
    (run {} (ops.map (fun o => (o, ⟨true, .ok⟩)))).total = [0x7b, 0x7d, 0x0a] := by decide +kernel

/-! ### without the calling discipline

`run` performs UnwriteEmptyObjectMember whenever it is called (in the states where the Go function does not panic):
twice in a row, after a rejected call, after UnwriteOnlyObjectMemberName — moments at which the marshalers never
call it.  The shape invariant remembers, for every member boundary still in `buf`, that the buffer before it is
again unwrite-compatible with the whole stream (`Compat`, recursive in Length()/2), so the statement holds there
too. -/

/-- `flush_indep_undisciplined_full`: for EVERY call sequence with sane token texts and every two schedules of flush
decisions and writer behaviours, `delivered ++ buf` and the token state are the same. -/
theorem flush_indep_undisciplined_full (omitNL : Bool) (l₁ l₂ : List (Op × Sched))
    (hops : l₁.map Prod.fst = l₂.map Prod.fst) (hsane : ∀ p ∈ l₁, SaneCall p.1) :
    (run { omitNL := omitNL } l₁).total = (run { omitNL := omitNL } l₂).total ∧
    (run { omitNL := omitNL } l₁).last = (run { omitNL := omitNL } l₂).last ∧
    (run { omitNL := omitNL } l₁).stack = (run { omitNL := omitNL } l₂).stack :=
  (run_simU l₁ l₂ _ _ (simU_init omitNL) hops hsane).sim.observed

-- non-trivial instance: `{"a":1` `,"b":null` `,"c":[]` then THREE calls of UnwriteEmptyObjectMember in a row
-- (the third is a no-op on `"a":1`), `}` — flush wanted after every call with 2-byte short writes, versus no flush
example :
    let ops : List Op := [.tok .openObj [], .tok (.str [0x61]) [], .tok (.scalar [0x31]) [],
      .tok (.str [0x62]) [], .tok (.scalar [0x6e, 0x75, 0x6c, 0x6c]) [], .tok (.str [0x63]) [], .tok .openArr [], .tok .closeArr [],
      .unwriteEmpty, .unwriteEmpty, .unwriteEmpty, .tok .closeObj []]
    (run {} (ops.map (fun o => (o, ⟨true, .fail 2⟩)))).total = (run {} (ops.map (fun o => (o, ⟨false, .ok⟩)))).total ∧
    (run {} (ops.map (fun o => (o, ⟨false, .ok⟩)))).delivered = [0x7b, 0x22, 0x61, 0x22, 0x3a, 0x31, 0x7d, 0x0a] := by decide +kernel

end JsonV.Props.C07
