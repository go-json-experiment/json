/-
C18 — Calls are isolated from one another: no history or concurrency dependence (*partial*).

What is proved here, for ALL coder states, operation sequences, cache contents and values:
the sequential logic that makes a pooled / reused coder indistinguishable from a new one
(`reset_fresh`), that what survives a reset never shows in a result (`survivors_irrelevant`,
`intern_transparent`, `intern_inv`), and that the cycle tracker is left as found on every exit
path including error returns and user panics (`seen_balanced`), which is the hypothesis the first
two need.  `Gen.*` is regenerated from /repo on every run (Tie A).

What is NOT carried by any theorem: absence of data races, the behaviour of `sync.Pool`,
the Go memory model, scheduler effects, slice aliasing of returned buffers.  Those are validated
only (harness/c18.go, harness/c18_race under the race detector); see meta/C18.json.
-/
import JsonV.Lemmas.ResetL
import JsonV.Lemmas.ResetPoolL
import JsonV.Gen.Constants
import JsonV.Gen.Straight

namespace JsonV.Props.C18
open JsonV JsonV.Model JsonV.Model.Reset JsonV.Model.Intern JsonV.Lemmas.ResetL

/-- The translated body of `hash64` (intern.go:58) is the model's hash. -/
theorem tie_hash64 (lo hi : BitVec 32) : Gen.json_hash64 lo hi = Intern.hash64 lo hi := by
  unfold Gen.json_hash64 Intern.hash64
  rfl

theorem tie_intern_constants :
    Gen.json.c_makeString_minCachedLen = Intern.minCachedLen ∧
    Gen.json.c_makeString_maxCachedLen = Intern.maxCachedLen ∧
    Gen.json.c_hash64_prime3 = Intern.prime3.toNat ∧
    Gen.json.c_hash64_prime4 = Intern.prime4.toNat ∧
    Gen.json.c_hash64_prime5 = Intern.prime5.toNat := by decide

theorem tie_allowDup : BitVec.ofNat 64 Gen.jsonflags.c_AllowDuplicateNames = allowDupBit := by decide

/-- The parameters of the coder model with the regenerated constants.  (The theorems below hold for every `P : Params`
and bind their own; this instance only serves `params_values`.) -/
def P : Params := ⟨Gen.jsontext.c_maxNestingDepth, Gen.json.c_startDetectingCyclesAfter⟩

theorem params_values : P.maxDepth = 10000 ∧ P.cycleAfter = 1000 := by decide

/-- Whatever the cache holds (no invariant needed: the equality test alone suffices),
`makeString` returns a string equal to its argument. -/
theorem intern_transparent (c : Cache) (b : Bytes) : (makeString c b).1 = b :=
  makeString_fst c b

/-- After ANY history of earlier `makeString` calls on ANY initial cache, a further sequence of
calls returns exactly its arguments. -/
theorem intern_transparent_history (c : Cache) (hist bs : List Bytes) :
    (runAll (runAll c hist).2 bs).1 = bs :=
  runAll_fst _ bs

/-- The cache invariant (every slot empty or holding a cacheable string that hashes there) is preserved by every
call; it holds of the empty cache, hence after every history (`intern_inv_history`). -/
theorem intern_inv (c : Cache) (b : Bytes) (h : Inv c) : Inv (makeString c b).2 :=
  makeString_inv c b h

theorem intern_inv_history (bs : List Bytes) : Inv (runAll Cache.empty bs).2 :=
  runAll_inv _ bs inv_empty

/-- The hypothesis of `intern_inv` is satisfiable by a non-empty cache, and a colliding pair
really evicts: both strings hash to one slot, the second call replaces the first entry. -/
example :
    let a : Bytes := Bytes.ofString "PREFIX__a__SUFFIX"
    let b : Bytes := Bytes.ofString "PREFIX__b__SUFFIX"
    slot a = slot b ∧ a ≠ b ∧
    (runAll Cache.empty [a, b, a]).1 = [a, b, a] ∧
    (runAll Cache.empty [a, b]).2[slot a] = b := by
  decide +kernel

/-- For every value, depth, threshold and cycle set, on every exit path (ok, error, user panic,
detected cycle), marshaling leaves the cycle set exactly as it found it. -/
theorem seen_balanced (cycleAfter depth : Nat) (seen : List Nat) (v : GoVal) :
    (marshal cycleAfter depth seen v).2 = seen :=
  marshal_seen cycleAfter v depth seen

/-- The walk is not trivially balanced: it does insert (a value that contains itself below the
threshold depth is reported as a cycle), … -/
theorem cycle_detected (cycleAfter depth p : Nat) (seen : List Nat) (h : depth > cycleAfter) (hp : p ∉ seen) :
    (marshal cycleAfter depth seen (.node p [.node p []])).1 = .cycle := by
  have h2 : depth + 1 > cycleAfter := by omega
  simp [marshal, marshalKids, h, h2, hp]

/-- … and without the `defer` (leave only on the normal return path) an error or panic below
an entered container leaks its pointer: `seen_balanced` fails for that variant. -/
theorem no_defer_leaks (cycleAfter depth p : Nat) (h : depth > cycleAfter) :
    (marshalNoDefer cycleAfter depth [] p .panic).2 = [p] ∧
    (marshalNoDefer cycleAfter depth [] p .error).2 = [p] := by
  simp [marshalNoDefer, h]

/-- A coder whose cycle set is empty behaves exactly like the survivor-free specification run
on its core: buffer capacities, kept slices and the string cache never influence a result. -/
theorem caches_transparent (P : Params) (c : Coder) (ops : List Op) (h : c.surv.seen = []) :
    behaviour P c ops = behaviourC P c.core ops :=
  behaviour_refines P ops c h

/-- Two coders that agree on everything `reset` re-initialises behave identically, whatever
their survivors (capacities, recycled buffer, string cache) are. -/
theorem survivors_irrelevant (P : Params) (c c' : Coder) (ops : List Op)
    (hcore : c.core = c'.core) (h : c.surv.seen = []) (h' : c'.surv.seen = []) :
    behaviour P c ops = behaviour P c' ops := by
  rw [behaviour_refines P ops c h, behaviour_refines P ops c' h', hcore]

/-- `reset` on ANY coder state with an empty cycle set — abandoned half-way, after errors, with
any cache and any buffer — gives a coder that behaves like a brand-new one. -/
theorem reset_fresh (P : Params) (c : Coder) (f : Flags) (ops : List Op) (h : c.surv.seen = []) :
    behaviour P (reset c f) ops = behaviour P (fresh f) ops :=
  survivors_irrelevant P (reset c f) (fresh f) ops (core_reset c f) h rfl

/-- Every state a pooled coder can reach (from new, by any operations incl. failing ones and
values that end in errors/panics/cycles, and any resets) has an empty cycle set. -/
theorem reachable_seen_empty (P : Params) (c : Coder) (h : Reachable P c) : c.surv.seen = [] :=
  reachable_seen P c h

/-- Hence, for every reachable state, reset = fresh (the hypothesis of `reset_fresh` is discharged
by `seen_balanced`). -/
theorem reset_fresh_reachable (P : Params) (c : Coder) (f : Flags) (ops : List Op) (h : Reachable P c) :
    behaviour P (reset c f) ops = behaviour P (fresh f) ops :=
  reset_fresh P c f ops (reachable_seen P c h)

/-- The hypothesis `seen = []` is necessary, i.e. `seen_balanced` is what isolation rests on: a
leaked pointer makes a later, unrelated call report a cycle that a fresh coder does not report. -/
theorem leaked_seen_matters :
    let P0 : Params := ⟨10, 0⟩
    let leaked : Coder := { surv := { seen := [7] } }
    behaviour P0 leaked [.value (.node 7 [])] = [.err .cycle] ∧
    behaviour P0 (fresh Flags.empty) [.value (.node 7 [])] = [.ok 1 1 1 none] := by
  decide

/-- The hypotheses of `reset_fresh` are met by a concrete used state: an object left open with
a pending name, after a rejected duplicate, with a warm cache; after `reset` the same name is
accepted again and results equal those of a new coder. -/
example :
    let P0 : Params := ⟨10, 0⟩
    let nm : Bytes := Bytes.ofString "name"
    let used := run P0 (fresh Flags.empty) [.pushObject, .string nm, .literal, .string nm, .pushArray]
    used.surv.seen = [] ∧ used.machine.depth = 2 ∧ used.namespaces = [[nm]] ∧
    behaviour P0 used [.string nm] = [.err .duplicateName] ∧
    behaviour P0 (reset used Flags.empty) [.pushObject, .string nm] =
      behaviour P0 (fresh Flags.empty) [.pushObject, .string nm] ∧
    behaviour P0 (reset used Flags.empty) [.pushObject, .string nm] = [.ok 2 0 1 none, .ok 2 1 7 (some nm)] := by
  decide +kernel

/-- `stateMachine.Floor` (raised while user code runs) is among the things `reset` re-initialises:
a coder abandoned inside a user call refuses to close the enclosing array (`errEnclosingEnd`);
after `reset` — whatever the floor was — it behaves like a new one (instance of `reset_fresh`). -/
theorem floor_cleared_by_reset :
    let P0 : Params := ⟨10, 0⟩
    let inUser := run P0 (fresh Flags.empty) [.pushArray, .enterUser]
    inUser.floor = 1 ∧
    behaviour P0 inUser [.popArray] = [.err .enclosingEnd] ∧
    (reset inUser Flags.empty).floor = 0 ∧
    behaviour P0 (reset inUser Flags.empty) [.pushArray, .popArray] =
      behaviour P0 (fresh Flags.empty) [.pushArray, .popArray] ∧
    behaviour P0 (fresh Flags.empty) [.pushArray, .popArray] = [.ok 2 0 1 none, .ok 1 1 2 none] := by
  decide

/-! ### Pool discipline: results do not depend on what the pools hold

Tied to the Go code by the pool audit of harness/c18_pools.go, which after every call of the pool
(baseline pass and every other in-process pass) empties the seven `sync.Pool`s of the library and
requires every object to be present once.  `Cmd.get`/`Cmd.put` stand for
  getStrings/putStrings            arshal_any.go:152/167, arshal_default.go:885/902, arshal_embedded.go:145/162
  getObjectMembers/putObjectMembers jsontext/value.go:335/336
  get/putBufferedEncoder           arshal.go:166/167, value.go:46/47, 138/139, 307/308, v1/stream.go:141/142
  get/putStreamingEncoder          arshal.go:183/184 (both the io.Writer and the bytes.Buffer pool)
  get/putBufferedDecoder           arshal.go:392/393, arshal_embedded.go:59/60, value.go:98/99, 311/312, v1/scanner.go:28/29
  get/putStreamingDecoder          arshal.go:410/411
`write` = the reset / overwrite every user performs after `get`; `read` = any use of the object. -/

open JsonV.Model.Reset.Pool JsonV.Lemmas.ResetPoolL in
/-- A program that obeys the discipline (each get'd object is put at most once, is not used
after its put, is read only after it was written) observes exactly what it would observe with
private fresh objects — from ANY pool that holds no object twice, whatever objects and stale
contents it holds — and leaves such a pool behind. -/
theorem pool_transparent (cs : List Cmd) (p : PSt) (r : RSt) (vs : List Val)
    (hd : rrun {} cs = some (r, vs)) (hg : GoodPool p) (hn : p.nh = 0) :
    (prun p cs).2 = vs ∧ GoodPool (prun p cs).1 := by
  have h := run_sim cs p {} r vs (inv_of_good p {} hg hn (fun _ => rfl)) hd
  exact ⟨h.1, good_of_inv _ _ h.2⟩

open JsonV.Model.Reset.Pool JsonV.Lemmas.ResetPoolL in
/-- Hence two pools (two histories) give the same observations. -/
theorem pool_contents_irrelevant (cs : List Cmd) (p p' : PSt) (hd : Disciplined cs)
    (hg : GoodPool p) (hg' : GoodPool p') (hn : p.nh = 0) (hn' : p'.nh = 0) :
    (prun p cs).2 = (prun p' cs).2 := by
  obtain ⟨r, vs, hr⟩ := hd
  rw [(pool_transparent cs p r vs hr hg hn).1, (pool_transparent cs p' r vs hr hg' hn').1]

open JsonV.Model.Reset.Pool in
/-- The discipline is necessary.  An earlier call that puts its object twice (the reference
semantics rejects it) leaves a pool in which a later, perfectly disciplined call — an outer user
and a nested user, each with its own `get` — is handed the same object twice and reads the inner
user's data: 20 instead of 10. -/
theorem double_put_breaks :
    let earlier : List Cmd := [.get, .write 0 5, .put 0, .put 0]
    let later : List Cmd := [.get, .write 0 10, .get, .write 1 20, .put 1, .read 0, .put 0]
    let clean : PSt := { heap := fun _ => 0, pool := [], next := 0 }
    rrun {} earlier = none ∧
    (∃ r, rrun {} later = some (r, [10])) ∧
    (prun clean later).2 = [10] ∧
    (prun { (prun clean earlier).1 with nh := 0 } later).2 = [20] ∧
    ¬ (prun clean earlier).1.pool.Nodup := by
  refine ⟨by decide, ⟨_, rfl⟩, by decide, by decide, by decide⟩

/-- The concurrent semantics of the real library: NOT modelled (sync.Pool, the Go memory model,
the scheduler).  Only its signature is written down so that the full property can be stated. -/
structure ConcurrentSemantics where
  Call : Type
  Result : Type
  Schedule : Type
  alone : Call → Result                          -- the call run by itself in a new process
  run : Schedule → List Call → Call → Result     -- its result inside a pool under a schedule
  raceFree : Schedule → List Call → Prop         -- the execution has no data race

/-- The property itself: for every schedule of every pool, each call returns what it returns
alone, and the execution is race free.  Validated (race detector, shuffles), not proved. -/
def isolation_full (S : ConcurrentSemantics) : Prop :=
  ∀ (σ : S.Schedule) (pool : List S.Call) (c : S.Call), c ∈ pool → S.run σ pool c = S.alone c ∧ S.raceFree σ pool

end JsonV.Props.C18
