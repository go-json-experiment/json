/-
C04 — Marshal then Unmarshal restores the value (round trip): the parts that are PROVED.

The integer/duration/unix-time codecs of arshal_time.go and the decimal integer printing/parsing are
pure integer code; their round trips are proved here for ALL 64-bit values (no sampling), on the model
`JsonV.Model.Time`, which mirrors the Go code (including the uint64/int64 wrap-around it relies on) and
is tied to the code by the correspondence check of harness/c04.go.  The quoted forms of integers and floats
(`string` option, StringifyNumbers, map keys) further down are stated on C10's model, `Model/Number.lean`.

The round trip of whole Go values (structs, maps, options …) is NOT proved in this file: a tree-level statement over the
L3 model is in Props/C04L3.lean; here it is validated by the harness only (see meta/C04.json).
-/
import JsonV.Lemmas.TimeUnixRt
import JsonV.Lemmas.TimeISORt
import JsonV.Lemmas.TimeInt
import JsonV.Props.C10
import JsonV.Props.C10Glue
import JsonV.Lemmas.TimeFloatNF

namespace JsonV.Props.C04
open JsonV JsonV.Model.Time

theorem int64_range (d : Int64) : -9223372036854775808 ≤ d.toInt ∧ d.toInt < 9223372036854775808 := by
  have h1 := Int64.toInt_lt d
  have h2 := Int64.le_toInt d
  constructor
  · simpa using h2
  · simpa using h1

/-- The four bases used by the formats sec/milli/micro/nano (durations) and unix/unixmilli/unixmicro/unixnano (times). -/
def bases : List Nat := [1, 1000, 1000000, 1000000000]

theorem bases_pow {p : Nat} (h : p ∈ bases) : ∃ k, p = 10 ^ k := by
  simp only [bases, List.mem_cons, List.not_mem_nil, or_false] at h
  rcases h with rfl | rfl | rfl | rfl
  · exact ⟨0, by decide⟩
  · exact ⟨3, by decide⟩
  · exact ⟨6, by decide⟩
  · exact ⟨9, by decide⟩

/-- `uint_digits_rt`: the decimal text of every uint64 parses back to itself through `jsonwire.ParseUint`. -/
theorem uint_digits_rt (n : UInt64) : parseUint (natDigits n.toNat) = (n.toNat, true) :=
  parseUint_natDigits (by have := UInt64.toNat_lt n; simpa [U64] using this)

/-- `int_digits_rt`: the decimal text of every int64 (strconv.AppendInt) parses back to itself through the
int arshaler's parse path (optional '-', `ParseUint`, range test, wrapping negation) — including MinInt64. -/
theorem int_digits_rt (i : Int64) : parseInt64 (intDigits i.toInt) = .ok i.toInt :=
  parseInt64_intDigits i.toInt (int64_range i).1 (int64_range i).2

/-- digits of a number that does not fit 64 bits are rejected as overflow, never silently truncated. -/
theorem uint_overflow_detected (n : Nat) (h : 2 ^ 64 ≤ n) : parseUint (natDigits n) = (maxU64, false) :=
  parseUint_natDigits_ge (by simpa [U64] using h)

example : ∃ n : Nat, 2 ^ 64 ≤ n := ⟨2 ^ 64, Nat.le_refl _⟩

/-- `padded_rt`: zero-padded decimals of width `k+1` round-trip for every `n < 10^(k+1)`. -/
theorem padded_rt (k n : Nat) (h : n < 10 ^ (k + 1)) :
    parsePaddedBase10 (appendPaddedBase10 [] n (10 ^ (k + 1))) (10 ^ (k + 1)) = (n, true) :=
  padded_roundtrip k n h

example : (5 : Nat) < 10 ^ (2 + 1) := by decide

/-- `frac_rt`: the fraction text written by `appendFracBase10` (after any prefix `b`) parses back to `f`,
for every `f < 10^k`; trailing zeros are dropped by the writer and restored by the parser. -/
theorem frac_rt (b : Bytes) (k f : Nat) (h : f < 10 ^ k) :
    ∃ t, appendFracBase10 b f (10 ^ k) = b ++ t ∧ parseFracBase10 t (10 ^ k) = (f, true) :=
  ⟨fracText k f, appendFrac_eq b k f h, parseFrac_fracText k f h⟩

example : (120 : Nat) < 10 ^ 3 := by decide

/-- `negate_involutive`: `negateSecNano` is an involution on int64 seconds × nanoseconds in `[0, 10^9)`. -/
theorem negate_involutive (sec : Int64) (nsec : Int) (h0 : 0 ≤ nsec) (h1 : nsec < 1000000000) :
    negateSecNano (negateSecNano sec.toInt nsec).1 (negateSecNano sec.toInt nsec).2 = (sec.toInt, nsec) :=
  JsonV.Model.Time.negate_involutive sec.toInt nsec (int64_range sec).1 (int64_range sec).2 h0 h1

example : (0 : Int) ≤ 999999999 ∧ (999999999 : Int) < 1000000000 := by decide

/-- `durB10_rt`: for EVERY int64 duration `d` and each base, `parseDurationBase10 (appendDurationBase10 d p) p = d`
(formats sec, milli, micro, nano; includes MinInt64 whose magnitude only exists as a uint64). -/
theorem durB10_rt (d : Int64) (p : Nat) (hp : p ∈ bases) :
    parseDurationBase10 (appendDurationBase10 [] d.toInt p) p = .ok d.toInt := by
  obtain ⟨k, rfl⟩ := bases_pow hp
  exact durB10_roundtrip_pow k d.toInt (int64_range d).1 (int64_range d).2

example : (1000 : Nat) ∈ bases := by decide

/-- `durISO_rt`: for EVERY int64 duration `d`, `parseDurationISO8601 (appendDurationISO8601 d) = d` with no error —
whatever the float-branch parameter `ff` of the model is: the writer only ever puts a fraction on the seconds
component, so the parser's float branch (fraction of an hour/minute/date unit) is never entered (third component
`false`).  Covers d = 0 ("PT0S"), MinInt64 (magnitude 2^63 only exists as a uint64), sub-second-only durations and
every combination of present/absent H, M, S components. -/
theorem durISO_rt (ff : FloatFrac) (d : Int64) :
    parseDurationISO8601 ff (appendDurationISO8601 [] d.toInt) = (d.toInt, none, false) :=
  durISO_roundtrip ff d.toInt (int64_range d).1 (int64_range d).2

/-! ### quoted numbers (StringifyNumbers, the `string` tag, map keys)

The marshaler writes `"` ++ decimal ++ `"` (digits and '-' never need escaping, so the JSON string is verbatim);
the unmarshaler's quoted path strips the two quotes (`jsonwire.UnquoteMayCopy(val, isVerbatim)`) and runs the
very same parse as for a bare number (slice C10: `Model/Number.lean`, `Props.C10.quoted_same`). -/

/-- the quoted form written by `AppendRaw('"', …)` for a number text. -/
def quoteNum (b : Bytes) : Bytes := 34 :: (b ++ [34])
/-- `jsonwire.UnquoteMayCopy(val, true)`: `val[1 : len(val)-1]`. -/
def unquoteVerbatim (b : Bytes) : Bytes := (b.drop 1).take (b.length - 2)

theorem unquote_quote (b : Bytes) : unquoteVerbatim (quoteNum b) = b := by
  simp [unquoteVerbatim, quoteNum]

/-- Quoted numbers, signed: every in-range integer of every Go width, written in the quoted form, is read back
as itself by the quoted path; and the quoted path refuses a bare number (kind mismatch), as the bare path refuses a string. -/
theorem quoted_int_rt (w : Nat) (hw : JsonV.Lemmas.NumInt.GoWidth w) (i : Int)
    (h1 : -(2 ^ (w - 1) : Int) ≤ i) (h2 : i < 2 ^ (w - 1)) :
    JsonV.Model.Number.unmarshalIntValue w true .str (unquoteVerbatim (quoteNum (JsonV.Model.Number.formatInt i))) = .set i ∧
    JsonV.Model.Number.unmarshalIntValue w true .num (JsonV.Model.Number.formatInt i) = .err .mismatch ∧
    JsonV.Model.Number.unmarshalIntValue w false .str (JsonV.Model.Number.formatInt i) = .err .mismatch := by
  have hq := JsonV.Props.C10.quoted_same w (JsonV.Model.Number.formatInt i)
  refine ⟨?_, hq.2.2.1, hq.2.2.2.1⟩
  rw [unquote_quote, hq.1]
  simp [JsonV.Model.Number.unmarshalIntValue, JsonV.Props.C10.int_rt w hw i h1 h2]

example : JsonV.Lemmas.NumInt.GoWidth 8 ∧ -(2 ^ (8 - 1) : Int) ≤ -128 ∧ (-128 : Int) < 2 ^ (8 - 1) := ⟨Or.inl rfl, by decide, by decide⟩

/-- Quoted numbers, unsigned. -/
theorem quoted_uint_rt (w : Nat) (hw : JsonV.Lemmas.NumInt.GoWidth w) (n : Nat) (h : n < 2 ^ w) :
    JsonV.Model.Number.unmarshalUintValue w true .str (unquoteVerbatim (quoteNum (JsonV.Model.Number.formatUint n))) = .set n ∧
    JsonV.Model.Number.unmarshalUintValue w true .num (JsonV.Model.Number.formatUint n) = .err .mismatch := by
  have hq := JsonV.Props.C10.quoted_same w (JsonV.Model.Number.formatUint n)
  refine ⟨?_, hq.2.2.2.2.1⟩
  rw [unquote_quote, hq.2.1]
  have hu : JsonV.Model.Number.unmarshalUint w (JsonV.Model.Number.formatUint n) = .ok n :=
    (JsonV.Props.C10.uint_bounds w hw _ n).2
      ⟨JsonV.Lemmas.NumDigits.formatUint_canonical n, JsonV.Lemmas.NumDigits.bytesVal_formatUint n, h⟩
  simp [JsonV.Model.Number.unmarshalUintValue, hu]

example : JsonV.Lemmas.NumInt.GoWidth 64 ∧ (18446744073709551615 : Nat) < 2 ^ 64 := ⟨Or.inr (Or.inr (Or.inr rfl)), by decide⟩

/-! ### quoted floats (`,string` float fields, StringifyNumbers, float map keys)

Over slice C10's model of the float arshaler (`Model/Number.lean`: `unmarshalFloatValue`, `appendFloat`) and its
glue theorem `Props.C10Glue.quoted_float_rt`.  The domain is instantiated with the NORMAL FORMS of the destination
format (`Lemmas/TimeFloatNF.lean`): they are the values the parser returns, and on them equal `Fl`
means identical IEEE bits (`float_bits_determine`).

What `FloatRT fp (NormalFl ff)` assumes about strconv — and nothing else — for the codec
`fp = ⟨strconv.ParseFloat(·, bits), shortest decomposition used by strconv.AppendFloat(·, 'e'/'f', -1, bits)⟩`:
  (wfd) the shortest decomposition `0.d₁…d_k × 10^n` of every value is well formed: decimal digits, `d₁ ≠ 0`,
        zero is `([], 0)`, and `|n - 1| < 1000`;
  (rt)  for every finite normal form `f` of the format, `ParseFloat(AppendFloat(f)) = f`, i.e. the shortest digits
        are enough for the correctly rounding parser to return the same value (the "shortest round-trip" contract
        of strconv.FormatFloat(-1) / ParseFloat).
Both are validated by the harnesses (C04/C10: ALL finite float32 bit patterns in the thorough tier, boundary and
random float64 patterns), not proved: strconv's digit generation is outside the model. -/

open JsonV.Lemmas.FloatNF in
/-- `quoted_float_rt` for C04: a finite float of format `ff` written by the float marshaler (`jsonwire.AppendFloat`)
is read back as the SAME value by the float unmarshaler — as a bare JSON number, and in the quoted form
(`"` ++ text ++ `"`, stripped by `UnquoteMayCopy`) used by `,string` fields, StringifyNumbers and map keys —
while the quoted path refuses the bare number and the bare path refuses the string (kind mismatch). -/
theorem quoted_float_rt (ff : JsonV.Model.Number.FloatFmt) (fp : JsonV.Canon.FloatCodec)
    (h : JsonV.Props.C10Glue.FloatRT fp (NormalFl ff)) (f : JsonV.Model.Number.Fl) (hd : NormalFl ff f) :
    JsonV.Model.Number.unmarshalFloatValue fp.parse false .num (fp.append f) = .set f ∧
    JsonV.Model.Number.unmarshalFloatValue fp.parse true .str (unquoteVerbatim (quoteNum (fp.append f))) = .set f ∧
    JsonV.Model.Number.unmarshalFloatValue fp.parse true .num (fp.append f) = .err .mismatch ∧
    JsonV.Model.Number.unmarshalFloatValue fp.parse false .str (fp.append f) = .err .mismatch := by
  have hq := JsonV.Props.C10Glue.quoted_float_rt fp (NormalFl ff) h f hd hd.1
  refine ⟨hq.1, ?_, ?_, ?_⟩
  · rw [unquote_quote]; exact hq.2
  · simp [JsonV.Model.Number.unmarshalFloatValue]
  · simp [JsonV.Model.Number.unmarshalFloatValue]

open JsonV.Lemmas.FloatNF in
/-- the two instances the library has: float64 and float32 destinations. -/
theorem quoted_float64_rt (fp : JsonV.Canon.FloatCodec) (h : JsonV.Props.C10Glue.FloatRT fp (NormalFl JsonV.Model.Number.fmt64))
    (f : JsonV.Model.Number.Fl) (hd : NormalFl JsonV.Model.Number.fmt64 f) :
    JsonV.Model.Number.unmarshalFloatValue fp.parse true .str (unquoteVerbatim (quoteNum (fp.append f))) = .set f :=
  (quoted_float_rt _ fp h f hd).2.1

open JsonV.Lemmas.FloatNF in
theorem quoted_float32_rt (fp : JsonV.Canon.FloatCodec) (h : JsonV.Props.C10Glue.FloatRT fp (NormalFl JsonV.Model.Number.fmt32))
    (f : JsonV.Model.Number.Fl) (hd : NormalFl JsonV.Model.Number.fmt32 f) :
    JsonV.Model.Number.unmarshalFloatValue fp.parse true .str (unquoteVerbatim (quoteNum (fp.append f))) = .set f :=
  (quoted_float_rt _ fp h f hd).2.1

open JsonV.Lemmas.FloatNF in
-- the domain is inhabited by ordinary values: 1.5 = 3·2^51 · 2^-52, the smallest subnormal, -0, MaxFloat64
example : NormalFl JsonV.Model.Number.fmt64 ⟨false, false, 6755399441055744, -52⟩ ∧
    NormalFl JsonV.Model.Number.fmt64 ⟨false, false, 1, -1074⟩ ∧ NormalFl JsonV.Model.Number.fmt64 ⟨true, false, 0, -1074⟩ ∧
    NormalFl JsonV.Model.Number.fmt64 ⟨false, false, 9007199254740991, 971⟩ ∧
    NormalFl JsonV.Model.Number.fmt32 ⟨false, false, 16777215, 104⟩ := by decide

open JsonV.Lemmas.FloatNF in
/-- … and the law is satisfiable on a non-empty part of that domain (the codec whose only value is +0), so the
implication is not vacuous; for the real strconv codec the law is the validated assumption described above. -/
example :
    let fp : JsonV.Canon.FloatCodec := ⟨fun _ => ⟨false, false, 0, -1074⟩, fun _ => ([], 0)⟩
    let dom : JsonV.Model.Number.Fl → Prop := fun f => NormalFl JsonV.Model.Number.fmt64 f ∧ f = ⟨false, false, 0, -1074⟩
    JsonV.Props.C10Glue.FloatRT fp dom ∧ dom ⟨false, false, 0, -1074⟩ :=
  ⟨⟨fun _ => (show JsonV.Lemmas.NumFloat.WFD [] 0 from ⟨by simp, by simp, fun _ => rfl, by omega, by omega⟩),
    fun f hf => hf.2.symm⟩, by decide, rfl⟩

open JsonV.Lemmas.FloatNF in
/-- "reads back as the same `Fl`" is "reads back with identical bits": on normal forms the IEEE-754 bit pattern
determines the representation (float64 and float32). -/
theorem float_bits_determine (f g : JsonV.Model.Number.Fl) :
    (NormalFl JsonV.Model.Number.fmt64 f → NormalFl JsonV.Model.Number.fmt64 g →
      f.toBits JsonV.Model.Number.fmt64 = g.toBits JsonV.Model.Number.fmt64 → f = g) ∧
    (NormalFl JsonV.Model.Number.fmt32 f → NormalFl JsonV.Model.Number.fmt32 g →
      f.toBits JsonV.Model.Number.fmt32 = g.toBits JsonV.Model.Number.fmt32 → f = g) :=
  ⟨toBits64_injective f g, toBits32_injective f g⟩

open JsonV.Lemmas.FloatNF in
/-- the v1 quoted arm (`StringifyWithLegacySemantics`: v1 `,string` fields and map keys parse with
strconv.ParseFloat on the Go syntax at the destination width) gives the same result, provided the Go-syntax
parser agrees with the JSON-number parser on the emitted text (the Go float syntax contains the JSON one). -/
theorem quoted_float_legacy_rt (ff : JsonV.Model.Number.FloatFmt) (fp : JsonV.Canon.FloatCodec)
    (h : JsonV.Props.C10Glue.FloatRT fp (NormalFl ff)) (f : JsonV.Model.Number.Fl) (hd : NormalFl ff f)
    (pfGo : Bytes → Except JsonV.Model.Number.NumErr JsonV.Model.Number.Fl)
    (hagree : pfGo (fp.append f) = if (fp.parse (fp.append f)).inf then .error .range else .ok (fp.parse (fp.append f))) :
    JsonV.Model.Number.unmarshalFloatLegacy pfGo (unquoteVerbatim (quoteNum (fp.append f))) = .set f := by
  have hj : JsonV.Spec.Grammar.JNumber (fp.append f) :=
    JsonV.Props.C10Glue.float_is_JNumber f.neg _ _ (h.wfd f)
  rw [unquote_quote, JsonV.Props.C10Glue.legacy_same_on_numbers fp.parse pfGo _ hj hagree]
  exact (JsonV.Props.C10Glue.quoted_float_rt fp (NormalFl ff) h f hd hd.1).2

/-- `timeUnix_rt`: for EVERY int64 second count, every nanosecond count in `[0, 10^9)` and each base
(formats unix, unixmilli, unixmicro, unixnano) `parseTimeUnix (appendTimeUnix (sec, nsec) p) p = (sec, nsec)`:
the pair is preserved EXACTLY — all four formats keep nanosecond precision because the digits below the unit
are written as a decimal fraction; nothing is truncated.  Covers the three regimes of the writer (`pow10 = 1`,
`|sec| < 10^9`, otherwise), the parser's re-read when the whole field overflows a uint64, and MinInt64.
(`time.Time` enters through `t.Unix()`, `t.Nanosecond()` and `time.Unix(sec, nsec)`, see Model/Time.lean.) -/
theorem timeUnix_rt (sec : Int64) (nsec : Int) (p : Nat) (h0 : 0 ≤ nsec) (h1 : nsec < 1000000000) (hp : p ∈ bases) :
    parseTimeUnix (appendTimeUnix [] sec.toInt nsec p) p = .ok (sec.toInt, nsec) := by
  have hr := int64_range sec
  simp only [bases, List.mem_cons, List.not_mem_nil, or_false] at hp
  rcases hp with rfl | rfl | rfl | rfl
  · exact timeUnix_roundtrip_pow 0 9 rfl (Or.inl rfl) _ _ hr.1 hr.2 h0 h1
  · exact timeUnix_roundtrip_pow 3 6 rfl (Or.inr (by decide)) _ _ hr.1 hr.2 h0 h1
  · exact timeUnix_roundtrip_pow 6 3 rfl (Or.inr (by decide)) _ _ hr.1 hr.2 h0 h1
  · exact timeUnix_roundtrip_pow 9 0 rfl (Or.inr (by decide)) _ _ hr.1 hr.2 h0 h1

example : (0 : Int) ≤ 999999999 ∧ (999999999 : Int) < 1000000000 ∧ (1000000 : Nat) ∈ bases := by decide

end JsonV.Props.C04
