/-
C17 — User-defined (un)marshalers are dispatched and policed as documented.

The property theorems; the model is `Model/Dispatch.lean` (composition of the wrappers of
`makeMethodArshaler` and `typedArshalers.lookup` in the order the Go code builds them, the
`DepthLength` policing, levels = how the value is reached), the helper lemmas are in
`Lemmas/DispatchL.lean`, `DispatchPolice.lean`, `DispatchScope.lean` and `DispatchLegacy.lean`.  The model is tied to the code by the
correspondence check of harness/c17.go (family `disp`) over the whole grid.
-/
import JsonV.Model.Dispatch
import JsonV.Lemmas.DispatchL
import JsonV.Lemmas.DispatchPolice
import JsonV.Lemmas.DispatchScope
import JsonV.Lemmas.DispatchLegacy
import JsonV.Props.C19Scope

namespace JsonV.Props.C17
open JsonV.Model JsonV.Model.Dispatch JsonV.Lemmas.DispatchL JsonV.Lemmas.DispatchPolice
open JsonV.Model.Scope JsonV.Lemmas.DispatchScope JsonV.Lemmas.DispatchLegacy

/-- `dispatch_order` (marshal).  Under default options, for EVERY method set, every list of caller-supplied
functions (any length), every behaviour of the user code, every way the value is reached and every coder state:
what the composed wrappers do (call trace and result) is exactly "first applicable in the documented order". -/
theorem dispatch_order_marshal (maxDepth : Nat) (ms : MethodSet) (fns : List FnSpec) (beh : Behav)
    (levels : List Level) (i : Nat) (m : Machine) :
    marshalLevels maxDepth ms fns beh false levels i m = documentedMarshal maxDepth ms fns beh levels i m :=
  marshalLevels_eq_documented maxDepth ms fns beh levels i m

/-- `dispatch_order` (unmarshal). -/
theorem dispatch_order_unmarshal (maxDepth : Nat) (ms : UMethodSet) (fns : List FnSpec) (beh : Behav)
    (levels : List Level) (i : Nat) (m : Machine) :
    unmarshalLevels maxDepth ms fns beh false levels i m = documentedUnmarshal maxDepth ms fns beh levels i m :=
  unmarshalLevels_eq_documented maxDepth ms fns beh levels i m

/-- One level of the above, for the function list alone: `typedArshalers.lookup` calls the castable functions in
list order, stops at the first that may not skip, and otherwise continues with the type's own arshaler —
for lists of any length, under any options. -/
theorem lookup_order (fns : List FnSpec) (isBase implI : Bool) (beh : Behav) (fnc : Arshaler) (ctx : Ctx) :
    lookup fns isBase implI beh fnc ctx = documentedFns isBase implI beh ctx.lvl ctx.m (fnc ctx) fns :=
  lookup_eq fns isBase implI beh fnc ctx

/-- The method wrappers alone: later wrapping = higher precedence gives MarshalerTo, Marshaler, TextAppender,
TextMarshaler, then whatever was there before — for all 81 method sets. -/
theorem method_order_marshal (ms : MethodSet) (beh : Behav) (fncs : Arshaler) (ctx : Ctx) (h : ctx.legacy = false) :
    makeMethodMarshaler .named ms beh fncs ctx = documentedMethodsM ms beh ctx.lvl ctx.m (fncs ctx) :=
  makeMethodMarshaler_named ms beh fncs ctx h

theorem method_order_unmarshal (ms : UMethodSet) (beh : Behav) (fncs : Arshaler) (ctx : Ctx) (h : ctx.legacy = false) :
    makeMethodUnmarshaler .named ms beh fncs ctx =
      documentedMethodsU ms beh ctx.lvl ctx.m ctx.inNull ctx.inStr (fncs ctx) :=
  makeMethodUnmarshaler_named ms beh fncs ctx h

/-- The statement is not vacuous: a type with a pointer-receiver MarshalJSONTo that declines and a value-receiver
MarshalJSON, reached as a struct field, with a list of three functions of which the second matches and declines. -/
example :
    let ms : MethodSet := { to := .pointer, js := .value }
    let fns : List FnSpec := [⟨0, .other, true⟩, ⟨1, .ptr, true⟩, ⟨2, .val, false⟩]
    let beh : Behav := fun c _ => match c with
      | .fn 1 _ => .skip | .fn 2 _ => .skip | .meth .to _ => .skip | _ => .done
    let levels : List Level := [{ kind := .cont, pre := [.pushO, .str] }, { kind := .base, forcedAddr := true }]
    marshalLevels 10000 ms fns beh false levels 0 Machine.init = ⟨[.fn 1 1, .fn 2 1], .err⟩ ∧
    marshalLevels 10000 ms (fns.take 2) beh false levels 0 Machine.init =
      ⟨[.fn 1 1, .meth .to 1, .meth .js 1], .ok (.cand (.meth .js 1))⟩ := by decide

/-- Under default options the outcome does not depend on whether the value is addressable only through a
forced copy (top-level values, map values, elements of non-addressable arrays, values in interfaces). -/
theorem addressability_irrelevant (maxDepth : Nat) (ms : MethodSet) (fns : List FnSpec) (beh : Behav) (b : Bool)
    (levels : List Level) (i : Nat) (m : Machine) :
    marshalLevels maxDepth ms fns beh false (levels.map (setForced b)) i m =
      marshalLevels maxDepth ms fns beh false levels i m := by
  rw [dispatch_order_marshal, dispatch_order_marshal, documentedMarshal_forced]

/-- …whereas with `CallMethodsWithLegacySemantics` it does (so the hypothesis "default options" is used). -/
example :
    let ms : MethodSet := { js := .pointer }
    let beh : Behav := fun _ _ => .done
    marshalLevels 10000 ms [] beh true [{ kind := .base, forcedAddr := true }] 0 Machine.init = ⟨[], .ok (.dflt 0)⟩ ∧
    marshalLevels 10000 ms [] beh true [{ kind := .base, forcedAddr := false }] 0 Machine.init =
      ⟨[.meth .js 0], .ok (.cand (.meth .js 0))⟩ := by decide

/-- `no_nil_receiver`.  Under ANY options: every method invocation in the trace happens at a level that is the
type `T` itself (whose receiver is the address of an addressable value, hence non-nil), never at a pointer or
interface level. -/
theorem no_nil_receiver (maxDepth : Nat) (ms : MethodSet) (fns : List FnSpec) (beh : Behav) (legacy : Bool)
    (levels : List Level) (m : Machine) (k : Meth) (l : Nat)
    (h : Cand.meth k l ∈ (marshalLevels maxDepth ms fns beh legacy levels 0 m).trace) :
    ∃ lv, levels[l]? = some lv ∧ lv.kind = .base := by
  obtain ⟨_, lv, hlv, hb⟩ := marshal_methods_at_base maxDepth ms fns beh legacy levels 0 m _ h k l rfl
  exact ⟨lv, by simpa using hlv, hb⟩

/-- `no_nil_receiver` (unmarshal): UnmarshalJSONFrom/UnmarshalJSON/UnmarshalText are only ever invoked at the level of
`T` itself — after the pointer arshaler has allocated a nil pointer — never on a pointer or interface level. -/
theorem no_nil_receiver_unmarshal (maxDepth : Nat) (ms : UMethodSet) (fns : List FnSpec) (beh : Behav) (legacy : Bool)
    (levels : List Level) (m : Machine) (k : Meth) (l : Nat)
    (h : Cand.meth k l ∈ (unmarshalLevels maxDepth ms fns beh legacy levels 0 m).trace) :
    ∃ lv, levels[l]? = some lv ∧ lv.kind = .base := by
  obtain ⟨_, lv, hlv, hb⟩ := unmarshal_methods_at_base maxDepth ms fns beh legacy levels 0 m _ h k l rfl
  exact ⟨lv, by simpa using hlv, hb⟩

/-- The hypothesis is satisfiable: behind a non-nil pointer the pointer-receiver method IS called (at level 1, the
type itself); behind a nil pointer nothing is called and the result is null. -/
example :
    let ms : MethodSet := { js := .pointer }
    let beh : Behav := fun _ _ => .done
    marshalLevels 10000 ms [] beh false [{ kind := .ptr }, { kind := .base }] 0 Machine.init =
      ⟨[.meth .js 1], .ok (.cand (.meth .js 1))⟩ ∧
    marshalLevels 10000 ms [] beh false [{ kind := .ptr, isNil := true }, { kind := .base }] 0 Machine.init =
      ⟨[], .ok (.null 0)⟩ := by decide

/-- A nil pointer or nil interface ends the descent: nothing below it is looked up or called, and (unless a
caller-supplied function on `any` takes the pointer itself) the result is `null`. -/
theorem nil_stops (maxDepth : Nat) (ms : MethodSet) (fns : List FnSpec) (beh : Behav) (legacy : Bool)
    (l : Level) (rest rest' : List Level) (i : Nat) (m : Machine)
    (hk : l.kind = .ptr ∨ l.kind = .iface) (hn : l.isNil = true) :
    marshalLevels maxDepth ms fns beh legacy (l :: rest) i m = marshalLevels maxDepth ms fns beh legacy (l :: rest') i m := by
  unfold marshalLevels
  rcases hk with hk | hk <;> simp only [hk, hn, ↓reduceIte]

theorem nil_is_null (maxDepth : Nat) (ms : MethodSet) (beh : Behav) (legacy : Bool)
    (l : Level) (rest : List Level) (i : Nat) (m : Machine)
    (hk : l.kind = .ptr ∨ l.kind = .iface) (hn : l.isNil = true) (hname : m.last.needObjectName = false) :
    marshalLevels maxDepth ms [] beh legacy (l :: rest) i m = ⟨[], .ok (.null i)⟩ := by
  unfold marshalLevels
  rcases hk with hk | hk <;>
    simp [hk, hn, hname, lookup, collect, Level.tkind, makeMethodMarshaler]

/-- `fallthrough` (functions).  In a list of any length: the functions before `f` do not apply, `f` applies, may skip,
and returns ErrUnsupported without having used the coder (`skip`): then `f` is recorded and the outcome is that of
the rest of the list. -/
theorem fallthrough_fn (pre post : List FnSpec) (f : FnSpec) (isBase implI : Bool) (beh : Behav) (fnc : Arshaler) (ctx : Ctx)
    (hpre : ∀ g ∈ pre, castableTo isBase implI g.target = false)
    (hf : castableTo isBase implI f.target = true) (hskip : f.maySkip = true)
    (hb : beh (.fn f.id ctx.lvl) ctx.m = .skip) :
    lookup (pre ++ f :: post) isBase implI beh fnc ctx = (lookup post isBase implI beh fnc ctx).after (.fn f.id ctx.lvl) := by
  rw [lookup_eq, lookup_eq]
  induction pre with
  | nil => simp [documentedFns, hf, hskip, hb]
  | cons g gs ih =>
    have hg := hpre g (by simp)
    simp only [List.cons_append, documentedFns, hg, Bool.not_false, ↓reduceIte]
    exact ih (fun x hx => hpre x (by simp [hx]))

/-- `fallthrough` (MarshalJSONTo): a declining MarshalJSONTo is recorded and the outcome is that of the same type
without it. -/
theorem fallthrough_to (ms : MethodSet) (beh : Behav) (fncs : Arshaler) (ctx : Ctx) (hl : ctx.legacy = false)
    (hp : ms.to.present = true) (hb : beh (.meth .to ctx.lvl) ctx.m = .skip) :
    makeMethodMarshaler .named ms beh fncs ctx =
      (makeMethodMarshaler .named { ms with to := .absent } beh fncs ctx).after (.meth .to ctx.lvl) := by
  rw [method_order_marshal _ _ _ _ hl, method_order_marshal _ _ _ _ hl]
  simp only [documentedMethodsM]
  rw [tryMeth_skip _ _ _ _ _ _ hp hb, tryMeth_absent]

theorem fallthrough_from (ms : UMethodSet) (beh : Behav) (fncs : Arshaler) (ctx : Ctx) (hl : ctx.legacy = false)
    (hp : ms.frm.present = true) (hb : beh (.meth .frm ctx.lvl) ctx.m = .skip) :
    makeMethodUnmarshaler .named ms beh fncs ctx =
      (makeMethodUnmarshaler .named { ms with frm := .absent } beh fncs ctx).after (.meth .frm ctx.lvl) := by
  rw [method_order_unmarshal _ _ _ _ hl, method_order_unmarshal _ _ _ _ hl]
  simp only [documentedMethodsU]
  rw [tryMeth_skip _ _ _ _ _ _ hp hb, tryMeth_absent]

/-- Only MarshalerTo/UnmarshalerFrom (and the *To/*From functions) may decline: a Marshaler, TextAppender or
TextMarshaler that returns ErrUnsupported is an error, the next candidate is NOT tried. -/
theorem no_fallthrough_js (ms : MethodSet) (beh : Behav) (fncs : Arshaler) (ctx : Ctx) (hl : ctx.legacy = false)
    (h0 : ms.to = .absent) (hp : ms.js.present = true) (hb : beh (.meth .js ctx.lvl) ctx.m = .skip) :
    makeMethodMarshaler .named ms beh fncs ctx = .failed (.meth .js ctx.lvl) := by
  rw [method_order_marshal _ _ _ _ hl]
  simp only [documentedMethodsM, h0]
  rw [tryMeth_absent]
  simp [tryMeth, hp, hb]

/-- The call is accepted iff the user returned nil and afterwards the depth is unchanged and the length grew by one. -/
theorem policing_done (prev cur : Nat × Nat) (ret : Ret) :
    police prev cur ret = .done ↔ ret = .nil ∧ cur.1 = prev.1 ∧ cur.2 = prev.2 + 1 := police_done_iff prev cur ret

/-- ErrUnsupported falls through iff the coder's (depth, length) is untouched; otherwise it is an error. -/
theorem policing_skip (prev cur : Nat × Nat) (ret : Ret) :
    police prev cur ret = .skip ↔ ret = .unsupported ∧ cur = prev := police_skip_iff prev cur ret

/-- A plain error, or an error reported by the coder to the user code, is never swallowed. -/
theorem policing_error (maxDepth : Nat) (m : Machine) (script : List Op) (ret : Ret)
    (h : ret = .other ∨ (runPoliced maxDepth m.stack.length script m).2.isSome = true) :
    userCall maxDepth m script ret ≠ .done := by
  rcases h with h | h
  · subst h; simp [userCall, userCallWithFloor, police]
  · rw [userCall_error _ _ _ _ h]; simp

/-- `no_pop_below_floor`.  Key invariant of the floor (jsontext/state.go `Floor`, raised by the four call sites to
`len(Tokens.Stack)`): for EVERY script, every machine reached while user code runs still has all the containers that
were open when the call began — whether or not the script ends in an error. -/
theorem no_pop_below_floor (maxDepth floor : Nat) (script : List Op) (m : Machine) (h : floor ≤ m.stack.length) :
    floor ≤ (runPoliced maxDepth floor script m).1.stack.length :=
  JsonV.Lemmas.DispatchPolice.no_pop_below_floor maxDepth floor script m h

/-- `exactly_one_value`, UNRESTRICTED.  (It rests on the floor of the fix a29e0ae: without it the statement is false,
`exactly_one_value_needs_floor`.)
For EVERY state of `Model.State.Machine` and EVERY script of coder calls run under the floor of the call
(as `userCall` does) that the coder accepted: the script has a shape (it cannot have closed a container it did not
open), and the DepthLength comparison accepts (depth unchanged, length + 1) iff the script ended at its starting
level (`r = 0`) having begun exactly one value there (`c = 1`) — i.e. iff it wrote/read exactly one complete JSON value.
(`hov`: the 61-bit element counter of the starting level does not wrap.) -/
theorem exactly_one_value (maxDepth : Nat) (m m' : Machine) (script : List Op)
    (hrun : runPoliced maxDepth m.stack.length script m = (m', none))
    (hov : m.last.length + script.length < 2 ^ 61) :
    ∃ r c, shape script 0 0 = some (r, c) ∧
      ((m'.depthLength = (m.depthLength.1, m.depthLength.2 + 1)) ↔ (r = 0 ∧ c = 1)) := by
  obtain ⟨r, c, hshape, h⟩ := runPoliced_depthLength maxDepth m m' script hrun hov
  exact ⟨r, c, hshape, h 1⟩

/-- The policed call as a whole, no side conditions on the script: a nil-returning user function is accepted
iff every one of its calls was accepted by the coder AND together they are exactly one complete value at the
starting level.  Zero values, two values, an unfinished container, and closing the enclosing container and
re-opening another one are all rejected. -/
theorem exactly_one_value_full (maxDepth : Nat) (m : Machine) (script : List Op)
    (hov : m.last.length + script.length < 2 ^ 61) :
    userCall maxDepth m script .nil = .done ↔
      ((runPoliced maxDepth m.stack.length script m).2 = none ∧ shape script 0 0 = some (0, 1)) := by
  cases hrun : runPoliced maxDepth m.stack.length script m with
  | mk m' e =>
    cases e with
    | some e =>
      have : userCall maxDepth m script .nil = .fail := userCall_error _ _ _ _ (by simp [hrun])
      simp [this]
    | none =>
      obtain ⟨r, c, hshape, hiff⟩ := exactly_one_value maxDepth m m' script hrun hov
      simp only [userCall, userCallWithFloor, hrun, Option.isSome_none, Bool.false_eq_true, ↓reduceIte,
        police_done_iff, true_and, hshape, Option.some.injEq, Prod.mk.injEq]
      simp only [Machine.depthLength, Prod.mk.injEq] at hiff
      exact hiff

/-- ErrUnsupported after ANY accepted mutating call is an error: it falls through only when the script as a whole
is empty of effect (no value begun, back at the starting level). -/
theorem unsupported_after_use (maxDepth : Nat) (m m' : Machine) (script : List Op)
    (hrun : runPoliced maxDepth m.stack.length script m = (m', none))
    (hov : m.last.length + script.length < 2 ^ 61) :
    userCall maxDepth m script .unsupported = .skip ↔ shape script 0 0 = some (0, 0) := by
  obtain ⟨r, c, hshape, h⟩ := runPoliced_depthLength maxDepth m m' script hrun hov
  simp only [userCall, userCallWithFloor, hrun, Option.isSome_none, Bool.false_eq_true, ↓reduceIte, police_skip_iff,
    true_and, hshape, Option.some.injEq, Prod.mk.injEq]
  exact h 0

/-- The hypotheses are satisfiable, with both answers: `{ "a" [ 1 ] }` inside an array is one value,
`"x" "y"` is not, and the escape script `] "evil" [ "x"` is stopped at its first call. -/
example :
    let m := (runScript 10000 [.pushA] Machine.init).1
    let esc := (runScript 10000 [.pushO, .str, .pushA] Machine.init).1
    (runPoliced 10000 m.stack.length [.pushO, .str, .pushA, .lit, .popA, .popO] m).2 = none ∧
    shape [.pushO, .str, .pushA, .lit, .popA, .popO] 0 0 = some (0, 1) ∧
    userCall 10000 m [.pushO, .str, .pushA, .lit, .popA, .popO] .nil = .done ∧
    shape [.str, .str] 0 0 = some (0, 2) ∧ userCall 10000 m [.str, .str] .nil = .fail ∧
    runPoliced 10000 esc.stack.length [.popA, .str, .pushA, .str] esc = (esc, some .enclosingEnd) ∧
    userCall 10000 esc [.popA, .str, .pushA, .str] .nil = .fail := by decide

/-- The floor is NECESSARY.  With the floor left at 0 (the code before a29e0ae), at a nested position, the script
`]  "evil"  [  "x"` run as the first element of an array that is an object member (`{"F":[` …) is accepted by every
call of the coder and by the DepthLength comparison, although it is not one JSON value (`shape = none`). -/
theorem exactly_one_value_needs_floor :
    ∃ (m : Machine) (script : List Op),
      (runPoliced 10000 0 script m).2 = none ∧ userCallWithFloor 10000 0 m script .nil = .done ∧
      shape script 0 0 = none ∧ m.last.length + script.length < 2 ^ 61 :=
  ⟨(runScript 10000 [.pushO, .str, .pushA] Machine.init).1, [.popA, .str, .pushA, .str], by decide⟩

/-- …and likewise for the object variant `}  {  "x"` at a name position, and the two-level `] ] "evil" [ [ "x"`. -/
theorem needs_floor_variants :
    userCallWithFloor 10000 0 (runScript 10000 [.pushA, .pushO] Machine.init).1 [.popO, .pushO, .str] .nil = .done ∧
    userCall 10000 (runScript 10000 [.pushA, .pushO] Machine.init).1 [.popO, .pushO, .str] .nil = .fail ∧
    userCallWithFloor 10000 0 (runScript 10000 [.pushO, .str, .pushA, .pushA] Machine.init).1
      [.popA, .popA, .str, .pushA, .pushA, .str] .nil = .done ∧
    userCall 10000 (runScript 10000 [.pushO, .str, .pushA, .pushA] Machine.init).1
      [.popA, .popA, .str, .pushA, .pushA, .str] .nil = .fail := by decide

/-! ### options_visible: the options user code observes are the effective options of the call

Built on c19's scope machinery: `Model/Scope.lean` interprets the option-touching statements of the Go code, which are
regenerated from source; `C19Scope.tie_userCalls` says that all four wrappers around user code (MarshalToFunc,
UnmarshalFromFunc, MarshalJSONTo, UnmarshalJSONFrom) are the script `userCallS`, `tie_marshalEncode`/`tie_unmarshalDecode`/
`tie_member_*` the same for the other scripts.  `observe g a s` (Lemmas/DispatchScope) lists the struct that
`enc.Options()`/`dec.Options()` points to at the entry of every user call of the callee tree `a` run on struct `s`. -/

/-- Tie A for this section (restated so that it is audited with C17): the four call sites are `userCallS`. -/
theorem tie_userCalls : Gen.Scope.userCalls =
    [("MarshalToFunc", userCallS), ("UnmarshalFromFunc", userCallS),
     ("makeMethodArshaler", userCallS), ("makeMethodArshaler", userCallS)] := JsonV.Props.C19Scope.tie_userCalls

/-- `options_visible`.  Below one call (no nested call with options of its own in between, `NoCall`), at the entry of
EVERY user call — however deep: in struct members with or without `string`/`format` tags, after siblings that succeeded
or failed non-fatally, inside other user calls — `GetOption` answers exactly as on the struct the call's body started
with, for every option that has a public setter (`PlainKey`; StringifyNumbers: next theorem). -/
theorem options_visible (g : Bool) (a : Act) (hn : NoCall a) (s s' : Struct) (h : s' ∈ observe g a s)
    (k : Key) (hk : PlainKey k) : s'.getOption k = s.getOption k :=
  getOption_sameOff (observe_sameOff g a hn s s' h) k hk

/-- StringifyNumbers is the one documented exception: inside a member tagged `string` it reads as set
("the string option specifies that StringifyNumbers be set"); otherwise as in the call's options. -/
theorem options_visible_stringify (g : Bool) (a : Act) (hn : NoCall a) (s s' : Struct) (h : s' ∈ observe g a s) :
    s'.getOption (.flag F.stringifyNumbers) =
      (if !s'.flags.has F.stringifyNumbers && s'.flags.get F.stringTag then (.bool true, true)
       else (.bool (s.flags.get F.stringifyNumbers), s.flags.has F.stringifyNumbers)) :=
  getOption_stringify (observe_sameOff g a hn s s' h)

/-- A MarshalEncode/UnmarshalDecode call (also one made by user code on the coder it was handed) starts a new scope:
user code below it sees the EFFECTIVE options of that call — the coder's struct joined with the call's options
(`effective`; by `C19Scope.scoped_call_precedence` that is the coder's entries overridden by the call's, last wins). -/
theorem options_visible_call (g mar : Bool) (opts : List Opt) (nn : Bool) (body : Act) (hn : NoCall body)
    (s s0 s' : Struct) (he : effective g mar opts nn s = some s0) (h : s' ∈ observe g (.call mar opts nn body) s)
    (k : Key) (hk : PlainKey k) : s'.getOption k = s0.getOption k := by
  simp only [observe, he] at h
  exact options_visible g body hn s0 s' h k hk

/-- `options_visible`, general form: ANY callee tree — nested MarshalEncode/UnmarshalDecode calls with options included,
to any depth.  Every user call sees, for every option with a public setter, the options its innermost enclosing call
started its body with (`root`: the effective options of that call; for user calls outside any such call, the struct
the tree was started on). -/
theorem options_visible_scoped (g : Bool) (a : Act) (s : Struct) (root seen : Struct)
    (h : (root, seen) ∈ observeS g a s s) (k : Key) (hk : PlainKey k) : seen.getOption k = root.getOption k :=
  getOption_sameOff (observeS_sameOff g a s s (SameOff.refl s) (root, seen) h) k hk

/-- Not vacuous: user code that itself calls MarshalEncode with StringifyNumbers(true) on a value with a method: the
inner user call sees StringifyNumbers set, the outer one does not; both see the coder's Deterministic(true). -/
example :
    let s := newCoder true [.bools (flagBit 19 ||| 1#64)]
    let a : Act := .user (.call true [.bools (flagBit 18 ||| 1#64)] false (.user .skip))
    (observeS false a s s).map (fun p => (p.2.getOption (.flag (flagBit 18)), p.2.getOption (.flag (flagBit 19)))) =
      [((.bool false, false), (.bool true, true)), ((.bool true, true), (.bool true, true))] := by decide

/-- `effective` is the struct the body of the call runs on, here for UnmarshalDecode; `ScopeL.call_closed`, from which this
is read off, says the same of MarshalEncode: the two descriptions of the scope agree. -/
theorem effective_unmarshal (g : Bool) (opts : List Opt) (nn : Bool) (body : Act) (s s0 : Struct)
    (he : effective g false opts nn s = some s0) :
    (exec g (.call false opts nn body) s).2 = (exec g body s0).2 := by
  rw [JsonV.Lemmas.ScopeL.call_closed, he]
  split
  · next h => rw [effective, if_pos h] at he; cases he; rfl
  · rfl

/-- Not vacuous: MarshalEncode with Deterministic(true) on a coder that has Deterministic(false) and Indent; the value is
a struct whose `string`-tagged member has a MarshalJSONTo that itself marshals a value with its own method. -/
example :
    let s := newCoder true [.bools (flagBit 19), .indent [0x20]]
    let body : Act := .seq (.clear .tags) (.member true true [] (.user (.seq (.clear .tags) (.user .skip))))
    (observe false (.call true [.bools (flagBit 19 ||| 1#64)] false body) s).length = 2 ∧
    ∀ s' ∈ observe false (.call true [.bools (flagBit 19 ||| 1#64)] false body) s,
      s'.getOption (.flag (flagBit 19)) = (.bool true, true) ∧ s'.getOption .indent = (.bytes [0x20], true) := by decide

/-! ### reset_panics: the WithinArshalCall protocol as an invariant over call trees

`Reset` panics iff `Flags.Get(WithinArshalCall)` (`resetPanics`).  The flag is set on entry of every user call and, since
0821077, cleared on return only if it was not set on entry (`userCallS`: `saveGet`, `set …|1`, child, `[notSaved] set …|0`). -/

/-- `reset_panics`.  At EVERY moment any user code holds the coder (`userPoints`: on entry and after each thing it
did with the coder, including after nested user calls, nested MarshalEncode/UnmarshalDecode calls with any options,
struct members, failures) `Reset` panics — for every callee tree. -/
theorem reset_panics (g : Bool) (a : Act) (s s' : Struct) (h : s' ∈ userPoints g a s) : resetPanics s' = true :=
  userPoints_resetPanics g a s s' h

/-- …and no callee tree changes the flag for its caller: after the OUTERMOST call has returned, `Reset` works again
on a coder where it worked before (success or failure of anything below notwithstanding); a nested call that
returns leaves it panicking for the enclosing user code. -/
theorem reset_after_return (g : Bool) (a : Act) (s : Struct) : resetPanics (exec g a s).1 = resetPanics s :=
  resetPanics_exec g a s

/-- Not vacuous: an outer user call that runs a nested user call and then still holds the coder. -/
example :
    let a : Act := .user (.seq (.user .skip) .skip)
    (userPoints false a {}).length = 6 ∧ (∀ s' ∈ userPoints false a {}, resetPanics s' = true) ∧
    resetPanics ({} : Struct) = false ∧ resetPanics (exec false a {}).1 = false := by decide

/-- `cache_indep`.  The per-type arshaler cache and the per-`*Marshalers` function cache are memo tables of a
function of the type alone (`compute`): starting from the empty table, whatever types are looked up in whatever
order (top level first, nested first, repeated), every lookup returns `compute t` — the dispatch result does not
depend on the cache state.  (Instantiate `compute` with `fun t => collect t.isBase t.implI fns` for `fncCache`.)
Tie: harness copies A/B of every method set (visited top-level-first vs nested-first) and the reuse of one
`*Marshalers` per (type, list) over all positions, both checked against the same reference and oracle. -/
theorem cache_indep {κ α : Type} [DecidableEq κ] (compute : κ → α) (ts : List κ) :
    (memoRun compute Memo.empty ts).1 = ts.map compute :=
  (memoRun_spec compute ts Memo.empty (memoOK_empty compute)).1

/-- The same from ANY table that only holds entries made by earlier lookups. -/
theorem cache_indep_from {κ α : Type} [DecidableEq κ] (compute : κ → α) (cache : Memo κ α) (h : MemoOK compute cache)
    (t : κ) : (memoLookup compute cache t).1 = compute t := (memoLookup_spec compute cache t h).1

example : (memoRun (fun t : Bool × Bool => collect t.1 t.2 [⟨0, .iface, true⟩, ⟨1, .val, false⟩]) Memo.empty
    [(true, true), (false, false), (true, true), (true, false)]).1 =
    [[⟨0, .iface, true⟩, ⟨1, .val, false⟩], [], [⟨0, .iface, true⟩, ⟨1, .val, false⟩], [⟨1, .val, false⟩]] := by decide

/-- Which methods are still considered: a pointer-receiver method is dropped for a value addressable only through a
forced copy; where the rule applies (`hideAtName`: MarshalJSONTo/MarshalJSON/UnmarshalJSONFrom/UnmarshalJSON at an
object-name position) the method is dropped whatever its receiver. -/
theorem legacy_decision_table (r : Recv) (forcedAddr hideAtName : Bool) :
    r.legacyVisible forcedAddr hideAtName =
      match r, forcedAddr, hideAtName with
      | .absent, _, _ => .absent
      | _, _, true => .absent
      | .pointer, true, false => .absent
      | .pointer, false, false => .pointer
      | .value, _, false => .value := by
  cases r <;> cases forcedAddr <;> cases hideAtName <;> rfl

/-- Under legacy semantics the four marshal wrappers (`needAddr && va.forcedAddr || NeedObjectName`) are exactly the
documented method order applied to the reduced method set — for all 81 method sets, every coder state and behaviour.
Tie: the harness runs cases with CallMethodsWithLegacySemantics through the same oracle (`corr-dispatch`). -/
theorem legacy_dispatch_marshal (ms : MethodSet) (beh : Behav) (fncs : Arshaler) (ctx : Ctx) (h : ctx.legacy = true) :
    makeMethodMarshaler .named ms beh fncs ctx =
      documentedMethodsM (ms.legacy ctx.forcedAddr ctx.m.last.needObjectName) beh ctx.lvl ctx.m (fncs ctx) :=
  legacy_makeMethodMarshaler ms beh fncs ctx h

/-- Unmarshal: `needAddr` plays no role; only the object-name rule, and not for UnmarshalText. -/
theorem legacy_dispatch_unmarshal (ms : UMethodSet) (beh : Behav) (fncs : Arshaler) (ctx : Ctx) (h : ctx.legacy = true) :
    makeMethodUnmarshaler .named ms beh fncs ctx =
      documentedMethodsU (ms.legacy ctx.m.last.needObjectName) beh ctx.lvl ctx.m ctx.inNull ctx.inStr (fncs ctx) :=
  legacy_makeMethodUnmarshaler ms beh fncs ctx h

/-- The text methods are NOT hidden at an object-name position (map keys keep using them): with a pointer-receiver
MarshalJSON and a value-receiver MarshalText, as a map key, legacy semantics picks MarshalText. -/
example :
    let ms : MethodSet := { js := .pointer, tx := .value }
    ms.legacy true true = { tx := .value } ∧ ms.legacy false false = ms := by decide

end JsonV.Props.C17
