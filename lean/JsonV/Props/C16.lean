/-
C16 — Reported positions are truthful: jsontext.Pointer is consistent under RFC 6901 escaping,
and the stack pointer assembled by `appendStackPointer` is the rendered path of the token history.

Property theorems, each a line or two from Lemmas/Pointer*.lean and Lemmas/Position*.lean.  Models: Model/Pointer.lean
(jsontext/state.go:82-218 and the pointer part of errors.go), spec: Spec/PointerSpec.lean.  All statements are for ALL byte strings
(no length bound, arbitrary bytes including ill-formed UTF-8) unless a hypothesis says otherwise.
`sanitize t` is `t` as Go's `range` reads it (each ill-formed byte becomes U+FFFD); `sanitize t = t`
for well-formed UTF-8 (`sanitize_valid`).
-/
import JsonV.Model.Pointer
import JsonV.Spec.PointerSpec
import JsonV.Lemmas.PointerEsc
import JsonV.Lemmas.PointerOps
import JsonV.Lemmas.PointerValid
import JsonV.Lemmas.PointerStack
import JsonV.Lemmas.PointerUtf8
import JsonV.Lemmas.PointerSim
import JsonV.Lemmas.PointerMachine
import JsonV.Lemmas.PositionTok
import JsonV.Lemmas.PointerErr
import JsonV.Lemmas.PositionLex

namespace JsonV.Props.C16
open JsonV JsonV.Model JsonV.Model.Pointer JsonV.Spec.Pointer JsonV.Lemmas.Pointer

/-! ### Escaping -/

/-- `appendEscapePointerName` writes exactly the RFC 6901 escaping of the name. -/
theorem escape_spec (t : Bytes) : escape t = escapeTok (sanitize t) := escape_eq t

/-- RFC 6901 unescaping (two `ReplaceAll` passes, "~1" first) inverts escaping: every byte string. -/
theorem unescape_escapeTok (t : Bytes) : unescape (escapeTok t) = t := Lemmas.Pointer.unescape_escapeTok t

/-- `unescapePointerToken (appendEscapePointerName nil t) = t` as Go reads `t`. -/
theorem escape_inv (t : Bytes) : unescape (escape t) = sanitize t := by
  rw [escape_eq, Lemmas.Pointer.unescape_escapeTok]

/-- An escaped token contains no '/'. -/
theorem escape_no_slash (t : Bytes) : ∀ b ∈ escape t, b ≠ cSlash := by
  rw [escape_eq]; exact escapeTok_no_slash _

/-! ### Pointer methods -/

/-- `AppendToken` appends "/" and the escaped token. -/
theorem appendToken_spec (p t : Bytes) : appendToken p t = p ++ render [sanitize t] := by
  rw [appendToken_eq]; simp [render, cSlash]

/-- Appending tokens to the root yields the rendering of the token list, and `Tokens` reads it back. -/
theorem ptr_tokens (ts : List Bytes) : tokens (ts.foldl appendToken []) = ts.map sanitize := by
  rw [foldl_appendToken, List.nil_append, tokens_render]

/-- `Tokens` inverts `render` for every list of byte strings. -/
theorem tokens_render (ts : List Bytes) : tokens (render ts) = ts := Lemmas.Pointer.tokens_render ts

/-- `LastToken`/`Parent` undo `AppendToken` — for EVERY `p` (validity of `p` is not needed). -/
theorem ptr_roundtrip (p t : Bytes) :
    lastToken (appendToken p t) = sanitize t ∧ parent (appendToken p t) = p := by
  rw [appendToken_eq]
  exact ⟨by rw [lastToken_sep _ _ (escapeTok_no_slash _), Lemmas.Pointer.unescape_escapeTok],
         parent_sep _ _ (escapeTok_no_slash _)⟩

/-- The root has no parent and no last token. -/
theorem parent_root : parent [] = [] ∧ lastToken [] = [] := by decide

/-- `Contains` on rendered pointers is the prefix relation on token lists. -/
theorem contains_iff_prefix (ts us : List Bytes) :
    contains (render ts) (render us) = true ↔ IsPrefix ts us := contains_render ts us

/-- `p.Contains(q)` says exactly: `q` is `p` followed by nothing or by "/…". -/
theorem contains_spec (p q : Bytes) : contains p q = true ↔ ∃ s, q = p ++ s ∧ (s = [] ∨ ∃ r, s = cSlash :: r) :=
  contains_iff p q

/-! ### IsValid -/

/-- Doc comment of `IsValid`: "the concatenation of two valid pointers produces a valid pointer". -/
theorem isValid_append (p q : Bytes) (hp : isValid p = true) (hq : isValid q = true) : isValid (p ++ q) = true :=
  Lemmas.Pointer.isValid_append p q hp hq

/-- A valid pointer is the rendering of its own token list (so `Tokens` loses nothing). -/
theorem isValid_render (p : Bytes) (h : isValid p = true) : p = render (tokens p) := Lemmas.Pointer.isValid_render p h

/-- For valid pointers: `p.Contains(q)` iff the tokens of `p` are a prefix of the tokens of `q`. -/
theorem contains_iff_prefix_valid (p q : Bytes) (hp : isValid p = true) (hq : isValid q = true) :
    contains p q = true ↔ IsPrefix (tokens p) (tokens q) := by
  have h := contains_render (tokens p) (tokens q)
  rwa [← Lemmas.Pointer.isValid_render p hp, ← Lemmas.Pointer.isValid_render q hq] at h

/-- For a valid pointer, re-appending its tokens rebuilds it, provided the tokens are what Go's `range` reads
(always true for well-formed UTF-8, which `IsValid` demands of `p` but escapes may hide in tokens: see `sanitize`). -/
theorem rebuild_valid (p : Bytes) (h : isValid p = true) (hs : (tokens p).map sanitize = tokens p) :
    (tokens p).foldl appendToken [] = p := by
  rw [foldl_appendToken, List.nil_append, hs, ← Lemmas.Pointer.isValid_render p h]

/-- Go's `range`/`AppendRune` round trip is the identity on well-formed UTF-8 (`utf8.Valid`), so every
`sanitize` above disappears for the names a decoder or encoder accepts by default. -/
theorem sanitize_valid (t : Bytes) (h : Utf8.valid t = true) : sanitize t = t := Lemmas.Pointer.sanitize_valid t h

/-- `LastToken (AppendToken p t) = t` for well-formed UTF-8 tokens (DESIGN.md's `ptr_roundtrip`). -/
theorem ptr_roundtrip_valid (p t : Bytes) (h : Utf8.valid t = true) :
    lastToken (appendToken p t) = t ∧ parent (appendToken p t) = p := by
  have := ptr_roundtrip p t
  rwa [Lemmas.Pointer.sanitize_valid t h] at this

/-- `AppendToken` keeps a pointer valid, for EVERY token (ill-formed bytes are replaced by U+FFFD). -/
theorem isValid_appendToken (p t : Bytes) (hp : isValid p = true) : isValid (appendToken p t) = true :=
  Lemmas.Pointer.isValid_appendToken p t hp

example : Utf8.valid [0x61, 0xc3, 0xa9] = true := by decide
example : isValid [0x2f, 0x61, 0x7e, 0x31] = true := by decide
example : isValid [0x2f, 0x7e] = false := by decide
example : isValid [0x2f, 0xff] = false := by decide
example : contains (render [[0x61]]) (render [[0x61], [0x7e, 0x2f]]) = true :=
  (contains_iff_prefix _ _).2 ⟨[[0x7e, 0x2f]], rfl⟩
example : lastToken (appendToken [0x2f, 0x61] [0x7e, 0x2f]) = [0x7e, 0x2f] := by decide

/-! ### appendStackPointer -/

/-- **stackptr_spec** (abstract (kind, count) stack): on every state reached by a token history, for
where ∈ {-1, 0, +1}, the pointer assembled from the stack of (kind, count) entries and the names stack is the
rendering of the declarative path (`refToken`: names as Go's `range` reads them — the identity on well-formed
UTF-8 by `sanitize_valid` — and indices in base 10); in particular `Names.getUnquoted` never panics. -/
theorem stackptr_spec (hist : List Tok) (w : Int) (s : AState) (hw : w = -1 ∨ w = 0 ∨ w = 1)
    (hrun : AState.init.run hist = some s) :
    ∃ path, pointerOf w hist = some path ∧ appendStackPointer s [] w = some (render (path.map refToken)) :=
  Lemmas.Pointer.stackptr_spec hist w s hw hrun

/-- **stackptr_spec on the packed state machine** (Model/State.lean, the 64-bit `stateEntry` words tied to the
regenerated code by slice C06) with `Names` maintained as ReadToken/WriteToken do (push on '{', replace on a
member name, pop on '}'): same statement, for histories shorter than 2^61 tokens (the width of the counter). -/
theorem stackptr_spec_machine (max : Nat) (hist : List Tok) (hlen : hist.length < 2^61) (w : Int)
    (hw : w = -1 ∨ w = 0 ∨ w = 1) (s : MState) (hrun : MState.run max {} hist = .ok s) :
    ∃ path, pointerOf w hist = some path ∧ s.appendStackPointer [] w = some (render (path.map refToken)) :=
  Lemmas.Pointer.stackptr_spec_machine max hist hlen w hw s hrun

/-- Non-vacuity on the packed machine: after `{"a/b":[1,2` the three positions are "/a~1b/1", "/a~1b" … -/
example : ∃ s, MState.run 10000 {} [.beginObj, .str [0x61, 0x2f, 0x62], .beginArr, .scalar, .scalar] = .ok s ∧
    s.appendStackPointer [] (-1) = some [0x2f, 0x61, 0x7e, 0x31, 0x62, 0x2f, 0x31] ∧
    s.appendStackPointer [] 0 = some [0x2f, 0x61, 0x7e, 0x31, 0x62] ∧
    s.appendStackPointer [] 1 = some [0x2f, 0x61, 0x7e, 0x31, 0x62, 0x2f, 0x32] := ⟨_, rfl, by decide, by decide, by decide⟩

/-- Building block (where = -1, any stack whose entries all have a current child — every reachable state whose innermost
container is non-empty): the assembled pointer is `b` followed by the rendering of the member names (as read by `range`)
and of `Length()-1` for arrays, outermost first; no panic in `Names.getUnquoted`. -/
theorem stackptr_partial (names : List Bytes) (es : List SEntry) (od : Nat) (b : Bytes)
    (hlen : ∀ e ∈ es, e.len > 0) (hnames : od + countObj es ≤ names.length) :
    stackLoop (-1) names es od b = some (b ++ render (refsOf names es od)) :=
  stackLoop_render names es od b hlen hnames

/-- Consequently `Tokens` of the stack pointer are exactly those names and indices. -/
theorem stackptr_tokens (s : AState) (hlen : ∀ e ∈ s.stack.reverse.drop 1, e.len > 0)
    (hnames : countObj (s.stack.reverse.drop 1) ≤ s.names.length) :
    appendStackPointer s [] (-1) = some (render (refsOf s.names.reverse (s.stack.reverse.drop 1) 0)) ∧
      tokens (render (refsOf s.names.reverse (s.stack.reverse.drop 1) 0)) =
        refsOf s.names.reverse (s.stack.reverse.drop 1) 0 := by
  refine ⟨?_, Lemmas.Pointer.tokens_render _⟩
  unfold appendStackPointer
  have := stackLoop_render s.names.reverse (s.stack.reverse.drop 1) 0 [] hlen (by simpa using hnames)
  simpa using this

/-- The hypotheses are met by the state after `{"a/b":[1,2` : pointer "/a~1b/1". -/
example : appendStackPointer ⟨[⟨false, 2⟩, ⟨true, 2⟩, ⟨false, 1⟩], [[0x61, 0x2f, 0x62]]⟩ [] (-1) =
    some [0x2f, 0x61, 0x7e, 0x31, 0x62, 0x2f, 0x31] := by decide
example : AState.init.run [.beginObj, .str [0x61, 0x2f, 0x62], .beginArr, .scalar, .scalar] =
    some ⟨[⟨false, 2⟩, ⟨true, 2⟩, ⟨false, 1⟩], [[0x61, 0x2f, 0x62]]⟩ := by decide
example : pointerOf (-1) [.beginObj, .str [0x61, 0x2f, 0x62], .beginArr, .scalar, .scalar] =
    some [.name [0x61, 0x2f, 0x62], .index 1] := by decide

/-! ### errors.go: pointerSuffixError and the JSONPointer of wrapSyntacticError -/

/-- **Reversed suffix**: unwinding through `path` (innermost frame first: `wrapWithObjectName` / `wrapWithArrayIndex`
append "/"+escaped name or "/"+index to `reversePointer`) and then `appendPointer` (which re-reverses by splitting at
the last '/') appends exactly the rendering of `path` — for EVERY name: '/', '~', both, ill-formed UTF-8
(the latter as Go's `range` reads it).  In particular `appendPointer` never hits its slice-bounds panic. -/
theorem suffix_spec (path : List Ref) (ptr : Bytes) :
    appendPointer (buildRev path) ptr = some (ptr ++ render (path.map refToken)) :=
  Lemmas.Pointer.suffix_spec path ptr

/-- `appendPointer` on any '/'-separated segments: it reverses their order. -/
theorem appendPointer_spec (segs : List Bytes) (hs : ∀ a ∈ segs, ∀ b ∈ a, b ≠ cSlash) (bo : Bytes) :
    appendPointer (joinSegs segs) bo = some (bo ++ joinSegs segs.reverse) :=
  appendPointer_segs segs hs bo

/-- **err_pointer**: after any accepted token history, the JSONPointer `wrapSyntacticError` computes without a suffix
(ReadToken, and ReadValue at the start of a value) — for where ∈ {-1,0,+1}, where = +1 on the mismatched-delimiter
branch as at every call site — is `ptr(C)` or `ptr(C)/next` for the innermost open container `C`
(`containerOf`: `next` = member name read last, or index of the element read last / being read). Never an ancestor. -/
theorem err_pointer (hist : List Tok) (w : Int) (hw : w = -1 ∨ w = 0 ∨ w = 1) (mm : Bool) (hmm : mm = true → w = 1)
    (s : AState) (hrun : AState.init.run hist = some s) :
    ∃ p C nexts, containerOf hist = some (C, nexts) ∧ wrapSyntacticErrorPtr s w none mm = some p ∧
      (p = render (C.map refToken) ∨ ∃ x ∈ nexts, p = render ((C ++ [x]).map refToken)) :=
  Lemmas.Pointer.err_pointer hist w hw mm hmm s hrun

/-- **err_pointer, duplicate name** (ReadToken/WriteToken: `wrapWithObjectName(ErrDuplicateName, name)`, where = +1,
a name being expected): exactly the duplicated member `ptr(C)/name`, escaped. -/
theorem err_pointer_dup (hist : List Tok) (s : AState) (hrun : AState.init.run hist = some s)
    (hneed : s.stack.head?.map SEntry.needObjectName = some true) (dup : Bytes) :
    ∃ C nexts, containerOf hist = some (C, nexts) ∧
      wrapSyntacticErrorPtr s 1 (some (wrapWithObjectName [] dup)) false =
        some (render ((C ++ [Ref.name dup]).map refToken)) :=
  Lemmas.Pointer.err_pointer_dup hist s hrun hneed dup

/-- **err_pointer, errors nested inside ReadValue / WriteValue**: the stack pointer followed by the path inside the
value, every reference token escaped; `Tokens` of the result are the names and indices themselves. -/
theorem err_pointer_nested (hist : List Tok) (w : Int) (hw : w = -1 ∨ w = 0 ∨ w = 1) (s : AState)
    (hrun : AState.init.run hist = some s) (path : List Ref) :
    ∃ base, pointerOf w hist = some base ∧
      wrapSyntacticErrorPtr s w (some (buildRev path)) false = some (render ((base ++ path).map refToken)) ∧
      tokens (render ((base ++ path).map refToken)) = (base ++ path).map refToken := by
  obtain ⟨base, h1, h2⟩ := Lemmas.Pointer.err_pointer_nested hist w hw s hrun path
  exact ⟨base, h1, h2, Lemmas.Pointer.tokens_render _⟩

/-- The statement on the packed machine (`MState`, names maintained as the code does), through `mrun_view`. -/
theorem err_pointer_machine (max : Nat) (hist : List Tok) (hlen : hist.length < 2^61) (w : Int)
    (hw : w = -1 ∨ w = 0 ∨ w = 1) (mm : Bool) (hmm : mm = true → w = 1) (s : MState)
    (hrun : MState.run max {} hist = .ok s) :
    ∃ p C nexts, containerOf hist = some (C, nexts) ∧ wrapSyntacticErrorPtr s.view w none mm = some p ∧
      (p = render (C.map refToken) ∨ ∃ x ∈ nexts, p = render ((C ++ [x]).map refToken)) := by
  have hv := mrun_view hist (minv_init max) (by omega) hrun
  exact Lemmas.Pointer.err_pointer hist w hw mm hmm s.view hv

/-- `{"x/y":[0,0,{"~":` … an error two levels inside a value read at the top level: "/x~1y/2/~0". -/
example : appendPointer (buildRev [.name [0x78, 0x2f, 0x79], .index 2, .name [0x7e]]) [] =
    some [0x2f, 0x78, 0x7e, 0x31, 0x79, 0x2f, 0x32, 0x2f, 0x7e, 0x30] :=
  (suffix_spec _ _).trans (by decide)

/-! ### Positions on the token-path model (slice C01's Model/TokenLoop.lean) -/

section Positions
open JsonV.Model.TokenLoop JsonV.Model.Validate JsonV.Model.Wire JsonV.Lemmas.Position JsonV.Lemmas.StateRefine
open JsonV.Spec.PDA (Kind Viable)

/-- **index_spec**: after `k` successful `ReadToken` calls on `b` (fresh decoder) the machine is the one reached by the
`k` token kinds read; they form a viable token sequence, and `StackDepth()` / `StackIndex(i)` read off the packed
machine are those of the grammar frames computed from that history (outermost first; kind 0 at level 0). -/
theorem index_spec (o : VOpts) (k : Nat) (hk : k < 2^61) (b : Bytes) (st : TState) (off : Nat) (rest : Bytes)
    (h : reads o k {} b 0 = some (st, off, rest)) :
    ∃ ks fs, ks.length = k ∧ Spec.PDA.run maxNestingDepth Spec.PDA.init ks = some fs ∧ Viable maxNestingDepth ks ∧
      stackDepth st.m = Spec.PDA.depth fs ∧ (∀ i, stackIndex st.m i = frameIndex fs i) ∧
      st.m.depth + ks.countP Kind.closing = 1 + ks.countP Kind.opening :=
  (index_offset_spec o k hk b st off rest h).1

/-- **offset_spec**: `InputOffset` after `k` successful reads is the length of the consumed prefix — the unread input
is exactly `b.drop off`. -/
theorem offset_spec (o : VOpts) (k : Nat) (hk : k < 2^61) (b : Bytes) (st : TState) (off : Nat) (rest : Bytes)
    (h : reads o k {} b 0 = some (st, off, rest)) :
    off ≤ b.length ∧ rest = b.drop off ∧ b = b.take off ++ rest ∧ (b.take off).length = off :=
  (index_offset_spec o k hk b st off rest h).2

/-- **err_viable (partial)**: when `ReadToken` fails after `k` tokens with relative offset `kk`, the tokens read are a
viable token sequence and `b[off : off+kk]` holds only white space and separator bytes (`Blank`: the separators are
not counted) — except when the error comes
out of the LEXER of the next token (second alternative: it lies `n` bytes inside that token). -/
theorem err_viable_partial (o : VOpts) (k : Nat) (hk : k < 2^61) (b : Bytes) (st : TState) (off : Nat) (rest : Bytes)
    (h : reads o k {} b 0 = some (st, off, rest)) (kk : Nat) (e : Err) (herr : readToken o st rest = .err kk e) :
    (∃ ks, ks.length = k ∧ Viable maxNestingDepth ks ∧ smRun maxNestingDepth Machine.init ks = .ok st.m) ∧
    b.take (off + kk) = b.take off ++ (b.drop off).take kk ∧
    (Blank ((b.drop off).take kk) ∨
      ∃ pos n, Blank ((b.drop off).take pos) ∧ lexer o (b.drop (off + pos)) = some (n, e) ∧ e ≠ .ok ∧ kk = pos + n) :=
  Lemmas.Position.err_viable_partial o k hk b st off rest h kk e herr

/-- The excluded class is a real counterexample ON THE MODEL (finding D13 of DESIGN.md, "lexed before checked"): on `{t` the
token path reports offset 2 (unexpected EOF inside `t…`), on `{ f}` offset 3, although `{` followed by a literal is
not a viable token sequence — the text stops being viable at offsets 1 and 2, where the value path reports it; a
complete literal in the same position IS reported at its start. -/
theorem f2_counterexample :
    tokens {} [0x7b, 0x74] = (0, 2, .eof) ∧ validText {} [0x7b, 0x74] = (1, .invalidChar) ∧
    tokens {} [0x7b, 0x20, 0x66, 0x7d] = (0, 3, .invalidChar) ∧ validText {} [0x7b, 0x20, 0x66, 0x7d] = (2, .invalidChar) ∧
    tokens {} [0x7b, 0x74, 0x72, 0x75, 0x65] = (0, 1, .nonStringName) ∧
    ¬ Viable maxNestingDepth [.beginObj, .lit] := by
  refine ⟨by decide, by decide +kernel, by decide, by decide +kernel, by decide, by decide⟩

/-- **err_viable, lexical part**: whenever the lexer of a token (literal, number or string) fails at relative offset
`n`, the bytes of the token before that offset can be completed to a token of the same kind that the lexer accepts
(`nul` → `null`, `1.` → `1.0`, `"ab\x` → `"ab"`; a truncated number is reported at offset 0).  Together with
`err_viable_partial`: `input[:ByteOffset]` = viable token kinds + blanks + a completable token prefix — a viable prefix
of JSON at byte level whenever the state machine accepts that token kind (it does not in NAME position: `f2_counterexample`). -/
theorem err_viable_lexical (o : VOpts) (r : Bytes) (n : Nat) (e : Err) (h : lexer o r = some (n, e)) (he : e ≠ .ok) :
    ∃ ext m, lexer o (r.take n ++ ext) = some (m, .ok) ∧ n ≤ m :=
  lexical_completion o r n e h he

example : lexer {} [0x6e, 0x75, 0x6c, 0x7d] = some (3, .invalidChar) ∧ lexer {} [0x31, 0x2e, 0x78] = some (2, .invalidChar) ∧
    lexer {} [0x22, 0x61, 0x5c, 0x78] = some (2, .invalidEscape) := by decide

example : (reads {} 3 {} [0x7b, 0x22, 0x61, 0x22, 0x3a, 0x5b, 0x5d] 0).map (fun x => (x.2.1, stackDepth x.1.m, stackIndex x.1.m 1)) =
    some (6, 2, some (0x7b, 2)) := by decide

end Positions

end JsonV.Props.C16
