/-
C11 — String escaping is lossless, minimal, and honours the escape options.

The property theorems.  Most are one-line calls of Lemmas/Quote*.lean and Lemmas/Glue*.lean; the ReformatString
theorems (`reformat_html_safe`, `reformat_js_safe*`, `reformat_meaning_partial`, `reformat_meaning_strict`) are put
together here from the lemmas about its branches.  Model: Model/Quote.lean (per-iteration model of
jsonwire.AppendQuote / AppendUnquote / ReformatString / ConsumeString); specification: Spec/StringSpec.lean
(`lossy`, `illFormedCount`, `canonQuote`, `Unescapes`).  `JsonV.Gen.jsonwire_escapeASCII` is regenerated from
encode.go on every run (Tie A); the model is tied to the running code by the `quote` oracle family (Tie B).
All statements are for ALL byte strings `s` (no length bound) and all flag sets.
-/
import JsonV.Lemmas.QuoteSafe
import JsonV.Lemmas.QuoteTotal
import JsonV.Lemmas.QuoteSpec
import JsonV.Lemmas.QuoteMeaning
import JsonV.Lemmas.QuotePreserve
import JsonV.Lemmas.QuoteWf
import JsonV.Lemmas.QuoteCanon
import JsonV.Lemmas.QuoteRaw
import JsonV.Lemmas.QuoteLiteral
import JsonV.Lemmas.QuoteGrammar
import JsonV.Lemmas.GlueQuote
import JsonV.Lemmas.QuoteSpan
import JsonV.Lemmas.QuoteJString
import JsonV.Lemmas.QuoteReformat
import JsonV.Lemmas.GlueNameKey
import JsonV.Lemmas.GlueEncQuote
import JsonV.Gen.Lits

namespace JsonV.Props.C11
open JsonV JsonV.Model.Utf8 JsonV.Model.Quote JsonV.Spec.StringSpec
open JsonV.Lemmas.QuoteL JsonV.Lemmas.QuoteSafe JsonV.Lemmas.QuoteTotal JsonV.Lemmas.QuoteSpec JsonV.Lemmas.QuoteMeaning
open JsonV.Lemmas.QuotePreserve JsonV.Lemmas.QuoteWf JsonV.Lemmas.QuoteCanon JsonV.Lemmas.QuoteRaw JsonV.Lemmas.QuoteLiteral

/-! ### Tie A: the regenerated table -/

theorem escapeASCII_length : JsonV.Gen.jsonwire_escapeASCII.length = 128 := by decide +kernel

/-- The model's table lookup is the regenerated table (inside its bounds). -/
theorem escapeASCII_model : ∀ c : Fin 128, escapeASCII c.val = JsonV.Gen.jsonwire_escapeASCII[c.val]! := by
  intro c
  rw [escapeASCII, List.getD_eq_getElem?_getD, List.getElem!_eq_getElem?_getD]
  rfl

/-- The regenerated 128-entry table is 1 exactly on the control characters, `"`, `\`, `<`, `>`, `&`,
and 0 everywhere else. -/
theorem escapeASCII_spec : ∀ c : Fin 128,
    (JsonV.Gen.jsonwire_escapeASCII[c.val]! = 1 ↔
      (c.val < 0x20 ∨ c.val = 0x22 ∨ c.val = 0x5c ∨ c.val = 0x3c ∨ c.val = 0x3e ∨ c.val = 0x26)) ∧
    (JsonV.Gen.jsonwire_escapeASCII[c.val]! = 0 ∨ JsonV.Gen.jsonwire_escapeASCII[c.val]! = 1) := by
  intro c
  rw [← escapeASCII_model c]
  exact ⟨escapeASCII_table c, escapeASCII_01 c⟩

/-- Tie A: the string/character literals of `appendEscapedASCII` (regenerated from encode.go, in source order:
case characters and the two-byte escapes they map to) are the ones the model emits. -/
theorem appendEscapedASCII_lits :
    JsonV.Gen.jsonwire_appendEscapedASCII_strs =
      [[0x22], [0x5c], [0x5c],
       [0x08], (appendEscapedASCII 0x08).map UInt8.toNat, [0x0c], (appendEscapedASCII 0x0c).map UInt8.toNat,
       [0x0a], (appendEscapedASCII 0x0a).map UInt8.toNat, [0x0d], (appendEscapedASCII 0x0d).map UInt8.toNat,
       [0x09], (appendEscapedASCII 0x09).map UInt8.toNat] ∧
    appendEscapedASCII 0x22 = [0x5c, 0x22] ∧ appendEscapedASCII 0x5c = [0x5c, 0x5c] := by decide +kernel

/-- Tie A: the index and character literals of `hasEscapedUTF16Prefix` (regenerated from decode.go) are the
constants of the model: indices 0 1 2 3 2 6, `\` `u` `d` `D` `c`..`f` `C`..`F` `0`..`9` `a`..`f` `A`..`F`. -/
theorem hasEscapedUTF16Prefix_lits :
    JsonV.Gen.jsonwire_hasEscapedUTF16Prefix_ints = [0, 1, 2, 3, 2, 6] ∧
    JsonV.Gen.jsonwire_hasEscapedUTF16Prefix_strs =
      [[0x5c], [0x75], [0x64], [0x44], [0x63], [0x66], [0x43], [0x46], [0x30], [0x39], [0x61], [0x66], [0x41], [0x46]] := by
  decide +kernel

/-! ### NeedEscape is sound (fields.go:466, jsontext/encode.go:466 rely on it) -/

/-- A string that `NeedEscape` clears is quoted verbatim, without error, under every flag set. -/
theorem needEscape_sound (s : Bytes) (h : needEscape s = false) (f : QFlags) :
    appendQuote f s = (0x22 :: (s ++ [0x22]), Err.ok) := by
  simp [appendQuote, quoteLoop_of_not_needEscape f.html f.js s h]

example : needEscape [0x61, 0x2f, 0x7f, 0xC3, 0xA9] = false := by decide +kernel

/-- AppendQuote written literally with the Go indices `i`/`n` and the lazily flushed `dst` (`appendQuoteIdx`) equals
the per-character model every other theorem is stated about — on every input and flag set. -/
theorem quote_copy_span (f : QFlags) (src : Bytes) : appendQuoteIdx f src = appendQuote f src :=
  JsonV.Lemmas.QuoteSpan.appendQuoteIdx_eq f src

/-- For EVERY byte string and flag set, unquoting the quoted form succeeds and yields the text in which each
ill-formed byte has become exactly one U+FFFD. -/
theorem unquote_quote_lossy (f : QFlags) (s : Bytes) : appendUnquote (appendQuote f s).1 = (lossy s, Err.ok) :=
  appendUnquote_meaning _ _ (appendQuote_literal f s)

/-- `unquote (quote s) = s` for well-formed UTF-8, all flag sets; the quoting reports no error. -/
theorem unquote_quote (f : QFlags) (s : Bytes) (h : WellFormed s) :
    appendUnquote (appendQuote f s).1 = (s, Err.ok) ∧ (appendQuote f s).2 = Err.ok := by
  refine ⟨by rw [unquote_quote_lossy, lossy_of_wellFormed s h], ?_⟩
  unfold WellFormed at h
  simp [appendQuote, quoteLoop_inv, h]

example : WellFormed [0x3c, 0x22, 0xE2, 0x80, 0xA8, 0xF0, 0x9F, 0x98, 0x80] := by
  show illFormedCount _ = 0
  decide +kernel

/-- `Utf8.valid` (the model of `utf8.Valid`) is the same notion of well-formedness. -/
theorem wellFormed_of_valid (s : Bytes) (h : valid s = true) : WellFormed s := valid_wellFormed s h

/-- AppendQuote reports ErrInvalidUTF8 iff the input has an ill-formed byte and AllowInvalidUTF8 is off;
otherwise it reports no error (in particular it never fails in any other way). -/
theorem quote_error_iff (f : QFlags) (s : Bytes) :
    (appendQuote f s).2 = (if 0 < illFormedCount s ∧ f.allowInvalid = false then Err.invalidUTF8 else Err.ok) := by
  simp only [appendQuote, quoteLoop_inv]
  cases f.allowInvalid <;> by_cases h : 0 < illFormedCount s <;> simp [h]

/-- One U+FFFD (three bytes) per ill-formed byte (one byte), nothing else changes: the text recovered from the
quoted form is `lossy s`, which is `s` with each ill-formed byte replaced by EF BF BD (definition of `lossy`),
hence longer by exactly two bytes per ill-formed byte. -/
theorem fffd_count (f : QFlags) (s : Bytes) :
    (appendUnquote (appendQuote f s).1).1 = lossy s ∧ (lossy s).length = s.length + 2 * illFormedCount s := by
  exact ⟨by rw [unquote_quote_lossy], lossy_length s⟩

/-- Without escape flags the quoted form is the RFC 8785 §3.2.2.2 serialisation (for well-formed `s`, of `s`
itself; in general of the text with U+FFFD for each ill-formed byte, as `scalars` defines). -/
theorem quote_minimal (f : QFlags) (s : Bytes) (hh : f.html = false) (hj : f.js = false) :
    (appendQuote f s).1 = canonQuote s := by
  simp only [appendQuote, canonQuote, hh, hj, quoteLoop_canon]

example : (appendQuote {} [0x3c, 0x0a, 0x01, 0x22]).1 = [0x22, 0x3c, 0x5c, 0x6e, 0x5c, 0x75, 0x30, 0x30, 0x30, 0x31, 0x5c, 0x22, 0x22] := by
  decide +kernel

/-- EscapeForHTML: no raw `<`, `>`, `&` in the output, for every input (ill-formed included). -/
theorem html_safe (f : QFlags) (s : Bytes) (hh : f.html = true) :
    ∀ b ∈ (appendQuote f s).1, b ≠ 0x3c ∧ b ≠ 0x3e ∧ b ≠ 0x26 := by
  intro b hb
  apply ne_of_noHTML
  simp only [appendQuote, hh, List.mem_cons, List.mem_append, List.not_mem_nil, or_false] at hb
  rcases hb with rfl | hb | rfl
  · decide
  · exact quoteLoop_noHTML f.js s b hb
  · decide

/-- EscapeForJS: no raw U+2028 (E2 80 A8) or U+2029 (E2 80 A9) in the output, for every input. -/
theorem js_safe (f : QFlags) (s : Bytes) (hj : f.js = true) :
    ¬ [0xE2, 0x80, 0xA8] <:+: (appendQuote f s).1 ∧ ¬ [0xE2, 0x80, 0xA9] <:+: (appendQuote f s).1 := by
  apply not_infix_of_hasLS
  simp only [appendQuote, hj]
  rw [show (0x22 : UInt8) :: ((quoteLoop f.html true s).1 ++ [0x22]) = [0x22] ++ ((quoteLoop f.html true s).1 ++ [0x22]) from rfl,
    hasLS_skip _ (by decide), quoteLoop_noLS]
  decide

example : (appendQuote { html := true, js := true } [0x3c, 0xE2, 0x80, 0xA8]).1 =
    [0x22, 0x5c, 0x75, 0x30, 0x30, 0x33, 0x63, 0x5c, 0x75, 0x32, 0x30, 0x32, 0x38, 0x22] := by decide +kernel

/-- ReformatString, all three branches (verbatim copy is excluded by the flag, the PreserveRawStrings loop
escapes, the rest is re-quoted): no raw `<`, `>`, `&` under EscapeForHTML. -/
theorem reformat_html_safe (f : QFlags) (src : Bytes) (hh : f.html = true) :
    ∀ b ∈ (reformatString f src).1, b ≠ 0x3c ∧ b ≠ 0x3e ∧ b ≠ 0x26 := by
  intro b hb
  rcases JsonV.Lemmas.QuoteReformat.reformatString_cases f src with ⟨-, h⟩ | ⟨-, ⟨hx, -, -⟩ | ⟨-, -, h⟩ | ⟨-, h⟩⟩
  · rw [h] at hb; cases hb
  · rw [hh] at hx; cases hx
  · rw [h, hh] at hb; exact ne_of_noHTML (preserveLoop_noHTML f.js _ _ b hb)
  · rw [h] at hb; exact html_safe f _ hh b hb

/-- ReformatString, all three branches incl. the PreserveRawStrings loop: no raw U+2028 / U+2029 under EscapeForJS,
for every input. -/
theorem reformat_js_safe (f : QFlags) (src : Bytes) (hj : f.js = true) :
    ¬ [0xE2, 0x80, 0xA8] <:+: (reformatString f src).1 ∧ ¬ [0xE2, 0x80, 0xA9] <:+: (reformatString f src).1 := by
  rcases JsonV.Lemmas.QuoteReformat.reformatString_cases f src with ⟨-, h⟩ | ⟨-, ⟨hx, -, -⟩ | ⟨-, -, h⟩ | ⟨-, h⟩⟩
  · rw [h]; simp
  · rw [hj, Bool.or_true] at hx; cases hx
  · rw [h, hj]; exact not_infix_of_hasLS (preserveLoop_noLS f.html _ _)
  · rw [h]; exact js_safe f _ hj

/-- ReformatString without PreserveRawStrings: no raw U+2028 / U+2029 under EscapeForJS. -/
theorem reformat_js_safe_partial (f : QFlags) (src : Bytes) (hj : f.js = true) (hp : f.preserve = false) :
    ¬ [0xE2, 0x80, 0xA8] <:+: (reformatString f src).1 ∧ ¬ [0xE2, 0x80, 0xA9] <:+: (reformatString f src).1 :=
  reformat_js_safe f src hj

/-- Everything AppendUnquote returns is well-formed UTF-8 (so re-quoting it is lossless). -/
theorem unquote_wellFormed (src : Bytes) : WellFormed (appendUnquote src).1 := appendUnquote_wellFormed src

/-- ReformatString keeps the meaning of the literal: proved for the verbatim-copy branch and the re-quote branch
(i.e. whenever PreserveRawStrings is off or no escape option is on); the output then also unquotes without error
in the re-quote branch. -/
theorem reformat_meaning_partial (f : QFlags) (src : Bytes) (hok : (reformatString f src).2.2 = Err.ok)
    (hp : f.preserve = false ∨ (f.html = false ∧ f.js = false)) :
    (appendUnquote (reformatString f src).1).1 = (appendUnquote (src.take (reformatString f src).2.1)).1 := by
  rcases JsonV.Lemmas.QuoteReformat.reformatString_cases f src with ⟨he, h⟩ | ⟨-, ⟨-, -, h⟩ | ⟨hx, hpr, -⟩ | ⟨-, h⟩⟩
  · rw [h] at hok; exact absurd hok he
  · rw [h]
  · rcases hp with hp | ⟨h1, h2⟩
    · rw [hp] at hpr; cases hpr
    · rw [h1, h2] at hx; cases hx
  · rw [h]
    simp only
    rw [unquote_quote_lossy, lossy_of_wellFormed _ (appendUnquote_wellFormed _)]

/-- ReformatString keeps the meaning of the literal in ALL three branches (verbatim copy, PreserveRawStrings loop with
EscapeForHTML/JS, re-quote) whenever AllowInvalidUTF8 is off; the output unquotes to the same text. -/
theorem reformat_meaning_strict (f : QFlags) (src : Bytes) (ha : f.allowInvalid = false)
    (hok : (reformatString f src).2.2 = Err.ok) :
    (appendUnquote (reformatString f src).1).1 = (appendUnquote (src.take (reformatString f src).2.1)).1 := by
  by_cases hp : f.preserve = false ∨ (f.html = false ∧ f.js = false)
  · exact reformat_meaning_partial f src hok hp
  · rcases JsonV.Lemmas.QuoteReformat.reformatString_cases f src with ⟨he, h⟩ | ⟨hcs, ⟨hx, -, -⟩ | ⟨-, -, h⟩ | ⟨hpr, -⟩⟩
    · rw [h] at hok; exact absurd hok he
    · exact absurd (.inr (by simpa using hx)) hp
    · rw [h]
      simp only [ha, Bool.not_false] at hcs ⊢
      exact congrArg Prod.fst
        (JsonV.Lemmas.QuoteReformat.preserve_strict f.html f.js src _ _ (Prod.ext rfl (Prod.ext hcs rfl))).2.2
    · exact absurd (.inl hpr) hp

/-- **`preserve_is_jstring`**: over a literal the strict scanner accepts, the PreserveRawStrings loop (any EscapeForHTML /
EscapeForJS combination) outputs a string literal of the strict grammar again. -/
theorem preserve_is_jstring (html js : Bool) (src : Bytes) (n : Nat) (nc : Bool)
    (h : consumeString true src = (n, Err.ok, nc)) :
    JsonV.Spec.Grammar.JString true (preserveLoop html js n src) :=
  (JsonV.Lemmas.QuoteReformat.preserve_strict html js src n nc h).1

/-- **`preserve_idem`**: … and that output is a fixed point of the loop with the same flags (whatever follows it). -/
theorem preserve_idem (html js : Bool) (src : Bytes) (n : Nat) (nc : Bool)
    (h : consumeString true src = (n, Err.ok, nc)) (junk : Bytes) :
    preserveLoop html js (preserveLoop html js n src).length (preserveLoop html js n src ++ junk) = preserveLoop html js n src :=
  (JsonV.Lemmas.QuoteReformat.preserve_strict html js src n nc h).2.1 junk

/-- … and unquotes to the same text, without error. -/
theorem preserve_unquote (html js : Bool) (src : Bytes) (n : Nat) (nc : Bool)
    (h : consumeString true src = (n, Err.ok, nc)) :
    appendUnquote (preserveLoop html js n src) = appendUnquote (src.take n) :=
  (JsonV.Lemmas.QuoteReformat.preserve_strict html js src n nc h).2.2

/-- Every literal of C01's strict grammar is a `StringLiteral` (has an RFC 8259 meaning) and AppendUnquote returns it:
`unquote_meaning` applies to everything the strict scanner accepts. -/
theorem strict_literal_meaning (lit : Bytes) (h : JsonV.Spec.Grammar.JString true lit) :
    ∃ m, StringLiteral lit m ∧ appendUnquote lit = (m, Err.ok) := by
  obtain ⟨m, hm⟩ := JsonV.Lemmas.QuoteGrammar.stringLiteral_of_jstring lit h
  exact ⟨m, hm, appendUnquote_meaning lit m hm⟩

/-- Full statement: reformatting keeps the meaning of the literal.  Open part: the PreserveRawStrings loop with an
escape option on AND AllowInvalidUTF8 (everything else is `reformat_meaning_partial` / `reformat_meaning_strict`). -/
def reformat_meaning_full : Prop :=
  ∀ (f : QFlags) (src : Bytes), (reformatString f src).2.2 = Err.ok →
    (appendUnquote (reformatString f src).1).1 = (appendUnquote (src.take (reformatString f src).2.1)).1

theorem unquote_meaning (lit m : Bytes) (h : StringLiteral lit m) : appendUnquote lit = (m, Err.ok) :=
  appendUnquote_meaning lit m h

example : StringLiteral [0x22, 0x5c, 0x6e, 0x22] [0x0a] :=
  ⟨[0x5c, 0x6e], rfl, Unescapes.simple (by decide) Unescapes.nil⟩

/-- ConsumeString leaves a literal it accepts canonical (no stringNonCanonical flag — the condition under which
ReformatString copies it verbatim) exactly when the literal is the RFC 8785 serialisation of its own meaning.
The boundary `v1 >= ' '` of decode.go:197 is `escNonCanon` in the model. -/
theorem consume_canonical_iff (v : Bool) (lit : Bytes)
    (h : (consumeString v lit).1 = lit.length ∧ (consumeString v lit).2.1 = Err.ok) :
    (consumeString v lit).2.2 = false ↔ lit = canonQuote (appendUnquote lit).1 :=
  consumeString_canonical_iff v lit h

/-- the RFC 8785 serialisation of any text is accepted and left canonical -/
theorem consume_canonQuote (v : Bool) (s : Bytes) : consumeString v (canonQuote s) = ((canonQuote s).length, Err.ok, false) :=
  consumeString_canonQuote v s

example : (consumeString true [0x22, 0x5c, 0x75, 0x30, 0x30, 0x32, 0x30, 0x22]).2.2 = true := by decide +kernel  -- "\u0020"
example : (consumeString true [0x22, 0x5c, 0x75, 0x30, 0x30, 0x31, 0x66, 0x22]).2.2 = false := by decide +kernel -- "\u001f"

/-- Unquoting raw content (no `"`, `\`, control byte) that may be ill-formed: the text with exactly one U+FFFD per
ill-formed byte (`lossy`, longer by two bytes for each), and ErrInvalidUTF8 iff there is at least one. -/
theorem unquote_fffd_count (body : Bytes) (hb : RawBody body) :
    appendUnquote (0x22 :: (body ++ [0x22])) =
      (lossy body, if 0 < illFormedCount body then Err.invalidUTF8 else Err.ok) ∧
    (lossy body).length = body.length + 2 * illFormedCount body := by
  refine ⟨?_, lossy_length body⟩
  simp only [appendUnquote, ↓reduceIte]
  exact unqLoop_lossy (unescapesLossy_of_raw body hb) Err.ok

example : RawBody [0x61, 0xff, 0xE2, 0x80] := by
  intro b hb; simp at hb; rcases hb with rfl | rfl | rfl | rfl <;> decide

/-- The same for literals that MIX escape sequences, well-formed text and raw ill-formed bytes (`UnescapesLossy body m k`:
`m` has exactly one U+FFFD for each of the `k` ill-formed bytes): AppendUnquote returns `m`, with ErrInvalidUTF8 iff
`k > 0`. -/
theorem unquote_fffd_count_mixed (body m : Bytes) (k : Nat) (h : UnescapesLossy body m k) :
    appendUnquote (0x22 :: (body ++ [0x22])) = (m, if 0 < k then Err.invalidUTF8 else Err.ok) := by
  simp only [appendUnquote, ↓reduceIte]
  exact unqLoop_lossy h Err.ok

-- `"\n` FF `\u0041"` : meaning LF U+FFFD 'A', one ill-formed byte
example : UnescapesLossy [0x5c, 0x6e, 0xff, 0x5c, 0x75, 0x30, 0x30, 0x34, 0x31] ([0x0a] ++ (replacement ++ (encodeRune 0x41 ++ []))) 1 :=
  .simple (by decide) (.bad (by decide) (by decide +kernel) (.unicode (v := 0x41) (by decide) (by decide) .nil))

/-! ### Glue with slice C01 (Model/WireDecode.lean): one model of strings -/

open JsonV.Lemmas.GlueQuote in
/-- This slice's ConsumeString model equals C01's on every input (consumed length, stringNonCanonical, error class). -/
theorem glue_consumeString (b : Bytes) (v : Bool) :
    (JsonV.Model.Wire.consumeString b v).1 = (consumeString v b).1 ∧
    (JsonV.Model.Wire.consumeString b v).2.1.nonCanonical = (consumeString v b).2.2 ∧
    (JsonV.Model.Wire.consumeString b v).2.2 = errInj (consumeString v b).2.1 := consumeString_eq b v

open JsonV.Lemmas.GlueQuote in
/-- This slice's AppendUnquote model equals C01's `unquote` on every input. -/
theorem glue_unquote (src : Bytes) :
    JsonV.Model.Wire.unquote src = ((appendUnquote src).1, errInj (appendUnquote src).2) := unquote_eq src

open JsonV.Lemmas.GlueQuote in
theorem glue_errInj_injective : ∀ a b, errInj a = errInj b → a = b := errInj_injective

/-- C01's grammar theorem `string_iff`, for this slice's scanner. -/
theorem string_iff_quote (b : Bytes) (v : Bool) (n : Nat) :
    (∃ nc, consumeString v b = (n, Err.ok, nc)) ↔ n ≤ b.length ∧ JsonV.Spec.Grammar.JString v (b.take n) :=
  JsonV.Lemmas.GlueQuote.consumeString_grammar b v n

/-- **For C02 (`C02.quote_is_string`, `render_text_real`)**: AppendQuote's output is a string literal of C01's grammar — in the strict
sense (well-formed UTF-8, no unpaired surrogate) as well as the lenient one — for EVERY EscapeForHTML / EscapeForJS /
AllowInvalidUTF8 combination and every input; its unquote is the (lossy) input by `unquote_quote_lossy`. -/
theorem quote_is_jstring (f : QFlags) (v : Bool) (s : Bytes) : JsonV.Spec.Grammar.JString v (appendQuote f s).1 :=
  JsonV.Lemmas.QuoteJString.appendQuote_is_jstring f v s

/-- the scanner consumes the whole quoted form without error, every flag set -/
theorem quote_consumed (v : Bool) (f : QFlags) (s : Bytes) :
    ∃ nc, consumeString v (appendQuote f s).1 = ((appendQuote f s).1.length, Err.ok, nc) :=
  JsonV.Lemmas.QuoteJString.consumeString_appendQuote v f s

open JsonV.Lemmas.GlueEncQuote in
/-- The Encoder model's AppendQuote is this slice's AppendQuote: output and error flag, every option set and input. -/
theorem enc_appendQuote_eq (o : JsonV.Model.Encoder.Opts) (s : Bytes) :
    JsonV.Model.Encoder.appendQuote o s =
      ((appendQuote (flagsOf o) s).1, decide ((appendQuote (flagsOf o) s).2 = Err.invalidUTF8)) :=
  JsonV.Lemmas.GlueEncQuote.appendQuote_eq o s

open JsonV.Lemmas.GlueEncQuote in
/-- The Encoder model's `unquote` of a quoted string is the lossy input = this slice's AppendUnquote of it. -/
theorem enc_unquote_appendQuote (o : JsonV.Model.Encoder.Opts) (s : Bytes) :
    JsonV.Model.Encoder.unquote (JsonV.Model.Encoder.appendQuote o s).1 = lossy s ∧
    JsonV.Model.Encoder.unquote (JsonV.Model.Encoder.appendQuote o s).1 = (appendUnquote (appendQuote (flagsOf o) s).1).1 :=
  JsonV.Lemmas.GlueEncQuote.unquote_appendQuote o s

/-- The name key of a literal of the selected mode (both UTF-8 modes) is its unquoted text. -/
theorem nameKey_unquote (o : JsonV.Model.Validate.VOpts) (q : Bytes)
    (h : JsonV.Spec.Grammar.JString (!o.allowInvalidUTF8) q) :
    JsonV.Lemmas.WireValue.nameKey o q = (appendUnquote q).1 :=
  JsonV.Lemmas.GlueNameKey.nameKey_unquote o q h

/-- … stated on `unescapedName`/`valueString`, to which every `nameKey` of the framework unfolds, with `Wire.unquote`. -/
theorem unescapedName_valueString (o : JsonV.Model.Validate.VOpts) (q : Bytes)
    (h : JsonV.Spec.Grammar.JString (!o.allowInvalidUTF8) q) :
    JsonV.Model.Validate.unescapedName q (JsonV.Model.Validate.valueString o q).2.1 = (JsonV.Model.Wire.unquote q).1 :=
  JsonV.Lemmas.GlueNameKey.unescapedName_valueString o q h

/-- C12's `NameKeyUnquote`, verbatim. -/
theorem fmt_nameKey_unquote : ∀ (o : JsonV.Fmt.FOpts) (raw : Bytes),
    JsonV.Spec.Grammar.JString (!o.allowInvalidUTF8) raw → JsonV.Fmt.nameKey o raw = (JsonV.Model.Wire.unquote raw).1 :=
  JsonV.Lemmas.GlueNameKey.fmt_nameKey_unquote

/-- The name key of AppendQuote's output is the (lossy) Go string, for every flag set and both UTF-8 modes. -/
theorem nameKey_appendQuote (o : JsonV.Model.Validate.VOpts) (f : QFlags) (s : Bytes) :
    JsonV.Lemmas.WireValue.nameKey o (appendQuote f s).1 = lossy s :=
  JsonV.Lemmas.GlueNameKey.nameKey_appendQuote o f s

/-- This slice's RFC 8259 meaning theorem, for C01's `unquote`. -/
theorem wire_unquote_meaning (lit m : Bytes) (h : StringLiteral lit m) :
    JsonV.Model.Wire.unquote lit = (m, JsonV.Model.Wire.Err.ok) :=
  JsonV.Lemmas.GlueQuote.wire_unquote_meaning lit m h

/-! ### Totality: the `panic("BUG: unhandled character")` branches are unreachable -/

theorem default_unreachable_unquote (src : Bytes) : (appendUnquote src).2 ≠ Err.bug := appendUnquote_no_bug src
theorem default_unreachable_consume (validate : Bool) (src : Bytes) : (consumeString validate src).2.1 ≠ Err.bug :=
  consumeString_no_bug validate src
theorem default_unreachable_reformat (f : QFlags) (src : Bytes) : (reformatString f src).2.2 ≠ Err.bug := by
  rcases JsonV.Lemmas.QuoteReformat.reformatString_cases f src with ⟨-, h⟩ | ⟨-, ⟨-, -, h⟩ | ⟨-, -, h⟩ | ⟨-, h⟩⟩ <;> rw [h]
  · exact consumeString_no_bug _ src
  all_goals nofun

/-- AppendQuote is total with only two outcomes. -/
theorem quote_total (f : QFlags) (s : Bytes) : (appendQuote f s).2 = Err.ok ∨ (appendQuote f s).2 = Err.invalidUTF8 := by
  rw [quote_error_iff]; split <;> simp

end JsonV.Props.C11
