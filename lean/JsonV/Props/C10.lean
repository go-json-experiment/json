/-
C10 — Numbers are converted exactly in both directions.

The property theorems; the proofs live in Lemmas/Num*.lean, a few are put together here from those in some lines
(`typed_eq_raw`, `float_denotes`, `token_agrees_with_unmarshal`, `frac_exp_refused`).
The model (Model/Number.lean) mirrors jsonwire.ParseUint, the int/uint unmarshalers, Token.Int/Uint,
jsonwire.AppendFloat on strconv's shortest decomposition, ReformatNumber; it is tied to the code by the
regenerated constants below (Tie A) and by the `num` correspondence ops of harness/c10.go (Tie B).
strconv's shortest-digit generation and ParseFloat's correct rounding are parameters (validated by the harness).
-/
import JsonV.Lemmas.NumInt
import JsonV.Lemmas.NumGrammar
import JsonV.Lemmas.NumDenote
import JsonV.Lemmas.NumTok
import JsonV.Lemmas.NumTokFloat
import JsonV.Lemmas.NumJNumber

namespace JsonV.Props.C10
open JsonV JsonV.Model.Number JsonV.Spec.Ecma
open JsonV.Lemmas.NumParse JsonV.Lemmas.NumDigits JsonV.Lemmas.NumInt JsonV.Lemmas.NumFloat JsonV.Lemmas.NumGrammar JsonV.Lemmas.NumTok

/-! ### Tie A: constants regenerated from the Go source -/

theorem tie_unsafeWidth : JsonV.Gen.jsonwire.c_ParseUint_unsafeWidth = 20 := rfl
theorem tie_maxExactIntegerDigits : JsonV.Gen.jsonwire.c_ReformatNumber_maxExactIntegerDigits = 16 := rfl
/-- 20 is the number of digits of MaxUint64 and 16 that of 2^53: what the two constants are documented to be. -/
theorem widths_meaning : (natDigits (2 ^ 64 - 1)).length = JsonV.Gen.jsonwire.c_ParseUint_unsafeWidth ∧
    (natDigits (2 ^ 53)).length = JsonV.Gen.jsonwire.c_ReformatNumber_maxExactIntegerDigits :=
  ⟨natDigits_length 19 _ (by decide) (by decide), natDigits_length 15 _ (by decide) (by decide)⟩

/-! ### jsonwire.ParseUint -/

/-- For EVERY byte string: a canonical decimal (non-empty, digits only, no leading zero unless "0") yields its value
when that is below 2^64 and `(MaxUint64, false)` otherwise; anything else yields `(0, false)`.
The loop runs in wrapping 64-bit arithmetic; the 20-digit overflow test is exact. -/
theorem parseUint_exact (b : Bytes) :
    parseUint b =
      if canonicalDecimal b then
        (if bytesVal b < 2 ^ 64 then (UInt64.ofNat (bytesVal b), true) else (maxUint64, false))
      else (0, false) := JsonV.Lemmas.NumParse.parseUint_exact b

/-- Every uint64 printed in decimal (strconv.AppendUint) reads back as itself. -/
theorem uint_rt (n : Nat) (h : n < 2 ^ 64) : parseUint (formatUint n) = (UInt64.ofNat n, true) := by
  rw [parseUint_exact, formatUint_canonical, bytesVal_formatUint]; simp [h]

example : parseUint (formatUint 18446744073709551615) = (18446744073709551615, true) := uint_rt _ (by decide)

/-! ### integer unmarshalers (every Go width) -/

/-- Signed kinds: success with value `i` iff the text is an integer literal (`-0` included) denoting `i`
and `-2^(w-1) ≤ i < 2^(w-1)`. -/
theorem int_bounds (w : Nat) (hw : GoWidth w) (lit : Bytes) (i : Int) :
    unmarshalInt w lit = .ok i ↔
      isIntLit lit = true ∧ intVal lit = i ∧ -(2 ^ (w - 1) : Int) ≤ i ∧ i < 2 ^ (w - 1) := by
  rw [unmarshalInt_spec w hw.bounds.1 hw.bounds.2 lit, syntaxThenRange_ok_iff]
  constructor <;> rintro ⟨h1, rfl, h2⟩ <;> exact ⟨h1, rfl, h2⟩

/-- The error class: an integer literal out of range is a range error, everything else a syntax error. -/
theorem int_class (w : Nat) (hw : GoWidth w) (lit : Bytes) :
    unmarshalInt w lit =
      if isIntLit lit then
        (if -(2 ^ (w - 1) : Int) ≤ intVal lit ∧ intVal lit < 2 ^ (w - 1) then .ok (intVal lit) else .error .range)
      else .error .syntax := unmarshalInt_spec w hw.bounds.1 hw.bounds.2 lit

/-- Unsigned kinds: success with value `u` iff the text is a canonical decimal (no sign at all) denoting `u < 2^w`. -/
theorem uint_bounds (w : Nat) (hw : GoWidth w) (lit : Bytes) (u : Nat) :
    unmarshalUint w lit = .ok u ↔ canonicalDecimal lit = true ∧ bytesVal lit = u ∧ u < 2 ^ w := by
  rw [unmarshalUint_spec w hw.bounds.2 lit, syntaxThenRange_ok_iff]
  constructor <;> rintro ⟨h1, rfl, h2⟩ <;> exact ⟨h1, rfl, h2⟩

theorem uint_class (w : Nat) (hw : GoWidth w) (lit : Bytes) :
    unmarshalUint w lit =
      if canonicalDecimal lit then (if bytesVal lit < 2 ^ w then .ok (bytesVal lit) else .error .range)
      else .error .syntax := unmarshalUint_spec w hw.bounds.2 lit

-- the bounds are met exactly: "-128" fits int8 and "-129", "128" do not; "255" fits uint8, "256" does not; "-0" is 0
example : unmarshalInt 8 [45, 49, 50, 56] = .ok (-128) :=
  (int_bounds 8 (Or.inl rfl) _ _).2 ⟨by decide, by decide, by decide, by decide⟩
example : unmarshalInt 8 [45, 49, 50, 57] = .error .range := by
  rw [int_class 8 (Or.inl rfl), if_pos (by decide), if_neg (by decide)]
example : unmarshalInt 8 [49, 50, 56] = .error .range := by
  rw [int_class 8 (Or.inl rfl), if_pos (by decide), if_neg (by decide)]
example : unmarshalInt 64 [45, 48] = .ok 0 :=
  (int_bounds 64 (Or.inr (Or.inr (Or.inr rfl))) _ _).2 ⟨by decide, by decide, by decide, by decide⟩
example : unmarshalUint 8 [50, 53, 53] = .ok 255 :=
  (uint_bounds 8 (Or.inl rfl) _ _).2 ⟨by decide, by decide, by decide⟩
example : unmarshalUint 8 [50, 53, 54] = .error .range := by
  rw [uint_class 8 (Or.inl rfl), if_pos (by decide), if_neg (by decide)]

/-- A literal with a fraction or an exponent is refused (syntax error) by both families, at every width. -/
theorem frac_exp_refused (w : Nat) (hw : GoWidth w) (lit : Bytes) (h : hasFracOrExp lit = true) :
    unmarshalInt w lit = .error .syntax ∧ unmarshalUint w lit = .error .syntax := by
  rw [int_class w hw, uint_class w hw, syntaxThenRange_syntax_iff, syntaxThenRange_syntax_iff]
  constructor
  · intro hi; rw [intLit_no_frac lit hi] at h; cases h
  · intro hc; rw [canonical_no_frac lit hc] at h; cases h

example : hasFracOrExp [49, 46, 48] = true ∧ hasFracOrExp [49, 101, 48] = true := by decide

/-- Any minus sign — even `-0` — is refused for unsigned kinds. -/
theorem minus_refused_unsigned (w : Nat) (hw : GoWidth w) (lit : Bytes) (h : lit.head? = some 45) :
    unmarshalUint w lit = .error .syntax := by
  rw [uint_class w hw, syntaxThenRange_syntax_iff]
  exact fun hc => canonical_not_minus lit hc h

example : unmarshalUint 64 [45, 48] = .error .syntax := minus_refused_unsigned 64 (Or.inr (Or.inr (Or.inr rfl))) _ rfl

/-- The quoted form (`string` option, StringifyNumbers, map keys) is decided by the very same function on the
unquoted content; a bare number under the option, or a string without it, is a kind mismatch. -/
theorem quoted_same (w : Nat) (val : Bytes) :
    unmarshalIntValue w true .str val = unmarshalIntValue w false .num val ∧
    unmarshalUintValue w true .str val = unmarshalUintValue w false .num val ∧
    unmarshalIntValue w true .num val = .err .mismatch ∧ unmarshalIntValue w false .str val = .err .mismatch ∧
    unmarshalUintValue w true .num val = .err .mismatch ∧ unmarshalUintValue w false .str val = .err .mismatch := by
  simp [unmarshalIntValue, unmarshalUintValue]

/-- Every in-range integer printed in decimal (strconv.AppendInt) unmarshals to itself. -/
theorem int_rt (w : Nat) (hw : GoWidth w) (i : Int) (h1 : -(2 ^ (w - 1) : Int) ≤ i) (h2 : i < 2 ^ (w - 1)) :
    unmarshalInt w (formatInt i) = .ok i := by
  rw [int_bounds w hw]
  exact ⟨(formatInt_lit i).1, (formatInt_lit i).2, h1, h2⟩

example : unmarshalInt 64 (formatInt (-9223372036854775808)) = .ok (-9223372036854775808) :=
  int_rt 64 (Or.inr (Or.inr (Or.inr rfl))) _ (by decide) (by decide)

/-! ### Token.Int / Token.Uint on raw literals -/

/-- Token.Int: an integer literal in range is exact; out of range it saturates with a range error; anything
else is a syntax error carrying the (saturated, truncated) float value. -/
theorem tokenInt_class (pf : Bytes → Fl) (buf : Bytes) :
    tokenInt pf buf =
      if isIntLit buf then
        (if -(2 ^ 63 : Int) ≤ intVal buf ∧ intVal buf < 2 ^ 63 then (intVal buf, .none)
         else if intVal buf < 0 then (-(2 ^ 63), .range) else (2 ^ 63 - 1, .range))
      else (f64toi64 (pf buf), .syntax) := tokenInt_spec pf buf

theorem tokenUint_class (pf : Bytes → Fl) (buf : Bytes) :
    tokenUint pf buf =
      if canonicalDecimal buf then
        (if bytesVal buf < 2 ^ 64 then (bytesVal buf, .none) else (2 ^ 64 - 1, .range))
      else (f64tou64 (pf buf), .syntax) := tokenUint_spec pf buf

/-- Token.Int/Uint agree with the unmarshalers on every integer literal that fits. -/
theorem token_agrees_with_unmarshal (pf : Bytes → Fl) (buf : Bytes) (i : Int)
    (h : unmarshalInt 64 buf = .ok i) : tokenInt pf buf = (i, .none) := by
  have hw : GoWidth 64 := Or.inr (Or.inr (Or.inr rfl))
  obtain ⟨h1, h2, h3, h4⟩ := (int_bounds 64 hw buf i).1 h
  rw [tokenInt_class, h1, h2]
  simp only [if_true]
  rw [if_pos ⟨by simpa using h3, by simpa using h4⟩]

example : unmarshalInt 64 [45, 55] = .ok (-7) :=
  (int_bounds 64 (Or.inr (Or.inr (Or.inr rfl))) _ _).2 ⟨by decide, by decide, by decide, by decide⟩

/-! ### typed tokens: jsontext.Int / jsontext.Uint / jsontext.Float and the accessors on them -/

/-- On a raw token the general accessors are the raw ones (so `tokenInt_class`/`tokenUint_class` apply). -/
theorem tok_raw (pf : Bytes → Fl) (buf : Bytes) :
    tokInt pf (.raw buf) = tokenInt pf buf ∧ tokUint pf (.raw buf) = tokenUint pf buf := ⟨rfl, rfl⟩

/-- jsontext.Int(n): `.Int()` is exact for every int64 (0 included, which is the raw token `0`);
`.Uint()` is exact for n ≥ 0 and `(0, syntax)` for n < 0. -/
theorem typedInt_class (pf : Bytes → Fl) (n : Int) (h1 : -(2 ^ 63 : Int) ≤ n) (h2 : n < 2 ^ 63) :
    tokInt pf (mkInt n) = (n, .none) ∧
    tokUint pf (mkInt n) = if n < 0 then (0, .syntax) else (n.toNat, .none) :=
  ⟨mkInt_tokInt pf n h1 h2, mkInt_tokUint pf n h1 h2⟩

/-- jsontext.Uint(u): `.Uint()` is exact for every uint64; `.Int()` is exact up to and INCLUDING 2^63−1 and
saturates with a range error only above it. -/
theorem typedUint_class (pf : Bytes → Fl) (u : Nat) (h : u < 2 ^ 64) :
    tokUint pf (mkUint u) = (u, .none) ∧
    tokInt pf (mkUint u) = if u < 2 ^ 63 then ((u : Int), .none) else (2 ^ 63 - 1, .range) :=
  ⟨mkUint_tokUint pf u h, mkUint_tokInt pf u h⟩

example (pf : Bytes → Fl) : tokInt pf (mkUint 9223372036854775807) = (9223372036854775807, .none) := by
  have := (typedUint_class pf 9223372036854775807 (by decide)).2
  rw [if_pos (by decide)] at this; exact this

/-- A typed integer token behaves exactly like the raw token of its rendered literal (strconv.AppendInt/AppendUint). -/
theorem typed_eq_raw (pf : Bytes → Fl) :
    (∀ n : Int, -(2 ^ 63 : Int) ≤ n → n < 2 ^ 63 → tokInt pf (mkInt n) = tokenInt pf (formatInt n)) ∧
    (∀ u : Nat, u < 2 ^ 64 → tokInt pf (mkUint u) = tokenInt pf (formatUint u) ∧
                              tokUint pf (mkUint u) = tokenUint pf (formatUint u)) := by
  constructor
  · intro n h1 h2
    rw [mkInt_tokInt pf n h1 h2, token_agrees_with_unmarshal pf _ n (int_rt 64 (.inr (.inr (.inr rfl))) n h1 h2)]
  · intro u h
    obtain ⟨hl, hv⟩ := isIntLit_of_canonical _ (formatUint_canonical u)
    constructor
    · rw [mkUint_tokInt pf u h, tokenInt_class, hl, hv, bytesVal_formatUint]
      simp only [if_true]
      by_cases hu : u < 2 ^ 63
      · rw [if_pos hu, if_pos ⟨by omega, by omega⟩]
      · rw [if_neg hu, if_neg (by omega), if_neg (by omega)]
    · rw [mkUint_tokUint pf u h, tokenUint_class, formatUint_canonical, bytesVal_formatUint]
      simp [h]

/-- jsontext.Float / Float32 token → Token.Int, for every finite value (`truncInt f` is the value truncated toward
zero): fractional ⇒ syntax error carrying the truncated, saturated value; integral and inside the int64 range ⇒
exact, no error; integral and outside — including exactly 2^63 — ⇒ saturated with a range error. -/
theorem typedFloat_int_class (pf : Bytes → Fl) (f : Fl) (b : Bool) (hf : f.inf = false) :
    tokInt pf (.float f b) =
      if f.isIntegral = false then (f64toi64 f, .syntax)
      else if -(2 ^ 63 : Int) ≤ truncInt f ∧ truncInt f < 2 ^ 63 then (truncInt f, .none)
      else if truncInt f < 0 then (-(2 ^ 63), .range) else (2 ^ 63 - 1, .range) := tokInt_float pf f b hf

/-- … → Token.Uint: fractional or carrying a minus sign (also −0) ⇒ syntax error; integral in [0, 2^64) ⇒ exact;
integral and ≥ 2^64 — including exactly 2^64 — ⇒ MaxUint64 with a range error. -/
theorem typedFloat_uint_class (pf : Bytes → Fl) (f : Fl) (b : Bool) (hf : f.inf = false) :
    tokUint pf (.float f b) =
      if f.isIntegral = false ∨ f.neg = true then (f64tou64 f, .syntax)
      else if f.truncAbs < 2 ^ 64 then (f.truncAbs, .none) else (2 ^ 64 - 1, .range) := tokUint_float pf f b hf

/-- The value reported with a syntax error (token.go f64toi64 / f64tou64) is the truncation toward zero, saturated. -/
theorem truncation_saturates (f : Fl) (hf : f.inf = false) :
    f64toi64 f = (if truncInt f < -(2 ^ 63) then -(2 ^ 63) else if truncInt f ≥ 2 ^ 63 then 2 ^ 63 - 1 else truncInt f) ∧
    f64tou64 f = (if f.neg then 0 else if f.truncAbs ≥ 2 ^ 64 then 2 ^ 64 - 1 else f.truncAbs) :=
  ⟨f64toi64_clamp f hf, f64tou64_clamp f hf⟩

-- 2^63 as a float token: integral, out of range ⇒ (MaxInt64, range); as Uint it is exact
example (pf : Bytes → Fl) : tokInt pf (.float ⟨false, false, 2 ^ 52, 11⟩ false) = (2 ^ 63 - 1, .range) ∧
    tokUint pf (.float ⟨false, false, 2 ^ 52, 11⟩ false) = (2 ^ 63, .none) := by
  constructor
  · rw [typedFloat_int_class pf _ _ rfl, if_neg (by decide), if_neg (by decide), if_neg (by decide)]
  · rw [typedFloat_uint_class pf _ _ rfl, if_neg (by decide), if_pos (by decide)]; rfl

/-! ### Token.Float -/

/-- Token.Float / Token.Float32 on a RAW token: exactly the float parser applied to the literal
(`strconv.ParseFloat(buf, 64)` resp. `(buf, 32)`), with ErrRange iff the parser overflowed to ±Inf. -/
theorem tokenFloat_class (pf64 pf32 : Bytes → Fl) (buf : Bytes) :
    tokFloat64 pf64 pf32 (.raw buf) = (pf64 buf, if (pf64 buf).inf then .range else .none) ∧
    tokFloat32 pf64 pf32 (.raw buf) = (roundFl fmt32 (pf32 buf), if (pf32 buf).inf then .range else .none) :=
  ⟨rfl, rfl⟩

/-- Token.Float on jsontext.Int(n) / jsontext.Uint(u): Go's integer→float64 conversion (one rounding to nearest
even), no error — the very value the raw token of the rendered literal reports under the correctly rounding
parser `parseFloatExact` (the specification of strconv.ParseFloat): typed ≡ raw for the Float accessor too.
(Token.Float32 on such tokens rounds twice — known finding N2 — and is deliberately not covered.) -/
theorem typedInt_float (pf32 : Bytes → Fl) (n : Int) (h1 : -(2 ^ 63 : Int) ≤ n) (h2 : n < 2 ^ 63) :
    (tokFloat64 (parseFloatExact fmt64) pf32 (mkInt n)).1 =
      (tokFloat64 (parseFloatExact fmt64) pf32 (.raw (formatInt n))).1 ∧
    (n ≠ 0 → tokFloat64 (parseFloatExact fmt64) pf32 (mkInt n) =
      (roundFl fmt64 ⟨decide (n < 0), false, n.natAbs, 0⟩, .none)) :=
  JsonV.Lemmas.NumTokFloat.mkInt_float pf32 n h1 h2

theorem typedUint_float (pf32 : Bytes → Fl) (u : Nat) (h : u < 2 ^ 64) :
    (tokFloat64 (parseFloatExact fmt64) pf32 (mkUint u)).1 =
      (tokFloat64 (parseFloatExact fmt64) pf32 (.raw (formatUint u))).1 ∧
    (u ≠ 0 → tokFloat64 (parseFloatExact fmt64) pf32 (mkUint u) = (roundFl fmt64 ⟨false, false, u, 0⟩, .none)) :=
  JsonV.Lemmas.NumTokFloat.mkUint_float pf32 u h

/-! ### floats: layout of the shortest decomposition -/

/-- jsonwire.AppendFloat (choice of %e/%f, strconv's layout, the `e-0X` clean-up) lays out the shortest
decomposition `(neg, d₁…d_k, n)` exactly as ECMA-262 Number::toString prescribes, with −0 kept. -/
theorem float_layout (neg : Bool) (ds : List Nat) (n : Int) (h : WFD ds n) :
    appendFloat neg ds n = numberToString neg ds n := appendFloat_eq_ecma neg ds n h

example : WFD [1, 2, 5] (-6) ∧ WFD [] 0 ∧ WFD [1] 22 ∧ WFD [4, 9] (-323) := by
  refine ⟨⟨?_, ?_, ?_, ?_, ?_⟩, ⟨?_, ?_, ?_, ?_, ?_⟩, ⟨?_, ?_, ?_, ?_, ?_⟩, ⟨?_, ?_, ?_, ?_, ?_⟩⟩ <;> simp <;> omega

/-- The output is always a JSON number (RFC 8259 §6). -/
theorem float_is_number (neg : Bool) (ds : List Nat) (n : Int) (h : WFD ds n) :
    isJsonNumber (appendFloat neg ds n) = true :=
  (JsonV.Lemmas.NumJNumber.isJsonNumber_iff _).2 (JsonV.Lemmas.NumJNumber.jnumber_appendFloat neg ds n h)

/-- Printed integers are JSON numbers that the integer unmarshalers accept: `formatInt` yields integer literals. -/
theorem int_is_literal (i : Int) : isIntLit (formatInt i) = true ∧ intVal (formatInt i) = i := formatInt_lit i

/-- The layout loses nothing: read back as a decimal, the text denotes exactly `(−1)^neg × d₁…d_k × 10^(n−k)`
(= ±0.d₁…d_k × 10^n); zero is `±0`. -/
theorem float_denotes (neg : Bool) (ds : List Nat) (n : Int) (h : WFD ds n) :
    (decimalValue (appendFloat neg ds n)).same ⟨neg, digitsVal ds, n - ds.length⟩ := by
  rw [float_layout neg ds n h]
  by_cases hne : ds = []
  · subst hne
    rw [h.2.2.1 rfl, JsonV.Lemmas.NumDenote.zero_denotes]
    exact JsonV.Lemmas.NumDenote.Dec.same_refl _
  · exact JsonV.Lemmas.NumDenote.numberToString_denotes neg ds n h hne

/- Not stated here because they are properties of strconv, which is a parameter of the model (see meta/C10.json):
that the shortest decomposition of every finite float is well formed (`WFD`), that ParseFloat maps the text back
to the same bits, and that no shorter digit string does.  harness/c10.go checks all three on the implementation
(thorough tier: every float32). -/

end JsonV.Props.C10
