/-
C10 glue theorems for the other slices: every number text this slice emits or accepts is a number of the
C01 grammar (`Spec.Grammar.JNumber`), hence a token the tokenizer model `scanNum` accepts (`num_valid_iff`);
and what C13's canonicalization needs of its float parameter: canonical number literals are tokens, and canonicalizing
one again changes nothing.

Uses Spec/Grammar (C01), Lemmas/GlueFormatNum (C12: a number token is valid ↔ JNumber), Model/Canon (C13: FloatCodec, canonNum) and
Lemmas/NumReformat (numValue, shortInt).
-/
import JsonV.Props.C10
import JsonV.Lemmas.NumJNumber
import JsonV.Lemmas.GlueFormatNum
import JsonV.Lemmas.NumReformat
import JsonV.Lemmas.WireNumberScan

namespace JsonV.Props.C10Glue
open JsonV JsonV.Model.Number JsonV.Spec.Ecma JsonV.Spec.Grammar JsonV.Fmt JsonV.Canon
open JsonV.Lemmas.NumInt JsonV.Lemmas.NumDigits JsonV.Lemmas.NumFloat JsonV.Lemmas.NumJNumber JsonV.Lemmas.CanonAtom JsonV.Lemmas.NumReformat

/-! ### what this slice emits is a `JNumber` -/

/-- jsonwire.AppendFloat's output is a number of the C01 grammar, for every well-formed decomposition. -/
theorem float_is_JNumber (neg : Bool) (ds : List Nat) (n : Int) (h : WFD ds n) :
    JNumber (appendFloat neg ds n) := jnumber_appendFloat neg ds n h

/-- … and therefore lexically exactly one number token for the tokenizer model (`scanNum`, C12). -/
theorem float_is_token (neg : Bool) (ds : List Nat) (n : Int) (h : WFD ds n) :
    (Tok.num (appendFloat neg ds n)).valid = true :=
  (num_valid_iff _).2 (float_is_JNumber neg ds n h)

example : JNumber (appendFloat true [1, 2, 5] (-6)) :=
  float_is_JNumber _ _ _ ⟨by simp, by simp, by simp, by omega, by omega⟩

/-- strconv.AppendUint / AppendInt outputs are numbers of the grammar. -/
theorem formatUint_is_JNumber (n : Nat) : JNumber (formatUint n) :=
  jnumber_of_canonical _ (formatUint_canonical n)

theorem formatInt_is_JNumber (i : Int) : JNumber (formatInt i) :=
  jnumber_of_intLit _ (formatInt_lit i).1

/-- jsonwire.ReformatNumber maps numbers to numbers, whatever the flags, provided AppendFloat does. -/
theorem reformat_is_JNumber (pf : Bytes → Fl) (af : Fl → Bytes) (ci cf : Bool) (num : Bytes)
    (hnum : JNumber num) (haf : ∀ f, JNumber (af f)) : JNumber (reformatNumber pf af ci cf num) := by
  rcases reformat_or pf af ci cf num with h | ⟨f, h⟩
  · rw [h]; exact hnum
  · rw [h]; exact haf f

/-! ### the laws of C13's float parameter -/

/-- Every text the float printer of C13's parameter emits is one number token, from the only law this needs:
the digit generator returns well-formed decompositions. -/
theorem numLex_of_wfd (fp : FloatCodec) (hfp : ∀ f, WFD (fp.shortest f).1 (fp.shortest f).2) :
    ∀ f, (Tok.num (fp.append f)).valid = true :=
  fun f => float_is_token f.neg _ _ (hfp f)

/-- Canonicalized number literals are numbers (and tokens) again. -/
theorem canonNum_is_JNumber (fp : FloatCodec) (hfp : ∀ f, WFD (fp.shortest f).1 (fp.shortest f).2)
    (lit : Bytes) (hl : JNumber lit) : JNumber (canonNum fp lit) ∧ (Tok.num (canonNum fp lit)).valid = true := by
  have h : JNumber (canonNum fp lit) :=
    reformat_is_JNumber fp.parse fp.append true true lit hl (fun f => float_is_JNumber f.neg _ _ (hfp f))
  exact ⟨h, (num_valid_iff _).2 h⟩

/-- The laws of strconv that canonicalization relies on, stated explicitly (validated by harness/c10.go,
not proved): the shortest decomposition is well formed, and the canonical spelling of a value reads back as
that value (`parse ∘ layout ∘ shortest = id` on the values `ReformatNumber` produces: finite, −0 normalised). -/
structure CodecLaws (fp : FloatCodec) : Prop where
  wfd : ∀ f, WFD (fp.shortest f).1 (fp.shortest f).2
  reread : ∀ lit, numValue fp (fp.append (numValue fp lit)) = numValue fp lit

/-- Canonicalizing a number literal twice is canonicalizing it once (`reformat_idempotent` at both flags on, which is
what C13's `canon_tree_idem` uses), from the re-read law: a verbatim-copied short integer stays verbatim; a re-spelled
literal is either short (copied) or reads back as the same value and is laid out identically. -/
theorem numStable_of_laws (fp : FloatCodec) (h : CodecLaws fp) :
    ∀ lit, canonNum fp (canonNum fp lit) = canonNum fp lit :=
  fun lit => reformat_idem fp h.reread true true lit

/-- The laws are satisfiable (degenerate codec: every literal reads as 0), so the two theorems are not vacuous. -/
example : CodecLaws ⟨fun _ => ⟨false, false, 0, 0⟩, fun _ => ([], 0)⟩ :=
  ⟨fun _ => (show WFD [] 0 from ⟨by simp, by simp, fun _ => rfl, by omega, by omega⟩), fun _ => rfl⟩

/-! ### jsonwire.ReformatNumber, every flag combination -/

/-- **`reformat_number_spec`**: for every number literal of the grammar and every combination of
CanonicalizeRawInts (`ci`) / CanonicalizeRawFloats (`cf`): the output is a number of the grammar and one token;
with both flags off it is the input verbatim; in general it is the input when `verbatimB ci cf lit` (flags off;
a float literal without `cf`; an integer literal without `ci` or shorter than 16 characters — `-0` excepted) and
otherwise `AppendFloat` of the literal's float64 value with −0 ↦ 0 and ±Inf ↦ ±MaxFloat64 (`numValue`). -/
theorem reformat_number_spec (fp : FloatCodec) (hfp : ∀ f, WFD (fp.shortest f).1 (fp.shortest f).2)
    (ci cf : Bool) (lit : Bytes) (hl : JNumber lit) :
    JNumber (reformatNumber fp.parse fp.append ci cf lit) ∧
    (Tok.num (reformatNumber fp.parse fp.append ci cf lit)).valid = true ∧
    (ci = false → cf = false → reformatNumber fp.parse fp.append ci cf lit = lit) ∧
    reformatNumber fp.parse fp.append ci cf lit =
      (if verbatimB ci cf lit then lit else fp.append (numValue fp lit)) := by
  have h : JNumber (reformatNumber fp.parse fp.append ci cf lit) :=
    reformat_is_JNumber fp.parse fp.append ci cf lit hl (fun f => float_is_JNumber f.neg _ _ (hfp f))
  refine ⟨h, (num_valid_iff _).2 h, ?_, reformat_cases fp ci cf lit⟩
  rintro rfl rfl
  rw [reformat_cases, verbatimB_off, if_pos rfl]

/-- With both flags on (Canonicalize) and the guarded shortcut law (`ShortIntFixed` of Props/C13.lean, whose body
is the hypothesis `hs`), every number literal is re-spelled as `AppendFloat` of its value — the `n < 16` shortcut
is invisible. -/
theorem reformat_canonical (fp : FloatCodec)
    (hs : ∀ lit, isIntLit lit = true → shortInt lit = true → fp.append (numValue fp lit) = lit)
    (lit : Bytes) (hl : JNumber lit) :
    reformatNumber fp.parse fp.append true true lit = fp.append (numValue fp lit) := by
  rw [reformat_cases, verbatimB_on]
  by_cases c : shortInt lit = true
  · have hi : isIntLit lit = true := by
      apply (intLit_iff_noFrac lit hl).2
      simp only [shortInt, Bool.and_eq_true, Bool.not_eq_true'] at c
      exact c.1.2
    rw [if_pos c, hs lit hi c]
  · rw [if_neg c]

/-- ReformatNumber is idempotent under the codec laws, whatever the flags. -/
theorem reformat_idempotent (fp : FloatCodec) (h : CodecLaws fp) (ci cf : Bool) (lit : Bytes) :
    reformatNumber fp.parse fp.append ci cf (reformatNumber fp.parse fp.append ci cf lit) =
      reformatNumber fp.parse fp.append ci cf lit := reformat_idem fp h.reread ci cf lit

/-- … and never changes the float64 value the literal denotes (C12: reformatting preserves the meaning). -/
theorem reformat_preserves_value (fp : FloatCodec) (h : CodecLaws fp) (ci cf : Bool) (lit : Bytes) :
    numValue fp (reformatNumber fp.parse fp.append ci cf lit) = numValue fp lit := by
  rw [reformat_cases]
  by_cases hv : verbatimB ci cf lit = true
  · rw [if_pos hv]
  · rw [if_neg hv, h.reread lit]

-- the flag cases are all inhabited: `1.0` is copied without CanonicalizeRawFloats, `-0` never is
example : verbatimB true false [49, 46, 48] = true ∧ verbatimB true false [45, 48] = false ∧
    verbatimB true true [49, 50, 51] = true ∧ verbatimB false true [49, 50, 51] = true := by decide

/-! ### quoted floats (`string` option, StringifyNumbers, map keys) -/

/-- `jsonwire.ConsumeNumber` consumes a number of the grammar entirely (C01's scanner lemmas). -/
theorem consumeNumber_of_JNumber (b : Bytes) (h : JNumber b) : Model.Wire.consumeNumber b = (b.length, .ok) := by
  simpa only [List.append_nil] using JsonV.Lemmas.WireNumber.consumeNumber_append (rest := []) h nofun

/-- The float unmarshaler treats the quoted form exactly like the bare number when the content is one JSON number,
and refuses any other content with a syntax error. -/
theorem quoted_float_same (pf : Bytes → Fl) (val : Bytes) :
    (JNumber val → unmarshalFloatValue pf true .str val = unmarshalFloatValue pf false .num val) ∧
    (¬ JNumber val → unmarshalFloatValue pf true .str val = .err .syntax) := by
  constructor
  · intro h
    simp [unmarshalFloatValue, consumeNumber_of_JNumber val h]
  · intro h
    have hne : ¬ Model.Wire.consumeNumber val = (val.length, .ok) := fun hc =>
      h (by simpa only [List.take_length] using ((JsonV.Lemmas.WireNumber.consumeNumber_ok_iff val _).1 hc).2.1)
    simp only [unmarshalFloatValue, Bool.not_true, Bool.false_eq_true, if_false]
    rw [if_pos]
    simp only [Bool.or_eq_true, bne_iff_ne, ne_eq]
    by_cases h1 : (Model.Wire.consumeNumber val).1 = val.length
    · right; intro h2; exact hne (Prod.ext h1 h2)
    · left; exact h1

/-- The v1 legacy arm (`StringifyWithLegacySemantics`) agrees with the v2 quoted arm on every JSON number, provided
the Go-syntax parser at the destination width agrees with the JSON-number parser there (it does: the Go float
syntax contains the JSON one) — in particular it rounds once, at the width of the destination, and an overflow of
that width is a range error. -/
theorem legacy_same_on_numbers (pf : Bytes → Fl) (pfGo : Bytes → Except NumErr Fl) (val : Bytes) (hj : JNumber val)
    (hagree : pfGo val = if (pf val).inf then .error .range else .ok (pf val)) :
    unmarshalFloatLegacy pfGo val = unmarshalFloatValue pf true .str val := by
  have hnull : (val == [110, 117, 108, 108]) = false := by
    cases hb : (val == [110, 117, 108, 108]) with
    | false => rfl
    | true =>
      have : val = [110, 117, 108, 108] := by simpa using hb
      subst this
      have hc := consumeNumber_of_JNumber _ hj
      exact absurd hc (by decide)
  rw [(quoted_float_same pf val).1 hj]
  by_cases hi : (pf val).inf = true
  · simp [unmarshalFloatLegacy, unmarshalFloatValue, hagree, hi, hnull]
  · simp [unmarshalFloatLegacy, unmarshalFloatValue, hagree, hi]

/-- The law of strconv a float round trip needs (validated by harness/c10.go: AppendFloat's text parses back to
identical bits, for every float32 and a stratified sample of float64): well-formed shortest digits, and the text
reads back as the value — for the values in `dom`, the normal forms that denote float64/float32 values (`Fl` has
several representations of one number; the parser returns one of them, so the law can only hold on those). -/
structure FloatRT (fp : FloatCodec) (dom : Fl → Prop) : Prop where
  wfd : ∀ f, WFD (fp.shortest f).1 (fp.shortest f).2
  rt : ∀ f, dom f → fp.parse (fp.append f) = f

/-- **`quoted_float_rt`** (for C04): what the float marshaler writes for a finite value — bare, or quoted under
`string` / StringifyNumbers / as a map key — the float unmarshaler reads back as that value. -/
theorem quoted_float_rt (fp : FloatCodec) (dom : Fl → Prop) (h : FloatRT fp dom) (f : Fl) (hd : dom f) (hf : f.inf = false) :
    unmarshalFloatValue fp.parse false .num (fp.append f) = .set f ∧
    unmarshalFloatValue fp.parse true .str (fp.append f) = .set f := by
  have hj : JNumber (fp.append f) := float_is_JNumber f.neg _ _ (h.wfd f)
  have hb : unmarshalFloatValue fp.parse false .num (fp.append f) = .set f := by
    simp [unmarshalFloatValue, h.rt f hd, hf]
  exact ⟨hb, by rw [(quoted_float_same fp.parse _).1 hj, hb]⟩

/-- the law is satisfiable and the theorem not vacuous: the codec whose only value is +0 -/
example :
    let fp : FloatCodec := ⟨fun _ => ⟨false, false, 0, 0⟩, fun _ => ([], 0)⟩
    FloatRT fp (fun f => f = ⟨false, false, 0, 0⟩) ∧
      unmarshalFloatValue fp.parse true .str (fp.append ⟨false, false, 0, 0⟩) = .set ⟨false, false, 0, 0⟩ := by
  have h : FloatRT ⟨fun _ => ⟨false, false, 0, 0⟩, fun _ => ([], 0)⟩ (fun f => f = ⟨false, false, 0, 0⟩) :=
    ⟨fun _ => (show WFD [] 0 from ⟨by simp, by simp, fun _ => rfl, by omega, by omega⟩), fun f hf => hf.symm⟩
  exact ⟨h, (quoted_float_rt _ _ h _ rfl rfl).2⟩

/-! ### what this slice accepts is a `JNumber` -/

/-- jsonwire.ParseUint succeeds only on numbers of the grammar that have no sign, fraction or exponent,
and returns their value. -/
theorem parseUint_is_prefix_of_grammar (b : Bytes) (v : UInt64) (h : parseUint b = (v, true)) :
    JNumber b ∧ b.head? ≠ some 45 ∧ hasFracOrExp b = false ∧ bytesVal b = v.toNat ∧ bytesVal b < 2 ^ 64 := by
  rcases JsonV.Lemmas.NumParse.parseUint_cases b with ⟨hc, hv, hp⟩ | ⟨_, _, hp⟩ | ⟨_, hp⟩
  · have hv' : v = UInt64.ofNat (bytesVal b) := (Prod.mk.inj (hp.symm.trans h)).1.symm
    refine ⟨jnumber_of_canonical b hc, canonical_not_minus b hc, canonical_no_frac b hc, ?_, hv⟩
    rw [hv', UInt64.toNat_ofNat_of_lt' hv]
  · exact absurd (Prod.mk.inj (hp.symm.trans h)).2 (by decide)
  · exact absurd (Prod.mk.inj (hp.symm.trans h)).2 (by decide)

/-- The integer unmarshalers accept only numbers of the grammar (without fraction or exponent; unsigned: without sign). -/
theorem unmarshal_accepts_JNumber (w : Nat) (hw : GoWidth w) (lit : Bytes) :
    (∀ i, unmarshalInt w lit = .ok i → JNumber lit ∧ hasFracOrExp lit = false) ∧
    (∀ u, unmarshalUint w lit = .ok u → JNumber lit ∧ hasFracOrExp lit = false ∧ lit.head? ≠ some 45) := by
  constructor
  · intro i h
    obtain ⟨h1, _⟩ := (JsonV.Props.C10.int_bounds w hw lit i).1 h
    exact ⟨jnumber_of_intLit lit h1, intLit_no_frac lit h1⟩
  · intro u h
    obtain ⟨h1, _⟩ := (JsonV.Props.C10.uint_bounds w hw lit u).1 h
    exact ⟨jnumber_of_canonical lit h1, canonical_no_frac lit h1, canonical_not_minus lit h1⟩

/-- On a token the decoder has validated (`JNumber lit`), the signed unmarshaler reports a syntax error exactly
when the number has a fraction or an exponent; otherwise the outcome is decided by the range alone. -/
theorem unmarshalInt_on_validated (w : Nat) (hw : GoWidth w) (lit : Bytes) (hl : JNumber lit) :
    (unmarshalInt w lit = .error .syntax ↔ hasFracOrExp lit = true) ∧
    (hasFracOrExp lit = false →
      unmarshalInt w lit = if -(2 ^ (w - 1) : Int) ≤ intVal lit ∧ intVal lit < 2 ^ (w - 1) then .ok (intVal lit) else .error .range) := by
  rw [JsonV.Props.C10.int_class w hw lit]
  refine ⟨?_, fun h => if_pos ((intLit_iff_noFrac lit hl).2 h)⟩
  rw [syntaxThenRange_syntax_iff, intLit_iff_noFrac lit hl, Bool.not_eq_false]

/-- … and the unsigned one exactly when it has a fraction, an exponent or a minus sign. -/
theorem unmarshalUint_on_validated (w : Nat) (hw : GoWidth w) (lit : Bytes) (hl : JNumber lit) :
    unmarshalUint w lit = .error .syntax ↔ (hasFracOrExp lit = true ∨ lit.head? = some 45) := by
  rw [JsonV.Props.C10.uint_class w hw lit, syntaxThenRange_syntax_iff, canonical_iff_noFrac lit hl, Decidable.not_and_iff_not_or_not,
    Bool.not_eq_false, Decidable.not_not]

example : JNumber [45, 49, 46, 53] ∧ hasFracOrExp [45, 49, 46, 53] = true :=
  ⟨JNumber.mk' (m := [0x2D]) (.inr rfl) (JInt.nonzero 49 [] ⟨by decide, by decide⟩ (by intro c hc; simp at hc))
    (JFrac.some [53] ⟨by simp, by intro c hc; simp at hc; subst hc; exact ⟨by decide, by decide⟩⟩) JExp.none, by decide⟩

end JsonV.Props.C10Glue
