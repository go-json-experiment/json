/-
C14 — Unmarshal merges JSON objects into existing values and replaces everything else.

Property theorems only (proofs in Lemmas/Merge*.lean).  They are statements about the L3 model
`Model.unm` (Model/Unmarshal.lean), which mirrors /repo/arshal_default.go kind by kind and is tied
to the real code by the correspondence check of harness/c14.go (`arsh unm|chain|merge`).

All statements are for EVERY type of the modelled universe (`GoType.wf`: distinct struct field
names, no `[]uint8`/`[N]uint8`), EVERY pair/chain of trees (a successful call implies that the
tree has no repeated member names, `success_dupFree`) and both values of `UnmarshalArrayFromAnyLength`
(`AllowDuplicateNames` has a section of its own); there is no bound on depth or size.  The value relation of the
merge law is plain equality of model values, which is stronger than the equality "as finite maps,
nil ≠ empty" that the property asks for (model maps are association lists in insertion order, and
sequential unmarshaling and unmarshaling the merged tree insert in the same order).
-/
import JsonV.Lemmas.MergeClauses
import JsonV.Lemmas.MergeDup
import JsonV.Lemmas.MergeIdem

namespace JsonV.Props.C14
open JsonV JsonV.Spec JsonV.Model JsonV.Lemmas.Merge

/-! ### The merge law -/

/-- **Merge law.**  Unmarshaling `j2` into the result of unmarshaling `j1` (into a zero value), when
both calls succeed, gives exactly the value that unmarshaling `merge j1 j2` into a zero value gives
(and that call succeeds). -/
theorem merge_law (o : UOpts) (ho : o.allowDup = false) (T : GoType) (hwf : T.wf = true) (j1 j2 : JTree) (v1 v2 : GoVal)
    (h1 : unm o T j1 T.zero = .ok v1) (h2 : unm o T j2 v1 = .ok v2) :
    unm o T (JTree.merge j1 j2) T.zero = .ok v2 :=
  merge_law_unm' o ho T hwf j1 j2 v1 v2 h1 h2

/-- The merge law for ANY option record (also `AllowDuplicateNames`), on trees without repeated names. -/
theorem merge_law_dupFree (o : UOpts) (T : GoType) (hwf : T.wf = true) (j1 j2 : JTree) (v1 v2 : GoVal)
    (hd1 : j1.dupFree = true) (hd2 : j2.dupFree = true)
    (h1 : unm o T j1 T.zero = .ok v1) (h2 : unm o T j2 v1 = .ok v2) :
    unm o T (JTree.merge j1 j2) T.zero = .ok v2 :=
  merge_law_unm o T hwf j1 j2 v1 v2 hd1 hd2 h1 h2

/-- A successful call has met no repeated member name anywhere in its input (the decoder checks
skipped values too), which is why `merge_law` needs no such hypothesis. -/
theorem success_dupFree (o : UOpts) (ho : o.allowDup = false) (T : GoType) (j : JTree) (prior v : GoVal)
    (h : unm o T j prior = .ok v) : j.dupFree = true := unm_dupFree o ho T j prior v h

/-- The merged tree is again free of repeated names (so the law can be iterated). -/
theorem merge_dupFree (a b : JTree) (ha : a.dupFree = true) (hb : b.dupFree = true) :
    (JTree.merge a b).dupFree = true := dupFree_merge a b ha hb

/-- `merge` takes the right side unless both sides are objects. -/
theorem merge_right (a b : JTree) (h : a.isObj = false ∨ b.isObj = false) : JTree.merge a b = b :=
  merge_nonobj a b h

/-- Members of a merged object: left members in order (merged by name), then the new right ones. -/
theorem merge_objects (ms1 ms2 : List (Bytes × JTree)) :
    JTree.merge (.obj ms1) (.obj ms2) =
      .obj (JTree.mergeL ms1 ms2 ++ ms2.filter (fun p => !(ahas p.1 ms1))) :=
  merge_obj ms1 ms2

namespace Ex
/-- `struct{ a int8; m map[string]any; p *struct{ x []int16 } }` -/
def T : GoType := .struct [([0x61], .int 8), ([0x6d], .map .any), ([0x70], .ptr (.struct [([0x78], .slice (.int 16))]))]
/-- `{"a":5,"m":{"k":{"z":1}},"p":{"x":[1,2,3]},"u":null}` -/
def j1 : JTree := .obj [([0x61], .num [0x35]), ([0x6d], .obj [([0x6b], .obj [([0x7a], .num [0x31])])]),
  ([0x70], .obj [([0x78], .arr [.num [0x31], .num [0x32], .num [0x33]])]), ([0x75], .null)]
/-- `{"m":{"k":{"y":true},"n":null},"p":{"x":[7]}}` -/
def j2 : JTree := .obj [([0x6d], .obj [([0x6b], .obj [([0x79], .bool true)]), ([0x6e], .null)]),
  ([0x70], .obj [([0x78], .arr [.num [0x37]])])]
def v1 : GoVal := .structOf [([0x61], .int 5),
  ([0x6d], .mapOf [([0x6b], .ifaceOf (.mapOf [([0x7a], .ifaceOf (.float [0x31]))]))]),
  ([0x70], .ptrTo (.structOf [([0x78], .sliceOf [.int 1, .int 2, .int 3])]))]
def v2 : GoVal := .structOf [([0x61], .int 5),
  ([0x6d], .mapOf [([0x6b], .ifaceOf (.mapOf [([0x7a], .ifaceOf (.float [0x31])), ([0x79], .ifaceOf (.bool true))])),
                   ([0x6e], .nilIface)]),
  ([0x70], .ptrTo (.structOf [([0x78], .sliceOf [.int 7])]))]
end Ex

/-- The hypotheses of `merge_law` are met by a non-trivial case (struct, map, `any`, pointer, slice). -/
example : Ex.T.wf = true ∧ Ex.j1.dupFree = true ∧ Ex.j2.dupFree = true ∧
    unm {} Ex.T Ex.j1 Ex.T.zero = .ok Ex.v1 ∧ unm {} Ex.T Ex.j2 Ex.v1 = .ok Ex.v2 := by
  exact ⟨rfl, rfl, rfl, rfl, rfl⟩

/-- `{}` is a two-sided unit of `merge` on objects: `{}` unmarshaled into a value that came from an object leaves the
members as they were, and an object merged into `{}` is that object. -/
theorem merge_empty_object (ms : List (Bytes × JTree)) :
    JTree.merge (.obj ms) (.obj []) = .obj ms ∧ JTree.merge (.obj []) (.obj ms) = .obj ms :=
  JsonV.Lemmas.Merge.merge_empty_object ms

/-- `merge` is idempotent on every tree without repeated names (any depth, any width). -/
theorem merge_idem (a : JTree) (ha : a.dupFree = true) : JTree.merge a a = a := merge_self a ha

/-- **A repeated call is a no-op.**  Unmarshaling the same text a second time into the value the first call produced
(from a zero value) gives that value again — for every well-formed type, every option record and every tree without
repeated names.  Corollary of the merge law and `merge_idem`. -/
theorem unm_twice (o : UOpts) (T : GoType) (hwf : T.wf = true) (j : JTree) (v1 v2 : GoVal) (hd : j.dupFree = true)
    (h1 : unm o T j T.zero = .ok v1) (h2 : unm o T j v1 = .ok v2) : v2 = v1 := by
  have h := merge_law_dupFree o T hwf j j v1 v2 hd hd h1 h2
  rw [merge_idem j hd, h1] at h
  exact (Except.ok.inj h).symm

/-- The hypotheses of `unm_twice` are met by the non-trivial case `Ex.j1` (and the second call there succeeds). -/
example : Ex.T.wf = true ∧ Ex.j1.dupFree = true ∧ unm {} Ex.T Ex.j1 Ex.T.zero = .ok Ex.v1 ∧
    unm {} Ex.T Ex.j1 Ex.v1 = .ok Ex.v1 := by
  exact ⟨rfl, rfl, rfl, rfl⟩

/-- Any number of repetitions of the same duplicate-free tree folds to that tree (with `chain_law`: unmarshaling the
same text `k + 1` times in a row leaves what one call leaves). -/
theorem mergeAll_replicate (a : JTree) (ha : a.dupFree = true) (k : Nat) :
    JTree.mergeAll (List.replicate (k + 1) a) = a := by
  show (List.replicate k a).foldl JTree.merge a = a
  induction k with
  | zero => rfl
  | succ k ih => rw [List.replicate_succ, List.foldl_cons, merge_idem a ha, ih]

example : JTree.mergeAll (List.replicate 3 Ex.j1) = Ex.j1 := mergeAll_replicate Ex.j1 rfl 2

/-- `merge` is NOT associative: a non-object in the middle of a chain resets the destination
(`({x} ⊕ null) ⊕ {y} = {y}` but `{x} ⊕ (null ⊕ {y}) = {x,y}`), which is why `chain_law` is stated —
and only true — for the LEFT fold of `merge`, the order in which successive calls happen. -/
theorem merge_not_assoc : ∃ a b c : JTree, JTree.merge (JTree.merge a b) c ≠ JTree.merge a (JTree.merge b c) := by
  refine ⟨.obj [([0x78], .null)], .null, .obj [([0x79], .null)], ?_⟩
  simp [JTree.merge, JTree.mergeL, alookup, ahas]

/-! ### Chains -/

/-- **Chain law.**  `k` successive successful calls starting from the zero value leave what one call
with the left-folded merge of the `k` trees leaves (`k = 0`: the zero value and `null`). -/
theorem chain_law (o : UOpts) (ho : o.allowDup = false) (T : GoType) (hwf : T.wf = true) (js : List JTree) (v : GoVal)
    (h : unmChain o T js T.zero = .ok v) :
    unm o T (JTree.mergeAll js) T.zero = .ok v := by
  cases js with
  | nil => cases h; exact unm_null o T _
  | cons j r =>
    obtain ⟨v0, hj, h⟩ := unmChain_cons.1 h
    exact chain_fold o ho T hwf r j v0 v hj h

example : unmChain {} Ex.T [Ex.j1, Ex.j2] Ex.T.zero = .ok Ex.v2 := by rfl

/-! ### The four clauses -/

/-- **A JSON null zeroes its destination**: every type, every prior value. -/
theorem null_zeroes (o : UOpts) (T : GoType) (prior : GoVal) : unm o T .null prior = .ok T.zero :=
  unm_null o T prior

/-- **A slice ends up holding exactly the new elements**: whatever the prior value (length,
capacity, contents), a successful call leaves a non-nil slice with one element per input element,
each being the decode of that element into a zero value. -/
theorem slice_exact (o : UOpts) (t : GoType) (xs : List JTree) (prior v : GoVal)
    (h : unm o (.slice t) (.arr xs) prior = .ok v) :
    ∃ vs, v = .sliceOf vs ∧ vs.length = xs.length ∧
      ∀ (i : Nat) (x : JTree), xs[i]? = some x → ∃ w, vs[i]? = some w ∧ unm o t x t.zero = .ok w := by
  rw [unm_slice_arr] at h
  obtain ⟨vs, he, rfl⟩ := Except.map_eq_ok.1 h
  exact ⟨vs, rfl, elemsFresh_spec he⟩

/-- **An array is overwritten element-wise, missing elements zeroed**: whatever the prior value, a
successful call leaves `n` elements, element `i` being the decode of input element `i` into a zero
value if there is one and the zero value otherwise; surplus input elements are ignored; and unless
`UnmarshalArrayFromAnyLength` is set, success requires exactly `n` input elements. -/
theorem array_overwrite (o : UOpts) (n : Nat) (t : GoType) (xs : List JTree) (prior v : GoVal)
    (h : unm o (.array n t) (.arr xs) prior = .ok v) :
    (o.arrayAnyLen = false → xs.length = n) ∧
    ∃ vs, v = .arrayOf vs ∧ vs.length = n ∧ ∀ i, i < n →
      (match xs[i]? with
       | some x => ∃ w, unm o t x t.zero = .ok w ∧ vs[i]? = some w
       | none => vs[i]? = some t.zero) := by
  rw [unm_array_arr] at h
  obtain ⟨vs, he, h⟩ := Except.bind_eq_ok.1 h
  by_cases hc : (xs.length != n && !o.arrayAnyLen) = true
  · rw [if_pos hc] at h; cases h
  · rw [if_neg hc] at h
    refine ⟨fun ho => ?_, vs, (Except.ok.inj h).symm, arrayElems_spec he⟩
    simpa [ho] using hc

/-- The any-length variant spelled out (`UnmarshalArrayFromAnyLength`): an input SHORTER than the
array is accepted, and every position past the input holds the zero value — whatever the array held. -/
theorem array_short_zero_fill (o : UOpts) (n : Nat) (t : GoType) (xs : List JTree) (prior : GoVal) (vs : List GoVal)
    (h : unm o (.array n t) (.arr xs) prior = .ok (.arrayOf vs)) (i : Nat) (hi : i < n) (hx : xs.length ≤ i) :
    vs[i]? = some t.zero := by
  obtain ⟨_, vs', hv, _, hall⟩ := array_overwrite o n t xs prior _ h
  cases hv
  have := hall i hi
  rw [List.getElem?_eq_none hx] at this
  exact this

/-- … and an input LONGER than the array: the surplus elements have no influence on the result
(they are only syntax-checked), positions `i < n` hold the decode of input element `i`. -/
theorem array_long_drops (o : UOpts) (n : Nat) (t : GoType) (xs : List JTree) (prior : GoVal) (vs : List GoVal)
    (h : unm o (.array n t) (.arr xs) prior = .ok (.arrayOf vs)) :
    vs.length = n ∧ ∀ (i : Nat) (x : JTree), i < n → xs[i]? = some x → ∃ w, unm o t x t.zero = .ok w ∧ vs[i]? = some w := by
  obtain ⟨_, vs', hv, hl, hall⟩ := array_overwrite o n t xs prior _ h
  cases hv
  refine ⟨hl, ?_⟩
  intro i x hi hx
  have := hall i hi
  rw [hx] at this
  exact this

example : unm { arrayAnyLen := true } (.array 2 (.int 8)) (.arr [.num [0x37]]) (.arrayOf [.int 1, .int 2])
    = .ok (.arrayOf [.int 7, .int 0]) := by rfl

/-- **Map entries not mentioned in the input are kept** (and the map stays a non-nil map). -/
theorem unmentioned_kept_map (o : UOpts) (t : GoType) (ms : List (Bytes × JTree))
    (m : List (Bytes × GoVal)) (v : GoVal) (h : unm o (.map t) (.obj ms) (.mapOf m) = .ok v) :
    ∃ m', v = .mapOf m' ∧ ∀ n, n ∉ akeys ms → alookup n m' = alookup n m := by
  rw [unm_map_obj] at h
  obtain ⟨m', hf, rfl⟩ := Except.map_eq_ok.1 h
  exact ⟨m', rfl, fun n hn => objFold_frame hf n (.inl hn)⟩

/-- **Struct fields not mentioned in the input are kept.** -/
theorem unmentioned_kept_struct (o : UOpts) (fs : List (Bytes × GoType)) (ms : List (Bytes × JTree))
    (fvs : List (Bytes × GoVal)) (v : GoVal) (h : unm o (.struct fs) (.obj ms) (.structOf fvs) = .ok v) :
    ∃ fvs', v = .structOf fvs' ∧ ∀ n, n ∉ akeys ms → alookup n fvs' = alookup n fvs := by
  rw [unm_struct_obj] at h
  obtain ⟨m', hf, rfl⟩ := Except.map_eq_ok.1 h
  exact ⟨m', rfl, fun n hn => objFold_frame hf n (.inl hn)⟩

/-- Mentioned map entries are decoded *into the existing entry* (merge), absent ones into a zero
value; the key set only grows, in insertion order. -/
theorem mentioned_merged_map (o : UOpts) (ho : o.allowDup = false) (t : GoType) (ms : List (Bytes × JTree))
    (m m' : List (Bytes × GoVal)) (h : unm o (.map t) (.obj ms) (.mapOf m) = .ok (.mapOf m')) :
    ∀ n j, (n, j) ∈ ms → ∃ w, unm o t j ((alookup n m).getD t.zero) = .ok w ∧ alookup n m' = some w := by
  rw [unm_map_obj] at h
  obtain ⟨m'', hf, h⟩ := Except.map_eq_ok.1 h
  cases h
  intro n j hm
  exact (objFold_facts (objFold_nodup ho hf).1 hf).known n j _ hm rfl

example : unm {} (.map (.int 8)) (.obj [([0x62], .num [0x32])]) (.mapOf [([0x61], .int 1)])
    = .ok (.mapOf [([0x61], .int 1), ([0x62], .int 2)]) := by rfl

/-! ### AllowDuplicateNames (`allowDup`) -/

/-- **On input without repeated names the option changes nothing**: same value, same error, for every
type and every prior value. -/
theorem permissive_eq (o : UOpts) (T : GoType) (j : JTree) (v : GoVal) (hd : j.dupFree = true) :
    unm { o with allowDup := true } T j v = unm { o with allowDup := false } T j v :=
  unm_congr_dup { o with allowDup := true } { o with allowDup := false } rfl T j v hd

/-- **Later wins, by merging**: with `allowDup`, an object with one more member `(k, x)` at the end is
unmarshaled exactly like two successive calls — the object without it, then `{k: x}` — into the same
destination.  In particular when `k` already occurs in `ms`, the repeated member is unmarshaled INTO
what the earlier one left (struct field in place, map entry merged, `any` by the held dynamic type),
never rejected and never simply overwriting a container.  (Holds whether or not `k` occurs in `ms`.) -/
theorem later_wins (o : UOpts) (ho : o.allowDup = true) (T : GoType) (ms : List (Bytes × JTree)) (k : Bytes)
    (x : JTree) (v : GoVal) :
    unm o T (.obj (ms ++ [(k, x)])) v = unmChain o T [.obj ms, .obj [(k, x)]] v :=
  (unm_obj_append o ho T ms [(k, x)] v).trans (unmChain_two o T _ _ v).symm

/-- Corollary connecting to the merge law: with `allowDup`, if the object before the repeated member
and the member's value have no repeated names themselves, then a successful call on the object WITH
the duplicate leaves what the (duplicate-free) merged object `merge {ms} {k: x}` leaves — under the
same options, and therefore (`permissive_eq`) also under the default ones. -/
theorem dup_is_merge (o : UOpts) (ho : o.allowDup = true) (T : GoType) (hwf : T.wf = true)
    (ms : List (Bytes × JTree)) (k : Bytes) (x : JTree) (v : GoVal)
    (hd1 : (JTree.obj ms).dupFree = true) (hd2 : x.dupFree = true)
    (h : unm o T (.obj (ms ++ [(k, x)])) T.zero = .ok v) :
    unm o T (JTree.merge (.obj ms) (.obj [(k, x)])) T.zero = .ok v ∧
    unm { o with allowDup := false } T (JTree.merge (.obj ms) (.obj [(k, x)])) T.zero = .ok v := by
  have hdx : (JTree.obj [(k, x)]).dupFree = true :=
    (dupFree_obj _).2 ⟨List.nodup_cons.2 ⟨List.not_mem_nil, List.nodup_nil⟩, fun n y hy => by cases List.mem_singleton.1 hy; exact hd2⟩
  rw [unm_obj_append o ho] at h
  obtain ⟨v1, h1, h⟩ := Except.bind_eq_ok.1 h
  have hm := merge_law_dupFree o T hwf (.obj ms) (.obj [(k, x)]) v1 v hd1 hdx h1 h
  refine ⟨hm, ?_⟩
  exact (unm_congr_dup { o with allowDup := false } o rfl T _ _ (merge_dupFree _ _ hd1 hdx)).trans hm

example : unm { allowDup := true } (.map (.map (.int 8)))
    (.obj [([0x61], .obj [([0x78], .num [0x31])]), ([0x61], .obj [([0x79], .num [0x32])])]) .nilMap
    = .ok (.mapOf [([0x61], .mapOf [([0x78], .int 1), ([0x79], .int 2)])]) := by rfl

/-! ### Faithfulness of the `any` model -/

/-- A non-nil interface is unmarshaled into by the arshaler of its dynamic type and stored back
(arshal_default.go:1940-1957) — the structural definition `unmAny` agrees with that reading. -/
theorem any_by_dynamic_type (o : UOpts) (dv : GoVal) (T : GoType) (hT : dv.dynType = some T)
    (j : JTree) (hj : j.isNull = false) :
    unm o .any j (.ifaceOf dv) =
      (match unm o T j dv with
       | .error e => .error e
       | .ok v => .ok (.ifaceOf v)) := by
  rw [unm_any_eq, unmAny_dyn o dv T hT j hj]
  cases unm o T j dv <;> rfl

end JsonV.Props.C14
