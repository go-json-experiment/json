/-
C19, clause "options passed to MarshalEncode or UnmarshalDecode take precedence for that call only and the coder's own
options are intact afterwards, also after an error".

The model (`Model/Scope.lean`) interprets the option-touching statements of the Go code, which are REGENERATED as data
(`Gen/Scope.lean`); the `tie_*` theorems below fail to compile when the code no longer has that shape.
In this code base the arshalers work on the coder's own struct (no copy), so "the coder's options afterwards" is simply
the struct the callee tree leaves behind.
-/
import JsonV.Model.Scope
import JsonV.Spec.OptMap
import JsonV.Lemmas.ScopeL
import JsonV.Lemmas.ScopePub
import JsonV.Lemmas.OptsL

namespace JsonV.Props.C19Scope
open JsonV.Model JsonV.Model.Scope JsonV.Spec JsonV.Gen JsonV.Lemmas.ScopeL JsonV.Lemmas.ScopePub JsonV.Lemmas.OptsL JsonV.Lemmas.FlagsL
open JsonV.Lemmas.DispatchScope (effective)

/-- makeStructArshaler (marshal): save flags, set the tag flags, call, RESTORE, and only then test the error. -/
theorem tie_member_marshal : Gen.Scope.structMarshalMember = memberMarshal := rfl
theorem tie_member_unmarshal : Gen.Scope.structUnmarshalMember = memberUnmarshal := rfl
/-- MarshalEncode: with call options the whole struct is saved and restored by `defer`; the arshalers get `&xe.Struct`. -/
theorem tie_marshalEncode : Gen.Scope.marshalEncode = marshalEncodeS := rfl
theorem tie_unmarshalDecode : Gen.Scope.unmarshalDecode = unmarshalDecodeS := rfl
/-- All four wrappers around user code handle WithinArshalCall in the same way. -/
theorem tie_userCalls : Gen.Scope.userCalls =
    [("MarshalToFunc", userCallS), ("UnmarshalFromFunc", userCallS),
     ("makeMethodArshaler", userCallS), ("makeMethodArshaler", userCallS)] := rfl
/-- There is no other statement in packages json, jsontext, jsonwire that writes a Flags/Struct value or takes its
address: the constructors of `Act` and the four scripts cover every write on the caller's coder. -/
theorem tie_writeSites : Gen.Scope.writeSites = knownWriteSites := rfl

/-! ### (c) a struct member leaves the flags as it found them, whatever happens below it -/

/-- After one struct member — its value (un)marshaled by an ARBITRARY callee tree, succeeding or failing, fatally or
not — `Flags` is what it was before the member and `Format` is "" (the code does not restore Format, it empties it). -/
theorem field_restore (g mar str : Bool) (fmt : Bytes) (body : Act) (s : Struct) :
    (exec g (.member mar str fmt body) s).1.flags = s.flags ∧ (exec g (.member mar str fmt body) s).1.format = [] := by
  rw [member_closed]; exact ⟨rfl, rfl⟩

/-- The member loop of a struct: members in sequence, a fatal error ends the loop. -/
def members (mar : Bool) : List (Bool × Bytes × Act) → Act
  | [] => .skip
  | (str, fmt, body) :: r => .seq (.member mar str fmt body) (members mar r)

/-- Lifted over the member list (any length, any failure pattern, members nested to any depth through `body`). -/
theorem field_restore_members (g mar : Bool) (ms : List (Bool × Bytes × Act)) :
    ∀ s, (exec g (members mar ms) s).1.flags = s.flags := by
  induction ms with
  | nil => intro s; rfl
  | cons m r ih =>
    intro s
    obtain ⟨str, fmt, body⟩ := m
    have hseq : exec g (members mar ((str, fmt, body) :: r)) s =
        seqResult (exec g (.member mar str fmt body) s) (exec g (members mar r)) := rfl
    rw [hseq]
    simp only [seqResult]
    split
    · exact (field_restore g mar str fmt body s).1
    · exact (ih _).trans (field_restore g mar str fmt body s).1

/-! ### (a) the coder's options after the call -/

/-- Every callee tree stays within the frame: non-boolean values and every flag are unchanged EXCEPT that the presence
bit of WithinArshalCall may have been added (value unchanged), StringTag/FormatTag may have been cleared, and Format may
have been emptied. -/
theorem scoped_frame (g : Bool) (a : Act) (s : Struct) : Frame s (exec g a s).1 := exec_frame g a s

/-- With per-call options (or the global format-tag switch) MarshalEncode/UnmarshalDecode give the coder back EXACTLY
as it was: on success, on a failing guard, and on every failure pattern of the callee tree. -/
theorem scoped_call_restores (g mar : Bool) (opts : List Opt) (nn : Bool) (body : Act) (s : Struct)
    (h : callOpts g opts ≠ []) : (exec g (.call mar opts nn body) s).1 = s := by
  rw [call_closed, if_neg (by simpa using h)]
  split <;> rfl

/-- Without per-call options there is no saved copy: the call works on the coder's struct directly. -/
theorem scoped_call_direct (mar : Bool) (nn : Bool) (body : Act) (s : Struct) :
    exec false (.call mar [] nn body) s = exec false body s := by
  rw [call_closed]; rfl

/-- The coder's own options are intact after ANY call, also after an error, for a coder without tag state: all values,
every flag value, every presence bit except possibly that of the internal WithinArshalCall flag. -/
theorem scoped_coder_intact (g : Bool) (a : Act) (s : Struct) (ht : TagFree s) :
    (exec g a s).1 = s ∨
    (exec g a s).1 = { s with flags := ⟨s.flags.presence ||| W.withinArshalCall, s.flags.values⟩ } :=
  eq_of_frame (exec_frame g a s) ht

/-- … hence everything `GetOption` can report about the coder is the same before and after. -/
theorem scoped_getOption_intact (g : Bool) (a : Act) (s : Struct) (ht : TagFree s) (k : Key) (hk : PublicKey k) :
    (exec g a s).1.getOption k = s.getOption k := by
  rcases scoped_coder_intact g a s ht with h | h
  · rw [h]
  · rw [h]; exact getOption_or_within s k hk

/-- The hypothesis is met by every caller-owned coder: options built from public constructors carry no tag state. -/
theorem coder_tagFree (enc : Bool) (os : List Opt) (ho : ∀ o ∈ os, PublicOpt o) : TagFree (newCoder enc os) :=
  newCoder_tagFree enc os ho

/-- The hypothesis is needed: a coder that was (illegitimately) constructed with StringTag set loses it at the first
`{` or `[` (jsontext/encode.go:402, decode.go:626). -/
theorem tag_state_not_kept :
    (exec false (.clear .tags) { flags := ⟨W.stringTag, W.stringTag⟩ }).1 ≠ ({ flags := ⟨W.stringTag, W.stringTag⟩ } : Struct) := by
  decide

/-! ### (b) inside the call the call options take precedence -/

/-- UnmarshalDecode: exactly what happens.  No options: the body runs on the coder's struct.  Otherwise the options are
joined INTO the coder's struct (all of them: coder options such as AllowInvalidUTF8 too — nothing is filtered); at an
object-name position a change of AllowDuplicateNames/AllowInvalidUTF8 is refused before anything runs. -/
theorem unmarshalDecode_spec (g : Bool) (opts : List Opt) (nn : Bool) (body : Act) (s : Struct) :
    exec g (.call false opts nn body) s =
      if (callOpts g opts).isEmpty then exec g body s
      else if nameGuardFails nn s (s.join (callOpts g opts)) then (s, .err true)
      else (s, (exec g body (s.join (callOpts g opts))).2) := by
  rw [call_closed, effective]
  cases (callOpts g opts).isEmpty <;> cases nameGuardFails nn s (s.join (callOpts g opts)) <;> rfl

/-- MarshalEncode: the same, plus `InitializeMultiline` under Multiline and the refusal of any whitespace change. -/
theorem marshalEncode_spec (g : Bool) (opts : List Opt) (nn : Bool) (body : Act) (s : Struct) :
    exec g (.call true opts nn body) s =
      if (callOpts g opts).isEmpty then exec g body s
      else if nameGuardFails nn s (s.join (callOpts g opts)) then (s, .err true)
      else if wsGuardFails (callOpts g opts) s then (s, .err true)
      else (s, (exec g body (enterMarshal (callOpts g opts) s)).2) := by
  rw [call_closed, effective]
  cases (callOpts g opts).isEmpty <;> cases nameGuardFails nn s (s.join (callOpts g opts)) <;>
    cases wsGuardFails (callOpts g opts) s <;> rfl

/-- The struct the body runs with, read as a map: the coder's entries overridden by the call options' (last wins among
them) — `GetOption(effective, f)` is the call's value if the call options carry `f`, else the coder's. -/
theorem scoped_call_precedence (s : Struct) (opts : List Opt) (h : ∀ o ∈ opts, JsonV.Spec.Opt.WF o) :
    abs (s.join opts) = (abs s).override (joinSpec opts) :=
  abs_join_override s opts h

/-- MarshalEncode: every flag other than the three whitespace defaults reads, inside the call, as the call options' value
if they carry it, else the coder's — in particular every marshal option. -/
theorem scoped_call_precedence_marshal (s : Struct) (opts : List Opt) (h : ∀ o ∈ opts, JsonV.Spec.Opt.WF o)
    (i : Nat) (h12 : i ≠ 12) (h13 : i ≠ 13) (h14 : i ≠ 14) :
    (abs (enterMarshal opts s)).flag i = ((abs s).override (joinSpec opts)).flag i := by
  rw [← scoped_call_precedence s opts h]
  unfold enterMarshal
  simp only
  split
  · exact initializeMultiline_lookup _ i h12 h13 h14
  · rfl

example : ∀ o ∈ [Opt.indent [0x20], Opt.bools (flagBit 19 ||| 1#64), Opt.struct defaultOptionsV1], PublicOpt o := by
  intro o ho
  simp only [List.mem_cons, List.mem_nil_iff, or_false] at ho
  rcases ho with h | h | h <;> subst h
  · trivial
  · exact ⟨by decide, by decide⟩
  · show TagFree defaultOptionsV1; decide

example : TagFree (newCoder true [.indent [0x20], .bools (flagBit 19 ||| 1#64)]) := by decide

-- `scoped_call_restores`: one call option suffices; `scoped_getOption_intact`: every public setter is a `PublicKey`
example : callOpts false [Opt.bools (flagBit 19 ||| 1#64)] ≠ [] := by decide
example : PublicKey (.flag (flagBit 18)) ∧ PublicKey .indent ∧ PublicKey .marshalers := ⟨by show (flagBit 18).getLsbD 3 = false; decide, trivial, trivial⟩

/-- MarshalEncode with Deterministic(true) as call option on a coder that has Deterministic(false): inside the call the
flag reads true, afterwards the coder has its own value again -/
example :
    let s := newCoder true [.bools (flagBit 19)]
    (enterMarshal [.bools (flagBit 19 ||| 1#64)] s).getOption (.flag (flagBit 19)) = (.bool true, true) ∧
    (exec false (.call true [.bools (flagBit 19 ||| 1#64)] false (.fail true)) s) = (s, .err true) := by decide

/-- a `,string` member whose value fails inside user code, in a call without options: the coder ends as it began -/
example : (exec false (.call true [] false (.seq (.clear .tags) (members true [(true, [], .user (.fail true))]))) {}).1 = {} := by
  decide

/-- user code at top level (no enclosing member): the presence bit of WithinArshalCall stays behind -/
example : (exec false (.call true [] false (.user .skip)) {}).1 = { flags := ⟨W.withinArshalCall, 0#64⟩ } := by decide

end JsonV.Props.C19Scope
