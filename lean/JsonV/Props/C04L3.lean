/-
C04 at the tree level (L3) — Marshal then Unmarshal restores the value.

Property theorems only (proofs in Lemmas/RoundTrip*.lean).  They are statements about the L3 models
`Model.mar` (Model/Marshal.lean) and `Model.unm` (Model/Unmarshal.lean), which mirror
/repo/arshal_default.go and arshal_any.go kind by kind and are tied to the real code by the
correspondence checks of harness/c04_l3.go (`arsh mar`, `arsh rt`) and harness/c14.go (`arsh unm`).

Scope: EVERY type of the modelled universe (`GoType.wf`), EVERY well-typed value (`hasType`), no
bound on size or depth, all four settings of FormatNilSliceAsNull / FormatNilMapAsNull on the marshal
side, both settings of UnmarshalArrayFromAnyLength on the unmarshal side; Deterministic(true).

WHAT IS ABSTRACTED (tree level, not byte level):
  * a float64 is the number literal that `jsonwire.AppendFloat` prints for it; `mar` writes that
    literal, `unm` reads it back.  The theorems therefore do NOT cover `AppendFloat`/`ParseFloat`
    (shortest formatting and its exact round trip are the byte-level subject of C10); NaN/±Inf
    (marshal errors) and literals overflowing float64 are not representable in the model.
  * a string is its unescaped byte string; quoting/unquoting is the byte-level subject of C11.
    Invalid UTF-8 is a marshal error in the model as in the code, hence excluded by `hasType`.
  * integer literals ARE modelled: `strconv.AppendInt/AppendUint` text and the arshalers' own parse
    (`ParseUint`, sign, width check) — full range of every width, including the minimum.
  * rendering the tree to bytes and tokenizing bytes to a tree (L1/L2) are other slices (C01, C02).

THE ONE FORCED HYPOTHESIS: `safe o v` — no pointer and no interface in `v` holds a value that marshals
as `null` (`**T` pointing at a nil `*T`, `*any` pointing at a nil interface; with FormatNil…AsNull
also pointers/interfaces holding nil slices/maps).  Such a value marshals as `null`, and `null`
unmarshals to a nil pointer / nil interface: the real code does the same (harness/c04_l3.go exercises
exactly these shapes, bucket `unsafe-collapse`), so there the value is NOT restored.  `unsafe_collapses`
shows the hypothesis is necessary, not an artefact.  It is needed ONLY for the value relation:
acceptance and the re-marshal fixpoint (`remarshal_fixpoint`) hold for every well-typed value.

The value relation `veq` (Model/Marshal.lean) is equality except: a nil and an empty slice are
identified, a nil and an empty map are identified, and maps are compared as finite maps (the order of
a model association list is a modelling artefact; the decoded map is in sorted key order).
-/
import JsonV.Lemmas.RoundTripAll

namespace JsonV.Props.C04L3
open JsonV JsonV.Spec JsonV.Model JsonV.Lemmas.Merge JsonV.Lemmas.RoundTrip

/-- **Marshaling a well-typed value never fails.** -/
theorem mar_total (o : MOpts) (T : GoType) (v : GoVal) (ht : hasType T v = true) : ∃ j, mar o T v = .ok j :=
  mar_total_all o T v ht

/-- **Every tree produced by `mar` has duplicate-free objects** (struct field names are distinct by
`T.wf`, map keys by `hasType`) — so the default decoder's duplicate-name check (`success_dupFree` of
C14) never rejects marshaled output. -/
theorem mar_dupFree (o : MOpts) (T : GoType) (hwf : T.wf = true) (v : GoVal) (j : JTree)
    (ht : hasType T v = true) (h : mar o T v = .ok j) : j.dupFree = true :=
  mar_dupFree_all o T hwf v j ht h

/-- **Unmarshal accepts what Marshal wrote, and re-marshaling the decoded value reproduces the same
tree** — for EVERY well-typed value (no `safe` hypothesis); the decoded value is again well-typed. -/
theorem remarshal_fixpoint (o : MOpts) (uo : UOpts) (T : GoType) (hwf : T.wf = true) (v : GoVal) (j : JTree)
    (ht : hasType T v = true) (h : mar o T v = .ok j) :
    ∃ v', unm uo T j T.zero = .ok v' ∧ mar o T v' = .ok j ∧ hasType T v' = true := by
  obtain ⟨v', h1, _, h3, h4⟩ := rt_all o uo T hwf v j ht h
  exact ⟨v', h1, h3, h4⟩

/-- **Round trip.**  If moreover no pointer/interface in `v` holds a null-printing value (`safe`), the
decoded value is related to the original by `veq` (equal up to nil ≈ empty containers). -/
theorem roundtrip (o : MOpts) (uo : UOpts) (T : GoType) (hwf : T.wf = true) (v : GoVal) (j : JTree)
    (ht : hasType T v = true) (hs : safe o v = true) (h : mar o T v = .ok j) :
    ∃ v', unm uo T j T.zero = .ok v' ∧ veq v v' ∧ mar o T v' = .ok j ∧ hasType T v' = true := by
  obtain ⟨v', h1, h2, h3, h4⟩ := rt_all o uo T hwf v j ht h
  exact ⟨v', h1, h2 hs, h3, h4⟩

/-- The same without mentioning the intermediate tree: total round trip of a well-typed safe value. -/
theorem roundtrip_total (o : MOpts) (uo : UOpts) (T : GoType) (hwf : T.wf = true) (v : GoVal)
    (ht : hasType T v = true) (hs : safe o v = true) :
    ∃ j v', mar o T v = .ok j ∧ unm uo T j T.zero = .ok v' ∧ veq v v' ∧ mar o T v' = .ok j := by
  obtain ⟨j, hj⟩ := mar_total o T v ht
  obtain ⟨v', h1, h2, h3, _⟩ := rt_all o uo T hwf v j ht hj
  exact ⟨j, v', hj, h1, h2 hs, h3⟩

/-- A value marshals as `null` only if it is one of the null-printing values. -/
theorem null_only_if_printsNull (o : MOpts) (T : GoType) (v : GoVal) (h : mar o T v = .ok .null) :
    printsNull o v = true := mar_null o T v .null h rfl

/-- The hypothesis `safe` is necessary: a pointer to a nil pointer is well-typed, marshals to `null`,
and comes back as a nil pointer, which is not `veq` to it. -/
theorem unsafe_collapses (o : MOpts) (uo : UOpts) (t : GoType) :
    hasType (.ptr (.ptr t)) (.ptrTo .nilPtr) = true ∧ safe o (.ptrTo .nilPtr) = false ∧
    mar o (.ptr (.ptr t)) (.ptrTo .nilPtr) = .ok .null ∧
    unm uo (.ptr (.ptr t)) .null (GoType.zero (.ptr (.ptr t))) = .ok .nilPtr ∧
    ¬ veq (.ptrTo .nilPtr) .nilPtr := by
  refine ⟨by simp [hasType], by simp [safe, printsNull], by simp [mar], unm_null uo _ _, by simp [veq]⟩

namespace Ex
/-- `struct{ a int8; m map[string]any; p *[]uint16; s []string }` -/
def T : GoType := .struct [([0x61], .int 8), ([0x6d], .map .any), ([0x70], .ptr (.slice (.uint 16))), ([0x73], .slice .string)]
/-- `{a:-7, m:{"b":nil,"a":[]any{true}}, p:&[]uint16{9}, s:nil}` -/
def v : GoVal := .structOf [([0x61], .int (-7)),
  ([0x6d], .mapOf [([0x62], .nilIface), ([0x61], .ifaceOf (.sliceOf [.ifaceOf (.bool true)]))]),
  ([0x70], .ptrTo (.sliceOf [.uint 9])), ([0x73], .nilSlice)]
/-- `{"a":-7,"m":{"a":[true],"b":null},"p":[9],"s":[]}` -/
def j : JTree := .obj [([0x61], .num [0x2d, 0x37]),
  ([0x6d], .obj [([0x61], .arr [.bool true]), ([0x62], .null)]),
  ([0x70], .arr [.num [0x39]]), ([0x73], .arr [])]
end Ex

/-- The hypotheses of `roundtrip` are met by a non-trivial value (struct, unsorted map, `any`, pointer,
nil slice); the decoded value differs from the original exactly where `veq` allows. -/
example : Ex.T.wf = true ∧ hasType Ex.T Ex.v = true ∧ safe {} Ex.v = true ∧ mar {} Ex.T Ex.v = .ok Ex.j := by
  refine ⟨by decide, by decide, by decide, ?_⟩
  have hs : sortMembers [(([0x62] : Bytes), JTree.null), ([0x61], JTree.arr [.bool true])]
      = [([0x61], .arr [.bool true]), ([0x62], .null)] := by
    simp [sortMembers, List.mergeSort, List.MergeSort.Internal.splitInTwo, List.merge, keyLe]; decide
  have hk1 : Utf8.valid [0x61] = true := by decide
  have hk2 : Utf8.valid [0x62] = true := by decide
  simp [Ex.T, Ex.v, Ex.j, mar, marFields, marMembers, marAny, marDyn, marAnyL, marList, hs, hk1, hk2,
    nilSliceTree, Time.intDigits, Time.natDigits_lt, Time.digitChar, Time.cMinus]

end JsonV.Props.C04L3
