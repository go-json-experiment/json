/-
C19 — Options compose as last-wins maps and apply only where scoped.

The property theorems.  `Gen.*` are regenerated from /repo on every run (Tie A):
the bodies of Flags.Join/Set/Get/Has/Clear and all flag constants.
-/
import JsonV.Model.Opts
import JsonV.Spec.OptMap
import JsonV.Lemmas.FlagsL
import JsonV.Lemmas.OptsL
import JsonV.Gen.Straight

namespace JsonV.Props.C19
open JsonV.Model JsonV.Spec JsonV.Gen JsonV.Lemmas.FlagsL JsonV.Lemmas.OptsL

theorem tie_join (a b c d : BitVec 64) :
    jsonflags_Flags_Join a b c d = ((Flags.join ⟨a,b⟩ ⟨c,d⟩).presence, (Flags.join ⟨a,b⟩ ⟨c,d⟩).values) :=
  JsonV.Lemmas.FlagsL.tie_join a b c d
theorem tie_set (a b f : BitVec 64) :
    jsonflags_Flags_Set a b f = ((Flags.set ⟨a,b⟩ f).presence, (Flags.set ⟨a,b⟩ f).values) :=
  JsonV.Lemmas.FlagsL.tie_set a b f
theorem tie_get (a b f : BitVec 64) : jsonflags_Flags_Get a b f = Flags.get ⟨a,b⟩ f := JsonV.Lemmas.FlagsL.tie_get a b f
theorem tie_has (a b f : BitVec 64) : jsonflags_Flags_Has a b f = Flags.has ⟨a,b⟩ f := JsonV.Lemmas.FlagsL.tie_has a b f
theorem tie_clear (a b f : BitVec 64) :
    jsonflags_Flags_Clear a b f = ((Flags.clear ⟨a,b⟩ f).presence, (Flags.clear ⟨a,b⟩ f).values) :=
  JsonV.Lemmas.FlagsL.tie_clear a b f

/-- The 42 named flags of flags.go in declaration order (`flag_layout`: they occupy bits 1..42, one each). -/
def namedFlags : List Nat := [
  jsonflags.c_AllowDuplicateNames, jsonflags.c_AllowInvalidUTF8, jsonflags.c_WithinArshalCall,
  jsonflags.c_OmitTopLevelNewline, jsonflags.c_PreserveRawStrings, jsonflags.c_CanonicalizeRawInts,
  jsonflags.c_CanonicalizeRawFloats, jsonflags.c_ReorderRawObjects, jsonflags.c_EscapeForHTML,
  jsonflags.c_EscapeForJS, jsonflags.c_Multiline, jsonflags.c_SpaceAfterColon, jsonflags.c_SpaceAfterComma,
  jsonflags.c_Indent, jsonflags.c_IndentPrefix, jsonflags.c_ByteLimit, jsonflags.c_DepthLimit,
  jsonflags.c_StringifyNumbers, jsonflags.c_Deterministic, jsonflags.c_FormatNilMapAsNull,
  jsonflags.c_FormatNilSliceAsNull, jsonflags.c_OmitZeroStructFields, jsonflags.c_MatchCaseInsensitiveNames,
  jsonflags.c_RejectUnknownMembers, jsonflags.c_Marshalers, jsonflags.c_Unmarshalers, jsonflags.c_StringTag,
  jsonflags.c_FormatTag, jsonflags.c_FormatTagSupported,
  jsonflags.c_CallMethodsWithLegacySemantics, jsonflags.c_FormatByteArrayAsArray,
  jsonflags.c_FormatBytesWithLegacySemantics, jsonflags.c_FormatDurationAsNano,
  jsonflags.c_MatchCaseSensitiveDelimiter, jsonflags.c_MergeWithLegacySemantics,
  jsonflags.c_OmitEmptyWithLegacySemantics, jsonflags.c_ParseBytesWithLooseRFC4648,
  jsonflags.c_ParseTimeWithLooseRFC3339, jsonflags.c_ReportErrorsWithLegacySemantics,
  jsonflags.c_StringifyWithLegacySemantics, jsonflags.c_UnmarshalAnyWithRawNumber,
  jsonflags.c_UnmarshalArrayFromAnyLength]

theorem flag_layout : namedFlags = (List.range 42).map (fun k => 2 ^ (k + 1)) := by decide

theorem bits_used : jsonflags.c_bitsUsed = 43 ∧ jsonflags.c_maxArshalV1Flag = 2 ^ 43 ∧
    jsonflags.c_AllFlags = 2 ^ 43 - 2 := by decide

/-- `DefaultV1Flags` is the union of exactly the 21 documented v1 flags. -/
theorem defaultV1_flags : jsonflags.c_DefaultV1Flags =
    jsonflags.c_AllowDuplicateNames + jsonflags.c_AllowInvalidUTF8 + jsonflags.c_EscapeForHTML +
    jsonflags.c_EscapeForJS + jsonflags.c_PreserveRawStrings + jsonflags.c_Deterministic +
    jsonflags.c_FormatNilMapAsNull + jsonflags.c_FormatNilSliceAsNull +
    jsonflags.c_MatchCaseInsensitiveNames + jsonflags.c_CallMethodsWithLegacySemantics +
    jsonflags.c_FormatByteArrayAsArray + jsonflags.c_FormatBytesWithLegacySemantics +
    jsonflags.c_FormatDurationAsNano + jsonflags.c_MatchCaseSensitiveDelimiter +
    jsonflags.c_MergeWithLegacySemantics + jsonflags.c_OmitEmptyWithLegacySemantics +
    jsonflags.c_ParseBytesWithLooseRFC4648 + jsonflags.c_ParseTimeWithLooseRFC3339 +
    jsonflags.c_ReportErrorsWithLegacySemantics + jsonflags.c_StringifyWithLegacySemantics +
    jsonflags.c_UnmarshalArrayFromAnyLength := by decide

/-- The flag that guards a value slot is the single bit of the slot's index. -/
theorem slot_flag_eq (k : Slot) : k.flag = flagBit k.idx := slot_flag k

theorem special_bits : F.multiline = flagBit 11 ∧ F.formatTagSupported = flagBit 29 ∧
    F.stringifyNumbers = flagBit 18 ∧ F.stringTag = flagBit 27 := by decide

/-- Join is last-wins on every flag. -/
theorem join_last (a b : Flags) (hb : b.WF) (i : Nat) :
    (a.join b).lookup i = (b.lookup i).orElse (fun _ => a.lookup i) := lookup_join a b hb i

/-- Set writes exactly the identified flags with the common value and nothing else. -/
theorem set_get (fs : Flags) (f : BitVec 64) (i : Nat) :
    (fs.set f).lookup i = if f.getLsbD i && decide (i ≠ 0) then some (f.getLsbD 0) else fs.lookup i :=
  lookup_set fs f i

theorem clear_spec (fs : Flags) (f : BitVec 64) (i : Nat) :
    (fs.clear f).lookup i = if f.getLsbD i then none else fs.lookup i := lookup_clear fs f i

theorem join_assoc (a b c : Flags) : (a.join b).join c = a.join (b.join c) := JsonV.Lemmas.FlagsL.join_assoc a b c
theorem join_idem (a : Flags) (h : a.WF) : a.join a = a := JsonV.Lemmas.FlagsL.join_idem a h

/-- The representation invariant holds initially and is kept by every operation. -/
theorem wf_all : Flags.empty.WF ∧ (∀ a b : Flags, a.WF → b.WF → (a.join b).WF) ∧
    (∀ (a : Flags) f, a.WF → (a.set f).WF) ∧ (∀ (a : Flags) f, a.WF → (a.clear f).WF) :=
  ⟨wf_empty, wf_join, wf_set, wf_clear⟩

/-- Get/Has on a single flag read that flag. -/
theorem get_has_single (fs : Flags) (i : Nat) (hi : i < 64) :
    fs.get (flagBit i) = fs.values.getLsbD i ∧ fs.has (flagBit i) = fs.presence.getLsbD i :=
  ⟨get_bit fs i hi, has_bit fs i hi⟩

example : (Flags.empty.set (flagBit 3 ||| 1#64)).lookup 3 = some true := by decide
example : ((Flags.empty.set (flagBit 3 ||| 1#64)).join (Flags.empty.set (flagBit 3))).lookup 3 = some false := by
  decide

/-- One option joined into a struct overrides exactly the entries that option carries. -/
theorem struct_joinOne_map (dst : Struct) (o : Opt) (ho : JsonV.Spec.Opt.WF o) :
    abs (dst.joinOne o) = (abs dst).override (optMap o) := abs_joinOne dst o ho

/-- `JoinOptions(srcs...)` is the left-to-right fold of right-biased override: later entries win. -/
theorem struct_join_map (srcs : List Opt) (h : ∀ o ∈ srcs, JsonV.Spec.Opt.WF o) :
    abs (joinOptions srcs) = joinSpec srcs := by
  rw [joinOptions, abs_join_override _ srcs h, abs_default, empty_override]

/-- The result of a join is again a well-formed option value (so it may be nested). -/
theorem joinOptions_wf (srcs : List Opt) (h : ∀ o ∈ srcs, JsonV.Spec.Opt.WF o) :
    JsonV.Spec.Opt.WF (.struct (joinOptions srcs)) :=
  wf_join_struct {} srcs wf_empty h

/-- Passing options separately, joined, or nested gives the same result:
`Join(xs, JoinOptions(ys), zs) = Join(xs, ys, zs)` for all lists. -/
theorem nested_flat (dst : Struct) (xs ys zs : List Opt)
    (hx : ∀ o ∈ xs, JsonV.Spec.Opt.WF o) (hy : ∀ o ∈ ys, JsonV.Spec.Opt.WF o) (hz : ∀ o ∈ zs, JsonV.Spec.Opt.WF o) :
    abs (dst.join (xs ++ [.struct (joinOptions ys)] ++ zs)) = abs (dst.join (xs ++ ys ++ zs)) := by
  rw [join_append, join_append, join_append, join_append, abs_join_override _ zs hz, abs_join_override _ zs hz,
    join_singleton, abs_joinOne _ _ (joinOptions_wf ys hy), abs_join_override _ ys hy]
  exact congrArg (fun m => ((abs (dst.join xs)).override m).override _) (struct_join_map ys hy)

/-- `GetOption` on a value slot returns exactly what the map holds (zero value and false if absent). -/
theorem getOption_slot (s : Struct) :
    s.getOption .indent = (match (abs s).slot .indent with | some v => (v, true) | none => (.bytes [], false)) ∧
    s.getOption .indentPrefix = (match (abs s).slot .indentPrefix with | some v => (v, true) | none => (.bytes [], false)) ∧
    s.getOption .byteLimit = (match (abs s).slot .byteLimit with | some v => (v, true) | none => (.int 0, false)) ∧
    s.getOption .depthLimit = (match (abs s).slot .depthLimit with | some v => (v, true) | none => (.int 0, false)) ∧
    s.getOption .marshalers = (match (abs s).slot .marshalers with | some v => (v, true) | none => (.ptr 0, false)) ∧
    s.getOption .unmarshalers = (match (abs s).slot .unmarshalers with | some v => (v, true) | none => (.ptr 0, false)) := by
  have h (k : Slot) (key : Key) (z : Val)
      (hk : s.getOption key = if !s.flags.has k.flag then (z, false) else (slotVal s k, true)) :
      s.getOption key = (match (abs s).slot k with | some v => (v, true) | none => (z, false)) := by
    rw [hk, has_slot]
    show _ = match (if s.flags.presence.getLsbD k.idx then some (slotVal s k) else none) with | some v => _ | none => _
    cases s.flags.presence.getLsbD k.idx <;> rfl
  exact ⟨h .indent _ _ rfl, h .indentPrefix _ _ rfl, h .byteLimit _ _ rfl, h .depthLimit _ _ rfl,
    h .marshalers _ _ rfl, h .unmarshalers _ _ rfl⟩

/-- `GetOption` on a boolean flag `i` (other than StringifyNumbers, bit 18) returns the map entry. -/
theorem getOption_flag (s : Struct) (i : Nat) (hi : i < 64) (h18 : i ≠ 18) :
    s.getOption (.flag (flagBit i)) =
      (.bool (s.flags.values.getLsbD i), s.flags.presence.getLsbD i) := by
  have hne : (flagBit i == F.stringifyNumbers) = false := by
    have : F.stringifyNumbers = flagBit 18 := by decide
    rw [this]
    apply Bool.eq_false_iff.mpr
    intro h
    have h' : flagBit i = flagBit 18 := by simpa using h
    have := congrArg (fun x => x.getLsbD i) h'
    simp [flagBit_getLsbD i i hi, flagBit_getLsbD 18 i (by decide), h18] at this
  simp only [Struct.getOption, hne, Bool.false_and, Bool.and_false, get_bit s.flags i hi, has_bit s.flags i hi]
  simp

/-- Appending `DefaultOptionsV2` cancels every v1 option: all 21 v1 flags read `false`. -/
theorem v2_cancels_v1 (dst : Struct) (xs : List Opt) (hx : ∀ o ∈ xs, JsonV.Spec.Opt.WF o)
    (i : Nat) (hi : F.defaultV1.getLsbD i = true) :
    (abs (dst.join (xs ++ [.struct defaultOptionsV2]))).flag i = some false := by
  have hwf : JsonV.Spec.Opt.WF (.struct defaultOptionsV2) := by
    show defaultOptionsV2.flags.WF
    decide
  rw [join_append, join_singleton, abs_joinOne _ _ hwf]
  simp [OptMap.override, optMap, abs, defaultOptionsV2, Flags.lookup, hi]

/-- The defaults: v2 sets exactly the v1 flags to false, v1 sets them to true; both are well-formed. -/
theorem defaults_layout : defaultOptionsV2.flags = ⟨F.defaultV1, 0#64⟩ ∧ defaultOptionsV1.flags = ⟨F.defaultV1, F.defaultV1⟩ ∧
    defaultOptionsV2.flags.WF ∧ defaultOptionsV1.flags.WF := by decide

-- hypotheses are satisfiable by concrete, non-trivial option lists
example : ∀ o ∈ [Opt.bools (flagBit 19 ||| 1#64), Opt.indent [0x20], Opt.struct defaultOptionsV1],
    JsonV.Spec.Opt.WF o := by
  intro o ho
  simp only [List.mem_cons, List.mem_nil_iff, or_false] at ho
  rcases ho with h | h | h <;> subst h
  · intro k; cases k <;> decide
  · trivial
  · show defaultOptionsV1.flags.WF; decide
example : (joinOptions [.indent [0x20], .struct defaultOptionsV2]).getOption .indent = (.bytes [0x20], true) := by decide
example : (joinOptions [.struct defaultOptionsV1, .struct defaultOptionsV2]).getOption (.flag (flagBit 19)) =
    (.bool false, true) := by decide

end JsonV.Props.C19
