/-
C03 — Unmarshal into untyped targets yields the exact meaning of the text.

Spec: `Spec/Meaning.lean` (RFC 8259, code independent).  Model: `Model/AnyDecode.lean`
(the specialised decoder of arshal_any.go, the generic arshalers of arshal_default.go, makeString of intern.go with
`Gen.json_hash64`, generated from the Go source).  `fp : FloatParse F` is `strconv.ParseFloat` (trusted parameter; validated by the
harness against math/big and against the executable specification `Spec.Meaning.f64Round`).
-/
import JsonV.Lemmas.MeaningStr
import JsonV.Lemmas.MeaningEval
import JsonV.Lemmas.GlueMeaningTree
import JsonV.Lemmas.GlueMeaningFuel
import JsonV.Lemmas.GlueMeaningUnquote
import JsonV.Lemmas.GlueMeaningTreeC
import JsonV.Lemmas.GlueMeaningLex
import JsonV.Props.C01

namespace JsonV.Props.C03
open JsonV JsonV.Spec.Meaning JsonV.Model.AnyDecode JsonV.Lemmas.MeaningRoutes
open JsonV.Lemmas.MeaningStr

variable {F : Type} (fp : FloatParse F)

/-! ### Sanity of the string specification -/

/-- If a string literal without any backslash is valid, its meaning is its body (the bytes between the quotes),
for arbitrary (multi-byte) content. -/
theorem unescape_noBackslash (q s : Bytes) (h : unescape q = some s) (hq : ∀ x ∈ q, x ≠ 0x5C) :
    q = 0x22 :: s ++ [0x22] := by
  obtain ⟨r, rfl, hl⟩ := unescape_iff.mp h
  rw [strBody_noBackslash _ r s [] hl (fun x hx => hq x (List.mem_cons_of_mem _ hx))]
  simp

/-- Conversely quoting a run of plain ASCII characters (0x20..0x7F except `"` and `\`) denotes that run. -/
theorem unescape_plain (s : Bytes) (hs : s.all isPlain = true) : unescape (0x22 :: s ++ [0x22]) = some s := by
  exact unescape_iff.mpr ⟨s ++ [0x22], rfl,
    strBody_plain s [] hs _ (by simp only [List.length_append, List.length_cons, List.length_nil]; omega)⟩

example : unescape [0x22, 0x61, 0xC3, 0xA9, 0x22] = some [0x61, 0xC3, 0xA9] := by rfl
example : ∀ x ∈ ([0x22, 0x61, 0xC3, 0xA9, 0x22] : Bytes), x ≠ 0x5C := by decide
example : ([0x61, 0x20, 0x7E] : Bytes).all isPlain = true := by decide
/-- the escapes: `"\n\u00e9\ud83d\ude00"` denotes LF, U+00E9, U+1F600 in UTF-8 -/
example : unescape [0x22, 0x5C, 0x6E, 0x5C, 0x75, 0x30, 0x30, 0x65, 0x39, 0x5C, 0x75, 0x64, 0x38, 0x33, 0x64, 0x5C, 0x75,
    0x64, 0x65, 0x30, 0x30, 0x22] = some [0x0A, 0xC3, 0xA9, 0xF0, 0x9F, 0x98, 0x80] := by rfl
/-- a lone surrogate is not a valid string -/
example : unescape [0x22, 0x5C, 0x75, 0x64, 0x38, 0x30, 0x30, 0x22] = none := by rfl

/-! ### String interning is transparent -/

/-- `makeString` returns the bytes it was given, whatever the cache contains. -/
theorem intern_transparent (c : Cache) (b : Bytes) : (makeString c b).1 = b := makeString_fst c b

/-- Hence the result of decoding does not depend on the cache state (the decoder's history). -/
theorem fast_cache_indep (c c' : Cache) (b : Bytes) : fast fp c b = fast fp c' b := by
  unfold fast
  apply finish_congr
  exact ((routes_agree_core fp _).1 false false 0 c c (skipWs b)).symm.trans
    ((routes_agree_core fp _).1 false false 0 c c' (skipWs b))

example : (makeString (Cache.empty.set 225 [0x61, 0x62]) [0x61, 0x62]).1 = [0x61, 0x62] := intern_transparent _ _

/-! ### Every internal route gives the same result, for ALL inputs (valid or not, with or without duplicates) -/

/-- The generic machinery (interface → map/slice/bool/string/float64 arshalers) all the way down
equals the specialised decoder: same value or same error class. -/
theorem fast_eq_generic (c c' : Cache) (b : Bytes) : generic fp c b = fast fp c' b := by
  unfold generic unmarshalIface fast
  apply finish_congr
  exact (routes_agree_core fp _).1 false _ 0 c c' (skipWs b)

/-- Any interface target equivalent to `any` (the exact type `any` or a named empty interface), with options that
allow or forbid the specialised decoder at the top and below. -/
theorem iface_eq_fast (isAny opt : Bool) (c c' : Cache) (b : Bytes) : unmarshalIface fp isAny opt c b = fast fp c' b := by
  unfold unmarshalIface fast
  apply finish_congr
  exact (routes_agree_core fp _).1 opt _ 0 c c' (skipWs b)

theorem maxDepth_pos : (0 : Nat) ≠ maxDepth := by decide

/-- Target `map[string]any`: for a text whose first token is `{` the result is the one of the `any` target. -/
theorem map_target_eq_fast (opt : Bool) (c c' : Cache) (b r : Bytes) (hb : skipWs b = 0x7B :: r) :
    unmarshalMap fp opt c b = fast fp c' b :=
  unmarshalMap_eq_fast fp opt c c' b r hb

/-- Target `[]any`: for a text whose first token is `[` the result is the one of the `any` target. -/
theorem slice_target_eq_fast (opt : Bool) (c c' : Cache) (b r : Bytes) (hb : skipWs b = 0x5B :: r) :
    unmarshalSlice fp opt c b = fast fp c' b :=
  unmarshalSlice_eq_fast fp opt c c' b r hb

example : skipWs [0x20, 0x7B, 0x7D] = 0x7B :: [0x7D] := by decide

/-! ### The result is the meaning of the text -/

/-- For every text the RFC grammar accepts (spec tree `t`), free of duplicate names and within the library's nesting
limit, decoding into `any` yields exactly the Go value of `t` — strings unescaped per RFC 8259, numbers `fp literal`,
arrays in order, objects with exactly their members — or ErrRange when some number overflows float64. -/
theorem any_meaning (c : Cache) (b : Bytes) (t : MTree) (h : parseTree b = some t)
    (hnd : t.noDup = true) (hdep : t.depth ≤ maxDepth) :
    fast fp c b = match toGo fp t with
      | some v => .ok v
      | none => .error .range := by
  rw [JsonV.Lemmas.MeaningEval.fast_eq_eval fp c b t h hdep]
  exact JsonV.Lemmas.MeaningEval.evalV_noDup fp t hnd

/-- {"a":[1,"\n"]} -/
def exampleText : Bytes := [0x7B, 0x22, 0x61, 0x22, 0x3A, 0x5B, 0x31, 0x2C, 0x22, 0x5C, 0x6E, 0x22, 0x5D, 0x7D]
def exampleTree : MTree := .obj [([0x61], .arr [.num [0x31], .str [0x0A]])]
example : parseTree exampleText = some exampleTree := by rfl
example : exampleTree.noDup = true := by rfl
example : exampleTree.depth ≤ maxDepth := by decide
/-- `any_meaning` instantiated: whatever the cache, the text decodes to map[a:[1 "\n"]] (floats kept as literals here). -/
example (c : Cache) : fast (fun l => some l) c exampleText = .ok (.map [([0x61], .slice [.f64 [0x31], .str [0x0A]])]) := by
  have h := any_meaning (fun l => some l) c exampleText exampleTree rfl rfl (by decide)
  simpa [exampleTree, toGo, toGoMembers, toGoList] using h

/-- The same for every interface target (`unmarshalIface`, with or without the specialised decoder): corollary of
`any_meaning` and `iface_eq_fast`. -/
theorem iface_meaning (isAny opt : Bool) (c : Cache) (b : Bytes) (t : MTree) (h : parseTree b = some t)
    (hnd : t.noDup = true) (hdep : t.depth ≤ maxDepth) :
    unmarshalIface fp isAny opt c b = match toGo fp t with
      | some v => .ok v
      | none => .error .range := by
  rw [iface_eq_fast fp isAny opt c c b]
  exact any_meaning fp c b t h hnd hdep

/-! ### Total characterisation on valid texts; duplicate names are rejected -/

/-- For EVERY text the RFC grammar accepts within the nesting limit — with or without duplicate names, with or without
overflowing numbers — decoding into `any` gives exactly `evalV` of the spec tree: the replay, in document order, of
"look the decoded name up among the members seen so far (duplicate ⇒ dup); numbers through `fp` (overflow ⇒ range)". -/
theorem any_meaning_total (c : Cache) (b : Bytes) (t : MTree) (h : parseTree b = some t) (hdep : t.depth ≤ maxDepth) :
    fast fp c b = JsonV.Lemmas.MeaningEval.evalV fp t :=
  JsonV.Lemmas.MeaningEval.fast_eq_eval fp c b t h hdep

/-- A valid text in which some object has two members with the same decoded name is rejected (default options), by
every route: the result is an error, of class `dup` — or `range` if an overflowing number comes first. -/
theorem dup_rejected (isAny opt : Bool) (c : Cache) (b : Bytes) (t : MTree) (h : parseTree b = some t)
    (hdep : t.depth ≤ maxDepth) (hdup : t.noDup = false) :
    ∃ e, unmarshalIface fp isAny opt c b = .error e ∧ (e = .dup ∨ (e = .range ∧ ∃ l, fp l = none)) := by
  rw [iface_eq_fast fp isAny opt c c b, any_meaning_total fp c b t h hdep]
  cases hv : JsonV.Lemmas.MeaningEval.evalV fp t with
  | ok v =>
    have := JsonV.Lemmas.MeaningEval.evalV_ok_noDup fp t v hv
    rw [this] at hdup; cases hdup
  | error e => exact ⟨e, rfl, JsonV.Lemmas.MeaningEval.evalV_err fp t e hv⟩

/-- {"a":1,"a":2} -/
def dupText : Bytes := [0x7B, 0x22, 0x61, 0x22, 0x3A, 0x31, 0x2C, 0x22, 0x61, 0x22, 0x3A, 0x32, 0x7D]
example : parseTree dupText = some (.obj [([0x61], .num [0x31]), ([0x61], .num [0x32])]) := by rfl
example : (MTree.obj [([0x61], .num [0x31]), ([0x61], .num [0x32])]).noDup = false := by rfl

/-! ### Objects hold exactly their members, arrays keep order and length -/

/-- Decoding an object text gives a map whose keys are exactly the decoded member names of the text, in number and
identity (listed here in textual order; they are pairwise distinct). -/
theorem members_exact (c : Cache) (b : Bytes) (ms : List (Bytes × MTree)) (v : GoAny F)
    (h : parseTree b = some (.obj ms)) (hnd : (MTree.obj ms).noDup = true) (hdep : (MTree.obj ms).depth ≤ maxDepth)
    (hok : fast fp c b = .ok v) :
    ∃ gms, v = .map gms ∧ gms.map (·.1) = names ms ∧ gms.length = ms.length ∧ noDupNames (names ms) = true := by
  rw [any_meaning fp c b _ h hnd hdep] at hok
  simp only [toGo] at hok
  cases hm : toGoMembers fp ms with
  | none => simp [hm] at hok
  | some gms =>
    simp only [hm, Option.map_some, Except.ok.injEq] at hok
    have hn := JsonV.Lemmas.MeaningEval.toGoMembers_names fp ms gms hm
    refine ⟨gms, hok.symm, hn, by simpa [names] using congrArg List.length hn, ?_⟩
    simp only [MTree.noDup, Bool.and_eq_true] at hnd
    exact hnd.1

/-- Decoding an array text gives a slice of the same length whose i-th element is the value of the i-th element. -/
theorem elements_exact (c : Cache) (b : Bytes) (xs : List MTree) (v : GoAny F)
    (h : parseTree b = some (.arr xs)) (hnd : (MTree.arr xs).noDup = true) (hdep : (MTree.arr xs).depth ≤ maxDepth)
    (hok : fast fp c b = .ok v) :
    ∃ gxs, v = .slice gxs ∧ xs.map (toGo fp) = gxs.map some ∧ gxs.length = xs.length := by
  rw [any_meaning fp c b _ h hnd hdep] at hok
  simp only [toGo] at hok
  cases hm : toGoList fp xs with
  | none => simp [hm] at hok
  | some gxs =>
    simp only [hm, Option.map_some, Except.ok.injEq] at hok
    have hx := JsonV.Lemmas.MeaningEval.toGoList_map fp xs gxs hm
    exact ⟨gxs, hok.symm, hx, by simpa using (congrArg List.length hx).symm⟩

/-! ### Full statements that are NOT proved (validated by the harness only) -/

/-- `strconv.ParseFloat` is the correctly rounded value of the literal (the `FloatParse` parameter meets its spec). -/
def floatParse_correct_full (fp : FloatParse UInt64) : Prop := ∀ (lit rest : Bytes), lexNum lit = some (lit, rest) → rest = [] → fp lit = f64Round lit

/-! ### Glue: the meaning spec against slice C01's grammar, scanners and unquote model

`Spec/Meaning.lean` (this slice) and `Spec/Grammar.lean` + `Model/WireDecode.lean` + `Model/Validate.lean` (slice C01)
are independent formalisations of JSON text, its strings and its numbers.  The theorems below connect them. -/

section Glue
open JsonV.Spec.Grammar JsonV.Model.Wire

/-- Fuel never matters: a parse that succeeds with SOME amount of fuel is the result of `parseTree`
(whose fuel is `2·len + 2`).  So `any_meaning` and the other theorems hold for "the text has a tree", not merely
"the text has a tree within this much fuel". -/
theorem fuel_suffices (b : Bytes) (n : Nat) (t : MTree) (h : parseTreeF n b = some t) : parseTree b = some t :=
  JsonV.Lemmas.GlueMeaningFuel.parseTreeF_mono n b t h _ (by omega)

/-- …and more fuel than `parseTree` uses changes nothing. -/
theorem fuel_irrelevant (b : Bytes) (t : MTree) (h : parseTree b = some t) (m : Nat) (hm : 2 * b.length ≤ m) :
    parseTreeF m b = some t :=
  JsonV.Lemmas.GlueMeaningFuel.parseTreeF_mono _ b t h m hm

/-- `any_meaning`, unconditional on fuel. -/
theorem any_meaning_any_fuel (c : Cache) (b : Bytes) (n : Nat) (t : MTree) (h : parseTreeF n b = some t)
    (hnd : t.noDup = true) (hdep : t.depth ≤ maxDepth) :
    fast fp c b = match toGo fp t with
      | some v => .ok v
      | none => .error .range :=
  any_meaning fp c b t (fuel_suffices b n t h) hnd hdep

example : parseTreeF 1000 exampleText = some exampleTree := by rfl

/-- Numbers: what `lexNum` accepts is a `number` of the C01 grammar, and it cuts the input right after it. -/
theorem lexNum_sound (b l r : Bytes) (h : lexNum b = some (l, r)) : b = l ++ r ∧ JNumber l :=
  JsonV.Lemmas.GlueMeaningLex.lexNum_spec h

example : lexNum [0x2D, 0x31, 0x2E, 0x35, 0x65, 0x33, 0x2C] = some ([0x2D, 0x31, 0x2E, 0x35, 0x65, 0x33], [0x2C]) := by rfl

/-- Strings: what `lexStr` accepts (after the opening quote) is a `string` of the C01 grammar under strict UTF-8. -/
theorem lexStr_sound (r s rest : Bytes) (h : lexStr r = some (s, rest)) :
    ∃ lit, JString true lit ∧ 0x22 :: r = lit ++ rest :=
  JsonV.Lemmas.GlueMeaningStr.lexStr_spec h

/-- A literal that has a meaning is a string of the grammar, hence (C01 `string_complete`) the model of
jsonwire.ConsumeString accepts exactly all of it under strict UTF-8. -/
theorem unescape_scanned (q s : Bytes) (h : unescape q = some s) :
    JString true q ∧ ∃ f, consumeString q true = (q.length, f, .ok) := by
  have hj : JString true q := by
    obtain ⟨r, rfl, hl⟩ := unescape_iff.mp h
    obtain ⟨lit, hlit, hq⟩ := JsonV.Lemmas.GlueMeaningStr.lexStr_spec hl
    rw [List.append_nil] at hq
    rw [hq]; exact hlit
  exact ⟨hj, JsonV.Props.C01.string_complete q true q.length (Nat.le_refl _) (by rw [List.take_length]; exact hj)⟩

/-- The RFC 8259 meaning of a string literal IS what the model of jsonwire.AppendUnquote returns (with a nil error):
the spec's `unescape` and the code-shaped `unquote` (tied to the Go code by C01/quote's correspondence) agree. -/
theorem unescape_eq_unquote (q s : Bytes) (h : unescape q = some s) : unquote q = (s, .ok) :=
  JsonV.Lemmas.GlueMeaningUnquote.unescape_eq_unquote q s h

example : unquote [0x22, 0x5C, 0x75, 0x64, 0x38, 0x33, 0x64, 0x5C, 0x75, 0x64, 0x65, 0x30, 0x30, 0x22]
    = ([0xF0, 0x9F, 0x98, 0x80], .ok) :=
  unescape_eq_unquote _ _ (by rfl)

/-- Texts: whatever the meaning spec parses is `ws value ws` of the C01 grammar (strict UTF-8; duplicate names allowed,
so the key function is irrelevant), nested no deeper than the tree. -/
theorem meaning_implies_grammar (b : Bytes) (t : MTree) (md : Nat) (h : parseTree b = some t) (hd : t.depth ≤ md) :
    JText ⟨true, true⟩ md id b :=
  JsonV.Lemmas.GlueMeaningTree.parseTreeF_grammar _ b t md h hd

/-- In particular, within the library's nesting limit, it is a text of exactly the grammar instance that C01's
validator is proved sound for (C01 `valid_sound`, `valid_iff`, with default UTF-8 handling). -/
theorem meaning_implies_grammar_lib (b : Bytes) (t : MTree) (h : parseTree b = some t) (hd : t.depth ≤ maxDepth) :
    JText ⟨true, true⟩ JsonV.Model.Validate.maxNestingDepth id b :=
  meaning_implies_grammar b t _ h hd

example : JText ⟨true, true⟩ 2 id exampleText := meaning_implies_grammar exampleText exampleTree 2 (by rfl) (by decide)

/-- The converse: **every text of the C01 grammar (strict UTF-8, duplicate names allowed) is parsed by the meaning spec**,
with a tree no deeper than the grammar's nesting bound.  With `meaning_implies_grammar`: the two formalisations of
"valid JSON text" accept the same byte strings. -/
theorem grammar_implies_meaning (b : Bytes) (md : Nat) (h : JText ⟨true, true⟩ md id b) :
    ∃ t, parseTree b = some t ∧ t.depth ≤ md :=
  JsonV.Lemmas.GlueMeaningTreeC.text_complete md b h

theorem meaning_iff_grammar (b : Bytes) (md : Nat) :
    (∃ t, parseTree b = some t ∧ t.depth ≤ md) ↔ JText ⟨true, true⟩ md id b :=
  ⟨fun ⟨t, h, hd⟩ => meaning_implies_grammar b t md h hd, grammar_implies_meaning b md⟩

/-- **The meaning spec and C01's validator model accept the same texts** (strict UTF-8, duplicate names allowed,
the library's nesting limit): `parseTree` succeeds with a tree within the limit iff `Value.IsValid`'s model says yes.
Uses C01's `valid_iff` (validator = grammar). -/
theorem spec_iff_validator (b : Bytes) :
    (∃ t, parseTree b = some t ∧ t.depth ≤ maxDepth) ↔ JsonV.Model.Validate.isValid ⟨false, true⟩ b = true := by
  rw [JsonV.Props.C01.valid_iff, meaning_iff_grammar b maxDepth]
  exact ⟨JsonV.Lemmas.GlueMeaningTreeC.jtext_key_irrel true _ _ _, JsonV.Lemmas.GlueMeaningTreeC.jtext_key_irrel true _ _ _⟩

example : JsonV.Model.Validate.isValid ⟨false, true⟩ exampleText = true :=
  (spec_iff_validator exampleText).1 ⟨exampleTree, by rfl, by decide⟩

/-- Numbers: `lexNum` accepts `n` bytes iff the model of jsonwire.ConsumeNumber answers `(n, nil)`
(both take the longest match of the number automaton: `GlueMeaningLex.lexNum_eq`, `WireNumber.consumeNumber_ok_scan`). -/
theorem lexNum_iff (b : Bytes) (n : Nat) :
    (∃ l r, lexNum b = some (l, r) ∧ l.length = n) ↔ consumeNumber b = (n, .ok) :=
  JsonV.Lemmas.GlueMeaningNumI.lexNum_iff b n

example : consumeNumber [0x2D, 0x31, 0x2E, 0x35, 0x65, 0x33, 0x2C] = (6, .ok) :=
  (lexNum_iff _ 6).1 ⟨_, _, by rfl, rfl⟩

end Glue

end JsonV.Props.C03
