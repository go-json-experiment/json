/-
C06 — Encoder enforces the grammar; a rejected call has no effect.

The property theorems of C06; the proofs live in Lemmas/State*.lean and Lemmas/Enc*.lean, except that `wv_as_tokens`
and `wv_ok_iff_grammar` are put together here from `EncRaw`, `EncOps` and `EncValid`.
`Gen.*` is regenerated from /repo on every run (Tie A): the bodies of all `stateEntry`
methods, the `stateEntry` masks and `maxNestingDepth`.
-/
import JsonV.Model.State
import JsonV.Spec.PDA
import JsonV.Lemmas.StateEntry
import JsonV.Lemmas.StateRefine
import JsonV.Lemmas.StateRun
import JsonV.Model.Encoder
import JsonV.Spec.Render
import JsonV.Lemmas.EncNoop
import JsonV.Lemmas.EncRender
import JsonV.Lemmas.EncIff
import JsonV.Lemmas.EncValue
import JsonV.Lemmas.EncRaw
import JsonV.Lemmas.EncOps
import JsonV.Lemmas.EncValid
import JsonV.Lemmas.GlueEncQuote
import JsonV.Props.C01
import JsonV.Spec.Names
import JsonV.Model.Validate
import JsonV.Gen.Straight
import JsonV.Gen.Constants
import JsonV.Gen.Tables

namespace JsonV.Props.C06
open JsonV.Model JsonV.Gen JsonV.Spec JsonV.Spec.PDA
open JsonV.Lemmas.StateEntry JsonV.Lemmas.StateRefine JsonV.Lemmas.StateRun

/-! ## Part 1 — Tie A: the regenerated `stateEntry` methods are the hand-written model -/

theorem tie_consts :
    Entry.typeMask.toNat = jsontext.c_stateTypeMask ∧
    Entry.typeObject.toNat = jsontext.c_stateTypeObject ∧
    Entry.typeArray.toNat = jsontext.c_stateTypeArray ∧
    Entry.disableNamespaceBit.toNat = jsontext.c_stateDisableNamespace ∧
    Entry.invalidNamespaceBit.toNat = jsontext.c_stateInvalidNamespace ∧
    (Entry.disableNamespaceBit ||| Entry.invalidNamespaceBit).toNat = jsontext.c_stateNamespaceMask ∧
    Entry.countMask.toNat = jsontext.c_stateCountMask ∧
    Entry.countLSBMask.toNat = jsontext.c_stateCountLSBMask ∧
    jsontext.c_stateCountOdd = 1 ∧ jsontext.c_stateCountEven = 0 := by decide

/-- The depth limit of the library is 10000 open containers. -/
theorem tie_maxDepth : jsontext.c_maxNestingDepth = 10000 := by decide

/-- The token kinds are the first bytes of their grammar (numbers: `'0'`). -/
theorem tie_kinds :
    Kind.lit.byte.toNat = jsontext.c_KindNull ∧ Kind.str.byte.toNat = jsontext.c_KindString ∧
    Kind.num.byte.toNat = jsontext.c_KindNumber ∧
    Kind.beginObj.byte.toNat = jsontext.c_KindBeginObject ∧ Kind.endObj.byte.toNat = jsontext.c_KindEndObject ∧
    Kind.beginArr.byte.toNat = jsontext.c_KindBeginArray ∧ Kind.endArr.byte.toNat = jsontext.c_KindEndArray := by
  decide

theorem tie_Length (e : BitVec 64) : (jsontext_stateEntry_Length e).toNat = Entry.length e := rfl
theorem tie_isObject (e : BitVec 64) : jsontext_stateEntry_isObject e = Entry.isObject e := rfl
theorem tie_isArray (e : BitVec 64) : jsontext_stateEntry_isArray e = Entry.isArray e := rfl
theorem tie_NeedObjectName (e : BitVec 64) : jsontext_stateEntry_NeedObjectName e = Entry.needObjectName e := rfl
theorem tie_needObjectValue (e : BitVec 64) : jsontext_stateEntry_needObjectValue e = Entry.needObjectValue e := rfl
theorem tie_needImplicitColon (e : BitVec 64) :
    jsontext_stateEntry_needImplicitColon e = Entry.needImplicitColon e := rfl
theorem tie_needImplicitComma (e : BitVec 64) (next : UInt8) :
    jsontext_stateEntry_needImplicitComma e next.toBitVec = Entry.needImplicitComma e next :=
  JsonV.Lemmas.StateEntry.tie_comma e next
theorem tie_Increment (e : BitVec 64) : jsontext_stateEntry_Increment e = Entry.increment e := rfl
theorem tie_decrement (e : BitVec 64) : jsontext_stateEntry_decrement e = Entry.decrement e := rfl
theorem tie_DisableNamespace (e : BitVec 64) :
    jsontext_stateEntry_DisableNamespace e = Entry.disableNamespace e := rfl
theorem tie_isActiveNamespace (e : BitVec 64) :
    jsontext_stateEntry_isActiveNamespace e = Entry.isActiveNamespace e := rfl
theorem tie_invalidateNamespace (e : BitVec 64) :
    jsontext_stateEntry_invalidateNamespace e = Entry.invalidateNamespace e := rfl
theorem tie_isValidNamespace (e : BitVec 64) :
    jsontext_stateEntry_isValidNamespace e = Entry.isValidNamespace e := rfl

/-- The Encoder model's `normKind` is the regenerated `normKind[256]` table of jsontext/token.go: it is the
validator model's `normKind`, which C01 ties to the table. -/
theorem tie_normKind : ∀ c : Fin 256,
    (JsonV.Model.Encoder.normKind (UInt8.ofNat c.val)).toNat = jsontext_normKind.getD c.val 999 := by
  intro c
  rw [JsonV.Lemmas.EncValid.normKind_eq, JsonV.Props.C01.tie_normKind, UInt8.toNat_ofNat', Nat.mod_eq_of_lt c.isLt]

/-- The Encoder model's `escapeASCII` is the regenerated `escapeASCII[128]` table of jsonwire/encode.go. -/
theorem tie_escapeASCII : ∀ c : Fin 128,
    JsonV.Model.Encoder.escapeASCII (UInt8.ofNat c.val) = (jsonwire_escapeASCII.getD c.val 999 != 0) := by
  intro c
  exact (JsonV.List.getD_of_range_map JsonV.Lemmas.GlueEncQuote.encoder_escapeASCII_table c.isLt 999).symm

/-! ## Part 2 — the state machine is the grammar's push-down automaton -/

/-- state.go "If an error is returned, the state is not mutated".  In the model an operation yields
either a new machine or an error (never both), so the observable content of the sentence is: a run in
which rejected operations are simply skipped ends in the same machine as the run of the accepted
operations alone, none of which is rejected.  (The harness checks the raw words of the real machine
after every rejected operation.) -/
theorem sm_noop (max : Nat) (m : Machine) (ks : List Kind) :
    smRun max m (smAccepted max m ks) = .ok (smRunSkip max m ks) :=
  smRun_accepted max ks m

example : smAccepted 10000 Machine.init [.beginObj, .num, .endArr, .str, .endObj, .lit, .endObj] =
    [.beginObj, .str, .lit, .endObj] := by decide

/-- **Refinement** of one operation.  For a machine whose words carry no namespace bits, counts
at most `b` (with `b + 1 < 2^61`, so that `Increment` cannot carry into the flag bits) and at most
`max` stacked entries: the operation for token kind `k` succeeds iff the PDA step is defined; the
new machine abstracts to the new frames and satisfies the invariant with `b + 1`. -/
theorem sm_refines {max b : Nat} {m : Machine} (h : Inv max b m) (hb : b + 1 < 2^61) (k : Kind) :
    match smStep max m k with
    | .ok m' => step max (abs m) k = some (abs m') ∧ Inv max (b + 1) m'
    | .error _ => step max (abs m) k = none :=
  step_refines h hb k

/-- The hypotheses of `sm_refines` hold in a non-trivial state: after `{ "a"` (an open object that
expects a value). -/
example : ∃ m, smRun 10000 Machine.init [.beginObj, .str] = .ok m ∧ Inv 10000 2 m ∧
    abs m = [.obj 1, .arr 1] := by
  refine ⟨_, rfl, ?_, by decide⟩
  have := run_refines (max := 10000) [.beginObj, .str] (inv_init 10000) (by decide)
  exact this.2

/-- **The machine accepts exactly the viable token sequences.**  For every sequence shorter than
2^61 tokens (the width of the element counter): running the machine from its reset state succeeds
iff the sequence is a viable prefix of a JSON stream, and the final machine abstracts to the PDA's frames. -/
theorem sm_spec (max : Nat) (ks : List Kind) (hlen : ks.length < 2^61) :
    ((∃ m, smRun max Machine.init ks = .ok m) ↔ Viable max ks) ∧
    (∀ m, smRun max Machine.init ks = .ok m →
      run max PDA.init ks = some (abs m) ∧ Inv max ks.length m ∧ BottomArr (abs m)) := by
  have h := run_refines (max := max) ks (inv_init max) (by omega)
  rw [abs_init] at h
  cases hr : smRun max Machine.init ks with
  | error e =>
    rw [hr] at h
    refine ⟨⟨fun ⟨m, hm⟩ => (by cases hm), fun hv => ?_⟩, fun m hm => (by cases hm)⟩
    simp [Viable, h] at hv
  | ok m =>
    rw [hr] at h
    refine ⟨⟨fun _ => by simp [Viable, h.1], fun _ => ⟨m, rfl⟩⟩, fun m' hm' => ?_⟩
    cases hm'
    refine ⟨h.1, by simpa using h.2, run_bottomArr h.1 bottomArr_init⟩

/-- Non-vacuity of `sm_spec`: a viable and a non-viable sequence. -/
example : Viable 10000 [.beginObj, .str, .beginArr, .num, .endArr, .endObj, .lit] ∧
    ¬ Viable 10000 [.beginObj, .num] ∧ ¬ Viable 10000 [.endArr] ∧ ¬ Viable 1 [.beginArr, .beginArr] := by
  decide

/-- **Depth and index.**  `Depth()` is the number of frames, `Last.Length()` the element count of
the innermost frame; for a run from reset the number of frames is one plus opening minus closing tokens. -/
theorem depth_index (max : Nat) (ks : List Kind) (hlen : ks.length < 2^61) (m : Machine)
    (h : smRun max Machine.init ks = .ok m) :
    m.depth = (abs m).length ∧
    m.last.length = ((abs m).head (by simp [abs])).count ∧
    m.depth + ks.countP Kind.closing = 1 + ks.countP Kind.opening := by
  have hs := ((sm_spec max ks hlen).2 m h).1
  have hl := run_length hs
  refine ⟨depth_abs m, last_length_abs m, ?_⟩
  rw [depth_abs]; simpa [PDA.init] using hl

/-- **Separators.**  For every reachable machine the byte `needDelim` asks for is the separator the
grammar requires: a colon exactly after a member name, a comma exactly before a non-first element
that is not a closing delimiter, nothing between top-level values. -/
theorem need_delim (max : Nat) (ks : List Kind) (hlen : ks.length < 2^61) (m : Machine)
    (h : smRun max Machine.init ks = .ok m) (next : Kind) :
    m.needDelim next.byte = delimByte (delim (abs m) next) ∧
    m.mayAppendDelim [] next.byte =
      (match delim (abs m) next with | .none => [] | .colon => [0x3a] | .comma => [0x2c]) := by
  have hb := ((sm_spec max ks hlen).2 m h).2.2
  have h1 := needDelim_abs hb next
  refine ⟨h1, ?_⟩
  simp only [Machine.mayAppendDelim, h1]
  cases delim (abs m) next <;> decide

/-- **Indentation** (for every machine): `NeedIndent` is the layout rule of Spec/PDA. -/
theorem need_indent (m : Machine) (next : Kind) : m.needIndent next.byte = indent (abs m) next :=
  needIndent_abs m next

example : ∃ m, smRun 10000 Machine.init [.beginArr, .num] = .ok m ∧
    m.needDelim Kind.num.byte = 0x2c ∧ m.needDelim Kind.endArr.byte = 0 ∧
    m.needIndent Kind.num.byte = 2 ∧ m.needIndent Kind.endArr.byte = 1 := ⟨_, rfl, by decide⟩


/-! ## Part 3 — the Encoder model (Model/Encoder.lean; tied to encode.go by the `enc` correspondence) -/

section Encoder
open JsonV.Model.Encoder JsonV.Spec.Render JsonV.Spec.Names JsonV.Lemmas.EncNoop JsonV.Lemmas.EncRender
open JsonV.Lemmas.EncIff JsonV.Lemmas.EncValue JsonV.Lemmas.EncRaw JsonV.Lemmas.EncOps

/-- A rejected `WriteToken` leaves the whole modelled state — output, machine (offsets, depth, indices),
namespaces, options — exactly as it was. -/
theorem wt_noop (e e' : Enc) (t : Tok) (err : EncErr) (h : writeToken e t = (e', some err)) : e' = e :=
  writeToken_noop e t err e' h

/-- A rejected `WriteValue` leaves the whole modelled state exactly as it was. -/
theorem wv_noop (e e' : Enc) (v : Bytes) (err : EncErr) (h : writeValue e v = (e', some err)) : e' = e :=
  writeValue_noop e v err e' h

/-- Both kinds of rejection occur (the hypotheses above are satisfiable): a number where a name is
required, and a truncated raw value. -/
example : (writeToken (writeToken (Encoder.new {}) .beginObj).1 (.num [0x31])).2 = some (.sm .nonStringName) ∧
    (writeValue (Encoder.new {}) [0x5b]).2 = some .unexpectedEOF := by decide

/-- **After a rejection everything continues as if the call had never been made**: for every script of
`WriteToken`/`WriteValue` calls from every state, the sub-script of accepted calls runs without any
rejection and ends in the same state (same output, machine, namespaces). -/
theorem after_reject (e : Enc) (cs : List Call) :
    JsonV.Lemmas.EncNoop.run e (accepted e cs) =
      ((JsonV.Lemmas.EncNoop.run e cs).1, (accepted e cs).map fun _ => none) :=
  run_accepted cs e

/-- **Accepted token scripts are viable and are rendered as the grammar prescribes.**  For every
option set and every script of tokens (fewer than 2^61) all of which `WriteToken` accepts from a new
encoder: the kinds form a viable prefix of a JSON stream, and the bytes produced are
`Spec.Render.render` — separators from the PDA (colon after a name, comma before every non-first
element, none at top level), `SpaceAfterColon/Comma`, `Multiline` indentation, the token texts, and
one newline after each top-level value. -/
theorem out_render (o : Opts) (ts : List Tok) (e : Enc) (hlen : ts.length < 2^61)
    (h : runToks (Encoder.new o) ts = some e) :
    e.out = render o ts ∧ Viable o.maxDepth (ts.map kindOf) ∧
      run o.maxDepth PDA.init (ts.map kindOf) = some (abs e.m) := by
  obtain ⟨fs, ns, hI, hrun, -, hout⟩ :=
    runOps_new o (ts.map .tok) e (by rw [cost_toks]; exact hlen) (by rw [runOps_toks]; exact h)
  rw [histToks_toks] at hrun hout
  exact ⟨hout, by simp [Viable, hrun], by rw [hI.abs_eq]; exact hrun⟩

/-- Non-vacuity: an accepted script with nesting, a member, and two top-level values (compact and multiline). -/
example : (runToks (Encoder.new {}) [.beginObj, .str [0x61], .beginArr, .num [0x31], .tru, .endArr, .endObj, .null]).map (·.out)
      = some "{\"a\":[1,true]}\nnull\n".toUTF8.toList := by decide +kernel
example : (runToks (Encoder.new { multiline := true, spaceAfterColon := true, indent := [0x09] })
      [.beginObj, .str [0x61], .beginArr, .num [0x31], .endArr, .endObj]).map (·.out)
      = some "{\n\t\"a\": [\n\t\t1\n\t]\n}\n".toUTF8.toList := by decide +kernel

/-- **WriteToken succeeds iff appending the token keeps the output a prefix of a valid JSON stream.**
For every option set, every accepted token history `ts` (from a new encoder) and every token `t`:
`WriteToken t` succeeds iff `ts ++ [t]` is a viable prefix of a JSON stream (token order, string-only
names, balanced delimiters, depth ≤ max), a string token is well-formed UTF-8 (`Utf8.valid`, the model of
`utf8.Valid`) unless `AllowInvalidUTF8` is set, and — unless
`AllowDuplicateNames` — a member name is not one already used in the innermost open object
(`Spec.Names.FreshName`: names tracked along the history at specification level, compared as the strings
the emitted literals denote, i.e. after the U+FFFD substitution). -/
theorem wt_ok_iff (o : Opts) (ts : List Tok) (e : Enc) (t : Tok) (hlen : ts.length + 1 < 2^61)
    (h : runToks (Encoder.new o) ts = some e) :
    (writeToken e t).2 = none ↔
      (Viable o.maxDepth ((ts ++ [t]).map kindOf) ∧
        (∀ s, t = .str s → (o.allowInvalidUTF8 = true ∨ Utf8.valid s = true)) ∧
        (o.allowDup = false → FreshName o ts t)) := by
  have := writeToken_ops_iff o (ts.map .tok) e t (by rw [cost_toks]; exact hlen) (by rw [runOps_toks]; exact h)
  rw [histToks_toks] at this
  rw [this, JsonV.Lemmas.GlueEncQuote.badUTF8_iff]

/-- Both outcomes of every clause occur after a non-trivial history `{ "a" 1`:
a fresh name is accepted, the repeated name, a non-string, ill-formed UTF-8 are rejected; with
AllowDuplicateNames the repeated name is accepted. -/
example :
    let ts : List Tok := [.beginObj, .str [0x61], .num [0x31]]
    ∀ e, runToks (Encoder.new {}) ts = some e →
      (writeToken e (.str [0x62])).2 = none ∧ (writeToken e (.str [0x61])).2 = some .dupName ∧
      (writeToken e .null).2 = some (.sm .nonStringName) ∧ (writeToken e (.str [0xff])).2 = some .invalidUTF8 ∧
      FreshName {} ts (.str [0x62]) ∧ ¬ FreshName {} ts (.str [0x61]) := by
  intro ts e h
  have he : e = ((runToks (Encoder.new {}) ts).getD default) := by rw [h]; rfl
  subst he
  refine ⟨by decide +kernel, by decide +kernel, by decide +kernel, by decide +kernel, ?_, ?_⟩
  · intro s hs _; cases hs; decide +kernel
  · intro hf; exact absurd (hf [0x61] rfl (by decide +kernel)) (by decide +kernel)

/-- **WriteValue succeeds iff the text is accepted by the encoder's validator and is acceptable here.**
After every accepted token history: `WriteValue v` succeeds iff `reformatValue` (the model of
encode.go:668-894: exactly one value, strings/escapes/UTF-8/duplicate names/nesting checked under the
options, at the current depth) accepts `v` with only whitespace after it, the PDA admits the value's first
token after `ts` (so a value in name position must be a string, and a container must fit the depth limit),
and a raw string in name position denotes a name not yet used in the innermost open object. -/
theorem wv_ok_iff (o : Opts) (ts : List Tok) (e : Enc) (v : Bytes) (hlen : ts.length + 2 < 2^61)
    (h : runToks (Encoder.new o) ts = some e) :
    (writeValue e v).2 = none ↔
      ∃ out rest,
        reformatValue o (3 * v.length + 4) (beforeToken e (valueKind v)) (skipWS v) e.m.depth = .ok (out, rest) ∧
        skipWS rest = [] ∧
        Viable o.maxDepth ((ts.map kindOf) ++ [firstKind (valueKind v)]) ∧
        (valueKind v = 0x22 → o.allowDup = false → isNamePos (track o (PDA.init, []) ts).1 = true →
          unquote (out.drop (beforeToken e (valueKind v)).length) ∉ innermostNames o ts) := by
  have := writeValue_ops_iff o (ts.map .tok) e v (by rw [cost_toks]; exact hlen) (by rw [runOps_toks]; exact h)
  rw [histToks_toks] at this
  exact this

/-- Non-vacuity of `wv_ok_iff`: accepted and rejected raw values after `[ 1`. -/
example : ∀ e, runToks (Encoder.new {}) [.beginArr, .num [0x31]] = some e →
    (writeValue e "{\"a\":[true,null]}".toUTF8.toList).2 = none ∧
    (writeValue e "{\"a\":1,\"a\":2}".toUTF8.toList).2 = some .dupName ∧
    (writeValue e "[1,".toUTF8.toList).2 = some .unexpectedEOF ∧
    (writeValue e "1 2".toUTF8.toList).2 = some .invalidChar := by
  intro e h
  have he : e = ((runToks (Encoder.new {}) [.beginArr, .num [0x31]]).getD default) := by rw [h]; rfl
  subst he
  decide +kernel

/-- **Raw values are rendered like their tokens.**  After every accepted token history `ts`, an accepted
`WriteValue v` leaves as output exactly `render o (ts ++ valueToks o v)`: the raw text, whatever its
own whitespace and escapes, is emitted as the PDA-derived rendering of its tokens (`valueToks`: literals,
unescaped strings, number texts, delimiters) under the options — separators, `SpaceAfterColon/Comma`,
`Multiline` indentation at the right depth, strings re-quoted by `appendQuote`, a newline after a
top-level value.  All layouts, all options. -/
theorem out_render_value (o : Opts) (ts : List Tok) (e e' : Enc) (v : Bytes) (hlen : ts.length + 2 < 2^61)
    (h : runToks (Encoder.new o) ts = some e) (hw : writeValue e v = (e', none)) :
    e'.out = render o (ts ++ valueToks o v) := by
  obtain ⟨out0, fs, ns, hem0, hI, hout0⟩ := runOps_emits o (ts.map .tok) (encInv_new o)
    (by rw [cost_toks]; omega) (by rw [runOps_toks]; exact h)
  obtain ⟨out, _, _, hem, _, hout⟩ := writeValue_emits hI (by rw [cost_toks]; omega) v hw
  rw [histToks_toks] at hem0
  rw [hout, hout0, render, (hem0.append hem).render]
  rfl

/-- Non-vacuity: a raw object with inner whitespace and an escaped name, written inside a token-written
array under Multiline; its tokens and the bytes. -/
example :
    let o : Opts := { multiline := true, spaceAfterColon := true, indent := [0x09] }
    let v := "{ \"\\u0061\" : [1 , true] }".toUTF8.toList
    valueToks o v = [.beginObj, .str [0x61], .beginArr, .num [0x31], .tru, .endArr, .endObj] ∧
    ((runToks (Encoder.new o) [.beginArr, .null]).map fun e => (writeValue e v).1.out) =
      some "[\n\tnull,\n\t{\n\t\t\"a\": [\n\t\t\t1,\n\t\t\ttrue\n\t\t]\n\t}".toUTF8.toList := by
  decide +kernel

/-! ### Histories of WriteToken and WriteValue calls in any order (the full statement of C06)

`histToks o cs` is the token history of a script `cs` of calls: a `WriteToken t` contributes `t`, a
`WriteValue v` contributes `valueToks o v`.  `runOps e cs = some e'` says that every call of `cs` was
accepted (rejected calls may be deleted first: `after_reject`). -/

/-- **Output = rendering of the accepted tokens**, for every accepted script of tokens and raw values:
the history is a viable prefix of a JSON stream and the bytes produced are its PDA-derived rendering
under the options (so whenever the depth is back at 0 the output is exactly the accepted top-level
values, newline-terminated). -/
theorem out_render_hist (o : Opts) (cs : List Call) (e : Enc) (hlen : 2 * cs.length < 2^61)
    (h : runOps (Encoder.new o) cs = some e) :
    e.out = render o (histToks o cs) ∧ Viable o.maxDepth ((histToks o cs).map kindOf) ∧
      e.m.depth = (track o (PDA.init, []) (histToks o cs)).1.length := by
  obtain ⟨fs, ns, hI, hrun, htrack, hout⟩ := runOps_new o cs e (by have := cost_le cs; omega) h
  refine ⟨hout, by simp [Viable, hrun], ?_⟩
  rw [htrack, depth_abs, hI.abs_eq]

/-- **WriteToken succeeds iff the grammar allows it**, after any accepted script of tokens and raw values. -/
theorem wt_ok_iff_hist (o : Opts) (cs : List Call) (e : Enc) (t : Tok) (hlen : 2 * cs.length + 1 < 2^61)
    (h : runOps (Encoder.new o) cs = some e) :
    (writeToken e t).2 = none ↔
      (Viable o.maxDepth ((histToks o cs ++ [t]).map kindOf) ∧
        (∀ s, t = .str s → (o.allowInvalidUTF8 = true ∨ Utf8.valid s = true)) ∧
        (o.allowDup = false → FreshName o (histToks o cs) t)) := by
  rw [writeToken_ops_iff o cs e t (by have := cost_le cs; omega) h, JsonV.Lemmas.GlueEncQuote.badUTF8_iff]

/-- **WriteValue succeeds iff the text is a value the validator accepts and is acceptable here**, after any
accepted script of tokens and raw values. -/
theorem wv_ok_iff_hist (o : Opts) (cs : List Call) (e : Enc) (v : Bytes) (hlen : 2 * cs.length + 2 < 2^61)
    (h : runOps (Encoder.new o) cs = some e) :
    (writeValue e v).2 = none ↔
      ∃ out rest,
        reformatValue o (3 * v.length + 4) (beforeToken e (valueKind v)) (skipWS v) e.m.depth = .ok (out, rest) ∧
        skipWS rest = [] ∧
        Viable o.maxDepth (((histToks o cs).map kindOf) ++ [firstKind (valueKind v)]) ∧
        (valueKind v = 0x22 → o.allowDup = false → isNamePos (track o (PDA.init, []) (histToks o cs)).1 = true →
          unquote (out.drop (beforeToken e (valueKind v)).length) ∉ innermostNames o (histToks o cs)) :=
  writeValue_ops_iff o cs e v (by have := cost_le cs; omega) h

/-- **A raw value acts like its tokens** (unconditionally).  From any state reached by an accepted script, if
`WriteValue v` is accepted then writing the tokens `valueToks o v` one by one with `WriteToken` is accepted too —
every unescaped string is well-formed UTF-8, every member name inside `v` is fresh in its object as read back
from the emitted literal (slice C11's bridge `GlueEncQuote`), every token is viable — and both ways lead to the
same output, the same abstract machine (kinds and element counts of all open containers, hence depth and
indices) and the same tracked names. -/
theorem wv_as_tokens (o : Opts) (cs : List Call) (e e1 : Enc) (v : Bytes)
    (hlen : 2 * cs.length + (valueToks o v).length + 2 < 2^61)
    (h : runOps (Encoder.new o) cs = some e) (h1 : writeValue e v = (e1, none)) :
    ∃ e2, runToks e (valueToks o v) = some e2 ∧
      e1.out = e2.out ∧ abs e1.m = abs e2.m ∧ (o.allowDup = false → e1.ns = e2.ns) ∧
      Viable o.maxDepth ((histToks o cs ++ valueToks o v).map kindOf) := by
  have hc := cost_le cs
  obtain ⟨out0, fs, ns, hem0, hI, -⟩ := runOps_emits o cs (encInv_new o) (by omega) h
  obtain ⟨out, fs', ns', hem, hI1, hout1⟩ := writeValue_emits hI (by omega) v h1
  obtain ⟨e2, h2, hI2, hout2⟩ := emits_run hem hI (by omega)
  exact ⟨e2, h2, by rw [hout1, hout2], by rw [hI1.abs_eq, hI2.abs_eq],
    fun hd => by rw [(hI1.names hd).1, (hI2.names hd).1], by rw [Viable, (hem0.append hem).run]; rfl⟩

/-! ### The encoder's validator and the grammar -/

/-- **`reformatValue` accepts exactly the JSON texts** of the grammar selected by the options
(RFC 8259 with nesting ≤ 10000; strict UTF-8 and paired surrogate escapes unless AllowInvalidUTF8; member
names pairwise different after unescaping unless AllowDuplicateNames — `Spec/Grammar.lean`), i.e. exactly the
texts that slice C01's decoder-side validator `Value.IsValid` accepts (`Props/C01.valid_iff`).  Proved by two
simulations between the encoder model and the validator model (Lemmas/EncValid.lean), then C01's soundness
and completeness for the grammar. -/
theorem reformat_valid (o : Opts) (hmax : o.maxDepth = JsonV.Model.Validate.maxNestingDepth) (v : Bytes) :
    ((∃ out rest, reformatValue o (3 * v.length + 4) [] (skipWS v) 1 = .ok (out, rest) ∧ skipWS rest = []) ↔
      JsonV.Spec.Grammar.JText (JsonV.Props.C01.gopts (vopts o)) JsonV.Model.Validate.maxNestingDepth
        (JsonV.Props.C01.nameKey (vopts o)) v) ∧
    ((∃ out rest, reformatValue o (3 * v.length + 4) [] (skipWS v) 1 = .ok (out, rest) ∧ skipWS rest = []) ↔
      JsonV.Model.Validate.isValid (vopts o) v = true) := by
  have h := JsonV.Lemmas.EncValid.reformat_iff_grammar o hmax 0 (Nat.zero_le _) [] v
  have h1 : (∃ out rest, reformatValue o (3 * v.length + 4) [] (skipWS v) 1 = .ok (out, rest) ∧ skipWS rest = []) ↔
      JsonV.Spec.Grammar.JText (JsonV.Props.C01.gopts (vopts o)) JsonV.Model.Validate.maxNestingDepth
        (JsonV.Props.C01.nameKey (vopts o)) v := h
  exact ⟨h1, h1.trans (JsonV.Props.C01.valid_iff (vopts o) v).symm⟩

/-- **WriteValue succeeds iff the argument is one valid JSON value that may stand here** — the full
statement, after any accepted script of tokens and raw values: `WriteValue v` succeeds iff
`v = ws value ws` with `value` a value of the grammar selected by the options whose nesting fits under the
current depth (`JValue … d value`, `d` = number of open containers), the PDA admits the value's first token
after the history (a value in name position must be a string; a container must not exceed the depth limit),
and a raw string in name position denotes a name not yet used in the innermost open object. -/
theorem wv_ok_iff_grammar (o : Opts) (hmax : o.maxDepth = JsonV.Model.Validate.maxNestingDepth)
    (cs : List Call) (e : Enc) (v : Bytes) (hlen : 2 * cs.length + 2 < 2^61)
    (h : runOps (Encoder.new o) cs = some e) :
    (writeValue e v).2 = none ↔
      (∃ w1 val w2, JsonV.Spec.Grammar.JWs w1 ∧
          JsonV.Spec.Grammar.JValue (JsonV.Props.C01.gopts (vopts o)) JsonV.Model.Validate.maxNestingDepth
            (JsonV.Props.C01.nameKey (vopts o)) e.m.stack.length val ∧
          JsonV.Spec.Grammar.JWs w2 ∧ v = w1 ++ val ++ w2) ∧
        Viable o.maxDepth (((histToks o cs).map kindOf) ++ [firstKind (valueKind v)]) ∧
        (valueKind v = 0x22 → o.allowDup = false → isNamePos (track o (PDA.init, []) (histToks o cs)).1 = true →
          ∀ out rest, reformatValue o (3 * v.length + 4) (beforeToken e (valueKind v)) (skipWS v) e.m.depth =
            .ok (out, rest) →
            unquote (out.drop (beforeToken e (valueKind v)).length) ∉ innermostNames o (histToks o cs)) := by
  obtain ⟨fs, ns, hI, _, _, _⟩ := runOps_new o cs e (by have := cost_le cs; omega) h
  have hd : e.m.stack.length ≤ JsonV.Model.Validate.maxNestingDepth := by rw [← hmax]; exact hI.inv.depth
  have hg := JsonV.Lemmas.EncValid.reformat_iff_grammar o hmax e.m.stack.length hd (beforeToken e (valueKind v)) v
  rw [wv_ok_iff_hist o cs e v hlen h]
  have hdep : e.m.depth = e.m.stack.length + 1 := rfl
  rw [hdep]
  constructor
  · rintro ⟨out, rest, hr, hws, hv, hn⟩
    refine ⟨hg.mp ⟨out, rest, hr, hws⟩, hv, fun hk hdup hpos out' rest' hr' => ?_⟩
    rw [hr] at hr'
    simp only [Except.ok.injEq, Prod.mk.injEq] at hr'
    rw [← hr'.1]; exact hn hk hdup hpos
  · rintro ⟨hgr, hv, hn⟩
    obtain ⟨out, rest, hr, hws⟩ := hg.mpr hgr
    exact ⟨out, rest, hr, hws, hv, fun hk hdup hpos => hn hk hdup hpos out rest hr⟩

end Encoder

end JsonV.Props.C06
