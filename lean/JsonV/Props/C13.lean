/-
C13 — Canonicalize produces the RFC 8785 canonical form.

First the member order, for all inputs: `compareUTF16` (Model/Compare.lean) is the model of `jsonwire.CompareUTF16`;
`utf16`/`lexCmp` (Spec/Utf16Order.lean) is RFC 8785 §3.2.3; `sortMembers` (Model/Reorder.lean) is the
`slices.SortFunc` call of `mustReorderObjectsFromDecoder`; the proofs are in Lemmas/Cmp*.lean.  Then
`Value.Canonicalize` as a whole (Model/Canon.lean) relative to laws of the float parameter, from Lemmas/Canon*.lean
and slices C10, C11, C12; the longer arguments kept here (`canon_tree_idem`, `canon_roundtrip`) only assemble those.
-/
import JsonV.Model.Compare
import JsonV.Model.Reorder
import JsonV.Spec.Utf16Order
import JsonV.Lemmas.CmpL
import JsonV.Lemmas.CmpSort
import JsonV.Gen.Straight
import JsonV.Model.Canon
import JsonV.Lemmas.CanonForm
import JsonV.Lemmas.CanonParse
import JsonV.Lemmas.CanonRound
import JsonV.Lemmas.CanonLex
import JsonV.Props.C12
import JsonV.Props.C10Glue
import JsonV.Lemmas.CanonIntCodec

namespace JsonV.Props.C13
open JsonV JsonV.Model.Utf8 JsonV.Model.Compare JsonV.Model.Reorder JsonV.Spec.Utf16Order
open JsonV.Lemmas.CmpUtf8 JsonV.Lemmas.CmpLex JsonV.Lemmas.CmpL JsonV.Lemmas.CmpSort

/-! ### Tie A: regenerated helper = hand model -/

theorem tie_isInvalidUTF8 (r : BitVec 32) (rn : BitVec 64) :
    JsonV.Gen.jsonwire_isInvalidUTF8 r rn = isInvalidUTF8 r.toNat rn.toNat := by
  unfold JsonV.Gen.jsonwire_isInvalidUTF8 isInvalidUTF8 runeError
  have e1 : (r == 0xfffd#32) = (r.toNat == 0xFFFD) := by
    rw [Bool.eq_iff_iff]; simp [← BitVec.toNat_inj]
  have e2 : (rn == 0x1#64) = (rn.toNat == 1) := by
    rw [Bool.eq_iff_iff]; simp [← BitVec.toNat_inj]
  rw [e1, e2]

/-! ### The spec comparison is the standard lexicographic order on unit arrays -/

def ordInt : Ordering → Int
  | .lt => -1
  | .eq => 0
  | .gt => 1

theorem lexCmp_compare (a b : List Nat) : lexCmp a b = ordInt (compare a b) := by
  rw [lexCmp_eq_compare]
  cases compare a b <;> rfl

/-! ### CompareUTF16, per rune -/

/-- `rune_order`: for every two Unicode scalar values, the pair of integers that the code compares after
its surrogate switch (wire.go:101-113) is ordered exactly like the UTF-16 encodings of the two values,
and the integers are equal only if the values are. -/
theorem rune_order (r s : Nat) (hr : IsScalar r) (hs : IsScalar s) :
    cmpNat (surrogateKey r s).1 (surrogateKey r s).2 = lexCmp (unitsOfRune r) (unitsOfRune s) ∧
    ((surrogateKey r s).1 = (surrogateKey r s).2 ↔ r = s) :=
  JsonV.Lemmas.CmpL.rune_order r s hr hs

example : IsScalar 0xFFFF ∧ IsScalar 0x10000 ∧ surrogateKey 0xFFFF 0x10000 = (0xFFFF, 0xD800) := by decide

/-! ### CompareUTF16 on whole strings (all lengths) -/

/-- `cmp16_spec`: on well-formed UTF-8 (what `utf8.Valid` accepts) `CompareUTF16` is the lexicographic
comparison of the UTF-16 code-unit arrays (RFC 8785 §3.2.3). -/
theorem cmp16_spec (x y : Bytes) (hx : valid x = true) (hy : valid y = true) :
    compareUTF16 x y = ordInt (compare (utf16 x) (utf16 y)) := by
  rw [← lexCmp_compare]
  exact compareUTF16_lex x y hx hy

/-- The same statement with the well-formed strings given by their scalar values. -/
theorem cmp16_spec_scalars (rs ss : List Nat) (hr : ∀ r ∈ rs, IsScalar r) (hs : ∀ s ∈ ss, IsScalar s) :
    compareUTF16 (encode rs) (encode ss) = lexCmp (units rs) (units ss) :=
  go_encode rs ss hr hs _ (Nat.le_refl _)

/-- U+E000..U+FFFF sort AFTER the supplementary planes (UTF-16 order), although their UTF-8 bytes sort before. -/
example : valid (encode [0xE000]) = true ∧ valid (encode [0x10000]) = true ∧
    compareUTF16 (encode [0xE000]) (encode [0x10000]) = 1 ∧ encode [0xE000] < encode [0x10000] := by decide

/-- `utf16` is injective on well-formed UTF-8. -/
theorem utf16_injective (x y : Bytes) (hx : valid x = true) (hy : valid y = true) (h : utf16 x = utf16 y) : x = y :=
  utf16_inj hx hy h

/-- The result is always -1, 0 or +1 (arbitrary bytes). -/
theorem cmp16_range (x y : Bytes) : compareUTF16 x y = -1 ∨ compareUTF16 x y = 0 ∨ compareUTF16 x y = 1 :=
  go_range _ _ _

/-- Reflexive on arbitrary bytes (ill-formed UTF-8 included). -/
theorem cmp16_refl (x : Bytes) : compareUTF16 x x = 0 := go_self _ _

/-- Antisymmetric under swapping the arguments, on arbitrary bytes. -/
theorem cmp16_swap (x y : Bytes) : compareUTF16 y x = - compareUTF16 x y :=
  compareUTF16_swap x y

/-- Total on arbitrary bytes. -/
theorem cmp16_total (x y : Bytes) : compareUTF16 x y ≤ 0 ∨ compareUTF16 y x ≤ 0 := by
  rw [cmp16_swap x y]
  rcases cmp16_range x y with h | h | h <;> omega

/-- On well-formed UTF-8 only equal strings compare equal. -/
theorem cmp16_antisymm (x y : Bytes) (hx : valid x = true) (hy : valid y = true)
    (h : compareUTF16 x y = 0) : x = y := by
  rw [cmp16_spec x y hx hy, ← lexCmp_compare] at h
  exact utf16_injective x y hx hy (lexCmp_eq_zero.mp h)

/-- Transitive on well-formed UTF-8: with `cmp16_total` and `cmp16_antisymm`, a total order. -/
theorem cmp16_trans (x y z : Bytes) (hx : valid x = true) (hy : valid y = true) (hz : valid z = true)
    (h1 : compareUTF16 x y ≤ 0) (h2 : compareUTF16 y z ≤ 0) : compareUTF16 x z ≤ 0 := by
  rw [cmp16_spec _ _ hx hy, ← lexCmp_compare] at h1
  rw [cmp16_spec _ _ hy hz, ← lexCmp_compare] at h2
  rw [cmp16_spec _ _ hx hz, ← lexCmp_compare]
  exact lexCmp_le_trans h1 h2

example : valid [0x61] = true ∧ valid [0xC3, 0xA9] = true ∧ valid [0xF0, 0x9F, 0x98, 0x80] = true ∧
    compareUTF16 [0x61] [0xC3, 0xA9] ≤ 0 ∧ compareUTF16 [0xC3, 0xA9] [0xF0, 0x9F, 0x98, 0x80] ≤ 0 := by decide

/-- Antisymmetry genuinely needs well-formedness: a truncated sequence compares equal to U+FFFD. -/
example : compareUTF16 [0xEF] [0xEF, 0xBF, 0xBD] = 0 := by decide

/-! ### The member sort of `mustReorderObjectsFromDecoder` (all member lists, all lengths) -/

/-- `reorder_perm`: the reordered members are a permutation of the parsed members. -/
theorem reorder_perm (ms : List Member) : (reorder ms).Perm ms := by
  unfold reorder
  split
  · exact List.Perm.refl _
  · exact sortMembers_perm ms

/-- `reorder_sorted`: in the output every earlier member is ≤ every later one under `objectMember.Compare`,
and in particular the names are non-decreasing in the RFC 8785 order (UTF-16 code units of the unescaped names). -/
theorem reorder_sorted (ms : List Member) (hv : ∀ m ∈ ms, WF m) :
    (reorder ms).Pairwise (fun a b => memberCompare a b ≤ 0) ∧
    (reorder ms).Pairwise (fun a b => lexCmp (utf16 a.name) (utf16 b.name) ≤ 0) := by
  rw [reorder_eq_sort ms hv]
  exact ⟨sortMembers_pairwise ms hv, sortMembers_names ms hv⟩

/-- With duplicate-free names (what I-JSON requires) the output names are STRICTLY increasing. -/
theorem reorder_strict (ms : List Member) (hv : ∀ m ∈ ms, WF m) (hd : (ms.map (·.name)).Nodup) :
    (reorder ms).Pairwise (fun a b => lexCmp (utf16 a.name) (utf16 b.name) < 0) :=
  reorder_before ⟨fun m hm => (hv m hm).1, hd⟩

/-- `reorder_unique`: for duplicate-free names the result depends only on the SET of members, not on the order
in which they were written: any permutation of the input is reordered to the same list. -/
theorem reorder_unique (ms ms' : List Member) (hv : ∀ m ∈ ms, WF m) (hd : (ms.map (·.name)).Nodup)
    (hp : ms'.Perm ms) : reorder ms' = reorder ms :=
  have h : Distinct id ms := ⟨fun m hm => (hv m hm).1, hd⟩
  before_unique (reorder_before (h.perm hp)) (reorder_before h)
    (((reorder_perm ms').trans hp).trans (reorder_perm ms).symm)

/-- The hypotheses are satisfiable, and the sort really moves members: `{"\uE000":1,"😀":2}` (U+E000 before
U+1F600 in UTF-8 byte order) is reordered so that U+1F600 (units D83D DE00) comes first. -/
example :
    let a : Member := ⟨[0xEE, 0x80, 0x80], [0x22, 0x5C, 0x75, 0x45, 0x30, 0x30, 0x30, 0x22, 0x3A, 0x31]⟩
    let b : Member := ⟨[0xF0, 0x9F, 0x98, 0x80], [0x2C, 0x22, 0xF0, 0x9F, 0x98, 0x80, 0x22, 0x3A, 0x32]⟩
    WF a ∧ WF b ∧ ([a, b].map (·.name)).Nodup ∧ isSorted [a, b] = false ∧ isSorted [b, a] = true ∧
      memberLe b a = true ∧ memberLe a b = false := by
  refine ⟨⟨by decide, by decide⟩, ⟨by decide, by decide⟩, by decide, by decide, by decide, by decide, by decide⟩

/-! ## Value.Canonicalize as a whole (model: Model/Canon.lean, tied by the `cmp canon` correspondence)

`canonicalize fp b` = tokenize (C12) → parse into a tree → `strict` (I-JSON) → `respell` every literal →
`sortTree` (the reordering above, innermost objects first) → compact rendering (C12).  `fp : FloatCodec` is the
parameter standing for strconv.ParseFloat and strconv's shortest digits; the structure carries no laws, each
theorem names the law it needs as a hypothesis.  All statements are for ALL byte strings / ALL trees. -/

section Canonicalize
open JsonV.Canon JsonV.Model.Quote JsonV.Spec.StringSpec
open JsonV.Fmt
open JsonV.Lemmas.CanonTree JsonV.Lemmas.CanonAtom JsonV.Lemmas.CanonSort JsonV.Lemmas.CanonForm JsonV.Lemmas.CanonParse
open JsonV.Lemmas.CanonRound JsonV.Lemmas.CanonLex JsonV.Lemmas.CanonNest
open JsonV.Props.C10Glue JsonV.Lemmas.NumFloat JsonV.Lemmas.NumReformat

/-- What a successful call returns: the compact rendering of the canonical tree of a strict input. -/
theorem canonicalize_eq_some (fp : FloatCodec) (b c : Bytes) :
    canonicalize fp b = some c ↔ ∃ t, parseText b = some t ∧ strict t = true ∧ c = renderCompact (canonTree fp t).toks := by
  unfold canonicalize
  cases hp : parseText b with
  | none => simp
  | some t =>
    by_cases hs : strict t = true
    · simp only [hs, if_true, Option.some.injEq]
      constructor
      · intro h; exact ⟨t, rfl, hs, h.symm⟩
      · rintro ⟨t', e, _, rfl⟩; cases e; rfl
    · simp only [hs, Bool.false_eq_true, if_false]
      constructor
      · intro h; cases h
      · rintro ⟨t', e, hs', _⟩; cases e; exact absurd hs' hs

/-- `canon_sorted`: in the canonical tree the members of every object, at every depth, are strictly increasing in
the UTF-16 code-unit order of their unescaped names. -/
theorem canon_sorted (fp : FloatCodec) (t : JV) (h : strict t = true) : SortedT (canonTree fp t) :=
  (good_sortTree _ (namesOK_respell fp t h)).1

/-- `canon_strings_minimal`: every string literal of the output (member names included) is the RFC 8785 §3.2.2.2
serialisation `canonQuote` of the text of an input literal, that text is well-formed UTF-8, and the output literal
unquotes to exactly that text (so it is `canonQuote` of its own meaning). -/
theorem canon_strings_minimal (fp : FloatCodec) (t : JV) (h : strict t = true) (r : Bytes)
    (hr : Tok.str r ∈ (canonTree fp t).toks) :
    ∃ lit, Tok.str lit ∈ t.toks ∧ r = canonQuote (unq lit) ∧ valid (unq lit) = true ∧
      appendUnquote r = (unq lit, Err.ok) ∧ r = canonQuote (appendUnquote r).1 := by
  obtain ⟨k, hk, e⟩ := mem_toks_canonTree.mp hr
  obtain ⟨lit, rfl, rfl⟩ := canonAtom_eq_str e
  have ok := strict_toks t h lit hk
  refine ⟨lit, hk, canonStr_minimal lit, ((strOK_iff lit).mp ok).2, unquote_canonStr lit ok, ?_⟩
  rw [unquote_canonStr lit ok]; exact canonStr_minimal lit

/-! #### numbers: one definition, C10's

The number step of the model IS slice C10's model of `jsonwire.ReformatNumber` with both canonicalize flags set
(`canonNum` unfolds to it by `rfl`: the model has no second copy of the `n < 16` shortcut).  The proofs spell that
test twice, as `shortInt` and as `verbatimB true true` (both of Lemmas/NumReformat); `verbatimB_on` identifies the two.  Everything C13 says about numbers is a corollary of C10's
`reformat_cases` / `reformat_number_spec` / `reformat_canonical` / `reformat_idempotent`. -/

theorem canonNum_is_reformat (fp : FloatCodec) (lit : Bytes) :
    canonNum fp lit = JsonV.Model.Number.reformatNumber fp.parse fp.append true true lit := rfl

/-- C10's closed form at `ci = cf = true`. -/
theorem canonNum_cases (fp : FloatCodec) (lit : Bytes) :
    canonNum fp lit = if shortInt lit then lit else fp.append (numValue fp lit) :=
  canonNum_eq fp lit

/-- A valid number token is a number of the grammar (`num_valid_iff` of Lemmas/GlueFormatNum). -/
theorem jnumber_of_valid (lit : Bytes) (h : (Tok.num lit).valid = true) : JsonV.Spec.Grammar.JNumber lit :=
  (num_valid_iff lit).1 h

/-- C10's `reformat_number_spec`: a canonicalized number token is a number token again. -/
theorem canonNum_valid (fp : FloatCodec) (hw : ∀ f, WFD (fp.shortest f).1 (fp.shortest f).2) (lit : Bytes)
    (h : (Tok.num lit).valid = true) : (Tok.num (canonNum fp lit)).valid = true :=
  canonAtom_valid fp hw (.num lit) h

/-- `canon_numbers_ecma`: every number literal of the output comes from an input literal `lit` and is the
ECMA-262 Number::toString layout of the shortest decimal of `numValue fp lit` (ParseFloat, −0 → 0, ±Inf → ±MaxFloat64)
— except that an integer literal of fewer than 16 characters (other than `-0`) is copied verbatim (the shortcut of
`ReformatNumber`; that such a literal is already its own ECMAScript form is an IEEE-754 fact, validated only).
The only law used: the digit generator returns well-formed decompositions. -/
theorem canon_numbers_ecma (fp : FloatCodec)
    (hfp : ∀ f, JsonV.Lemmas.NumFloat.WFD (fp.shortest f).1 (fp.shortest f).2)
    (t : JV) (r : Bytes) (hr : Tok.num r ∈ (canonTree fp t).toks) :
    ∃ lit, Tok.num lit ∈ t.toks ∧
      ((shortInt lit = true ∧ r = lit) ∨
       (shortInt lit = false ∧
         r = JsonV.Spec.Ecma.numberToString (numValue fp lit).neg (fp.shortest (numValue fp lit)).1
               (fp.shortest (numValue fp lit)).2)) := by
  obtain ⟨k, hk, e⟩ := mem_toks_canonTree.mp hr
  obtain ⟨lit, rfl, e'⟩ := canonAtom_eq_num e
  refine ⟨lit, hk, ?_⟩
  rw [canonNum_cases] at e'
  by_cases hs : shortInt lit = true
  · rw [if_pos hs] at e'; exact Or.inl ⟨hs, e'.symm⟩
  · rw [if_neg hs] at e'
    exact Or.inr ⟨by simpa using hs, by rw [← e', append_ecma fp _ (hfp _)]⟩

/-- `canon_tree_idem`, the tree level of `canon_idem`: the canonical tree is strict again and is its own canonical tree.  The float
parameter enters only through C10's `CodecLaws` (well-formed shortest digits; the canonical spelling of a value
reads back as that value), from which C10's `reformat_idempotent` gives that a canonical number literal is
re-spelled as itself. -/
theorem canon_tree_idem (fp : FloatCodec) (hc : CodecLaws fp) (t : JV) (h : strict t = true) :
    strict (canonTree fp t) = true ∧ canonTree fp (canonTree fp t) = canonTree fp t := by
  have good := good_sortTree _ (namesOK_respell fp t h)
  have hstr : ∀ r, Tok.str r ∈ (canonTree fp t).toks → strOK r = true := fun r hr => by
    obtain ⟨k, hk, e⟩ := mem_toks_canonTree.mp hr
    obtain ⟨lit, rfl, rfl⟩ := canonAtom_eq_str e
    exact strOK_canonStr lit (strict_toks t h lit hk)
  refine ⟨strict_of _ hstr good.2, ?_⟩
  show sortTree (respell fp (canonTree fp t)) = canonTree fp t
  rw [respell_fixed fp _ fun k hk => ?_]
  · exact sortTree_fixed _ good.2 good.1
  · obtain ⟨k0, hk0, rfl⟩ := mem_toks_canonTree.mp hk
    exact canonAtom_idem fp (reformat_idempotent fp hc true true) k0 fun lit e => strict_toks t h lit (e ▸ hk0)

/-- `canon_tree_class`, the tree level of `canon_class`: canonically equivalent strict trees have the same canonical tree. -/
theorem canon_tree_class (fp : FloatCodec) (t u : JV) (ht : strict t = true) (he : CanonEquiv fp t u) :
    canonTree fp t = canonTree fp u :=
  sortTree_permEq _ _ (namesOK_respell fp t ht) he

/-- `canon_class`: two texts whose trees are canonically equivalent — they differ only in whitespace, in the order
of members, in the spelling of strings with the same text and in the spelling of numbers with the same value —
canonicalize to identical bytes. -/
theorem canon_class (fp : FloatCodec) (b₁ b₂ : Bytes) (t u : JV) (h₁ : parseText b₁ = some t) (h₂ : parseText b₂ = some u)
    (st : strict t = true) (su : strict u = true) (he : CanonEquiv fp t u) :
    canonicalize fp b₁ = canonicalize fp b₂ ∧ (canonicalize fp b₁).isSome = true := by
  unfold canonicalize
  rw [h₁, h₂]
  simp only [st, su, if_true, canon_tree_class fp t u st he, Option.isSome_some, and_self]

/-- String literals with the same text are interchangeable … -/
theorem respell_congr_str (fp : FloatCodec) (a b : Bytes) (h : unq a = unq b) :
    canonAtom fp (.str a) = canonAtom fp (.str b) := by
  simp only [canonAtom]; rw [canonStr_congr a b h]

/-- … in particular literals with the same RFC 8259 meaning (C11's `StringLiteral`, via `unquote_meaning`). -/
theorem respell_congr_meaning (fp : FloatCodec) (a b m : Bytes) (ha : StringLiteral a m) (hb : StringLiteral b m) :
    canonAtom fp (.str a) = canonAtom fp (.str b) := by
  simp only [canonAtom]; rw [canonStr_of_meaning a b m ha hb]

/-- The IEEE-754 fact behind the `n < 16` shortcut, as a law of the float parameter: an INTEGER LITERAL
(`-? (0 | [1-9][0-9]*)`, C10's `isIntLit`) of fewer than 16 characters, other than `-0`, is already the canonical
spelling of its value.  The guard matters: `shortInt` alone also holds of byte strings that are not numbers.
Validated by the harness for strconv (not proved); proved for the exact integer codec in `shortInt_exact_codec`. -/
def ShortIntFixed (fp : FloatCodec) : Prop :=
  ∀ lit, JsonV.Spec.Ecma.isIntLit lit = true → shortInt lit = true → fp.append (numValue fp lit) = lit

/-- … and number literals (of the JSON grammar: what the tokenizer accepts) with the same float64 value are
interchangeable (relative to `ShortIntFixed`). -/
theorem respell_congr_num (fp : FloatCodec) (hs : ShortIntFixed fp) (a b : Bytes)
    (ha : JsonV.Spec.Grammar.JNumber a) (hb : JsonV.Spec.Grammar.JNumber b) (h : numValue fp a = numValue fp b) :
    canonAtom fp (.num a) = canonAtom fp (.num b) := by
  have e : ∀ lit, JsonV.Spec.Grammar.JNumber lit → canonNum fp lit = fp.append (numValue fp lit) :=
    fun lit hj => reformat_canonical fp hs lit hj
  simp only [canonAtom]; rw [e a ha, e b hb, h]


/-- The hypotheses are satisfiable: `{"b":"A", "a" : 1}` parses to a strict tree whose tokens are those of
`t`, and `u` = `{"a":1,"b":"A"}` is strict as well. -/
example :
    let t : JV := .obj [([0x22, 0x62, 0x22], .atom (.str [0x22, 0x5c, 0x75, 0x30, 0x30, 0x34, 0x31, 0x22])),
                        ([0x22, 0x61, 0x22], .atom (.num [0x31]))]
    let u : JV := .obj [([0x22, 0x61, 0x22], .atom (.num [0x31])), ([0x22, 0x62, 0x22], .atom (.str [0x22, 0x41, 0x22]))]
    (parseText [0x7b, 0x22, 0x62, 0x22, 0x3a, 0x22, 0x5c, 0x75, 0x30, 0x30, 0x34, 0x31, 0x22, 0x2c, 0x20, 0x22, 0x61, 0x22,
        0x20, 0x3a, 0x20, 0x31, 0x7d]).map (fun x => (x.toks, strict x)) = some (t.toks, true) ∧ strict u = true := by
  decide +kernel

/-- `canon_no_ws`: the output is the bare concatenation of its tokens and the `,` / `:` the grammar requires, and
none of these lexemes other than a string literal contains a whitespace byte. -/
theorem canon_no_ws (fp : FloatCodec) (hw : ∀ f, WFD (fp.shortest f).1 (fp.shortest f).2) (b c : Bytes)
    (h : canonicalize fp b = some c) :
    ∃ ts, c = ((punct [.top0] ts).map Lex.bytes).flatten ∧
      ∀ l ∈ punct [.top0] ts, (∀ raw, l ≠ .tok (.str raw)) → ∀ x ∈ l.bytes, isWs x = false := by
  obtain ⟨t, hp, _, rfl⟩ := (canonicalize_eq_some fp b c).mp h
  exact ⟨_, JsonV.Props.C12.compact_no_ws _ (valid_canonTree fp hw t (parseText_wellNested b t hp).2.2.1)⟩

/-- `canon_roundtrip`: the output text tokenizes (C12's tokenizer) to exactly the tokens of the canonical tree and
parses back to that tree — so every statement above about the tokens of `canonTree fp t` is a statement about
the tokens of the returned bytes. -/
theorem canon_roundtrip (fp : FloatCodec) (hw : ∀ f, WFD (fp.shortest f).1 (fp.shortest f).2) (b c : Bytes)
    (h : canonicalize fp b = some c) :
    ∃ t, parseText b = some t ∧ strict t = true ∧ c = renderCompact (canonTree fp t).toks ∧
      tokenize c = some (canonTree fp t).toks ∧ parseText c = some (canonTree fp t) := by
  obtain ⟨t, hp, hs, rfl⟩ := (canonicalize_eq_some fp b c).mp h
  obtain ⟨_, hat, hv, hacc⟩ := parseText_wellNested b t hp
  obtain ⟨hacc', hat'⟩ := accepts_canonTree fp t hat hacc
  have htok := JsonV.Props.C12.tokenize_renderCompact _ ⟨valid_canonTree fp hw t hv, hacc'⟩
  refine ⟨t, hp, hs, rfl, htok, ?_⟩
  unfold parseText
  rw [htok]
  exact parse_toks_self _ hat'

/-- `canon_idem`: canonicalizing the output again succeeds and returns the same bytes. -/
theorem canon_idem (fp : FloatCodec) (hl : CodecLaws fp) (b c : Bytes)
    (h : canonicalize fp b = some c) : canonicalize fp c = some c := by
  obtain ⟨t, _, hs, hc, _, hp⟩ := canon_roundtrip fp hl.wfd b c h
  obtain ⟨hs', hid⟩ := canon_tree_idem fp hl t hs
  unfold canonicalize
  rw [hp]
  simp only [hs', if_true, hid, hc]

/-- The laws named as hypotheses above are satisfiable: trivially by the degenerate codec that reads every
literal as 0 (C10Glue's example), and — the integer fragment, PROVED rather than assumed — by the exact integer
codec of `shortInt_exact_codec` below. -/
example : CodecLaws ⟨fun _ => ⟨false, false, 0, 0⟩, fun _ => ([], 0)⟩ :=
  ⟨fun _ => (show WFD [] 0 from ⟨by simp, by simp, fun _ => rfl, by omega, by omega⟩), fun _ => rfl⟩

/-- `shortInt_exact_codec`: for the exact integer codec (`Lemmas/CanonIntCodec.lean`: an integer literal of at most
16 digits reads as that integer, an integer is written as its decimal digits — strconv's behaviour on the integers
below 2^53) every law the theorems above assume of the float parameter is PROVED, not assumed: well-formed
shortest digits, the re-read law (`CodecLaws`), and the `n < 16` shortcut (`ShortIntFixed`).  So `canon_no_ws`,
`canon_roundtrip`, `canon_idem`, `canon_numbers_ecma` and `respell_congr_num` hold unconditionally for every text
whose numbers are such integers. -/
theorem shortInt_exact_codec :
    CodecLaws JsonV.Lemmas.CanonIntCodec.intCodec ∧ ShortIntFixed JsonV.Lemmas.CanonIntCodec.intCodec :=
  ⟨JsonV.Lemmas.CanonIntCodec.intCodec_laws, JsonV.Lemmas.CanonIntCodec.intCodec_shortInt⟩

/-- the codec is not degenerate: `-9007199254740991` and `120` read as themselves and are written back unchanged -/
example :
    (numValue JsonV.Lemmas.CanonIntCodec.intCodec [45, 57, 48, 48, 55, 49, 57, 57, 50, 53, 52, 55, 52, 48, 57, 57, 49]).mant
      = 9007199254740991 ∧
    JsonV.Spec.Ecma.isIntLit [49, 50, 48] = true ∧ shortInt [49, 50, 48] = true := by decide

/-- and the model accepts and canonicalizes a concrete text: `{ "a":"A", "b" : [ true ] }` ↦ `{"a":"A","b":[true]}`
(an input whose members are out of order goes through `List.mergeSort`, which `decide` cannot unfold; the
`cmp canon` correspondence exercises those). -/
example :
    canonicalize ⟨fun _ => ⟨false, false, 0, 0⟩, fun _ => ([], 0)⟩
      [0x7b, 0x20, 0x22, 0x61, 0x22, 0x3a, 0x22, 0x5c, 0x75, 0x30, 0x30, 0x34, 0x31, 0x22, 0x2c, 0x20, 0x22, 0x62, 0x22, 0x20, 0x3a, 0x20,
       0x5b, 0x20, 0x74, 0x72, 0x75, 0x65, 0x20, 0x5d, 0x20, 0x7d]
    = some [0x7b, 0x22, 0x61, 0x22, 0x3a, 0x22, 0x41, 0x22, 0x2c, 0x22, 0x62, 0x22, 0x3a, 0x5b, 0x74, 0x72, 0x75, 0x65, 0x5d, 0x7d] := by
  decide +kernel

end Canonicalize

end JsonV.Props.C13
