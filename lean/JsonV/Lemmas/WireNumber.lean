/-
Numbers: a DFA of nine live states and `dead` (`δ`, `run`, `acc`) for the grammar `JNumber` of Spec/Grammar.lean, only a proof device
(`jnumber_iff_acc`, `numPrefix_iff_live`), and `scan s b`, the longest match of the automaton from state `s`, against which every
recogniser of number literals is measured: from the start state it is the grammar with maximal munch (`scan_start`), and a
recogniser written by recursive descent is proved EQUAL to it by one walk along its branches, computing `δ` at each byte test.
Single-byte facts come from one `decide +kernel` sweep over the 256 bytes (`cls_table`).
-/
import JsonV.Model.WireDecode
import JsonV.Lemmas.GrammarL
import JsonV.Lemmas.Basics

namespace JsonV.Lemmas.WireNumber
open JsonV JsonV.Model.Wire JsonV.Spec.Grammar

inductive Cls | minus | plus | dot | zero | d19 | e | other
  deriving DecidableEq

def cls (c : UInt8) : Cls :=
  if c == 0x2D then .minus else if c == 0x2B then .plus else if c == 0x2E then .dot
  else if c == 0x30 then .zero else if isDigit19 c then .d19
  else if c == 0x65 || c == 0x45 then .e else .other

theorem cls_table : ∀ c : UInt8,
    (c == 0x2D) = (cls c == .minus) ∧ (c == 0x2B) = (cls c == .plus) ∧ (c == 0x2E) = (cls c == .dot) ∧
    (c == 0x30) = (cls c == .zero) ∧ isDigit19 c = (cls c == .d19) ∧ isDigit c = (cls c == .zero || cls c == .d19) ∧
    (c == 0x65 || c == 0x45) = (cls c == .e) := by
  apply forall_u8; decide +kernel

theorem cls_minus : ∀ c : UInt8, (c == 0x2D) = (cls c == .minus) := fun c => (cls_table c).1
theorem cls_plus : ∀ c : UInt8, (c == 0x2B) = (cls c == .plus) := fun c => (cls_table c).2.1
theorem cls_dot : ∀ c : UInt8, (c == 0x2E) = (cls c == .dot) := fun c => (cls_table c).2.2.1
theorem cls_zero : ∀ c : UInt8, (c == 0x30) = (cls c == .zero) := fun c => (cls_table c).2.2.2.1
theorem cls_d19 : ∀ c : UInt8, isDigit19 c = (cls c == .d19) := fun c => (cls_table c).2.2.2.2.1
theorem cls_digit : ∀ c : UInt8, isDigit c = (cls c == .zero || cls c == .d19) := fun c => (cls_table c).2.2.2.2.2.1
theorem cls_e : ∀ c : UInt8, (c == 0x65 || c == 0x45) = (cls c == .e) := fun c => (cls_table c).2.2.2.2.2.2
theorem cls_ne_dot : ∀ c : UInt8, (c != 0x2E) = !(cls c == .dot) := by
  intro c; rw [bne, cls_dot]
theorem cls_ne_e : ∀ c : UInt8, (c != 0x65 && c != 0x45) = !(cls c == .e) := by
  intro c; rw [← cls_e, Bool.not_or]; rfl

theorem digit_iff (c : UInt8) : Digit c ↔ isDigit c = true := by simp [Digit, isDigit]
theorem digit19_iff (c : UInt8) : Digit19 c ↔ isDigit19 c = true := by simp [Digit19, isDigit19]
theorem eq_iff_beq (c k : UInt8) : c = k ↔ (c == k) = true := by simp

/-- what the class says about the byte -/
def ClsSpec : Cls → UInt8 → Prop
  | .minus, c => c = 0x2D
  | .plus, c => c = 0x2B
  | .dot, c => c = 0x2E
  | .zero, c => c = 0x30
  | .d19, c => Digit19 c
  | .e, c => c = 0x65 ∨ c = 0x45
  | .other, _ => True

theorem cls_spec (c : UInt8) : ClsSpec (cls c) c := by
  have test {t : Bool} {k : Cls} (h : t = (cls c == k)) (hk : cls c = k) : t = true := by rw [h, hk, beq_self_eq_true]
  generalize hk : cls c = k
  cases k
  · exact eq_of_beq (test (cls_minus c) hk)
  · exact eq_of_beq (test (cls_plus c) hk)
  · exact eq_of_beq (test (cls_dot c) hk)
  · exact eq_of_beq (test (cls_zero c) hk)
  · exact (digit19_iff c).2 (test (cls_d19 c) hk)
  · exact (Bool.or_eq_true_iff.1 (test (cls_e c) hk)).imp eq_of_beq eq_of_beq
  · trivial

/-- the states, named after what was read last; `dead`: no number begins like this -/
inductive St | start | minus | zero | int | dot | frac | e | esign | exp | dead
  deriving DecidableEq

def step : St → Cls → St
  | .start, .minus => .minus | .start, .zero => .zero | .start, .d19 => .int
  | .minus, .zero => .zero | .minus, .d19 => .int
  | .zero, .dot => .dot | .zero, .e => .e
  | .int, .zero => .int | .int, .d19 => .int | .int, .dot => .dot | .int, .e => .e
  | .dot, .zero => .frac | .dot, .d19 => .frac
  | .frac, .zero => .frac | .frac, .d19 => .frac | .frac, .e => .e
  | .e, .minus => .esign | .e, .plus => .esign | .e, .zero => .exp | .e, .d19 => .exp
  | .esign, .zero => .exp | .esign, .d19 => .exp
  | .exp, .zero => .exp | .exp, .d19 => .exp
  | _, _ => .dead

def δ (s : St) (c : UInt8) : St := step s (cls c)

/-- the state reached from `s` by reading the bytes -/
def run (s : St) : Bytes → St
  | [] => s
  | c :: r => run (δ s c) r

/-- what was read from `.start` is a complete number -/
def acc : St → Bool
  | .zero | .int | .frac | .exp => true
  | _ => false

theorem run_append (s : St) (p q : Bytes) : run s (p ++ q) = run (run s p) q := by
  induction p generalizing s with
  | nil => rfl
  | cons c p ih => simp [run, ih]

theorem run_dead (p : Bytes) : run .dead p = .dead := by
  induction p with
  | nil => rfl
  | cons c p ih => simp only [run, δ]; cases cls c <;> exact ih

theorem step_dead (k : Cls) : step .dead k = .dead := by cases k <;> rfl

/-! `δ` from the scanner's own byte tests: a `cls_*` equation turns the test into the class. -/

theorem δ_of_test {c : UInt8} {t : Bool} {k : Cls} (hk : t = (cls c == k)) (ht : t = true) (s : St) :
    δ s c = step s k := by
  have h : (cls c == k) = true := hk ▸ ht
  rw [δ, eq_of_beq h]

theorem δ_digit {c : UInt8} (h : isDigit c = true) {s : St} (hs : step s .zero = step s .d19) :
    δ s c = step s .d19 := by
  rw [cls_digit, Bool.or_eq_true] at h
  rcases h with h | h
  · rw [δ_of_test rfl h, hs]
  · rw [δ_of_test rfl h]

theorem δ_digit_loop {c : UInt8} {s : St} (hs : s = .int ∨ s = .frac ∨ s = .exp) (h : isDigit c = true) : δ s c = s := by
  rw [δ_digit h (by rcases hs with rfl | rfl | rfl <;> rfl)]
  rcases hs with rfl | rfl | rfl <;> rfl

theorem δ_nondigit {c : UInt8} (h : ¬ isDigit c = true) {s : St} (hs : s = .dot ∨ s = .esign ∨ s = .exp) :
    δ s c = .dead := by
  rw [cls_digit] at h
  unfold δ
  generalize cls c = k at h
  rcases hs with rfl | rfl | rfl <;> cases k <;> simp_all [step]

theorem δ_e_dead {d : UInt8} (hS : ¬ (d == 0x2D || d == 0x2B) = true) (hD : ¬ isDigit d = true) : δ .e d = .dead := by
  rw [cls_digit] at hD
  rw [cls_minus, cls_plus] at hS
  unfold δ
  generalize cls d = k at hD hS
  cases k <;> simp_all [step]

theorem δ_mantissa_dead {c : UInt8} {s : St} (hs : s = .zero ∨ s = .int ∨ s = .frac)
    (hE : ¬ (c == 0x65 || c == 0x45) = true) (h1 : s ≠ .zero → isDigit c = false)
    (h2 : s ≠ .frac → (c == 0x2E) = false) : δ s c = .dead := by
  rw [cls_e] at hE
  rw [cls_digit] at h1
  rw [cls_dot] at h2
  unfold δ
  generalize cls c = k at hE h1 h2
  rcases hs with rfl | rfl | rfl <;> cases k <;> simp_all [step]

theorem δ_e {c : UInt8} (h : c = 0x65 ∨ c = 0x45) (s : St) : δ s c = step s .e := by
  rcases h with rfl | rfl <;> rfl

theorem δ_sign_dead {c : UInt8} {s : St} (hs : s = .start ∨ s = .minus) (hz : ¬ (c == 0x30) = true)
    (h19 : ¬ isDigit19 c = true) (hm : s = .start → (c == 0x2D) = false) : δ s c = .dead := by
  rw [cls_zero] at hz
  rw [cls_d19] at h19
  rw [cls_minus] at hm
  unfold δ
  generalize cls c = k at hz h19 hm
  rcases hs with rfl | rfl <;> cases k <;> simp_all [step]

theorem run_digits (s : St) (hs : s = .int ∨ s = .frac ∨ s = .exp) (ds : Bytes) (h : Digits0 ds) : run s ds = s := by
  induction ds with
  | nil => rfl
  | cons c ds ih =>
    simp only [run, δ_digit_loop hs ((digit_iff c).1 (h c (by simp)))]
    exact ih (fun x hx => h x (by simp [hx]))

theorem acc_of_jexp (s : St) (hs : s = .zero ∨ s = .int ∨ s = .frac) (ex : Bytes) (h : JExp ex) : acc (run s ex) = true := by
  cases h with
  | none => rcases hs with rfl | rfl | rfl <;> rfl
  | some e sign ds he hsign hds =>
    have h1 : δ s e = .e := by
      rw [δ_of_test (cls_e e) (by rcases he with rfl | rfl <;> decide)]
      rcases hs with rfl | rfl | rfl <;> rfl
    obtain ⟨hne, hd0⟩ := hds
    cases ds with
    | nil => exact absurd rfl hne
    | cons d ds =>
      have hd : isDigit d = true := (digit_iff d).1 (hd0 d (by simp))
      have hrest : Digits0 ds := fun x hx => hd0 x (by simp [hx])
      simp only [run, h1]
      rcases hsign with rfl | rfl | rfl
      · have : δ .e d = .exp := δ_digit hd rfl
        simp only [List.nil_append, run, this, run_digits .exp (by simp) ds hrest]; rfl
      · have h2 : δ .e 0x2D = .esign := by decide
        have : δ .esign d = .exp := δ_digit hd rfl
        simp only [List.cons_append, List.nil_append, run, h2, this, run_digits .exp (by simp) ds hrest]; rfl
      · have h2 : δ .e 0x2B = .esign := by decide
        have : δ .esign d = .exp := δ_digit hd rfl
        simp only [List.cons_append, List.nil_append, run, h2, this, run_digits .exp (by simp) ds hrest]; rfl

theorem acc_of_frac_exp (s : St) (hs : s = .zero ∨ s = .int) (f ex : Bytes) (hf : JFrac f) (hx : JExp ex) :
    acc (run s (f ++ ex)) = true := by
  cases hf with
  | none => exact acc_of_jexp s (by rcases hs with rfl | rfl <;> simp) ex hx
  | some ds hds =>
    obtain ⟨hne, hd0⟩ := hds
    cases ds with
    | nil => exact absurd rfl hne
    | cons d ds =>
      have hd : isDigit d = true := (digit_iff d).1 (hd0 d (by simp))
      have hrest : Digits0 ds := fun x hx => hd0 x (by simp [hx])
      have h1 : δ s 0x2E = .dot := by rcases hs with rfl | rfl <;> decide
      have h2 : δ .dot d = .frac := δ_digit hd rfl
      simp only [List.cons_append, run, h1, h2, run_append, run_digits .frac (by simp) ds hrest]
      exact acc_of_jexp .frac (by simp) ex hx

theorem acc_of_jnumber (p : Bytes) (h : JNumber p) : acc (run .start p) = true := by
  cases h with
  | mk minus int frac exp hm hi hf hx =>
    have key : ∀ s, s = .start ∨ s = .minus → acc (run s (int ++ frac ++ exp)) = true := by
      intro s hs
      cases hi with
      | zero =>
        have : δ s 0x30 = .zero := by rcases hs with rfl | rfl <;> decide
        simp only [List.cons_append, List.nil_append, run, this]
        exact acc_of_frac_exp .zero (by simp) frac exp hf hx
      | nonzero d ds hd hds =>
        have hd' : isDigit19 d = true := (digit19_iff d).1 hd
        have : δ s d = .int := by
          rw [δ_of_test (cls_d19 d) hd']
          rcases hs with rfl | rfl <;> rfl
        simp only [List.cons_append, List.append_assoc, run, this, run_append, run_digits .int (by simp) ds hds]
        rw [← run_append]
        exact acc_of_frac_exp .int (by simp) frac exp hf hx
    rcases hm with rfl | rfl
    · simpa using key .start (by simp)
    · have : δ .start 0x2D = .minus := by decide
      simp only [List.append_assoc, List.cons_append, List.nil_append, run, this]
      simpa using key .minus (by simp)

/-- the suffix language of each state, in grammar terms -/
def Suffix : St → Bytes → Prop
  | .start, p => JNumber p
  | .minus, p => ∃ i f ex, JInt i ∧ JFrac f ∧ JExp ex ∧ p = i ++ (f ++ ex)
  | .zero, p => ∃ f ex, JFrac f ∧ JExp ex ∧ p = f ++ ex
  | .int, p => ∃ ds f ex, Digits0 ds ∧ JFrac f ∧ JExp ex ∧ p = ds ++ (f ++ ex)
  | .dot, p => ∃ ds ex, Digits1 ds ∧ JExp ex ∧ p = ds ++ ex
  | .frac, p => ∃ ds ex, Digits0 ds ∧ JExp ex ∧ p = ds ++ ex
  | .e, p => ∃ sign ds, (sign = [] ∨ sign = [0x2D] ∨ sign = [0x2B]) ∧ Digits1 ds ∧ p = sign ++ ds
  | .esign, p => Digits1 p
  | .exp, p => Digits0 p
  | .dead, _ => False

theorem suffix_nil {s : St} (h : acc s = true) : Suffix s [] := by
  cases s <;> first | cases h | skip
  · exact ⟨[], [], .none, .none, rfl⟩
  · exact ⟨[], [], [], Digits0.nil, .none, .none, rfl⟩
  · exact ⟨[], [], Digits0.nil, .none, rfl⟩
  · exact Digits0.nil

/-- One lemma per live transition: a byte of class `k` in front of what may follow `step s k` may follow `s`. -/
theorem suffix_step {s : St} {k : Cls} {c : UInt8} {p : Bytes} (hc : ClsSpec k c) (h : Suffix (step s k) p) :
    Suffix s (c :: p) := by
  cases s <;> cases k <;> first | exact h.elim | skip
  -- start: `-`, `0`, `1`–`9`
  · obtain ⟨i, f, ex, hi, hf, hx, rfl⟩ := h
    exact hc ▸ JNumber.mk' (.inr rfl) hi hf hx
  · obtain ⟨f, ex, hf, hx, rfl⟩ := h
    exact hc ▸ JNumber.mk' (m := []) (.inl rfl) .zero hf hx
  · obtain ⟨ds, f, ex, hd, hf, hx, rfl⟩ := h
    exact JNumber.mk' (m := []) (.inl rfl) (.nonzero c ds hc hd) hf hx
  -- minus: `0`, `1`–`9`
  · obtain ⟨f, ex, hf, hx, rfl⟩ := h
    exact ⟨[0x30], f, ex, .zero, hf, hx, hc ▸ rfl⟩
  · obtain ⟨ds, f, ex, hd, hf, hx, rfl⟩ := h
    exact ⟨c :: ds, f, ex, .nonzero c ds hc hd, hf, hx, rfl⟩
  -- zero: `.`, `e`
  · obtain ⟨ds, ex, hd, hx, rfl⟩ := h
    exact ⟨0x2E :: ds, ex, .some ds hd, hx, hc ▸ rfl⟩
  · obtain ⟨sign, ds, hs, hd, rfl⟩ := h
    exact ⟨[], c :: (sign ++ ds), .none, .some c sign ds hc hs hd, rfl⟩
  -- int: `.`, digits, `e`
  · obtain ⟨ds, ex, hd, hx, rfl⟩ := h
    exact ⟨[], 0x2E :: ds, ex, Digits0.nil, .some ds hd, hx, hc ▸ rfl⟩
  · obtain ⟨ds, f, ex, hd, hf, hx, rfl⟩ := h
    exact ⟨c :: ds, f, ex, Digits0.cons (hc ▸ Digit.zero) hd, hf, hx, rfl⟩
  · obtain ⟨ds, f, ex, hd, hf, hx, rfl⟩ := h
    exact ⟨c :: ds, f, ex, Digits0.cons hc.digit hd, hf, hx, rfl⟩
  · obtain ⟨sign, ds, hs, hd, rfl⟩ := h
    exact ⟨[], [], c :: (sign ++ ds), Digits0.nil, .none, .some c sign ds hc hs hd, rfl⟩
  -- dot: digits
  · obtain ⟨ds, ex, hd, hx, rfl⟩ := h
    exact ⟨c :: ds, ex, Digits1.cons (hc ▸ Digit.zero) hd, hx, rfl⟩
  · obtain ⟨ds, ex, hd, hx, rfl⟩ := h
    exact ⟨c :: ds, ex, Digits1.cons hc.digit hd, hx, rfl⟩
  -- frac: digits, `e`
  · obtain ⟨ds, ex, hd, hx, rfl⟩ := h
    exact ⟨c :: ds, ex, Digits0.cons (hc ▸ Digit.zero) hd, hx, rfl⟩
  · obtain ⟨ds, ex, hd, hx, rfl⟩ := h
    exact ⟨c :: ds, ex, Digits0.cons hc.digit hd, hx, rfl⟩
  · obtain ⟨sign, ds, hs, hd, rfl⟩ := h
    exact ⟨[], c :: (sign ++ ds), Digits0.nil, .some c sign ds hc hs hd, rfl⟩
  -- e: sign, digits
  · exact ⟨[0x2D], p, .inr (.inl rfl), h, hc ▸ rfl⟩
  · exact ⟨[0x2B], p, .inr (.inr rfl), h, hc ▸ rfl⟩
  · exact ⟨[], c :: p, .inl rfl, Digits1.cons (hc ▸ Digit.zero) h, rfl⟩
  · exact ⟨[], c :: p, .inl rfl, Digits1.cons hc.digit h, rfl⟩
  -- esign, exp: digits
  · exact Digits1.cons (hc ▸ Digit.zero) h
  · exact Digits1.cons hc.digit h
  · exact Digits0.cons (hc ▸ Digit.zero) h
  · exact Digits0.cons hc.digit h

theorem suffix_of_acc {s : St} {p : Bytes} (h : acc (run s p) = true) : Suffix s p := by
  induction p generalizing s with
  | nil => exact suffix_nil h
  | cons c p ih => exact suffix_step (cls_spec c) (ih h)

theorem jnumber_iff_acc (p : Bytes) : JNumber p ↔ acc (run .start p) = true :=
  ⟨acc_of_jnumber p, suffix_of_acc⟩

theorem completion (s : St) (hs : s ≠ .dead) : ∃ q, acc (run s q) = true := by
  cases s
  case dead => exact absurd rfl hs
  case zero => exact ⟨[], rfl⟩
  case int => exact ⟨[], rfl⟩
  case frac => exact ⟨[], rfl⟩
  case exp => exact ⟨[], rfl⟩
  all_goals exact ⟨[0x30], by decide⟩

theorem numPrefix_iff_live (p : Bytes) : NumPrefix p ↔ run .start p ≠ .dead := by
  constructor
  · rintro ⟨q, hq⟩ hd
    have := acc_of_jnumber _ hq
    rw [run_append, hd, run_dead] at this
    exact absurd this (by decide)
  · intro h
    obtain ⟨q, hq⟩ := completion _ h
    exact ⟨q, (jnumber_iff_acc _).2 (by rw [run_append]; exact hq)⟩

theorem live_of_append (s : St) (p q : Bytes) (h : run s (p ++ q) ≠ .dead) : run s p ≠ .dead := by
  intro hd; rw [run_append, hd, run_dead] at h; exact h rfl

theorem live_take (s : St) (b : Bytes) (m n : Nat) (hmn : m ≤ n) (h : run s (b.take n) ≠ .dead) : run s (b.take m) ≠ .dead := by
  have : b.take n = b.take m ++ (b.drop m).take (n - m) := by
    have : n = m + (n - m) := by omega
    rw [this, List.take_add]; simp
  rw [this] at h
  exact live_of_append _ _ _ h

theorem acc_live (s : St) (h : acc s = true) : s ≠ .dead := by
  intro hd; subst hd; exact absurd h (by decide)

/-- the DFA cannot take the next byte (or there is none) -/
def Stops (s : St) (r : Bytes) : Prop :=
  match r with
  | [] => True
  | c :: _ => δ s c = .dead

/-- `p` put in front of the bytes taken -/
def pre (p : Bytes) : Option (Bytes × Bytes) → Option (Bytes × Bytes)
  | some (a, r) => some (p ++ a, r)
  | none => none

/-- where the automaton, in state `s`, would end a literal before `b` -/
def halt (s : St) (b : Bytes) : Option (Bytes × Bytes) := if acc s = true then some ([], b) else none

/-- The longest match from state `s`: the bytes the automaton takes before it would die, and the rest; `none` when the
state reached does not accept. -/
def scan (s : St) : Bytes → Option (Bytes × Bytes)
  | [] => halt s []
  | c :: r => if δ s c = .dead then halt s (c :: r) else pre [c] (scan (δ s c) r)

theorem pre_nil (x : Option (Bytes × Bytes)) : pre [] x = x := by
  rcases x with _ | ⟨a, r⟩ <;> rfl

theorem pre_pre (p q : Bytes) (x : Option (Bytes × Bytes)) : pre p (pre q x) = pre (p ++ q) x := by
  rcases x with _ | ⟨a, r⟩
  · rfl
  · simp only [pre, List.append_assoc]

theorem pre_map_snd (p : Bytes) (x : Option (Bytes × Bytes)) : (pre p x).map Prod.snd = x.map Prod.snd := by
  rcases x with _ | ⟨a, r⟩ <;> rfl

theorem stops_iff (s : St) (t : Bytes) : Stops s t ↔ ∀ c t', t = c :: t' → δ s c = .dead := by
  cases t with
  | nil => exact ⟨fun _ _ _ h => (nomatch h), fun _ => trivial⟩
  | cons c t' => exact ⟨fun h _ _ e => (List.cons.inj e).1 ▸ h, fun h => h c t' rfl⟩

theorem scan_stop {s : St} {t : Bytes} (h : Stops s t) : scan s t = halt s t := by
  cases t with
  | nil => rfl
  | cons c r => exact if_pos h

theorem scan_cons {s s' : St} {c : UInt8} (h : δ s c = s') (hl : s' ≠ .dead) (r : Bytes) :
    scan s (c :: r) = pre [c] (scan s' r) := by
  subst h; exact if_neg hl

theorem scan_eq_some {s : St} {b p t : Bytes} :
    scan s b = some (p, t) ↔ b = p ++ t ∧ acc (run s p) = true ∧ Stops (run s p) t := by
  induction b generalizing s p with
  | nil =>
    constructor
    · intro h
      obtain ⟨ha, hp⟩ := Option.ite_none_right_eq_some.mp h
      cases hp
      exact ⟨rfl, ha, trivial⟩
    · rintro ⟨hb, ha, -⟩
      obtain ⟨rfl, rfl⟩ := List.append_eq_nil_iff.mp hb.symm
      exact if_pos ha
  | cons c r ih =>
    by_cases hd : δ s c = .dead
    · rw [scan_stop (t := c :: r) hd]
      constructor
      · intro h
        obtain ⟨ha, hp⟩ := Option.ite_none_right_eq_some.mp h
        cases hp
        exact ⟨rfl, ha, hd⟩
      · rintro ⟨hb, ha, hst⟩
        cases p with
        | nil => cases hb; exact if_pos ha
        | cons c' p' =>
          obtain ⟨rfl, -⟩ := List.cons.inj hb
          rw [run, hd, run_dead] at ha
          cases ha
    · rw [scan_cons rfl hd]
      constructor
      · intro h
        rcases hx : scan (δ s c) r with _ | ⟨a, t'⟩
        · rw [hx] at h; cases h
        · rw [hx] at h
          cases h
          obtain ⟨rfl, ha, hst⟩ := ih.mp hx
          exact ⟨rfl, ha, hst⟩
      · rintro ⟨hb, ha, hst⟩
        cases p with
        | nil =>
          cases hb
          exact absurd hst hd
        | cons c' p' =>
          obtain ⟨rfl, rfl⟩ := List.cons.inj hb
          rw [ih.mpr ⟨rfl, ha, hst⟩]
          rfl

/-- `t` does not go on the number `p`: maximal munch, as in `JStream` -/
def Ends (p t : Bytes) : Prop := ∀ c t', t = c :: t' → ¬ NumPrefix (p ++ [c])

theorem ends_iff (p t : Bytes) : Ends p t ↔ Stops (run .start p) t := by
  rw [stops_iff]
  refine forall_congr' fun c => forall_congr' fun t' => imp_congr_right fun _ => ?_
  rw [numPrefix_iff_live, run_append, Decidable.not_not]
  rfl

theorem scan_start {b p t : Bytes} : scan .start b = some (p, t) ↔ b = p ++ t ∧ JNumber p ∧ Ends p t := by
  rw [scan_eq_some, jnumber_iff_acc, ends_iff]

theorem scan_append_other {s : St} {b p t r : Bytes} (h : scan s b = some (p, t))
    (hr : t = [] → ∀ c r', r = c :: r' → cls c = .other) : scan s (b ++ r) = some (p, t ++ r) := by
  obtain ⟨rfl, ha, hst⟩ := scan_eq_some.mp h
  refine scan_eq_some.mpr ⟨List.append_assoc .., ha, ?_⟩
  cases t with
  | cons c t' => exact hst
  | nil =>
    rw [List.nil_append, stops_iff]
    intro c r' e
    rw [δ, hr rfl c r' e]
    cases run s p <;> rfl

/-- what is left after the longest match: `scan` for recognisers that return the rest only -/
def rest (s : St) (b : Bytes) : Option Bytes := (scan s b).map Prod.snd

theorem rest_stop {s : St} {t : Bytes} (ha : acc s = true) (h : Stops s t) : rest s t = some t := by
  rw [rest, scan_stop h, halt, if_pos ha]; rfl

theorem rest_stop_none {s : St} {t : Bytes} (ha : acc s = false) (h : Stops s t) : rest s t = none := by
  rw [rest, scan_stop h, halt, if_neg (by rw [ha]; exact Bool.false_ne_true)]; rfl

theorem rest_nil {s : St} (ha : acc s = true) : rest s [] = some [] := rest_stop ha trivial

theorem rest_dead {s : St} {c : UInt8} (ha : acc s = true) (h : δ s c = .dead) (r : Bytes) : rest s (c :: r) = some (c :: r) :=
  rest_stop ha (t := c :: r) h

theorem rest_dead_none {s : St} {c : UInt8} (ha : acc s = false) (h : δ s c = .dead) (r : Bytes) : rest s (c :: r) = none :=
  rest_stop_none ha (t := c :: r) h

theorem rest_cons {s s' : St} {c : UInt8} (h : δ s c = s') (hl : s' ≠ .dead) (r : Bytes) :
    rest s (c :: r) = rest s' r := by
  rw [rest, scan_cons h hl, pre_map_snd]; rfl

theorem rest_eq_some {s : St} {b t : Bytes} : rest s b = some t ↔ ∃ p, scan s b = some (p, t) := by
  rw [rest]
  rcases scan s b with _ | ⟨a, r⟩
  · exact ⟨fun h => (nomatch h), fun ⟨_, h⟩ => (nomatch h)⟩
  · exact ⟨fun h => ⟨a, by cases h; rfl⟩, fun ⟨_, h⟩ => by cases h; rfl⟩

theorem scan_e_nosign {c : UInt8} (h : ¬ (c == 0x2D || c == 0x2B) = true) (r : Bytes) :
    scan .e (c :: r) = scan .esign (c :: r) := by
  have : δ .e c = δ .esign c := by
    by_cases hd : isDigit c = true
    · rw [δ_digit hd rfl, δ_digit hd rfl]; rfl
    · rw [δ_e_dead h hd, δ_nondigit hd (.inr (.inl rfl))]
  show (if δ .e c = .dead then none else _) = (if δ .esign c = .dead then none else _)
  rw [this]

end JsonV.Lemmas.WireNumber
