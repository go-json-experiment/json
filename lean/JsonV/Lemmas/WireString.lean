/-
Strings: the string scanner of Model/WireDecode.lean against `JString` of Spec/Grammar.lean: whatever
`ConsumeString` accepts is a string of the grammar (strict = validateUTF8), and every string of the grammar is accepted.
-/
import JsonV.Model.WireDecode
import JsonV.Spec.Grammar
import JsonV.Lemmas.Basics
import JsonV.Lemmas.JStringLDet
import JsonV.Lemmas.WireStringHead
import JsonV.Gen.Tables

namespace JsonV.Lemmas.WireString
open JsonV JsonV.Model JsonV.Model.Wire JsonV.Spec.Grammar JsonV.Lemmas.QuoteHead
open JsonV.Lemmas.WireStringHead (stringStep_eq)
open JsonV.Spec.StringSpec (simpleEscapes)

theorem hexVal_spec : ∀ c : UInt8, hexVal c = hexSpec c := by
  apply forall_u8; decide +kernel

theorem hexVal_some (c : UInt8) (v : Nat) (h : hexVal c = some v) : HexDigit c ∧ v = hexValue c :=
  hexSpec_eq_some.mp ((hexVal_spec c).symm.trans h)

theorem parseHex_eq (a b c d : UInt8) : parseHexUint16 [a, b, c, d] = hex4Spec a b c d := by
  simp only [parseHexUint16, hexVal_spec, hex4Spec]
  cases hexSpec a <;> cases hexSpec b <;> cases hexSpec c <;> cases hexSpec d <;> rfl

theorem parseHex_some (a b c d : UInt8) (v : Nat) (h : parseHexUint16 [a, b, c, d] = some v) :
    HexDigit a ∧ HexDigit b ∧ HexDigit c ∧ HexDigit d ∧ v = hex4Value a b c d :=
  hex4Spec_eq_some.mp (parseHex_eq a b c d ▸ h)

theorem parseHex_of_hex (a b c d : UInt8) (ha : HexDigit a) (hb : HexDigit b) (hc : HexDigit c) (hd : HexDigit d) :
    parseHexUint16 [a, b, c, d] = some (hex4Value a b c d) :=
  (parseHex_eq a b c d).trans (hex4Spec_of ha hb hc hd)

theorem noEscape_spec (c : UInt8) (h : noEscape c = true) : 0x20 ≤ c ∧ c < 0x80 ∧ c ≠ 0x22 ∧ c ≠ 0x5C := by
  simp only [noEscape, Bool.and_eq_true, decide_eq_true_eq, bne_iff_ne, ne_eq] at h
  exact ⟨h.1.1.2, h.1.1.1, h.2, h.1.2⟩

theorem simpleEscape_of_mem : ∀ p ∈ simpleEscapes, SimpleEscape p.1 := by unfold SimpleEscape; decide

theorem simpleEscape_mem (c : UInt8) (h : SimpleEscape c) : ∃ v, (c, v) ∈ simpleEscapes := by
  rcases h with rfl | rfl | rfl | rfl | rfl | rfl | rfl | rfl
  · exact ⟨0x22, by decide⟩
  · exact ⟨0x5c, by decide⟩
  · exact ⟨0x2f, by decide⟩
  · exact ⟨0x08, by decide⟩
  · exact ⟨0x0c, by decide⟩
  · exact ⟨0x0a, by decide⟩
  · exact ⟨0x0d, by decide⟩
  · exact ⟨0x09, by decide⟩

/-- Model/Quote's `parseHexUint16`, which Lemmas/QuoteHead.lean speaks of, against the grammar. -/
theorem parseHexQ_some {a b c d : UInt8} {v : Nat} (h : Quote.parseHexUint16 [a, b, c, d] = some v) :
    HexDigit a ∧ HexDigit b ∧ HexDigit c ∧ HexDigit d ∧ v = hex4Value a b c d :=
  parseHex_some a b c d v ((WireStringHead.parseHex_eq _).trans h)

theorem parseHexQ_of_hex {a b c d : UInt8} (ha : HexDigit a) (hb : HexDigit b) (hc : HexDigit c) (hd : HexDigit d) :
    Quote.parseHexUint16 [a, b, c, d] = some (hex4Value a b c d) :=
  (WireStringHead.parseHex_eq _).symm.trans (parseHex_of_hex a b c d ha hb hc hd)

theorem jchar_uni {v : Bool} {a b c d : UInt8} {v1 : Nat} (hp : Quote.parseHexUint16 [a, b, c, d] = some v1)
    (hs : v = true → Utf8.isSurrogate v1 = false) : JChar v [0x5C, 0x75, a, b, c, d] := by
  obtain ⟨ha, hb, hc, hd, rfl⟩ := parseHexQ_some hp
  exact .uni a b c d ha hb hc hd fun hv hsur => Bool.false_ne_true ((hs hv).symm.trans (isSurrogate_iff.mpr hsur))

theorem stringStep_spec (v : Bool) (r : Bytes) :
    match stringStep v r with
    | .stop k _ e => (k = 1 ∧ e = .ok ∧ ∃ rest, r = 0x22 :: rest) ∨
        (k = 0 ∧ (e = .eof ∨ e = .invalidEscape ∨ e = .invalidUTF8 ∨ e = .invalidChar))
    | .cont k _ => 1 ≤ k ∧ k ≤ r.length ∧ JChar v (r.take k) := by
  rw [stringStep_eq]
  have hs := headOf_shape r
  generalize headOf r = hd at hs
  cases hs with
  | @plain c t hne =>
    obtain ⟨h1, h2, h3, h4⟩ := noEscape_spec c ((WireStringHead.noEscape_eq c).trans hne)
    exact ⟨Nat.le_refl 1, by simp, .plain c h1 h2 h3 h4⟩
  | close => exact .inl ⟨rfl, rfl, _, rfl⟩
  | @multi c t h0 h1 =>
    obtain ⟨-, hle, hm⟩ := (decodeRune_lead c t h0).resolve_left fun he => by simp [he] at h1
    exact ⟨Nat.le_of_lt h1, hle, .utf8 _ hm⟩
  | simple hm => exact ⟨by decide, by simp, .esc _ (simpleEscape_of_mem _ hm)⟩
  | uni hp hns => exact ⟨by decide, by simp, jchar_uni hp fun _ => hns⟩
  | @pair a b c d e f g h v1 v2 t hp hp2 hsur hdec =>
    cases v with
    | false => exact ⟨by decide, by simp, jchar_uni hp nofun⟩
    | true =>
      obtain ⟨ha, hb, hc, hd, rfl⟩ := parseHexQ_some hp
      obtain ⟨he, hf, hg, hh, rfl⟩ := parseHexQ_some hp2
      obtain ⟨hhi, hlo⟩ := utf16DecodeRune_ok_iff.mp (by simpa using hdec)
      exact ⟨by decide, by simp, .pair a b c d e f g h ha hb hc hd he hf hg hh hhi hlo⟩
  | lone hp =>
    cases v with
    | false => exact ⟨by decide, by simp, jchar_uni hp nofun⟩
    | true => exact .inr ⟨rfl, .inr (.inl rfl)⟩
  | loneEOF hp =>
    cases v with
    | false => exact ⟨by decide, by simp, jchar_uni hp nofun⟩
    | true => exact .inr ⟨rfl, .inl rfl⟩
  | @bad c t h0 =>
    cases v with
    | false => exact ⟨Nat.le_refl 1, by simp, .raw c rfl (by rw [UInt8.le_iff_toNat_le]; exact Nat.le_of_not_lt h0)⟩
    | true => exact .inr ⟨rfl, .inr (.inr (.inl rfl))⟩
  | eof => exact .inr ⟨rfl, .inl rfl⟩
  | badEscape => exact .inr ⟨rfl, .inr (.inl rfl)⟩
  | ctrl => exact .inr ⟨rfl, .inr (.inr (.inr rfl))⟩

theorem step_cont_sound (v : Bool) (r : Bytes) (k : Nat) (f : ValueFlags) (h : stringStep v r = .cont k f) :
    1 ≤ k ∧ k ≤ r.length ∧ JChar v (r.take k) := by
  have := stringStep_spec v r
  rwa [h] at this

theorem step_stop_ok (v : Bool) (r : Bytes) (k : Nat) (f : ValueFlags) (h : stringStep v r = .stop k f .ok) :
    k = 1 ∧ ∃ rest, r = 0x22 :: rest := by
  have := stringStep_spec v r
  rw [h] at this
  rcases this with ⟨h1, -, h2⟩ | ⟨-, h | h | h | h⟩
  · exact ⟨h1, h2⟩
  all_goals cases h

theorem loop_spec (v : Bool) (fuel : Nat) (r : Bytes) (n : Nat) (f : ValueFlags) (e : Err)
    (h : stringLoop v fuel r = (n, f, e)) :
    n ≤ r.length ∧ ∃ body, JChars v body ∧ r.take n = body ++ if e = .ok then [0x22] else [] := by
  induction fuel generalizing r n f e with
  | zero => cases h; exact ⟨Nat.zero_le _, [], .nil, rfl⟩
  | succ fuel ih =>
    have hspec := stringStep_spec v r
    simp only [stringLoop] at h
    cases hs : stringStep v r with
    | stop k f' e' =>
      rw [hs] at h hspec
      cases h
      rcases hspec with ⟨rfl, rfl, rest, rfl⟩ | ⟨rfl, he⟩
      · exact ⟨by simp, [], .nil, rfl⟩
      · exact ⟨Nat.zero_le _, [], .nil, by rcases he with rfl | rfl | rfl | rfl <;> rfl⟩
    | cont k f' =>
      rw [hs] at h hspec
      obtain ⟨hk1, hk2, hch⟩ := hspec
      rcases hl : stringLoop v fuel (r.drop k) with ⟨n', f'', e'⟩
      simp only [hl, Prod.mk.injEq] at h
      obtain ⟨rfl, rfl, rfl⟩ := h
      obtain ⟨hn', body, hb, htake⟩ := ih (r.drop k) n' f'' e' hl
      refine ⟨by simp at hn'; omega, r.take k ++ body, .cons _ _ hch hb, ?_⟩
      rw [List.take_add, htake, List.append_assoc]

theorem consumeString_cons (c : UInt8) (r : Bytes) (v : Bool) :
    consumeString (c :: r) v =
      if c == 0x22 then (1 + (stringLoop v (r.length + 1) r).1, (stringLoop v (r.length + 1) r).2)
      else (0, {}, .invalidChar) := rfl

theorem consumeString_sound (b : Bytes) (v : Bool) (n : Nat) (f : ValueFlags) (h : consumeString b v = (n, f, .ok)) :
    n ≤ b.length ∧ JString v (b.take n) := by
  cases b with
  | nil => cases h
  | cons c r =>
    rw [consumeString_cons] at h
    by_cases hq : (c == 0x22) = true
    · rw [if_pos hq] at h
      obtain rfl : c = 0x22 := eq_of_beq hq
      rcases hl : stringLoop v (r.length + 1) r with ⟨n', f', e'⟩
      rw [hl] at h
      cases h
      obtain ⟨hn', body, hb, htake⟩ := loop_spec v _ r n' f .ok hl
      refine ⟨by rw [List.length_cons]; omega, body, hb, ?_⟩
      rw [Nat.add_comm, List.take_succ_cons, htake]; rfl
    · rw [if_neg hq] at h; cases h

/-- `simpleByte` against the regenerated `escapeASCII[128]` table of jsonwire/encode.go (`escapeASCII[c] == 0`),
compared as whole lists. -/
theorem simpleByte_table :
    (List.range 128).map (fun n => simpleByte (UInt8.ofNat n)) = Gen.jsonwire_escapeASCII.map (· == 0) := by
  decide +kernel

theorem simpleByte_noEscape : ∀ c : UInt8, simpleByte c = true → noEscape c = true := by
  apply forall_u8; decide +kernel

theorem simple_loop (v : Bool) (r : Bytes) (fuel : Nat) (rest : Bytes) (hf : simpleRun r + 1 ≤ fuel)
    (hd : r.drop (simpleRun r) = 0x22 :: rest) : stringLoop v fuel r = (simpleRun r + 1, {}, .ok) := by
  induction r generalizing fuel with
  | nil => simp [simpleRun] at hd
  | cons c r' ih =>
    cases fuel with
    | zero => omega
    | succ fuel =>
      by_cases hs : simpleByte c = true
      · have hne := simpleByte_noEscape c hs
        simp only [simpleRun, hs, if_true, List.drop_succ_cons] at hd hf ⊢
        have := ih fuel (by omega) hd
        simp only [stringLoop, stringStep, hne, if_true, List.drop_succ_cons, List.drop_zero, this]
        refine Prod.ext (by simp; omega) (Prod.ext ?_ rfl)
        rfl
      · simp only [simpleRun, hs, Bool.false_eq_true, if_false, List.drop_zero, List.cons.injEq] at hd ⊢
        obtain ⟨rfl, -⟩ := hd
        have : noEscape 0x22 = false := by decide
        simp [stringLoop, stringStep, this]

theorem simple_string_sound' (b : Bytes) (v : Bool) (hpos : consumeSimpleString b ≠ 0) :
    consumeString b v = (consumeSimpleString b, {}, .ok) := by
  cases b with
  | nil => simp [consumeSimpleString] at hpos
  | cons c r =>
    simp only [consumeSimpleString] at hpos ⊢
    split at hpos
    · rename_i hq
      simp only [hq, if_true]
      split at hpos
      · exact absurd rfl hpos
      · rename_i q rest hd
        split at hpos
        · rename_i hq2
          have : q = 0x22 := by simpa using hq2
          subst this
          simp only [beq_self_eq_true, if_true]
          have hle : simpleRun r ≤ r.length := by
            have : ∀ r : Bytes, simpleRun r ≤ r.length := by
              intro r; induction r with
              | nil => simp [simpleRun]
              | cons c r ih => simp only [simpleRun]; split <;> simp <;> omega
            exact this r
          rw [consumeString_cons, if_pos hq, simple_loop v r (r.length + 1) rest (by omega) hd]
          exact Prod.ext (Nat.add_comm ..) rfl
        · exact absurd rfl hpos
    · exact absurd rfl hpos

/-! Completeness.  The scanner need not cut a body where a given derivation does (without `validate` it reads a well-formed sequence in one step
that the grammar also reads byte by byte), so a step is only shown to continue on every char (`step_char`); that it has then
read a char is `stringStep_spec`, and that the rest of the body is again a body is `JChars.of_prefix`. -/

theorem step_char (v : Bool) {c : Bytes} (hc : JChar v c) (t : Bytes) :
    ∃ k f, ∀ rest, stringStep v (c ++ (t ++ 0x22 :: rest)) = .cont k f := by
  -- a `\uXXXX` escape is read alone unless it starts a surrogate pair under validateUTF8
  have huni {a b c d : UInt8} (ha : HexDigit a) (hb : HexDigit b) (hc : HexDigit c) (hd : HexDigit d) (tail : Bytes)
      (hs : v = true → Utf8.isSurrogate (hex4Value a b c d) = false) :
      stringStep v (0x5C :: 0x75 :: a :: b :: c :: d :: tail) =
        .cont 6 (WireStringHead.esc (Quote.escNonCanon (hex4Value a b c d) [a, b, c, d])) := by
    rw [stringStep_eq, headOf_u]
    simp only [headU, parseHexQ_of_hex ha hb hc hd, apply_ite (WireStringHead.wsOf v)]
    cases v with
    | false => simp only [WireStringHead.wsOf_false_headSurr]; exact ite_self _
    | true => rw [if_neg (by rw [hs rfl]; exact Bool.false_ne_true)]; rfl
  cases hc with
  | plain x h1 h2 h3 h4 =>
    have hne : Quote.noEscape x.toNat = true := (WireStringHead.noEscape_eq x).symm.trans (by simp [noEscape, h1, h2, h3, h4])
    exact ⟨1, {}, fun _ => by rw [List.singleton_append, stringStep_eq, headOf_plain _ hne]; rfl⟩
  | utf8 _ hm =>
    obtain ⟨-, hlen, -⟩ := decodeRune_of_multi c [] hm
    exact ⟨c.length, {}, fun rest => by
      rw [stringStep_eq, headOf_multi _ hlen (Prod.ext rfl (decodeRune_of_multi c _ hm).1)]; rfl⟩
  | raw x hv hx =>
    subst hv
    have hhigh : ¬ x.toNat < Utf8.runeSelf := Nat.not_lt.mpr (UInt8.le_iff_toNat_le.mp hx)
    -- neither `utf8.DecodeRune` nor `utf8.FullRune` looks past an ASCII byte, here the quote
    have hd (rest : Bytes) : Utf8.decodeRune (x :: (t ++ 0x22 :: rest)) = Utf8.decodeRune (x :: t) :=
      Utf8.decodeRune_append_ascii (x :: t) rest 0x22 (by decide) (List.cons_ne_nil _ _)
    have hf (rest : Bytes) : Utf8.fullRune (x :: (t ++ 0x22 :: rest)) = true :=
      Utf8.fullRune_append_ascii (x :: t) rest 0x22 (by decide) (List.cons_ne_nil _ _)
    by_cases hrn : (Utf8.decodeRune (x :: t)).2 > 1
    · exact ⟨_, {}, fun rest => by rw [List.singleton_append, stringStep_eq, headOf_high _ hhigh, hd, if_pos hrn]; rfl⟩
    · exact ⟨1, .nvnc, fun rest => by
        rw [List.singleton_append, stringStep_eq, headOf_high _ hhigh, hd, if_neg hrn, hf]; rfl⟩
  | esc x hx =>
    obtain ⟨w, hw⟩ := simpleEscape_mem x hx
    exact ⟨2, _, fun rest => by rw [stringStep_eq]; exact congrArg _ (headOf_simple _ hw)⟩
  | uni a b c d ha hb hc hd hs =>
    exact ⟨6, _, fun rest => huni ha hb hc hd _ fun hv => Bool.eq_false_iff.mpr fun h => hs hv (isSurrogate_iff.mp h)⟩
  | pair a b c d e f g h ha hb hc hd he hf hg hh hhi hlo =>
    cases v with
    | false => exact ⟨6, _, fun rest => huni ha hb hc hd _ nofun⟩
    | true =>
      refine ⟨12, WireStringHead.esc (Quote.escNonCanon (hex4Value a b c d) [a, b, c, d]), fun rest => ?_⟩
      show stringStep true (0x5C :: 0x75 :: a :: b :: c :: d :: 0x5C :: 0x75 :: e :: f :: g :: h :: _) = _
      rw [stringStep_eq, headOf_pair _ (parseHexQ_of_hex ha hb hc hd) (parseHexQ_of_hex he hf hg hh)
        (isSurrogate_iff.mpr (surrogate_split.mpr (.inl hhi)))
        (by simpa using utf16DecodeRune_ok_iff.mpr ⟨hhi, hlo⟩)]
      rfl

theorem loop_complete (v : Bool) (len : Nat) : ∀ (body : Bytes), body.length ≤ len → JChars v body →
    ∃ f, ∀ (rest : Bytes) (fuel : Nat), body.length + 1 ≤ fuel →
      stringLoop v fuel (body ++ 0x22 :: rest) = (body.length + 1, f, .ok) := by
  induction len with
  | zero =>
    intro body hl _
    obtain rfl : body = [] := List.eq_nil_of_length_eq_zero (by omega)
    refine ⟨{}, fun rest fuel hf => ?_⟩
    obtain ⟨fuel, rfl⟩ : ∃ m, fuel = m + 1 := ⟨fuel - 1, by simp at hf; omega⟩
    simp only [stringLoop, List.nil_append, stringStep_eq, headOf_close]; rfl
  | succ len ih =>
    intro body hl hj
    cases hj with
    | nil => exact ih [] (by simp) .nil
    | cons c r hc hr =>
      obtain ⟨k, f, hstep⟩ := step_char v hc r
      obtain ⟨hk1, hk2, hch⟩ := step_cont_sound v _ k f (hstep [])
      obtain ⟨r', hbody, -, hr'⟩ := (JChars.cons c r hc hr).of_prefix (t := []) hch
        ((List.append_assoc ..).trans (List.take_append_drop k _).symm)
      have hp : ((c ++ (r ++ [0x22])).take k).length = k := List.length_take_of_le hk2
      have hlen : (c ++ r).length = k + r'.length := by rw [hbody, List.length_append, hp]
      obtain ⟨f', hl'⟩ := ih r' (by omega) hr'
      refine ⟨f.join f', fun rest fuel hf => ?_⟩
      obtain ⟨fuel, rfl⟩ : ∃ m, fuel = m + 1 := ⟨fuel - 1, by omega⟩
      have hdrop : (c ++ (r ++ 0x22 :: rest)).drop k = r' ++ 0x22 :: rest := by
        rw [← List.append_assoc, hbody, List.append_assoc, List.drop_left' hp]
      simp only [List.append_assoc, stringLoop, hstep rest, hdrop, hl' rest fuel (by omega)]
      exact Prod.ext (by simp only [hlen]; omega) rfl

theorem consumeString_of_body (v : Bool) (body : Bytes) (hj : JChars v body) :
    ∃ f, ∀ rest, consumeString (0x22 :: (body ++ 0x22 :: rest)) v = (body.length + 2, f, .ok) := by
  obtain ⟨f, hl⟩ := loop_complete v body.length body (Nat.le_refl _) hj
  refine ⟨f, ?_⟩
  intro rest
  rw [consumeString_cons, if_pos (beq_self_eq_true _), hl rest _ (by simp)]
  exact Prod.ext (Nat.add_comm ..) rfl

theorem consumeString_complete (b : Bytes) (v : Bool) (n : Nat) (hn : n ≤ b.length) (h : JString v (b.take n)) :
    ∃ f, consumeString b v = (n, f, .ok) := by
  obtain ⟨body, hj, -, hb, rfl⟩ := h.of_take hn
  obtain ⟨f, hf⟩ := consumeString_of_body v body hj
  exact ⟨f, by conv => lhs; rw [hb]
               exact hf _⟩

end JsonV.Lemmas.WireString
