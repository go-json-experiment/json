/-
`parseTimeUnix` on the text `appendTimeUnix` writes, a sign, a decimal `w` and a fraction: in base `10^k` the seconds are
`w / 10^k` and the nanoseconds come from `w % 10^k` and the fraction, whichever branch of the parser computes them
(`parseTimeUnix_text`).  The writer and the round trip are in TimeUnixRt.  `finishUnix` serves the proofs only: the model and
the oracle do not have it.
-/
import JsonV.Lemmas.TimeDur

namespace JsonV.Model.Time
open JsonV JsonV.Spec.Ecma JsonV.Lemmas.NumParse JsonV.Lemmas.NumDigits

/-- the tail of `parseTimeUnix` after the fields are known. -/
def finishUnix (neg : Bool) (sec nsec : Int) : Except Err (Int × Int) :=
  if neg ≠ decide ((if neg then negateSecNano sec nsec else (sec, nsec)).1 < 0) then .error .range
  else .ok (if neg then negateSecNano sec nsec else (sec, nsec))

theorem pow10_ne_one {k : Nat} (hk : 0 < k) : ¬ (10 ^ k = 1) := by
  have : 10 ^ 1 ≤ 10 ^ k := Nat.pow_le_pow_right (by decide) hk
  omega

theorem div_pow10 {k j N : Nat} (h : 10 ^ k * 10 ^ j = N) : N / 10 ^ k = 10 ^ j := by
  rw [← h]; exact Nat.mul_div_cancel_left _ (Nat.pow_pos (by decide))

theorem fracText_scale (j k y : Nat) : fracText (j + k) (y * 10 ^ k) = fracText j y := by
  unfold fracText
  have hpos : 0 < 10 ^ k := Nat.pow_pos (by decide)
  by_cases h0 : y = 0
  · simp [h0]
  · have : y * 10 ^ k ≠ 0 := by
      intro e; rcases Nat.mul_eq_zero.mp e with h | h <;> omega
    rw [if_neg h0, if_neg this, padDigits_mul_pow]
    exact congrArg _ (trimRight_append_zeros _ _)

/-- For `k = 0` the quotient is `w` itself; when `w` overflows a uint64 the parser reads the upper digits and the lower `k`
digits of the text again, and these are the numerals of the same quotient and remainder (`natDigits_append_pad`). -/
theorem parseTimeUnix_text (k j : Nat) (hkj : 10 ^ k * 10 ^ j = 1000000000) (hlog : k = 0 ∨ log10w (10 ^ k) = k)
    (neg : Bool) (w y : Nat) (hw : w / 10 ^ k < U64) (hy : y < 10 ^ j) :
    parseTimeUnix ((if neg then [cMinus] else []) ++ (natDigits w ++ fracText j y)) (10 ^ k)
      = finishUnix neg (toI64 (w / 10 ^ k)) (toI64 (w % 10 ^ k * 10 ^ j + y)) := by
  have hcs := consumeSign_sign neg w (fracText j y)
  have hcut := bytesCutByte_digits (natDigits w) (fracText j y) (natDigits_allDigits _) (fracText_dot j y)
  have hpf := parseFrac_fracText j y hy
  have hq := div_pow10 hkj
  by_cases hk0 : k = 0
  · subst hk0
    have hpu := parseUint_natDigits (n := w) (by simpa using hw)
    unfold parseTimeUnix finishUnix
    simp only [hcs, hcut, hpu, hq, hpf]
    simp [Nat.mod_one]
  · have hne := pow10_ne_one (Nat.pos_of_ne_zero hk0)
    by_cases hfit : w < U64
    · have hpu := parseUint_natDigits hfit
      unfold parseTimeUnix finishUnix
      simp only [hcs, hcut, hpu, hq, hpf, if_neg hne, if_true]
      simp
    · have hpk : 0 < 10 ^ k := Nat.pow_pos (by decide)
      have hple : 10 ^ k ≤ 1000000000 := hkj ▸ Nat.le_mul_of_pos_right _ (Nat.pow_pos (by decide))
      have hpos : 0 < w / 10 ^ k :=
        Nat.div_pos (Nat.le_trans hple (Nat.le_trans (by decide) (Nat.le_of_not_lt hfit))) hpk
      have hsplit := natDigits_append_pad k (w / 10 ^ k) (w % 10 ^ k) hpos (Nat.mod_lt _ hpk)
      rw [Nat.mul_comm, Nat.div_add_mod] at hsplit
      have hlen : (natDigits w).length - k = (natDigits (w / 10 ^ k)).length := by
        rw [hsplit, List.length_append, padDigits_length]; omega
      have htake : (natDigits w).take ((natDigits w).length - k) = natDigits (w / 10 ^ k) := by
        rw [hlen, hsplit]; exact List.take_left' rfl
      have hdrop : (natDigits w).drop ((natDigits w).length - k) = padDigits k (w % 10 ^ k) := by
        rw [hlen, hsplit]; exact List.drop_left' rfl
      have hpu := parseUint_natDigits_ge (Nat.le_of_not_lt hfit)
      have hpu2 := parseUint_natDigits hw
      have hmid := parsePadded_padDigits k (w % 10 ^ k) (Nat.mod_lt _ hpk)
      unfold parseTimeUnix finishUnix
      simp only [hcs, hcut, hpu, hq, hpf, if_neg hne, hlog.resolve_left hk0, htake, hdrop, hpu2, hmid]
      simp

end JsonV.Model.Time
