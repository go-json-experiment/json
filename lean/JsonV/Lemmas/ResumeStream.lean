/-
The generic simulation lemma for the refill loops of Model/Stream.lean and its four instances (C05):
whatever the reader delivers and however it is cut, a refill loop that is not interrupted by a fault returns what the
whole-input function returns on (buffer ++ everything still to come), and nothing is lost or duplicated.
-/
import JsonV.Lemmas.ResumeStreamCons
import JsonV.Lemmas.ResumeNum
import JsonV.Lemmas.ResumeStr
import JsonV.Lemmas.ResumeLit

namespace JsonV.Model.Stream
open JsonV JsonV.Model

/-- what a completed refill loop guarantees w.r.t. a whole-input function `W` -/
def FillOk {β : Type} (W : Bytes → β) (v : Bytes) (es : List Event) : Fill β → Prop
  | .done b v' es' _ => b = W (v ++ avail es) ∧ b = W v' ∧ Adv v es v' es' false
  | .fault v' es' => Adv v es v' es' true

theorem Adv.chunk {v d v' : Bytes} {es es' : List Event} {f : Bool} (h : Adv (v ++ d) es v' es' f) :
    Adv v (.chunk d :: es) v' es' f :=
  ⟨by rw [h.same, avail, List.append_assoc],
   Nat.le_trans (by rw [List.length_append]; exact Nat.le_add_right _ _) h.len, h.cons.chunk d⟩

/-- `I` is the loop invariant: the saved resume state is as good as a fresh start. -/
theorem refill_ok {α β : Type} (step : Bytes → α → α ⊕ β) (atEof : Bytes → α → β) (W : Bytes → β)
    (I : Bytes → α → Prop)
    (hdone : ∀ v a b, I v a → step v a = .inr b → ∀ e, W (v ++ e) = b)
    (hmore : ∀ v a a', I v a → step v a = .inl a' → (∀ d, I (v ++ d) a') ∧ W v = atEof v a') :
    ∀ (es : List Event) (v : Bytes) (a : α), I v a → FillOk W v es (refill step atEof v a es) := by
  -- a definitive answer, and the answer at the end of the input: the reader stays where it is
  have done (es : List Event) (v : Bytes) (a : α) (b : β) (hI : I v a) (hs : step v a = .inr b) (f : Bool) :
      FillOk W v es (.done b v es f) :=
    ⟨(hdone v a b hI hs _).symm, by simpa using (hdone v a b hI hs []).symm, Adv.refl v es⟩
  have atEnd (es : List Event) (he : avail es = []) (v : Bytes) (a a' : α) (hI : I v a) (hs : step v a = .inl a') (f : Bool) :
      FillOk W v es (.done (atEof v a') v es f) := by
    have := (hmore v a a' hI hs).2
    exact ⟨by rw [he, List.append_nil, this], this.symm, Adv.refl v es⟩
  intro es
  induction es with
  | nil =>
    intro v a hI
    rw [refill]
    cases hs : step v a with
    | inr b => exact done _ v a b hI hs _
    | inl a' => exact atEnd _ rfl v a a' hI hs _
  | cons ev es ih =>
    intro v a hI
    cases ev with
    | eof =>
      rw [refill]
      cases hs : step v a with
      | inr b => exact done _ v a b hI hs _
      | inl a' => exact atEnd _ rfl v a a' hI hs _
    | fault =>
      rw [refill]
      cases hs : step v a with
      | inr b => exact done _ v a b hI hs _
      | inl a' => exact ⟨rfl, Nat.le_refl _, Consumed.fault es⟩
    | chunk d =>
      rw [refill]
      cases hs : step v a with
      | inr b => exact done _ v a b hI hs _
      | inl a' =>
        have h := ih (v ++ d) a' ((hmore v a a' hI hs).1 d)
        show FillOk W v (.chunk d :: es) (refill step atEof (v ++ d) a' es).setFetched
        generalize refill step atEof (v ++ d) a' es = F at h ⊢
        cases F with
        | done b v' es' fl => exact ⟨by rw [h.1, avail, List.append_assoc], h.2.1, h.2.2.chunk⟩
        | fault v' es' => exact Adv.chunk h

/-- blanks over the whole input: offset of the first non-blank byte, and whether there is one -/
def wsW (t : Bytes) : Nat × Bool :=
  if Resume.consumeWhitespace t = t.length then (Resume.consumeWhitespace t, false) else (Resume.consumeWhitespace t, true)

theorem sWhitespace_ok (v : Bytes) (p : Nat) (es : List Event) (hp : p ≤ Resume.consumeWhitespace v) :
    FillOk wsW v es (sWhitespace v p es) := by
  unfold sWhitespace
  apply refill_ok wsStep (fun _ p => (p, false)) wsW (fun v p => p ≤ Resume.consumeWhitespace v)
  · intro v a b hI hs e
    unfold wsStep at hs
    rw [Resume.consumeWhitespace_drop v a hI] at hs
    have hle := Resume.consumeWhitespace_le v
    split at hs
    · simp at hs
    · rename_i hne
      simp at hs; subst hs
      unfold wsW
      rw [Resume.consumeWhitespace_append, if_neg hne]
      have : ¬ (Resume.consumeWhitespace v = (v ++ e).length) := by simp; omega
      rw [if_neg this]
  · intro v a a' hI hs
    unfold wsStep at hs
    rw [Resume.consumeWhitespace_drop v a hI] at hs
    split at hs
    · rename_i heq
      simp at hs; subst hs
      constructor
      · intro d; rw [Resume.consumeWhitespace_append, if_pos heq]; omega
      · simp [wsW, heq]
    · simp at hs
  · exact hp

/-- ConsumeLiteral of `lit` as a function of the whole input -/
def litW (lit : Bytes) (t : Bytes) : Nat × Resume.Err := Resume.consumeLiteral t lit

theorem sLiteral_ok (lit v : Bytes) (es : List Event) : FillOk (litW lit) v es (sLiteral lit v es) := by
  unfold sLiteral
  apply refill_ok (litStep lit) (fun v _ => Resume.consumeLiteral v lit) (litW lit) (fun _ _ => True)
  · intro v a b _ hs e
    unfold litStep at hs
    split at hs
    · simp at hs
    · rename_i hne
      simp at hs; subst hs
      exact Resume.consumeLiteral_stable v lit e hne
  · intro v a a' _ hs
    exact ⟨fun _ => trivial, rfl⟩
  · trivial

/-- ConsumeStringResumable from scratch, with no flags set, as a function of the whole input -/
def strW (vld : Bool) (t : Bytes) : Nat × Resume.VFlags × Resume.Err := Resume.consumeStringResumable .none t 0 vld

theorem sString_ok (vld : Bool) (v : Bytes) (es : List Event) : FillOk (strW vld) v es (sString vld v es) := by
  unfold sString
  apply refill_ok (strStep vld) (fun _ a => (a.1, a.2, .eof)) (strW vld)
    (fun v a => Resume.StrFresh .none vld v a.1 a.2)
  · intro v a b hI hs e
    unfold strStep at hs
    have h0 := hI []
    simp only [List.append_nil] at h0
    split at hs
    · simp at hs
    · rename_i hne
      simp at hs; subst hs
      rw [h0] at hne ⊢
      exact Resume.str_stable .none v e vld hne
  · intro v a a' hI hs
    unfold strStep at hs
    have h0 := hI []
    simp only [List.append_nil] at h0
    split at hs
    · rename_i heq
      simp at hs; subst hs
      rw [h0] at heq ⊢
      constructor
      · intro d e
        have := Resume.str_resume_eq .none v (d ++ e) vld _ _ (by rw [← heq])
        simpa [List.append_assoc] using this
      · unfold strW
        exact Prod.ext rfl (Prod.ext rfl heq)
    · simp at hs
  · intro e; rfl

/-- decoderState.consumeNumber on the whole input: its refill loop with nothing left to fetch (in closed form: `numW_eq`) -/
def numW (t : Bytes) : Nat × Resume.Err := Resume.consumeNumberChunks t 0 0 []

/-- decoderState.consumeNumber on a complete buffer answers what the scanner answers, except that io.ErrUnexpectedEOF is
reported at the start of the number: an invalid character lies strictly inside the buffer, so it needs no refill. -/
theorem numW_eq (t : Bytes) :
    numW t = if (Resume.consumeNumberResumable t 0 0).2.2 = .eof then (0, .eof)
      else ((Resume.consumeNumberResumable t 0 0).1, (Resume.consumeNumberResumable t 0 0).2.2) := by
  have hs := Resume.num_shape t
  unfold numW
  rw [Resume.consumeNumberChunks_nil]
  generalize Resume.consumeNumberResumable t 0 0 = x at hs ⊢
  obtain ⟨n, st, e⟩ := x
  obtain ⟨_, he | he | ⟨he, hn⟩⟩ := hs <;> simp only at he ⊢ <;> subst he
  · rw [if_pos rfl, ite_self, if_neg (nofun : ¬ Resume.Err.ok = .eof)]
  · rw [if_pos (.inl rfl), if_neg (nofun : ¬ Resume.Err.eof = .ok), if_pos rfl]
  · rw [if_neg (fun h => h.elim nofun (Nat.ne_of_lt hn)), if_neg (nofun : ¬ Resume.Err.invalidChar = .eof)]

theorem sNumber_ok (v : Bytes) (es : List Event) : FillOk numW v es (sNumber v es) := by
  unfold sNumber
  apply refill_ok numStep (fun _ a => if a.2.2 then (a.1, .ok) else (0, .eof)) numW
    (fun v a => Resume.FreshEquiv v a.1 a.2.1)
  · intro v a b hI hs e
    unfold numStep at hs
    obtain ⟨hn, herr, _⟩ := by simpa using hI []
    split at hs
    · cases hs
    · rename_i hcond
      cases hs
      have hdef : Resume.Definitive v.length (Resume.consumeNumberResumable v 0 0) := by
        unfold Resume.Definitive; rw [← hn, ← herr]
        exact ⟨fun h => hcond (Or.inl h), fun h => hcond (Or.inr h)⟩
      rw [numW_eq, Resume.num_stable v e hdef, if_neg hdef.1, hn, herr]
  · intro v a a' hI hs
    unfold numStep at hs
    obtain ⟨hn, herr, hst⟩ := by simpa using hI []
    split at hs
    · rename_i hcond
      cases hs
      rw [hn, herr] at hcond
      have hres0 := (Resume.refill_iff_resumable v).mp hcond
      have hres : Resume.Resumable v.length (Resume.consumeNumberResumable v a.1 a.2.1) := by
        unfold Resume.Resumable at hres0 ⊢; rw [hn, herr]; exact hres0
      constructor
      · intro d e
        simp only
        rw [hn, hst hres]
        have := Resume.num_resume_equiv v (d ++ e) hres0
        simpa [List.append_assoc] using this
      · rw [numW_eq, herr, hn]
        rcases hres0 with h | ⟨h, _⟩ <;> simp [h]
    · cases hs
  · exact Resume.freshEquiv_init v

end JsonV.Model.Stream
