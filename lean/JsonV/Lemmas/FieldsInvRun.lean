/-
The search invariants through a whole struct, a whole level and the whole search, for an error-free run
(`(search g root).err = none`): the absence of an error makes every handled declaration well-formed.
-/
import JsonV.Lemmas.FieldsInv2

namespace JsonV.Lemmas.Fields
open JsonV JsonV.Model JsonV.Model.Fields JsonV.Spec.FieldRule

theorem orErr_err_none {s : St} {e : Option Err} (h : (s.orErr e).err = none) : s.err = none ∧ e = none := by
  rw [orErr_eq] at h
  exact orE_eq_none h

theorem processField_err_none {qe : QE} {i : Nat} {d : FieldDecl} {s : St} {lc : Local}
    (h : (processField qe i d s lc).1.err = none) : s.err = none ∧ (decideField d lc).2.1 = none := by
  rw [processField_eq] at h
  simp only [err_applyAction] at h
  exact orErr_err_none h

theorem processStruct_err_none {g : Graph} {qe : QE} {s : St} (h : (processStruct g qe s).err = none) :
    (processFields qe 0 (g.fieldsOf qe.sid) s {}).1.err = none := by
  obtain ⟨e, he⟩ := processStruct_eq g qe s
  rw [he] at h
  exact (orErr_err_none h).1

variable {g : Graph} {root : StructId} {k : Nat} {P R' : List QE} {qe : QE} {s : St}

/-! Each lemma below asks for the invariant of the state before only if that state holds no error, and for the
absence of an error in the state after.  So the absence of an error is handed back one step at a time
(`processField_err_none`, `processStruct_err_none`) and never through a whole field list, level or search. -/

theorem Inv3.processField_ok {i : Nat} {d : FieldDecl} (lc : Local) (hf : FieldAt g qe.sid i d)
    (h : s.err = none → Inv3 g root k P (qe :: R') (some (qe, i)) s)
    (herr : (processField qe i d s lc).1.err = none) :
    Inv3 g root k P (qe :: R') (some (qe, i + 1)) (processField qe i d s lc).1 := by
  obtain ⟨h1, h2⟩ := processField_err_none herr
  rw [processField_eq, decideField_act]
  exact ((h h1).orErr _).step hf (goodDecl_of_no_error d lc h2)

theorem Inv3.processFields_ok : ∀ (ds : List FieldDecl) (i : Nat) (s : St) (lc : Local),
    (g.fieldsOf qe.sid).drop i = ds → (s.err = none → Inv3 g root k P (qe :: R') (some (qe, i)) s) →
    (processFields qe i ds s lc).1.err = none →
    Inv3 g root k P (qe :: R') (some (qe, i + ds.length)) (processFields qe i ds s lc).1
  | [], i, s, lc, _, h, herr => h herr
  | d :: ds, i, s, lc, hd, h, herr => by
    obtain ⟨hf, hd'⟩ := List.drop_eq_cons hd
    have h2 := Inv3.processFields_ok ds (i + 1) _ (processField qe i d s lc).2 hd' (Inv3.processField_ok lc hf h) herr
    rwa [Nat.add_assoc, Nat.add_comm 1] at h2

/-- Re-indexing the invariant: another split of the same history into processed / current level / queue, with
the same fields counted as handled. -/
theorem Inv3.reindex {k' : Nat} {P P' R R' : List QE} {cur cur' : Option (QE × Nat)} {s s' : St}
    (h : Inv3 g root k P R cur s) (hs : s'.seen = s.seen) (ha : s'.all = s.all) (hb : s'.fbs = s.fbs)
    (hh : hist P' R' s' = hist P R s)
    (hP : ∀ e ∈ P', e.index.length ≤ k') (hR : ∀ e ∈ R', e.index.length = k')
    (hQ : ∀ e ∈ s'.queue, e.index.length = k' + 1 ∧ e ∈ s.queue)
    (hfwd : ∀ e j, Done P cur e j → Done P' cur' e j)
    (hbwd : ∀ e j d, FieldAt g e.sid j d → Done P' cur' e j → Done P cur e j)
    (hcur : ∀ qe i, cur' = some (qe, i) → ∃ R'', R' = qe :: R'') : Inv3 g root k' P' R' cur' s' := by
  refine ⟨⟨hP, hR, fun e he => (hQ e he).1, ?_, ?_, ?_, ?_, ?_, ?_, ?_, ?_, hcur⟩, ⟨?_, ?_, ?_, ?_, ?_, ?_, ?_, ?_, ?_⟩⟩
  · rw [hs, hh]; exact h.a.seenW
  · rw [hs, hh]; exact h.a.seenH
  · rw [hh]; exact h.a.firstW
  · rw [hh]; exact h.a.firstP
  · rw [hh]; exact fun e j t hd hv hk => h.a.kids e j t (hk.elim fun d hd' => hbwd e j d hd'.1 hd) hv hk
  · rw [hh]; exact h.a.reach
  · rw [ha]; exact fun e j o hd hm => h.a.memb e j o (hm.elim fun d hd' => hbwd e j d hd'.1 hd) hm
  · rw [ha]; exact fun f hf => let ⟨e, j, hd, r⟩ := h.a.allS f hf; ⟨e, j, hfwd e j hd, r⟩
  · rw [hh]; exact h.b.histND
  · exact fun e' he' => let ⟨e, j, hd, r⟩ := h.b.queueS e' (hQ e' he').2; ⟨e, j, hfwd e j hd, r⟩
  · rw [ha]; exact h.b.allND
  · rw [ha]; exact h.b.allSorted
  · exact fun e j d hd hf => h.b.good e j d (hbwd e j d hf hd) hf
  · rw [hb]; exact fun f hf => let ⟨e, j, hd, r⟩ := h.b.fbS f hf; ⟨e, j, hfwd e j hd, r⟩
  · rw [hb]; exact fun e j hd hfb => h.b.fbC e j (hfb.elim fun d hd' => hbwd e j d hd'.1 hd) hfb
  · rw [hb]; exact h.b.fbND
  · rw [hb]; exact h.b.fbSorted

theorem Inv3.start (h : Inv3 g root k P (qe :: R') none s) : Inv3 g root k P (qe :: R') (some (qe, 0)) s := by
  have hz : ∀ e j, Done P (some (qe, 0)) e j ↔ Done P none e j := fun e j => by
    rw [done_some, done_none]
    exact ⟨fun h => h.resolve_right (fun h => Nat.not_lt_zero _ h.2), Or.inl⟩
  exact h.reindex rfl rfl rfl rfl h.a.depthP h.a.depthR (fun e he => ⟨h.a.depthQ e he, he⟩)
    (fun e j => (hz e j).mpr) (fun e j _ _ => (hz e j).mp) (fun _ _ hc => by cases hc; exact ⟨R', rfl⟩)

theorem Inv3.finish (h : Inv3 g root k P (qe :: R') (some (qe, (g.fieldsOf qe.sid).length)) s) :
    Inv3 g root k (P ++ [qe]) R' none s := by
  have hk := h.a.depthR qe (List.mem_cons_self ..)
  refine h.reindex rfl rfl rfl (by simp [hist]) ?_ (fun e he => h.a.depthR e (List.mem_cons_of_mem _ he))
    (fun e he => ⟨h.a.depthQ e he, he⟩) ?_ ?_ (fun _ _ hc => nomatch hc)
  · intro e he
    rcases List.mem_append.mp he with he | he
    · exact h.a.depthP e he
    · rw [List.mem_singleton.mp he]; exact Nat.le_of_eq hk
  · intro e j hd
    rw [done_none]
    rcases done_some.mp hd with hd | ⟨rfl, _⟩
    · exact List.mem_append_left _ hd
    · exact List.mem_append_right _ (List.mem_singleton.mpr rfl)
  · intro e j d hf hd
    rw [done_some]
    rcases List.mem_append.mp (done_none.mp hd) with hd | hd
    · exact Or.inl hd
    · cases List.mem_singleton.mp hd
      exact Or.inr ⟨rfl, (List.getElem?_eq_some_iff.mp hf).1⟩

theorem Inv3.processStruct_ok (h : s.err = none → Inv3 g root k P (qe :: R') none s)
    (herr : (processStruct g qe s).err = none) : Inv3 g root k (P ++ [qe]) R' none (processStruct g qe s) := by
  have h1 := Inv3.processFields_ok (g.fieldsOf qe.sid) 0 s {} (by simp) (fun hs => (h hs).start) (processStruct_err_none herr)
  rw [Nat.zero_add] at h1
  obtain ⟨e, he⟩ := processStruct_eq g qe s
  rw [he]
  exact h1.finish.orErr e

theorem Inv3.processLevel_ok : ∀ (R : List QE) (P : List QE) (s : St),
    (s.err = none → Inv3 g root k P R none s) → (processLevel g R s).err = none →
    Inv3 g root k (P ++ R) [] none (processLevel g R s)
  | [], P, s, h, herr => by simpa [processLevel] using h herr
  | qe :: R', P, s, h, herr => by
    have h2 := Inv3.processLevel_ok R' (P ++ [qe]) _ (Inv3.processStruct_ok h) herr
    simpa [processLevel] using h2

theorem Inv3.nextLevel (h : Inv3 g root k P [] none s) :
    Inv3 g root (k + 1) P s.queue none { s with queue := [] } :=
  h.reindex rfl rfl rfl (by simp [hist]) (fun e he => Nat.le_succ_of_le (h.a.depthP e he)) h.a.depthQ
    (fun _ he => nomatch he) (fun _ _ hd => hd) (fun _ _ _ _ hd => hd) (fun _ _ hc => nomatch hc)

theorem Inv3.bfs_ok : ∀ (fuel : Nat) (s : St) (k : Nat) (P : List QE),
    (s.err = none → Inv3 g root k P s.queue none { s with queue := [] }) → (bfs g fuel s.queue s).err = none →
    ∃ k' P', (∀ e ∈ P, e ∈ P') ∧
      Inv3 g root k' P' (bfs g fuel s.queue s).queue none { (bfs g fuel s.queue s) with queue := [] }
  | 0, s, k, P, h, herr => ⟨k, P, fun _ h => h, by simpa [bfs] using h herr⟩
  | fuel + 1, s, k, P, h, herr => by
    cases hq : s.queue with
    | nil => exact ⟨k, P, fun _ h => h, by simpa [bfs, hq] using h (by simpa [bfs, hq] using herr)⟩
    | cons qe rest =>
      rw [hq] at h herr
      simp only [bfs] at herr
      obtain ⟨k', P', hsub, h2⟩ := Inv3.bfs_ok fuel _ _ _
        (fun he => (Inv3.processLevel_ok (qe :: rest) P _ h he).nextLevel) herr
      exact ⟨k', P', fun e he => hsub e (List.mem_append_left _ he), by simpa [bfs] using h2⟩

theorem Inv3.init : Inv3 g root 0 [] [{ sid := root, index := [], visit := true }] none { seen := [root] } := by
  have hm : ∀ e ∈ hist [] [({ sid := root, index := [], visit := true } : QE)] { seen := [root] },
      e = { sid := root, index := [], visit := true } := fun e he => List.mem_singleton.mp he
  refine ⟨⟨fun _ he => (nomatch he), fun e he => by rw [List.mem_singleton.mp he]; rfl, fun _ he => (nomatch he), ?_, ?_, ?_,
      List.pairwise_singleton _ _, fun e j t hd => (nomatch done_none.mp hd), ?_, fun e j o hd => (nomatch done_none.mp hd),
      fun _ hf => (nomatch hf), fun _ _ hc => (nomatch hc)⟩,
    ⟨List.pairwise_singleton _ _, fun _ he => (nomatch he), List.Pairwise.nil, List.Pairwise.nil,
      fun e j d hd => (nomatch done_none.mp hd), fun _ hf => (nomatch hf), fun e j hd => (nomatch done_none.mp hd),
      List.Pairwise.nil, List.Pairwise.nil⟩⟩
  · intro t ht
    exact ⟨_, List.mem_singleton.mpr rfl, (List.mem_singleton.mp ht).symm, rfl⟩
  · intro e he
    rw [hm e he]
    exact List.mem_singleton.mpr rfl
  · intro e he hv
    rw [hm e he] at hv
    cases hv
  · intro e he
    rw [hm e he]
    exact Reach.root

theorem Inv3.search (herr : (Model.Fields.search g root).err = none) :
    ∃ k P, ({ sid := root, index := [], visit := true } : QE) ∈ P ∧
      Inv3 g root k P (Model.Fields.search g root).queue none { (Model.Fields.search g root) with queue := [] } := by
  have hb : Model.Fields.search g root =
      bfs g (g.length + 1)
        (processLevel g [{ sid := root, index := [], visit := true }] { ({ seen := [root] } : St) with queue := [] }).queue
        (processLevel g [{ sid := root, index := [], visit := true }] { ({ seen := [root] } : St) with queue := [] }) := rfl
  -- one step of `bfs` on the root frontier brings the call into the shape `bfs fuel s.queue s` of `Inv3.bfs_ok`
  rw [hb] at herr ⊢
  obtain ⟨k', P', hsub, h2⟩ := Inv3.bfs_ok (g.length + 1) _ _ _
    (fun he => (Inv3.processLevel_ok _ [] _ (fun _ => Inv3.init) he).nextLevel) herr
  exact ⟨k', P', hsub _ (by simp), h2⟩

end JsonV.Lemmas.Fields
