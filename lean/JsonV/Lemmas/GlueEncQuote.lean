/-
GLUE between the Encoder model of C06 (Model/Encoder.lean: its own `quoteGo`/`appendQuote`/`unquoteGo`/`unquote`) and Model/Quote.lean
(C11).  AppendQuote: the two models are equal on every option set and input (`appendQuote_eq`).  AppendUnquote: the
Encoder's `unquote` is compared with C11's iteration only where that continues without an error (`unquoteGo_step`); that gives the
meaning of every body that has one and so covers AppendQuote's outputs (`unquote_appendQuote`), and Lemmas/EncRaw.lean, the user,
needs it on re-quoted names only.
-/
import JsonV.Lemmas.EncIff
import JsonV.Lemmas.QuoteMeaning
import JsonV.Lemmas.QuoteLiteral
import JsonV.Lemmas.GlueQuote
import JsonV.Gen.Tables

namespace JsonV.Lemmas.GlueEncQuote
open JsonV JsonV.Model JsonV.Model.Utf8 JsonV.Spec.StringSpec
open JsonV.Lemmas.QuoteL JsonV.Lemmas.QuoteSpec JsonV.Lemmas.QuoteLiteral JsonV.Lemmas.QuoteHead
open JsonV.Model.Quote
open JsonV.Spec.Grammar (hexSpec hexSpec_ranges hex4Spec hex_horner)

/-- the string flags of the Encoder model's options, as Model/Quote takes them -/
def flagsOf (o : Encoder.Opts) : QFlags :=
  { html := o.escHTML, js := o.escJS, allowInvalid := o.allowInvalidUTF8 }

theorem escapedUTF16_eq (x : Nat) : Encoder.escapedUTF16 x = appendEscapedUTF16 x := by
  simp only [Encoder.escapedUTF16, appendEscapedUTF16, Nat.shiftRight_eq_div_pow]
  rfl

theorem isHTMLChar_eq (c : UInt8) : Encoder.isHTMLChar c = isHTMLChar c.toNat := by
  simp [Encoder.isHTMLChar, isHTMLChar, ← UInt8.toNat_inj]

theorem escapedASCII_eq (c : UInt8) : Encoder.escapedASCII c = appendEscapedASCII c.toNat := by
  simp [Encoder.escapedASCII, appendEscapedASCII, ← UInt8.toNat_inj, escapedUTF16_eq]

/-- The Encoder model spells out the set that the regenerated table of Model/Quote marks. -/
theorem escapeASCII_eq (c : UInt8) (h : c.toNat < 128) : Encoder.escapeASCII c = decide (escapeASCII c.toNat ≠ 0) := by
  have h1 := escapeASCII_table ⟨c.toNat, h⟩
  have h01 := escapeASCII_01 ⟨c.toNat, h⟩
  simp only at h1 h01
  rw [Bool.eq_iff_iff]
  simp [Encoder.escapeASCII, isHTMLChar_eq, isHTMLChar, UInt8.lt_iff_toNat_lt, ← UInt8.toNat_inj, or_assoc]
  rw [← h1]
  omega

/-- Against the regenerated `escapeASCII[128]` table of jsonwire/encode.go.  Compared as whole lists: looking up every index with
`List.getD` separately is several times slower to check. -/
theorem encoder_escapeASCII_table :
    (List.range 128).map (fun n => Encoder.escapeASCII (UInt8.ofNat n)) = JsonV.Gen.jsonwire_escapeASCII.map (· != 0) := by
  decide +kernel

theorem quoteGo_skip (o : Encoder.Opts) : ∀ (k : Nat) (p : Bytes), Encoder.quoteGo o k p = Encoder.quoteGo o 0 (p.drop k) := by
  intro k
  induction k with
  | zero => intro p; simp
  | succ k ih =>
    intro p
    cases p with
    | nil => simp [Encoder.quoteGo]
    | cons c t => simp only [Encoder.quoteGo, List.drop_succ_cons]; exact ih t

theorem lt80_iff (c : UInt8) : c < 0x80 ↔ c.toNat < runeSelf := by
  simp [UInt8.lt_iff_toNat_lt, runeSelf]

theorem quoteGo_eq (o : Encoder.Opts) (s : Bytes) : Encoder.quoteGo o 0 s = quoteLoop o.escHTML o.escJS s := by
  fun_induction quoteLoop o.escHTML o.escJS s with
  | case1 => simp [Encoder.quoteGo]
  | case2 c t st r ih =>
    have hp := decodeRune_pos c t
    -- the recursive call, after skipping the continuation bytes of the rune at `c`
    have hrec : Encoder.quoteGo o ((decodeRune (c :: t)).2 - 1) t = r := by
      obtain ⟨k, hk⟩ : ∃ k, (decodeRune (c :: t)).2 = k + 1 := ⟨_, (Nat.sub_add_cancel hp).symm⟩
      rw [← show Encoder.quoteGo o 0 (List.drop st.2.1 (c :: t)) = r from ih,
        show st.2.1 = (decodeRune (c :: t)).2 from congrArg (·.2.1) (quoteStep_eq o.escHTML o.escJS c t), hk,
        Nat.add_sub_cancel, quoteGo_skip, List.drop_succ_cons]
    simp only [Encoder.quoteGo]
    by_cases h0 : c.toNat < runeSelf
    · have hst : st = _ := quoteStep_ascii o.escHTML o.escJS t h0
      have hrec1 : Encoder.quoteGo o 0 t = r := by simpa [decodeRune_ascii c t h0] using hrec
      simp only [(lt80_iff c).mpr h0, ↓reduceIte, hrec1, hst, escapeASCII_eq c h0, isHTMLChar_eq, escapedASCII_eq,
        Bool.and_eq_true, decide_eq_true_eq]
      by_cases he : escapeASCII c.toNat ≠ 0 ∧ (!isHTMLChar c.toNat || o.escHTML) = true
      · rw [if_pos he, if_pos he]; simp
      · rw [if_neg he, if_neg he]; simp
    · simp only [mt (lt80_iff c).mp h0, ↓reduceIte]
      rcases decodeRune_high c t h0 with h1 | h1
      · have hst : st = _ := quoteStep_multi o.escHTML o.escJS h0 h1
        have hni : ¬ ((decodeRune (c :: t)).1 = runeError ∧ (decodeRune (c :: t)).2 = 1) := by omega
        simp only [hni, ↓reduceIte, hrec, hst, escapedUTF16_eq]
        by_cases hj : ((decodeRune (c :: t)).1 = 0x2028 ∨ (decodeRune (c :: t)).1 = 0x2029) ∧ o.escJS = true
        · have hr : (decodeRune (c :: t)).1 < 0x10000 := by omega
          simp [hj, appendEscapedUnicode_bmp _ hr]
        · simp [hj]
      · have hst : st = _ := quoteStep_bad o.escHTML o.escJS h0 h1
        have hrec1 : Encoder.quoteGo o 0 t = r := by simpa [h1] using hrec
        simp [h1, hrec1, hst, Encoder.replacement, utf8FFFD]

theorem appendQuote_eq (o : Encoder.Opts) (s : Bytes) :
    Encoder.appendQuote o s = ((appendQuote (flagsOf o) s).1, decide ((appendQuote (flagsOf o) s).2 = Err.invalidUTF8)) := by
  simp only [Encoder.appendQuote, appendQuote, flagsOf]
  rw [show Encoder.quoteGo o 0 s = ((quoteLoop o.escHTML o.escJS s).1, (quoteLoop o.escHTML o.escJS s).2) from by rw [quoteGo_eq]]
  simp only [List.cons_append]
  congr 1
  by_cases hb : ((quoteLoop o.escHTML o.escJS s).2 && !o.allowInvalidUTF8) = true
  · simp [hb]
  · simp [hb]

/-- `WriteToken(String(s))` passes the UTF-8 check iff AllowInvalidUTF8 is set or `utf8.Valid(s)`. -/
theorem badUTF8_str_iff (o : Encoder.Opts) (s : Bytes) :
    JsonV.Lemmas.EncRender.badUTF8 o (.str s) = false ↔ (o.allowInvalidUTF8 = true ∨ Utf8.valid s = true) := by
  have hv := JsonV.Lemmas.QuoteMeaning.validAux_iff s.length s (Nat.le_refl _)
  simp only [JsonV.Lemmas.EncRender.badUTF8, Encoder.appendQuote, quoteGo_eq, quoteLoop_inv]
  unfold Utf8.valid
  rw [hv]
  cases o.allowInvalidUTF8 <;> simp <;> omega

theorem badUTF8_iff (o : Encoder.Opts) (t : Encoder.Tok) :
    JsonV.Lemmas.EncRender.badUTF8 o t = false ↔ ∀ s, t = .str s → (o.allowInvalidUTF8 = true ∨ Utf8.valid s = true) := by
  cases t
  case str s =>
    rw [badUTF8_str_iff]
    exact ⟨fun h s' hs => by cases hs; exact h, fun h => h s rfl⟩
  all_goals
    simp only [JsonV.Lemmas.EncRender.badUTF8, true_iff]
    intro s hs; cases hs

theorem unquoteGo_skip : ∀ (k : Nat) (p : Bytes), Encoder.unquoteGo k p = Encoder.unquoteGo 0 (p.drop k) := by
  intro k
  induction k with
  | zero => intro p; simp
  | succ k ih =>
    intro p
    cases p with
    | nil => simp [Encoder.unquoteGo]
    | cons c t => simp only [Encoder.unquoteGo, List.drop_succ_cons]; exact ih t

theorem hexVal_eq (c : UInt8) : Encoder.hexVal c = hexSpec c := by
  simp only [Encoder.hexVal, hexSpec_ranges, UInt8.le_iff_toNat_le, UInt8.toNat_ofNat]

theorem hex4_eq (a b c d : UInt8) : Encoder.hex4 [a, b, c, d] = parseHexUint16 [a, b, c, d] := by
  rw [← WireStringHead.parseHex_eq, WireString.parseHex_eq]
  simp only [Encoder.hex4, hexVal_eq, hex4Spec]
  cases hexSpec a <;> cases hexSpec b <;> cases hexSpec c <;> cases hexSpec d <;>
    first | rfl | exact congrArg some (hex_horner ..)

theorem unquoteGo_step {src o : Bytes} {k : Nat} (h : unqStep src = .cont o k none) :
    Encoder.unquoteGo 0 src = o ++ Encoder.unquoteGo 0 (src.drop k) := by
  rw [unqStep_eq] at h
  have hs := headOf_shape src
  generalize headOf src = hd at h hs
  cases hs with
  | @plain c t hne =>
    cases h
    simp only [noEscape, Bool.and_eq_true, decide_eq_true_eq, ne_eq] at hne
    have h1 : c ≠ 0x22 := by intro e; subst e; exact hne.2 rfl
    have h2 : c ≠ 0x5c := by intro e; subst e; exact hne.1.2 rfl
    have h3 : c < 0x80 := (lt80_iff c).mpr hne.1.1.1
    simp [Encoder.unquoteGo, h1, h2, h3]
  | @multi c t h0 h1 =>
    cases h
    have hq : c ≠ 0x22 := by intro h; subst h; exact h0 (by decide)
    have hb : c ≠ 0x5c := by intro h; subst h; exact h0 (by decide)
    have hc : ¬ c < 0x80 := fun h => h0 ((lt80_iff c).mp h)
    obtain ⟨k, hk⟩ : ∃ k, (decodeRune (c :: t)).2 = k + 1 := ⟨_, (Nat.sub_add_cancel (Nat.le_of_lt h1)).symm⟩
    rw [Encoder.unquoteGo.eq_def]
    simp only [hq, hb, hc, if_false, if_pos h1]
    rw [unquoteGo_skip, hk, Nat.add_sub_cancel, List.drop_succ_cons]
  | simple hm =>
    cases h
    simp only [simpleEscapes, List.mem_cons, Prod.mk.injEq, List.not_mem_nil, or_false] at hm
    rcases hm with ⟨rfl, rfl⟩ | ⟨rfl, rfl⟩ | ⟨rfl, rfl⟩ | ⟨rfl, rfl⟩ | ⟨rfl, rfl⟩ | ⟨rfl, rfl⟩ | ⟨rfl, rfl⟩ | ⟨rfl, rfl⟩ <;>
      simp [Encoder.unquoteGo, Encoder.unescapeChar]
  | uni hp hns =>
    cases h
    rw [← hex4_eq] at hp
    rw [Encoder.unquoteGo, if_neg (by decide), if_pos rfl]
    simp only [if_true, Encoder.decodeEscU, List.take_succ_cons, List.take_zero, hp, hns, Bool.false_eq_true, if_false]
    rw [unquoteGo_skip]
    rfl
  | pair hp hp2 hsur hdec =>
    cases h
    rw [← hex4_eq] at hp hp2
    rw [Encoder.unquoteGo, if_neg (by decide), if_pos rfl]
    simp only [if_true, Encoder.decodeEscU, List.take_succ_cons, List.take_zero, List.drop_succ_cons, List.drop_zero,
      hp, hp2, hsur, hdec, if_false]
    rw [unquoteGo_skip]
    rfl
  | close | lone | loneEOF | bad | eof | badEscape | ctrl => cases h

theorem unquoteGo_meaning {body m : Bytes} (h : Unescapes body m) : Encoder.unquoteGo 0 (body ++ [0x22]) = m := by
  induction h with
  | nil => simp [Encoder.unquoteGo]
  | unescaped hd hp hi h20 hq hb _ ih =>
    rw [List.append_assoc, unquoteGo_step (QuoteMeaning.unqStep_unescaped _ _ hd hp hi h20 hq hb _), List.drop_left, ih]
  | simple hm _ ih =>
    rw [List.cons_append, List.cons_append, unquoteGo_step (QuoteMeaning.unqStep_simple _ _ hm _)]; exact congrArg _ ih
  | unicode h4 hs _ ih =>
    simp only [List.cons_append]
    rw [unquoteGo_step (QuoteMeaning.unqStep_unicode _ _ _ _ _ h4 hs _)]; exact congrArg _ ih
  | pair h1 h2 hh hl _ ih =>
    simp only [List.cons_append]
    rw [unquoteGo_step (QuoteMeaning.unqStep_pair _ _ _ _ _ _ _ _ _ _ h1 h2 hh hl _)]; exact congrArg _ ih

theorem unquote_appendQuote (o : Encoder.Opts) (s : Bytes) :
    Encoder.unquote (Encoder.appendQuote o s).1 = lossy s ∧
    Encoder.unquote (Encoder.appendQuote o s).1 = (appendUnquote (appendQuote (flagsOf o) s).1).1 := by
  have h1 : Encoder.unquote (Encoder.appendQuote o s).1 = lossy s := by
    rw [appendQuote_eq]
    simp only [Encoder.unquote, appendQuote, flagsOf, List.drop_succ_cons, List.drop_zero]
    exact unquoteGo_meaning (quoteLoop_unescapes _ _ s)
  exact ⟨h1, by rw [h1, QuoteMeaning.appendUnquote_meaning _ _ (appendQuote_literal (flagsOf o) s)]⟩

theorem unquote_appendQuote_wellFormed (o : Encoder.Opts) (name : Bytes) (h : WellFormed name) :
    Encoder.unquote (Encoder.appendQuote o name).1 = name := by
  rw [(unquote_appendQuote o name).1, lossy_of_wellFormed name h]

end JsonV.Lemmas.GlueEncQuote
