/-
The shape of the unflushed buffer.

`AShape`/`VShape`/`CShape` say, for the innermost open containers, that the bytes a later
UnwriteEmptyObjectMember / UnwriteOnlyObjectMemberName would scan over are still in `buf` and are laid out as
`[,] ws "name" : ws value`; the recursion over the stack covers nested retractions (`"E":{` … `}` whose own
members were all retracted, then `"E":{}` itself).  `PShape` is the part up to `: ws`, `MemberHead` what precedes a member and what
is remembered about it, `CompatA`/`Compat` that repeated unwrites on `buf` alone do what they would do on the whole stream.
`InvS` puts them together: the shape that the state of the innermost frame calls for.
-/
import JsonV.Lemmas.FlushCycle

namespace JsonV.Model.Flush
open JsonV

/-- What precedes the member inside the buffer, and what is remembered about it: for the first member of its
object the buffer before it has the shape `A` (it ends in the `{`); otherwise a comma was written, the stream
before it does not end in an opening bracket, and the buffer before it satisfies `Q` (it is again
unwrite-compatible with the whole stream). -/
def MemberHead (dl : Bytes) (first : Bool) (A Q : Bytes → Prop) (pre sep : Bytes) : Prop :=
  MemberSep pre sep ∧ (first = true → sep = [] ∧ A pre) ∧
    (first = false → sep = [0x2c] ∧ NoOpenerEnd (dl ++ pre) ∧ Q pre)

/-- `buf` is unwrite-compatible with the whole stream `dl ++ buf` for `n` successive calls of
UnwriteEmptyObjectMember (n = Length()/2 members of the current object): whenever the detection fires on the whole
stream, the call on `buf` alone removes exactly the same bytes, lands on a member boundary (shape `A` after the last
member, otherwise not after an opening bracket), and what is left is compatible for n-1 further calls. -/
def CompatA (dl : Bytes) (A : Bytes → Prop) : Nat → Bytes → Prop
  | 0, _ => True
  | k + 1, buf => emptyLenR (dl ++ buf).reverse ≠ 0 →
      ∃ pre, unwriteEmptyBytes buf = some (pre, true) ∧ unwriteEmptyBytes (dl ++ buf) = some (dl ++ pre, true) ∧
        (k = 0 → A pre) ∧ (k ≠ 0 → NoOpenerEnd (dl ++ pre)) ∧ CompatA dl A k pre

/-- The buffer directly after an opening byte (Length() == 0), for the stack of enclosing frames: the opening byte
is in the buffer; if the enclosing frame is an object, so is `[,] ws "name" : ws` of the member being written, and
if that member is the first of its object (parent Length() == 2 after name and value), recursively the same holds
for what precedes it. -/
def AShape (dl : Bytes) : List Frame → Bytes → Prop
  | [], _ => True
  | p :: rest, buf => ∃ b o, buf = b ++ [o] ∧ OpenerLike o ∧
      (p.isObj = true → ∃ pre sep ws1 name ws2,
        b = pre ++ sep ++ ws1 ++ (0x22 :: name ++ [0x22]) ++ [0x3a] ++ ws2 ∧
        WsOnly ws1 ∧ WsOnly ws2 ∧ QuotesEscaped name ∧
        MemberHead dl (p.len == 2) (AShape dl rest) (CompatA dl (AShape dl rest) ((p.len - 2) / 2)) pre sep)

/-- `CompatA` where the buffer before the first member of the current object has shape `AShape dl stack`. -/
def Compat (dl : Bytes) (stack : List Frame) : Nat → Bytes → Prop := CompatA dl (AShape dl stack)

/-- The buffer after a member name (needObjectValue). -/
def VShape (dl : Bytes) (len : Nat) (stack : List Frame) (buf : Bytes) : Prop :=
  ∃ pre sep ws1 name, buf = pre ++ sep ++ ws1 ++ (0x22 :: name ++ [0x22]) ∧ WsOnly ws1 ∧ QuotesEscaped name ∧
    MemberHead dl (len == 1) (AShape dl stack) (Compat dl stack ((len - 1) / 2)) pre sep

/-- The buffer up to and including the `: ws` of the member being written (`len` counts its name and value). -/
def PShape (dl : Bytes) (len : Nat) (stack : List Frame) (b : Bytes) : Prop :=
  ∃ pre sep ws1 name ws2, b = pre ++ sep ++ ws1 ++ (0x22 :: name ++ [0x22]) ++ [0x3a] ++ ws2 ∧
    WsOnly ws1 ∧ WsOnly ws2 ∧ QuotesEscaped name ∧
    MemberHead dl (len == 2) (AShape dl stack) (Compat dl stack ((len - 2) / 2)) pre sep

/-- The buffer after a member whose value is one of the empty encodings. -/
def CShape (dl : Bytes) (len : Nat) (stack : List Frame) (buf : Bytes) : Prop :=
  ∃ b val, buf = b ++ val ∧ EmptyText val ∧ PShape dl len stack b

theorem beq_succ_two (n : Nat) : (n + 1 == 2) = (n == 1) := by
  cases h : (n == 1) <;> simp at h ⊢ <;> omega

theorem pshape_of_vshape {dl buf ws : Bytes} {len : Nat} {stack : List Frame} (h : VShape dl len stack buf)
    (hws : WsOnly ws) : PShape dl (len + 1) stack (buf ++ [0x3a] ++ ws) := by
  obtain ⟨pre, sep, ws1, name, rfl, h1, hq, hhead⟩ := h
  refine ⟨pre, sep, ws1, name, ws, rfl, h1, hws, hq, ?_⟩
  rw [beq_succ_two, show len + 1 - 2 = len - 1 by omega]
  exact hhead

theorem memberHead_before {dl pre sep : Bytes} {st : List Frame} {k : Nat}
    (h : MemberHead dl (k == 0) (AShape dl st) (Compat dl st k) pre sep) :
    (k = 0 → AShape dl st pre) ∧ (k ≠ 0 → NoOpenerEnd (dl ++ pre)) ∧ Compat dl st k pre := by
  cases k with
  | zero => exact ⟨fun _ => (h.2.1 rfl).2, fun hk => absurd rfl hk, trivial⟩
  | succ k => exact ⟨nofun, fun _ => (h.2.2 rfl).2.1, (h.2.2 rfl).2.2⟩

theorem pshape_member {dl b : Bytes} {k : Nat} {stack : List Frame} (h : PShape dl (2 * k + 2) stack b) :
    ∃ pre sep ws1 name ws2, b = pre ++ sep ++ ws1 ++ (0x22 :: name ++ [0x22]) ++ [0x3a] ++ ws2 ∧
      WsOnly ws1 ∧ WsOnly ws2 ∧ QuotesEscaped name ∧ MemberSep pre sep ∧
      MemberHead dl (k == 0) (AShape dl stack) (Compat dl stack k) pre sep := by
  obtain ⟨pre, sep, ws1, name, ws2, hb, h1, h2, hn, hhead⟩ := h
  rw [show (2 * k + 2 == 2) = (k == 0) by cases k <;> rfl, show (2 * k + 2 - 2) / 2 = k by rw [Nat.add_sub_cancel, Nat.mul_div_cancel_left k (by decide)]] at hhead
  exact ⟨pre, sep, ws1, name, ws2, hb, h1, h2, hn, hhead.1, hhead⟩

/-- What every run keeps: the bottom frame is the top-level pseudo-array, and the buffer has the shape that the state
of the innermost frame calls for (`AShape` after an opening byte, `VShape` after a name, `Compat` where a name is due).
No field reads `fresh`: the index only mirrors the freshness flag of `stepD`'s state, and `InvS.fresh` changes it at will. -/
structure InvS (e : Enc) (fresh : Bool) : Prop where
  bottom : bottomIsObj e.last e.stack = false
  parents : ∀ f ∈ e.stack, f.len > 0 ∧ (f.isObj = true → f.len % 2 = 0)
  opened : e.last.len = 0 → AShape e.delivered e.stack e.buf
  named : e.last.needValue = true → VShape e.delivered e.last.len e.stack e.buf
  stale : e.last.needName = true → e.last.len > 0 → Compat e.delivered e.stack (e.last.len / 2) e.buf
  noOpen : e.last.len > 0 → NoOpenerEnd e.total

theorem InvS.toInv {e : Enc} {f : Bool} (h : InvS e f) : Inv e := by
  refine ⟨h.bottom, fun h0 hs => ?_⟩
  have hA := h.opened h0
  cases hst : e.stack with
  | nil => exact absurd hst hs
  | cons p rest =>
    rw [hst] at hA
    obtain ⟨b, o, hb, ho, _⟩ := hA
    exact ⟨b, o, hb, ho⟩

theorem compat_zero (dl : Bytes) (st : List Frame) (buf : Bytes) : Compat dl st 0 buf := trivial

theorem compat_of_zero {dl : Bytes} {st : List Frame} {buf : Bytes} (n : Nat)
    (h : emptyLenR (dl ++ buf).reverse = 0) : Compat dl st n buf := by
  cases n with
  | zero => trivial
  | succ k => intro hne; exact absurd h hne

theorem compat_step {dl : Bytes} {st : List Frame} {n : Nat} {buf : Bytes} (h : Compat dl st n buf) (hn : n ≠ 0)
    (hne : emptyLenR (dl ++ buf).reverse ≠ 0) :
    ∃ pre, unwriteEmptyBytes buf = some (pre, true) ∧ unwriteEmptyBytes (dl ++ buf) = some (dl ++ pre, true) ∧
      (n = 1 → AShape dl st pre) ∧ (n ≠ 1 → NoOpenerEnd (dl ++ pre)) ∧ Compat dl st (n - 1) pre := by
  cases n with
  | zero => exact absurd rfl hn
  | succ k =>
    obtain ⟨pre, h1, h2, h3, h4, h5⟩ := h hne
    exact ⟨pre, h1, h2, fun e => h3 (by omega), fun e => h4 (by omega), h5⟩

theorem invS_init (omitNL fresh : Bool) : InvS { omitNL := omitNL } fresh :=
  ⟨rfl, by simp, fun _ => trivial, by simp [Frame.needValue], by simp [Frame.needName], by simp⟩

end JsonV.Model.Flush
