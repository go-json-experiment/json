/-
The number scanner of Model/WireDecode.lean, label by label, against the DFA of WireNumber.lean.  `Good s r m e`: starting in
DFA state `s` on input `r`, answering "`m` bytes, class `e`" is right (`good_consumeNumber`).  The DFA determines the answer
(`scan_unique`, `scan_invalid_unique`), whence the `iff`s against the grammar, and `consumeNumber_ok_scan` against the longest match.
-/
import JsonV.Lemmas.WireNumber

namespace JsonV.Lemmas.WireNumber
open JsonV JsonV.Model.Wire JsonV.Spec.Grammar

def Good (s : St) (r : Bytes) (m : Nat) (e : Err) : Prop :=
  match e with
  | .ok => m ≤ r.length ∧ acc (run s (r.take m)) = true ∧ Stops (run s (r.take m)) (r.drop m)
  | .eof => run s r ≠ .dead ∧ acc (run s r) = false
  | .invalidChar => m < r.length ∧ run s (r.take m) ≠ .dead ∧ acc (run s (r.take m)) = false ∧
      Stops (run s (r.take m)) (r.drop m)
  | _ => False

theorem good_cons (s : St) (c : UInt8) (r : Bytes) (m : Nat) (e : Err) (h : Good (δ s c) r m e) :
    Good s (c :: r) (m + 1) e := by
  cases e <;> simp_all [Good, run]

theorem good_cons_eof (s : St) (c : UInt8) (r : Bytes) (m m' : Nat) (h : Good (δ s c) r m .eof) :
    Good s (c :: r) m' .eof := by
  simp_all [Good, run]

theorem good_ok_here (s : St) (r : Bytes) (ha : acc s = true) (hst : Stops s r) : Good s r 0 .ok := by
  simp [Good, run, ha, hst]

theorem good_eof_here (s : St) (r : Bytes) (m : Nat) (h1 : run s r ≠ .dead) (h2 : acc (run s r) = false) :
    Good s r m .eof := ⟨h1, h2⟩

theorem good_inv_here (s : St) (c : UInt8) (r : Bytes) (h1 : s ≠ .dead) (h2 : acc s = false) (h3 : δ s c = .dead) :
    Good s (c :: r) 0 .invalidChar := by
  simp [Good, run, h1, h2, Stops, h3]

theorem good_shift (s s' : St) (r : Bytes) (k m : Nat) (e : Err) (hrun : run s (r.take k) = s') (hk : k ≤ r.length)
    (h : Good s' (r.drop k) m e) : Good s r (k + m) e := by
  have htake : r.take (k + m) = r.take k ++ (r.drop k).take m := by rw [List.take_add]
  have hdrop : r.drop (k + m) = (r.drop k).drop m := by rw [List.drop_drop]
  have hall : run s r = run s' (r.drop k) := by
    conv => lhs; rw [← List.take_append_drop k r]
    rw [run_append, hrun]
  cases e <;> simp_all [Good, run_append] <;> omega

theorem digitRun_spec (s : St) (hs : s = .int ∨ s = .frac ∨ s = .exp) (r : Bytes) :
    run s (r.take (digitRun r)) = s ∧ digitRun r ≤ r.length ∧
      ∀ c r', r.drop (digitRun r) = c :: r' → isDigit c = false := by
  induction r with
  | nil => simp [digitRun, run]
  | cons c r ih =>
    simp only [digitRun]
    by_cases hc : isDigit c = true
    · have hδ : δ s c = s := δ_digit_loop hs hc
      simp only [hc, if_true, List.take_succ_cons, run, hδ, List.drop_succ_cons, List.length_cons]
      exact ⟨ih.1, by omega, ih.2.2⟩
    · simp only [hc, Bool.false_eq_true, if_false, List.take_zero, run, List.drop_zero, List.length_cons, true_and]
      refine ⟨by omega, ?_⟩
      intro c' r' h
      simp only [List.cons.injEq] at h
      rw [← h.1]; simpa using hc

theorem good_digits_exp (r : Bytes) : Good .exp r (digitRun r) .ok := by
  obtain ⟨h1, h2, h3⟩ := digitRun_spec .exp (by simp) r
  refine ⟨h2, by rw [h1]; rfl, ?_⟩
  rw [h1, stops_iff]
  exact fun c r' hd => δ_nondigit (by rw [h3 c r' hd]; exact Bool.false_ne_true) (.inr (.inr rfl))

/-- label `beforeExponent` -/
theorem good_exponent (st : Nat) (s : St) (hs : s = .zero ∨ s = .int ∨ s = .frac) (r : Bytes)
    (hhead : ∀ c r', r = c :: r' → (s ≠ .zero → isDigit c = false) ∧ (s ≠ .frac → (c == 0x2E) = false)) :
    Good s r (numExponent st r).1 (numExponent st r).2.2 := by
  have hacc : acc s = true := by rcases hs with rfl | rfl | rfl <;> rfl
  cases r with
  | nil => simp only [numExponent]; exact good_ok_here s [] hacc trivial
  | cons c r1 =>
    obtain ⟨hh1, hh2⟩ := hhead c r1 rfl
    by_cases hE : (c == 0x65 || c == 0x45) = true
    · have hδ : δ s c = .e := by
        rw [δ_of_test (cls_e c) hE]
        rcases hs with rfl | rfl | rfl <;> rfl
      cases r1 with
      | nil =>
        simp only [numExponent, hE, if_true, List.drop_nil]
        exact good_eof_here _ _ _ (by simp [run, hδ]) (by simp [run, hδ, acc])
      | cons d r2 =>
        by_cases hS : (d == 0x2D || d == 0x2B) = true
        · have hδ2 : δ .e d = .esign := by
            rcases Bool.or_eq_true_iff.1 hS with h | h
            · exact δ_of_test (cls_minus d) h .e
            · exact δ_of_test (cls_plus d) h .e
          cases r2 with
          | nil =>
            simp only [numExponent, hE, hS, if_true, List.drop_succ_cons, List.drop_zero]
            exact good_eof_here _ _ _ (by simp [run, hδ, hδ2]) (by simp [run, hδ, hδ2, acc])
          | cons d2 r3 =>
            by_cases hD : isDigit d2 = true
            · have hδ3 : δ .esign d2 = .exp := δ_digit hD rfl
              simp only [numExponent, hE, hS, hD, if_true, List.drop_succ_cons, List.drop_zero]
              have : 1 + 1 + 1 + digitRun r3 = digitRun r3 + 1 + 1 + 1 := by omega
              rw [this]
              apply good_cons; rw [hδ]
              apply good_cons; rw [hδ2]
              apply good_cons; rw [hδ3]
              exact good_digits_exp r3
            · have hδ3 : δ .esign d2 = .dead := δ_nondigit hD (.inr (.inl rfl))
              simp only [numExponent, hE, hS, hD, if_true, List.drop_succ_cons, List.drop_zero, Bool.false_eq_true, if_false]
              have : 1 + 1 = 0 + 1 + 1 := by omega
              rw [this]
              apply good_cons; rw [hδ]
              apply good_cons; rw [hδ2]
              exact good_inv_here _ _ _ (by decide) (by decide) hδ3
        · by_cases hD : isDigit d = true
          · have hδ2 : δ .e d = .exp := δ_digit hD rfl
            simp only [numExponent, hE, hS, hD, if_true, List.drop_zero, Bool.false_eq_true, if_false]
            have : 1 + 0 + 1 + digitRun r2 = digitRun r2 + 1 + 1 := by omega
            rw [this]
            apply good_cons; rw [hδ]
            apply good_cons; rw [hδ2]
            exact good_digits_exp r2
          · have hδ2 : δ .e d = .dead := δ_e_dead hS hD
            simp only [numExponent, hE, hS, hD, if_true, List.drop_zero, Bool.false_eq_true, if_false]
            have : 1 + 0 = 0 + 1 := by omega
            rw [this]
            apply good_cons; rw [hδ]
            exact good_inv_here _ _ _ (by decide) (by decide) hδ2
    · simp only [numExponent, hE, Bool.false_eq_true, if_false]
      apply good_ok_here s _ hacc
      exact δ_mantissa_dead hs hE hh1 hh2

/-- label `beforeFractional` -/
theorem good_fractional (st : Nat) (s : St) (hs : s = .zero ∨ s = .int) (r : Bytes)
    (hhead : s = .int → ∀ c r', r = c :: r' → isDigit c = false) :
    Good s r (numFractional st r).1 (numFractional st r).2.2 := by
  have hs3 : s = .zero ∨ s = .int ∨ s = .frac := by rcases hs with rfl | rfl <;> simp
  cases r with
  | nil =>
    simp only [numFractional]
    exact good_exponent st s hs3 [] (by intro c r' h; cases h)
  | cons c r1 =>
    by_cases hdot : (c == 0x2E) = true
    · have hδ : δ s c = .dot := by
        rw [δ_of_test (cls_dot c) hdot]
        rcases hs with rfl | rfl <;> rfl
      cases r1 with
      | nil =>
        simp only [numFractional, hdot, if_true]
        exact good_eof_here _ _ _ (by simp [run, hδ]) (by simp [run, hδ, acc])
      | cons d r2 =>
        by_cases hD : isDigit d = true
        · have hδ2 : δ .dot d = .frac := δ_digit hD rfl
          obtain ⟨g1, g2, g3⟩ := digitRun_spec .frac (by simp) r2
          have hexp := good_exponent stWithinFractionalDigits .frac (by simp) (r2.drop (digitRun r2))
            (by intro c' r' h; exact ⟨fun _ => g3 c' r' h, fun h' => absurd rfl h'⟩)
          rcases hx : numExponent stWithinFractionalDigits (r2.drop (digitRun r2)) with ⟨m, st', e⟩
          rw [hx] at hexp
          simp only [numFractional, hdot, hD, if_true, hx]
          have harith : 2 + digitRun r2 + m = digitRun r2 + m + 1 + 1 := by omega
          rw [harith]
          apply good_cons; rw [hδ]
          apply good_cons; rw [hδ2]
          exact good_shift .frac .frac r2 (digitRun r2) m e g1 g2 hexp
        · have hδ2 : δ .dot d = .dead := δ_nondigit hD (.inl rfl)
          simp only [numFractional, hdot, hD, if_true, Bool.false_eq_true, if_false]
          have : (1 : Nat) = 0 + 1 := by omega
          rw [this]
          apply good_cons; rw [hδ]
          exact good_inv_here _ _ _ (by decide) (by decide) hδ2
    · simp only [numFractional, hdot, Bool.false_eq_true, if_false]
      apply good_exponent st s hs3
      intro c' r' h
      simp only [List.cons.injEq] at h
      obtain ⟨rfl, rfl⟩ := h
      refine ⟨fun hz => ?_, fun _ => by simpa using hdot⟩
      rcases hs with rfl | rfl
      · exact absurd rfl hz
      · exact hhead rfl _ _ rfl

/-- what follows the (optional) minus sign: label `beforeInteger` after `n1` is fixed -/
theorem good_intpart (st : Nat) (s : St) (hs : s = .start ∨ s = .minus) (r : Bytes) (n1 : Nat) (c : UInt8) (r1 : Bytes)
    (hr : r = c :: r1) (hnm : s = .start → (c == 0x2D) = false) :
    let res : Nat × Nat × Err :=
      if c == 0x30 then
        let (m, st', e) := numFractional stBeforeFractionalDigits r1
        (n1 + 1 + m, st', e)
      else if isDigit19 c then
        let k := digitRun r1
        let (m, st', e) := numFractional stWithinIntegerDigits (r1.drop k)
        (n1 + 1 + k + m, st', e)
      else (n1, st, .invalidChar)
    Good s r (res.1 - n1) res.2.2 := by
  subst hr
  intro res
  by_cases hz : (c == 0x30) = true
  · have hδ : δ s c = .zero := by
      rw [δ_of_test (cls_zero c) hz]
      rcases hs with rfl | rfl <;> rfl
    have hf := good_fractional stBeforeFractionalDigits .zero (by simp) r1 (by intro h; cases h)
    rcases hx : numFractional stBeforeFractionalDigits r1 with ⟨m, st', e⟩
    rw [hx] at hf
    have : res = (n1 + 1 + m, st', e) := by simp only [res, hz, if_true, hx]
    rw [this]
    have : n1 + 1 + m - n1 = m + 1 := by omega
    simp only [this]
    apply good_cons; rw [hδ]; exact hf
  · by_cases h19 : isDigit19 c = true
    · have hδ : δ s c = .int := by
        rw [δ_of_test (cls_d19 c) h19]
        rcases hs with rfl | rfl <;> rfl
      obtain ⟨g1, g2, g3⟩ := digitRun_spec .int (by simp) r1
      have hf := good_fractional stWithinIntegerDigits .int (by simp) (r1.drop (digitRun r1)) (fun _ => g3)
      rcases hx : numFractional stWithinIntegerDigits (r1.drop (digitRun r1)) with ⟨m, st', e⟩
      rw [hx] at hf
      have : res = (n1 + 1 + digitRun r1 + m, st', e) := by
        simp only [res, hz, h19, if_true, hx, Bool.false_eq_true, if_false]
      rw [this]
      have : n1 + 1 + digitRun r1 + m - n1 = digitRun r1 + m + 1 := by omega
      simp only [this]
      apply good_cons; rw [hδ]
      exact good_shift .int .int r1 (digitRun r1) m e g1 g2 hf
    · have : res = (n1, st, .invalidChar) := by
        simp only [res, hz, h19, Bool.false_eq_true, if_false]
      rw [this]
      simp only [Nat.sub_self]
      have hδ : δ s c = .dead := δ_sign_dead hs hz h19 hnm
      exact good_inv_here s c r1 (by rcases hs with rfl | rfl <;> decide) (by rcases hs with rfl | rfl <;> rfl) hδ

theorem consumeNumber_eq (b : Bytes) :
    consumeNumber b = ((numInteger stInit b 0).1, (numInteger stInit b 0).2.2) := by
  simp [consumeNumber, consumeNumberResumable, stInit]

theorem good_consumeNumber (b : Bytes) : Good .start b (consumeNumber b).1 (consumeNumber b).2 := by
  rw [consumeNumber_eq]
  cases b with
  | nil =>
    simp only [numInteger, List.drop_nil]
    exact good_eof_here _ _ _ (by simp [run]) (by simp [run, acc])
  | cons c r =>
    by_cases hm : (c == 0x2D) = true
    · have hδ : δ .start c = .minus := δ_of_test (cls_minus c) hm .start
      cases r with
      | nil =>
        simp only [numInteger, hm, if_true, List.drop_succ_cons, List.drop_nil, Nat.zero_add]
        exact good_eof_here _ _ _ (by simp [run, hδ]) (by simp [run, hδ, acc])
      | cons c2 r2 =>
        have key := good_intpart stInit .minus (by simp) (c2 :: r2) 1 c2 r2 rfl (by intro h; cases h)
        simp only [numInteger, hm, if_true, List.drop_succ_cons, Nat.zero_add, List.drop_zero]
        simp only at key
        generalize hres : (if (c2 == 0x30) = true then
            match numFractional stBeforeFractionalDigits r2 with
            | (m, st', e) => (1 + 1 + m, st', e)
          else if isDigit19 c2 = true then
            match numFractional stWithinIntegerDigits (List.drop (digitRun r2) r2) with
            | (m, st', e) => (1 + 1 + digitRun r2 + m, st', e)
          else (1, stInit, Err.invalidChar)) = res at key ⊢
        have hle : 1 ≤ res.1 := by
          rw [← hres]; split
          · split; simp; omega
          · split
            · split; simp; omega
            · simp
        have : res.1 = (res.1 - 1) + 1 := by omega
        rw [this]
        apply good_cons; rw [hδ]; exact key
    · have key := good_intpart stInit .start (by simp) (c :: r) 0 c r rfl (by intro _; simpa using hm)
      simp only [numInteger, hm, Bool.false_eq_true, if_false, List.drop_zero]
      simpa using key

theorem take_succ_of_drop (b : Bytes) (n : Nat) (c : UInt8) (r : Bytes) (h : b.drop n = c :: r) :
    b.take (n + 1) = b.take n ++ [c] := by
  rw [List.take_add_one, (List.drop_eq_cons h).1]; rfl

theorem dead_next (s : St) (b : Bytes) (n : Nat) (h : Stops (run s (b.take n)) (b.drop n)) (hn : n < b.length) :
    run s (b.take (n + 1)) = .dead := by
  cases hd : b.drop n with
  | nil => rw [List.drop_eq_nil_iff] at hd; omega
  | cons c r =>
    rw [hd] at h
    rw [take_succ_of_drop b n c r hd, run_append]
    exact h

theorem live_whole (s : St) (b : Bytes) (n : Nat) (h : run s b ≠ .dead) : run s (b.take n) ≠ .dead := by
  have : b = b.take n ++ b.drop n := (List.take_append_drop n b).symm
  rw [this] at h
  exact live_of_append _ _ _ h

theorem scan_unique (b : Bytes) (n : Nat) (hn : n ≤ b.length) (hacc : acc (run .start (b.take n)) = true)
    (hstop : n = b.length ∨ run .start (b.take (n + 1)) = .dead) (m : Nat) (e : Err) (hg : Good .start b m e) :
    e = .ok ∧ m = n := by
  have hlive := acc_live _ hacc
  cases e
  case ok =>
    obtain ⟨h1, h2, h3⟩ := hg
    refine ⟨rfl, ?_⟩
    rcases Nat.lt_trichotomy n m with h | h | h
    · rcases hstop with hs | hs
      · omega
      · exact absurd hs (live_take _ b (n + 1) m h (acc_live _ h2))
    · exact h.symm
    · have := dead_next .start b m h3 (by omega)
      exact absurd this (live_take _ b (m + 1) n h hlive)
  case eof =>
    obtain ⟨h1, h2⟩ := hg
    rcases hstop with hs | hs
    · rw [hs, List.take_length] at hacc
      rw [hacc] at h2; exact absurd h2 (by decide)
    · exact absurd hs (live_whole _ b _ h1)
  case invalidChar =>
    obtain ⟨h1, h2, h3, h4⟩ := hg
    rcases Nat.lt_trichotomy n m with h | h | h
    · rcases hstop with hs | hs
      · omega
      · exact absurd hs (live_take _ b (n + 1) m h h2)
    · subst h; rw [hacc] at h3; exact absurd h3 (by decide)
    · have := dead_next .start b m h4 h1
      exact absurd this (live_take _ b (m + 1) n h hlive)
  all_goals exact absurd hg (by simp [Good])

theorem good_class (s : St) (b : Bytes) (m : Nat) (e : Err) (h : Good s b m e) : e = .ok ∨ e = .eof ∨ e = .invalidChar := by
  cases e <;> simp_all [Good]

theorem frac_stop (st : Nat) (rest : Bytes)
    (h : ∀ d r, rest = d :: r → (d != 0x2E && d != 0x65 && d != 0x45) = true) :
    numFractional st rest = (0, st, .ok) := by
  cases rest with
  | nil => simp [numFractional, numExponent]
  | cons d r =>
    have := h d r rfl
    simp only [Bool.and_eq_true, bne_iff_ne, ne_eq] at this
    obtain ⟨⟨h1, h2⟩, h3⟩ := this
    simp [numFractional, numExponent, h1, h2, h3]

theorem simple_fin (n : Nat) (rest : Bytes) (h : simpleNumberFin n rest ≠ 0) :
    simpleNumberFin n rest = n ∧ ∀ d r, rest = d :: r → (d != 0x2E && d != 0x65 && d != 0x45) = true := by
  cases rest with
  | nil => exact ⟨rfl, by intro d r h; cases h⟩
  | cons d r =>
    by_cases hc : (d != 0x2E && d != 0x65 && d != 0x45) = true
    · refine ⟨by simp [simpleNumberFin, hc], ?_⟩
      intro d' r' h'
      simp only [List.cons.injEq] at h'
      rw [← h'.1]; exact hc
    · simp [simpleNumberFin, hc] at h

theorem simple_number_sound' (b : Bytes) (hpos : consumeSimpleNumber b ≠ 0) :
    consumeNumber b = (consumeSimpleNumber b, .ok) := by
  rw [consumeNumber_eq]
  cases b with
  | nil => simp [consumeSimpleNumber] at hpos
  | cons c r =>
    by_cases hz : (c == 0x30) = true
    · have hc : c = 0x30 := by simpa using hz
      subst hc
      simp only [consumeSimpleNumber, beq_self_eq_true, if_true] at hpos ⊢
      obtain ⟨hval, hfin⟩ := simple_fin 1 r hpos
      rw [hval]
      have : ((0x30 : UInt8) == 0x2D) = false := by decide
      simp [numInteger, this, frac_stop _ r hfin]
    · by_cases h19 : isDigit19 c = true
      · have hm : (c == 0x2D) = false := by
          have h' := h19
          rw [cls_d19] at h'
          rw [cls_minus]
          generalize cls c = k at h'
          cases k <;> simp_all
        simp only [consumeSimpleNumber, hz, h19, if_true, Bool.false_eq_true, if_false] at hpos ⊢
        obtain ⟨hval, hfin⟩ := simple_fin (1 + digitRun r) (r.drop (digitRun r)) hpos
        rw [hval]
        simp [numInteger, hm, hz, h19, frac_stop _ _ hfin]
      · simp [consumeSimpleNumber, hz, h19] at hpos

theorem scan_invalid_unique (b : Bytes) (n : Nat) (hn : n < b.length) (hlive : run .start (b.take n) ≠ .dead)
    (hnacc : acc (run .start (b.take n)) = false) (hdead : run .start (b.take (n + 1)) = .dead)
    (m : Nat) (e : Err) (hg : Good .start b m e) : e = .invalidChar ∧ m = n := by
  cases e
  case ok =>
    obtain ⟨h1, h2, h3⟩ := hg
    exfalso
    rcases Nat.lt_trichotomy m n with h | h | h
    · exact absurd (dead_next .start b m h3 (by omega)) (live_take _ b (m + 1) n h hlive)
    · subst h; rw [h2] at hnacc; cases hnacc
    · exact absurd hdead (live_take _ b (n + 1) m h (acc_live _ h2))
  case eof =>
    exact absurd hdead (live_whole _ b _ hg.1)
  case invalidChar =>
    obtain ⟨h1, h2, h3, h4⟩ := hg
    refine ⟨rfl, ?_⟩
    rcases Nat.lt_trichotomy m n with h | h | h
    · exact absurd (dead_next .start b m h4 h1) (live_take _ b (m + 1) n h hlive)
    · exact h
    · exact absurd hdead (live_take _ b (n + 1) m h h2)
  all_goals exact absurd hg (by simp [Good])

theorem consumeNumber_ok_iff (b : Bytes) (n : Nat) :
    consumeNumber b = (n, .ok) ↔
      n ≤ b.length ∧ JNumber (b.take n) ∧ (n = b.length ∨ ¬ NumPrefix (b.take (n + 1))) := by
  have hg := good_consumeNumber b
  constructor
  · intro h
    rw [h] at hg
    obtain ⟨h1, h2, h3⟩ := hg
    refine ⟨h1, (jnumber_iff_acc _).2 h2, ?_⟩
    by_cases hn : n = b.length
    · exact Or.inl hn
    · right
      rw [numPrefix_iff_live]
      simp only [ne_eq, Decidable.not_not]
      exact dead_next .start b n h3 (by omega)
  · rintro ⟨h1, h2, h3⟩
    have hstop : n = b.length ∨ run .start (b.take (n + 1)) = .dead := by
      rcases h3 with h3 | h3
      · exact Or.inl h3
      · right
        rw [numPrefix_iff_live] at h3
        simpa using h3
    have := scan_unique b n h1 ((jnumber_iff_acc _).1 h2) hstop _ _ hg
    exact Prod.ext this.2 this.1

theorem consumeNumber_eof_iff (b : Bytes) : (consumeNumber b).2 = .eof ↔ NumPrefix b ∧ ¬ JNumber b := by
  have hg := good_consumeNumber b
  rw [numPrefix_iff_live, jnumber_iff_acc]
  constructor
  · intro h
    rw [h] at hg
    exact ⟨hg.1, by simp [hg.2]⟩
  · rintro ⟨h1, h2⟩
    rcases good_class _ _ _ _ hg with he | he | he
    · rw [he] at hg
      obtain ⟨g1, g2, g3⟩ := hg
      by_cases hn : (consumeNumber b).1 = b.length
      · rw [hn, List.take_length] at g2; exact absurd g2 h2
      · exact absurd (dead_next .start b _ g3 (by omega)) (live_whole _ b _ h1)
    · exact he
    · rw [he] at hg
      obtain ⟨g1, _, _, g4⟩ := hg
      exact absurd (dead_next .start b _ g4 g1) (live_whole _ b _ h1)

theorem consumeNumber_invalid_iff (b : Bytes) (n : Nat) :
    consumeNumber b = (n, .invalidChar) ↔
      n < b.length ∧ NumPrefix (b.take n) ∧ ¬ JNumber (b.take n) ∧ ¬ NumPrefix (b.take (n + 1)) := by
  have hg := good_consumeNumber b
  constructor
  · intro h
    rw [h] at hg
    obtain ⟨g1, g2, g3, g4⟩ := hg
    refine ⟨g1, (numPrefix_iff_live _).2 g2, ?_, ?_⟩
    · rw [jnumber_iff_acc]; simp [g3]
    · rw [numPrefix_iff_live]; simpa using dead_next .start b n g4 g1
  · rintro ⟨h1, h2, h3, h4⟩
    rw [numPrefix_iff_live] at h2 h4
    rw [jnumber_iff_acc] at h3
    have := scan_invalid_unique b n h1 h2 (by simpa using h3) (by simpa using h4) _ _ hg
    exact Prod.ext this.2 this.1

theorem consumeNumber_ok_scan (b : Bytes) (n : Nat) :
    consumeNumber b = (n, .ok) ↔ ∃ p t, scan .start b = some (p, t) ∧ p.length = n := by
  rw [consumeNumber_ok_iff]
  constructor
  · rintro ⟨hn, hj, hstop⟩
    refine ⟨b.take n, b.drop n, scan_start.mpr ⟨(List.take_append_drop n b).symm, hj, ?_⟩, List.length_take_of_le hn⟩
    intro c t' hd
    rcases hstop with rfl | hnp
    · rw [List.drop_length] at hd; cases hd
    · rwa [take_succ_of_drop b n c t' hd] at hnp
  · rintro ⟨p, t, h, rfl⟩
    obtain ⟨rfl, hj, he⟩ := scan_start.mp h
    refine ⟨by simp, by simpa using hj, ?_⟩
    cases t with
    | nil => left; simp
    | cons c t' =>
      right
      rw [show (p ++ c :: t').take (p.length + 1) = p ++ [c] by rw [List.take_add]; simp]
      exact he c t' rfl

theorem consumeNumber_append {v rest : Bytes} (h : JNumber v) (he : Ends v rest) :
    consumeNumber (v ++ rest) = (v.length, .ok) :=
  (consumeNumber_ok_scan _ _).2 ⟨v, rest, scan_start.mpr ⟨rfl, h, he⟩, rfl⟩

end JsonV.Lemmas.WireNumber
