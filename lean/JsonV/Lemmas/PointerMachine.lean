/-
Lemmas for C16: `stackptr_spec` on the PACKED state machine (Model/State.lean) with the names stack
maintained as the code does, through slice C06's refinement of the machine to the PDA.
-/
import JsonV.Lemmas.PointerSim
import JsonV.Lemmas.StateRefine
import JsonV.Lemmas.StateStep

namespace JsonV.Lemmas.Pointer
open JsonV JsonV.Model JsonV.Model.Pointer JsonV.Spec.Pointer JsonV.Spec JsonV.Lemmas.StateRefine

/-- A PDA frame as the (kind, count) entry `appendStackPointer` reads. -/
def toSE : PDA.Frame → SEntry
  | .obj n => ⟨true, n⟩
  | .arr n => ⟨false, n⟩

/-- The grammar kind of a token of Model/Pointer (which has one token for all scalars but strings). -/
def kindOf : Tok → PDA.Kind
  | .scalar => .lit
  | .str _ => .str
  | .beginObj => .beginObj
  | .endObj => .endObj
  | .beginArr => .beginArr
  | .endArr => .endArr

theorem toSE_absE (e : Entry) : toSE (absE e) = ⟨e.isObject, e.length⟩ := by
  unfold absE; cases h : e.isObject <;> simp [toSE]

theorem view_eq (s : MState) : s.view = ⟨(abs s.m).map toSE, s.names⟩ := by
  have hf : (fun e : Entry => (⟨e.isObject, e.length⟩ : SEntry)) = toSE ∘ absE := by
    funext e; exact (toSE_absE e).symm
  simp only [MState.view, abs, List.map_cons, List.map_reverse, List.map_map, hf, Function.comp]

theorem toSE_needName (f : PDA.Frame) : (toSE f).needObjectName = f.needName := by
  cases f <;> simp [toSE, SEntry.needObjectName, PDA.Frame.needName]
  rename_i n; by_cases h : n % 2 = 0 <;> simp [h]

/-- names after one token, as in MState.step -/
def namesStep (needName : Bool) (names : List Bytes) : Tok → List Bytes
  | .str n => if needName then replaceHead names n else names
  | .beginObj => [] :: names
  | .endObj => names.drop 1
  | _ => names

theorem pda_astep (max : Nat) (fs fs' : PDA.Frames) (t : Tok) (names : List Bytes)
    (h : PDA.step max fs (kindOf t) = some fs')
    (hn : ∀ f rest, fs = f :: rest → f.needName = true → names ≠ []) :
    AState.step ⟨fs.map toSE, names⟩ t =
      some ⟨fs'.map toSE, namesStep ((fs.head?.map PDA.Frame.needName).getD false) names t⟩ := by
  have hbump (f : PDA.Frame) : toSE f.bump = ⟨(toSE f).isObj, (toSE f).len + 1⟩ := by cases f <;> rfl
  have hfalse {f : PDA.Frame} (hf : f.needName = false) : (toSE f).needObjectName = false := by rw [toSE_needName, hf]
  cases t <;> cases StateStep.step_iff.mp h
  case scalar.lit f rest hf => simp [AState.step, hfalse hf, hbump, namesStep]
  case str.str x f rest =>
    by_cases hf : f.needName = true
    · cases names with
      | nil => exact absurd rfl (hn f rest rfl hf)
      | cons n0 ns => simp [AState.step, toSE_needName, hf, hbump, namesStep, replaceHead]
    · simp [AState.step, toSE_needName, hf, hbump, namesStep]
  case beginObj.beginObj f rest hf _ => simp [AState.step, hfalse hf, hbump, namesStep, toSE.eq_1]
  case beginArr.beginArr f rest hf _ => simp [AState.step, hfalse hf, hbump, namesStep, toSE.eq_2]
  case endObj.endObj n g rest hpar =>
    have h1 : (n % 2 == 1) = false := by simp; omega
    simp [AState.step, namesStep, toSE, SEntry.needObjectValue, h1]
  case endArr.endArr n g rest => simp [AState.step, namesStep, toSE]

theorem mstep_names {max : Nat} {s s' : MState} {t : Tok} (h : MState.step max s t = .ok s') :
    smStep max s.m (kindOf t) = .ok s'.m ∧ s'.names = namesStep s.m.last.needObjectName s.names t := by
  cases t <;> (obtain ⟨m', hm, rfl⟩ := Except.map_eq_ok.mp h; exact ⟨hm, rfl⟩)

theorem mstep_view {max b : Nat} {s s' : MState} {t : Tok} {fs : List Frame} (hinv : Inv max b s.m)
    (hb : b + 1 < 2^61) (hr : Rel s.view.stack s.names fs) (h : MState.step max s t = .ok s') :
    AState.step s.view t = some s'.view ∧ Inv max (b + 1) s'.m := by
  obtain ⟨hk, hnames⟩ := mstep_names h
  rcases step_cases hinv hb (kindOf t) with ⟨_, hk', hstep, hinv'⟩ | ⟨_, hk', -⟩ <;> cases hk.symm.trans hk'
  refine ⟨?_, hinv'⟩
  rw [view_eq s] at hr ⊢
  rw [view_eq s', hnames]
  generalize s.names = names at hr ⊢
  have := pda_astep max (abs s.m) (abs s'.m) t names hstep (by
    intro f rest hfr hneed
    rw [hfr] at hr
    simp only [List.map_cons] at hr
    cases f with
    | arr n => simp [PDA.Frame.needName] at hneed
    | obj n =>
      simp only [toSE] at hr
      cases hr
      simp)
  rw [this]
  simp [abs_cons, needName_abs]

/-- The invariant of `mrun_view`: the machine's `Inv`, and the simulation relation and `Good` of PointerSim on its view. -/
def MInv (max b : Nat) (s : MState) (fs : List Frame) : Prop :=
  Inv max b s.m ∧ Rel s.view.stack s.names fs ∧ Good s.view

theorem mrun_view {max : Nat} (hist : List Tok) : ∀ {b : Nat} {s s' : MState} {fs : List Frame},
    MInv max b s fs → b + hist.length < 2^61 → MState.run max s hist = .ok s' →
    s.view.run hist = some s'.view := by
  induction hist with
  | nil => intro b s s' fs _ _ h; simp [MState.run] at h; subst h; rfl
  | cons t ts ih =>
    intro b s s' fs hi hb h
    simp only [MState.run] at h
    cases hst : MState.step max s t with
    | error e => rw [hst] at h; cases h
    | ok s1 =>
      rw [hst] at h
      simp only at h
      obtain ⟨hinv, hr, hg⟩ := hi
      have hb1 : b + 1 < 2^61 := by simp at hb; omega
      obtain ⟨hv, hinv1⟩ := mstep_view hinv hb1 hr hst
      have hr' : Rel s.view.stack s.view.names fs := hr
      obtain ⟨fs1, _, hr1, hg1⟩ := step_sim hr' hg hv
      have := ih (b := b + 1) ⟨hinv1, hr1, hg1⟩ (by simp at hb ⊢; omega) h
      simp [AState.run, hv, this]

theorem minv_init (max : Nat) : MInv max 0 ({} : MState) [.arr 0] :=
  ⟨inv_init max, init_rel, init_good⟩

/-- **stackptr_spec on the packed machine**: for every token history accepted by the real state-machine operations
(any depth limit), with `Names` pushed on '{', replaced on a member name and popped on '}', the pointer
`appendStackPointer(where)` assembles from `e.isObject()`, `e.Length()` and the names is the rendering of the
declarative path `pointerOf where hist`, for where = -1, 0 and +1. -/
theorem stackptr_spec_machine (max : Nat) (hist : List Tok) (hlen : hist.length < 2^61) (w : Int)
    (hw : w = -1 ∨ w = 0 ∨ w = 1) (s : MState) (hrun : MState.run max {} hist = .ok s) :
    ∃ path, pointerOf w hist = some path ∧ s.appendStackPointer [] w = some (render (path.map refToken)) := by
  have hv := mrun_view hist (minv_init max) (by omega) hrun
  have hinit : ({} : MState).view = AState.init := rfl
  rw [hinit] at hv
  exact stackptr_spec hist w s.view hw hv

end JsonV.Lemmas.Pointer
