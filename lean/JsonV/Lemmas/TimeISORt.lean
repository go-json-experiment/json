/-
ISO 8601 durations, part 3: the writer's shape, the parser on that shape, and the round trip for every int64.
-/
import JsonV.Lemmas.TimeISOParts

namespace JsonV.Model.Time
open JsonV JsonV.Lemmas.NumDigits

theorem parseTimePart_parts (ff : FloatFrac) (h m s ns : Nat) (hns : ns < 1000000000)
    (hne : (unitPart 72 h ++ (unitPart 77 m ++ sPart s ns)).length > 0)
    (hsum : h * hourNs + m * minuteNs + ns + s * secondNs < U64) :
    ∃ sf, parseTimePart ff (cleanSt 0 false) (unitPart 72 h ++ (unitPart 77 m ++ sPart s ns))
      = cleanSt (h * hourNs + m * minuteNs + ns + s * secondNs) sf := by
  have hh : h < U64 := by simp only [hourNs] at hsum; omega
  have hm : m < U64 := by simp only [minuteNs] at hsum; omega
  have hs : s < U64 := by simp only [secondNs] at hsum; omega
  have s1 := step_unit ff 0 h (unitPart 77 m ++ sPart s ns) 72 104 hourNs (by decide) (by decide) (by decide)
    (ms_avoid_H m s ns) (by omega) hh
  have s2 := step_unit ff (0 + h * hourNs) m (sPart s ns) 77 109 minuteNs (by decide) (by decide) (by decide)
    (s_avoid_M s ns) (by omega) hm
  obtain ⟨sf, s3⟩ := step_S ff (0 + h * hourNs + m * minuteNs) s ns hns (by omega) hs
  refine ⟨sf, ?_⟩
  unfold parseTimePart
  rw [if_pos hne]
  simp only [s1, s2, s3]
  simp [cleanSt]

theorem parseTimePart_zero (ff : FloatFrac) :
    parseTimePart ff (cleanSt 0 false) (natDigits 0 ++ 83 :: []) = cleanSt 0 false := by
  have hav : ∀ (a b : UInt8), (a.toNat < 48 ∨ 57 < a.toNat) → (b.toNat < 48 ∨ 57 < b.toNat) → (83 : UInt8) ≠ a → (83 : UInt8) ≠ b →
      ∀ c ∈ natDigits 0 ++ 83 :: [], c ≠ a ∧ c ≠ b := by
    intro a b ha hb h1 h2 c hc
    rcases List.mem_append.mp hc with h | h
    · exact digits_avoid (natDigits_allDigits 0) ha hb c h
    · have := List.mem_singleton.mp h; subst this; exact ⟨h1, h2⟩
  have s1 := mayParseUnit_absent ff (cleanSt 0 false) (natDigits 0 ++ 83 :: []) 72 104 hourNs
    (hav 72 104 (by decide) (by decide) (by decide) (by decide))
  have s2 := mayParseUnit_absent ff (cleanSt 0 false) (natDigits 0 ++ 83 :: []) 77 109 minuteNs
    (hav 77 109 (by decide) (by decide) (by decide) (by decide))
  have s3 := mayParseUnit_whole ff 0 0 [] 83 115 secondNs (by decide) (by decide) (by decide) (by decide) (by decide)
  unfold parseTimePart
  rw [if_pos (by simp)]
  simp only [s1, s2, s3]
  simp [cleanSt]

theorem consumeSign_P (rest : Bytes) : consumeSign (80 :: rest) true = (80 :: rest, false) := by
  have h1 : (80 : UInt8) ≠ cMinus := by decide
  have h2 : (80 : UInt8) ≠ cPlus := by decide
  simp [consumeSign, h1, h2]

theorem parseISO_shape (ff : FloatFrac) (neg : Bool) (body : Bytes) (hne : body.length > 0) :
    parseDurationISO8601 ff ((if neg then [cMinus] else []) ++ 80 :: 84 :: body)
      = isoFinish (parseTimePart ff (cleanSt 0 false) body) neg := by
  have hcs : consumeSign ((if neg then [cMinus] else []) ++ 80 :: 84 :: body) true = (80 :: 84 :: body, neg) := by
    cases neg with
    | true => simp only [if_true]; exact consumeSign_minus _ _
    | false => simp only [Bool.false_eq_true, if_false, List.nil_append]; exact consumeSign_P _
  have hP := cutBytes_head 80 112 (84 :: body)
  have hT := cutBytes_head 84 116 body
  have hb : body ≠ [] := by intro e; rw [e] at hne; simp at hne
  have hlen : decide (body.length = 0) = false := by simp [hb]
  have hlen2 : decide (([] : Bytes).length + body.length = 0) = false := by simp [hb]
  have hdate : ∀ st, parseDatePart ff st [] = st := by intro st; simp [parseDatePart]
  unfold parseDurationISO8601
  simp only [hcs, hP, hT, hdate, hlen, hlen2]
  rfl

theorem isoFinish_natAbs (d : Int) (h0 : -9223372036854775808 ≤ d) (h1 : d < 9223372036854775808) (sf : Bool) :
    isoFinish (cleanSt d.natAbs sf) (decide (d < 0)) = (d, none, false) := by
  unfold isoFinish cleanSt
  simp only [mayApply_natAbs d h0 h1]
  simp

theorem append_unitPart (b : Bytes) (des : UInt8) (x : Nat) :
    (if x > 0 then b ++ natDigits x ++ [des] else b) = b ++ unitPart des x := by
  unfold unitPart; split
  · exact List.append_assoc ..
  · exact (List.append_nil b).symm

theorem append_sPart (b : Bytes) (s ns : Nat) :
    (if s > 0 ∨ ns > 0 then b ++ natDigits s ++ fracText 9 ns ++ [83] else b) = b ++ sPart s ns := by
  unfold sPart; split
  · simp only [List.append_assoc]
  · exact (List.append_nil b).symm

theorem appendISO_shape (d : Int) (h0 : -9223372036854775808 ≤ d) (h1 : d < 9223372036854775808) (hd : d ≠ 0) :
    appendDurationISO8601 [] d = (if decide (d < 0) then [cMinus] else []) ++ 80 :: 84 ::
      (unitPart 72 (d.natAbs / 1000000000 / 60 / 60) ++ (unitPart 77 (d.natAbs / 1000000000 / 60 % 60) ++
        sPart (d.natAbs / 1000000000 % 60) (d.natAbs % 1000000000))) := by
  have hfrac : ∀ b, appendFracBase10 b (d.natAbs % 1000000000) 1000000000 = b ++ fracText 9 (d.natAbs % 1000000000) :=
    fun b => appendFrac_eq b 9 _ (Nat.mod_lt _ (by decide))
  unfold appendDurationISO8601
  rw [if_neg hd, mayAppend_spec [] d h0 h1]
  simp only [div64, Nat.zero_mul, Nat.zero_add, hfrac, append_unitPart, append_sPart]
  simp

theorem parts_length_pos {h m s ns : Nat} (hpos : 0 < h ∨ 0 < m ∨ 0 < s ∨ 0 < ns) :
    (unitPart 72 h ++ (unitPart 77 m ++ sPart s ns)).length > 0 := by
  rcases hpos with hh | hm | hs
  · simp [unitPart, hh]; omega
  · simp [unitPart, hm]; omega
  · simp [sPart, hs]; omega

/-- C04's `durISO_rt` cites this.  `ff`, the parameter of the parser's float branch, is arbitrary: the writer never emits a
fraction of an hour or a minute, so the parser never enters that branch. -/
theorem durISO_roundtrip (ff : FloatFrac) (d : Int) (h0 : -9223372036854775808 ≤ d) (h1 : d < 9223372036854775808) :
    parseDurationISO8601 ff (appendDurationISO8601 [] d) = (d, none, false) := by
  by_cases hd : d = 0
  · subst hd
    have e : appendDurationISO8601 [] 0 = (if false then [cMinus] else []) ++ 80 :: 84 :: (natDigits 0 ++ 83 :: []) := by
      have : natDigits 0 = [48] := by rw [natDigits_lt (by decide)]; rfl
      rw [this]; simp [appendDurationISO8601]
    rw [e, parseISO_shape ff false _ (by simp), parseTimePart_zero]
    exact isoFinish_natAbs 0 (by decide) (by decide) false
  · have hsum : (d.natAbs / 1000000000 / 60 / 60) * hourNs + (d.natAbs / 1000000000 / 60 % 60) * minuteNs
        + d.natAbs % 1000000000 + (d.natAbs / 1000000000 % 60) * secondNs = d.natAbs := by
      simp only [hourNs, minuteNs, secondNs]; omega
    have hns : d.natAbs % 1000000000 < 1000000000 := Nat.mod_lt _ (by decide)
    rw [appendISO_shape d h0 h1 hd]
    generalize d.natAbs / 1000000000 / 60 / 60 = h at hsum ⊢
    generalize d.natAbs / 1000000000 / 60 % 60 = m at hsum ⊢
    generalize d.natAbs / 1000000000 % 60 = s at hsum ⊢
    generalize d.natAbs % 1000000000 = ns at hsum hns ⊢
    have hne : (unitPart 72 h ++ (unitPart 77 m ++ sPart s ns)).length > 0 :=
      parts_length_pos (by simp only [hourNs, minuteNs, secondNs] at hsum; omega)
    obtain ⟨sf, hp⟩ := parseTimePart_parts ff h m s ns hns hne (by rw [hsum]; simp only [U64]; omega)
    rw [parseISO_shape ff (decide (d < 0)) _ hne, hp, hsum]
    exact isoFinish_natAbs d h0 h1 sf

end JsonV.Model.Time
