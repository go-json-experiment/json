/-
Lemmas for C16: `Pointer.IsValid` (the `range` loop with UTF-8 decoding): closed under concatenation, and a valid pointer
is the rendering of its tokens.
-/
import JsonV.Lemmas.PointerOps
import JsonV.Lemmas.Utf8L

namespace JsonV.Lemmas.Pointer
open JsonV JsonV.Model JsonV.Model.Pointer JsonV.Spec.Pointer
open JsonV.Model.Utf8 (decodeRune runeError runeSelf)

theorem decodeRune_append (c : UInt8) (rest q : Bytes) (h : decodeRune (c :: rest) ≠ (runeError, 1)) :
    decodeRune (c :: (rest ++ q)) = decodeRune (c :: rest) := by
  refine Utf8.decodeRune_append_of_full (c :: rest) q ?_
  cases hf : Utf8.fullRune (c :: rest) with
  | true => rfl
  | false => exact absurd (Utf8.decodeRune_of_not_full c rest hf) h

theorem rangeAux_drop (k : Nat) (p : Bytes) : rangeAux k p = rangeAux 0 (p.drop k) := by
  induction p generalizing k with
  | nil => cases k <;> simp [rangeAux]
  | cons b rest ih =>
    cases k with
    | zero => rfl
    | succ k => simp only [rangeAux, List.drop_succ_cons]; exact ih k

theorem rangeStr_cons (b : UInt8) (rest : Bytes) :
    rangeStr (b :: rest) = ((decodeRune (b :: rest)).1, b :: rest) ::
      rangeStr (rest.drop ((decodeRune (b :: rest)).2 - 1)) := by
  unfold rangeStr
  simp only [rangeAux]
  rw [rangeAux_drop]

theorem range_induction {P : Bytes → Prop} (nil : P [])
    (cons : ∀ b rest, P (rest.drop ((decodeRune (b :: rest)).2 - 1)) → P (b :: rest)) (p : Bytes) : P p := by
  generalize hn : p.length = n
  induction n using Nat.strongRecOn generalizing p with
  | _ n ih =>
    cases p with
    | nil => exact nil
    | cons b rest => exact cons b rest (ih _ (by rw [← hn, List.length_drop, List.length_cons]; omega) _ rfl)

theorem range_split (b : UInt8) (rest : Bytes) :
    (b :: rest).take (decodeRune (b :: rest)).2 = b :: rest.take ((decodeRune (b :: rest)).2 - 1) ∧
    (decodeRune (b :: rest)).2 - 1 ≤ rest.length := by
  have h1 := Utf8.decodeRune_snd_pos b rest
  have h2 := Utf8.decodeRune_le (b :: rest)
  rw [List.length_cons] at h2
  obtain ⟨k, hk⟩ : ∃ k, (decodeRune (b :: rest)).2 = k + 1 := ⟨_, (Nat.sub_add_cancel h1).symm⟩
  rw [hk] at h2 ⊢
  exact ⟨rfl, by omega⟩

/-- The loop of `IsValid` without the final leading-slash test. -/
def allStep (p : Bytes) : Bool := (rangeStr p).all validStep

theorem isValid_eq (p : Bytes) : isValid p = (allStep p && (match p with | [] => true | b :: _ => b == cSlash)) := rfl

theorem allStep_nil : allStep [] = true := rfl

theorem allStep_cons (b : UInt8) (rest : Bytes) :
    allStep (b :: rest) = (validStep ((decodeRune (b :: rest)).1, b :: rest) &&
      allStep (rest.drop ((decodeRune (b :: rest)).2 - 1))) := by
  unfold allStep; rw [rangeStr_cons]; rfl

theorem hasPrefix_iff (p pre : Bytes) : hasPrefix p pre = true ↔ ∃ t, p = pre ++ t := by
  induction pre generalizing p with
  | nil => cases p <;> simp [hasPrefix]
  | cons a pre ih =>
    cases p with
    | nil => simp [hasPrefix]
    | cons b p =>
      simp only [hasPrefix, Bool.and_eq_true, beq_iff_eq, ih, List.cons_append, List.cons.injEq]
      exact ⟨fun ⟨h, t, ht⟩ => ⟨t, h, ht⟩, fun ⟨t, h, ht⟩ => ⟨h, t, ht⟩⟩

theorem badTilde_append {p : Bytes} (q : Bytes) (h : badTilde p = false) : badTilde (p ++ q) = false := by
  match p, h with
  | _ :: _ :: _, h => exact h

theorem validStep_iff (r : Nat) (p : Bytes) : validStep (r, p) = true ↔
    (r = 0x7e → badTilde p = false) ∧ (r = 0xFFFD → hasPrefix p [0xEF, 0xBF, 0xBD] = true) := by
  unfold validStep
  by_cases h1 : r = 0x7e
  · simp [h1]
  · simp [h1, Decidable.imp_iff_not_or]

theorem validStep_append {r : Nat} {p : Bytes} (q : Bytes) (h : validStep (r, p) = true) :
    validStep (r, p ++ q) = true := by
  rw [validStep_iff] at h ⊢
  refine ⟨fun hr => badTilde_append q (h.1 hr), fun hr => ?_⟩
  obtain ⟨t, rfl⟩ := (hasPrefix_iff _ _).1 (h.2 hr)
  exact (hasPrefix_iff _ _).2 ⟨t ++ q, by rw [List.append_assoc]⟩

/-- A step that passes did not see a decoding error: U+FFFD of width 1 is not followed by its own encoding. -/
theorem decodeRune_ne_error {p : Bytes} (h : validStep ((decodeRune p).1, p) = true) :
    decodeRune p ≠ (runeError, 1) := by
  intro hd
  rw [hd] at h
  obtain ⟨t, rfl⟩ := (hasPrefix_iff _ _).1 (((validStep_iff _ _).1 h).2 rfl)
  rw [show [0xEF, 0xBF, 0xBD] ++ t = 0xEF :: 0xBF :: 0xBD :: t from rfl, Utf8.decodeRune_fffd] at hd
  cases hd

/-- Bytewise: every '~' is followed by '0' or '1'. -/
def tildeOK : Bytes → Bool
  | [] => true
  | [a] => a != cTilde
  | a :: b :: rest => (a != cTilde || b == c0 || b == c1) && tildeOK (b :: rest)

theorem tildeOK_cons (a : UInt8) (l : Bytes) :
    tildeOK (a :: l) = ((a != cTilde || !badTilde (a :: l)) && tildeOK l) := by
  cases l with
  | nil => simp [tildeOK, badTilde]
  | cons b rest => simp [tildeOK, badTilde, bne, Bool.or_assoc]

theorem tildeOK_append_notin (pre s : Bytes) (h : ∀ b ∈ pre, b ≠ cTilde) (hs : tildeOK s = true) :
    tildeOK (pre ++ s) = true := by
  induction pre with
  | nil => exact hs
  | cons a pre ih =>
    rw [List.cons_append, tildeOK_cons, ih fun b hb => h b (List.mem_cons_of_mem _ hb)]
    simp [h a List.mem_cons_self]

theorem byte_ge_ne_tilde (x : UInt8) (h : 0x80 ≤ x.toNat) : x ≠ cTilde := by
  intro hx; subst hx; simp [cTilde] at h

theorem allStep_tildeOK (p : Bytes) (h : allStep p = true) : tildeOK p = true := by
  induction p using range_induction with
  | nil => rfl
  | cons b rest ih =>
    rw [allStep_cons, Bool.and_eq_true] at h
    have hrest := ih h.2
    by_cases hb : b.toNat < runeSelf
    · rw [Utf8.decodeRune_ascii b rest hb] at h hrest
      simp only [Nat.sub_self, List.drop_zero] at hrest
      rw [tildeOK_cons, hrest, Bool.and_true]
      by_cases hbt : b = cTilde
      · rw [hbt] at h ⊢
        rw [((validStep_iff _ _).1 h.1).1 rfl]
        rfl
      · simp [hbt]
    · obtain ⟨hsplit, _⟩ := range_split b rest
      have hhigh := Utf8.decodeRune_take_high b rest hb
      rw [hsplit] at hhigh
      rw [← List.take_append_drop ((decodeRune (b :: rest)).2 - 1) rest, ← List.cons_append]
      exact tildeOK_append_notin _ _ (fun x hx => byte_ge_ne_tilde x (hhigh x hx)) hrest

theorem allStep_append (p q : Bytes) (hp : allStep p = true) (hq : allStep q = true) : allStep (p ++ q) = true := by
  induction p using range_induction with
  | nil => exact hq
  | cons b rest ih =>
    rw [allStep_cons, Bool.and_eq_true] at hp
    rw [List.cons_append, allStep_cons, decodeRune_append b rest q (decodeRune_ne_error hp.1),
      List.drop_append_of_le_length (range_split b rest).2, ih hp.2, Bool.and_true]
    exact validStep_append q hp.1

/-- "the concatenation of two valid pointers produces a valid pointer" (doc comment of IsValid). -/
theorem isValid_append (p q : Bytes) (hp : isValid p = true) (hq : isValid q = true) : isValid (p ++ q) = true := by
  rw [isValid_eq, Bool.and_eq_true] at hp hq ⊢
  refine ⟨allStep_append p q hp.1 hq.1, ?_⟩
  cases p with
  | nil => simpa using hq.2
  | cons b rest => simpa using hp.2

/-- One-pass RFC 6901 unescaping (only used to exhibit a preimage under `escapeTok`). -/
def unesc1 : Bytes → Bytes
  | [] => []
  | [a] => [a]
  | a :: b :: rest =>
    if a = cTilde ∧ b = c0 then cTilde :: unesc1 rest
    else if a = cTilde ∧ b = c1 then cSlash :: unesc1 rest
    else a :: unesc1 (b :: rest)

theorem tildeOK_tail (x : UInt8) (l : Bytes) (h : tildeOK (x :: l) = true) : tildeOK l = true := by
  rw [tildeOK_cons, Bool.and_eq_true] at h
  exact h.2

theorem escapeTok_unesc1 (a : Bytes) (h1 : tildeOK a = true) (h2 : ∀ b ∈ a, b ≠ cSlash) : escapeTok (unesc1 a) = a := by
  fun_induction unesc1 a with
  | case1 => rfl
  | case2 a =>
    have ha : a ≠ cTilde := by simpa [tildeOK] using h1
    have hs : a ≠ cSlash := h2 a (by simp)
    have h7 : a ≠ 0x7e := by simpa [cTilde] using ha
    have h2f : a ≠ 0x2f := by simpa [cSlash] using hs
    simp [escapeTok, h7, h2f]
  | case3 a b rest hc ih =>
    obtain ⟨rfl, rfl⟩ := hc
    have := ih (tildeOK_tail _ _ (tildeOK_tail _ _ h1)) (fun x hx => h2 x (by simp [hx]))
    simp [escapeTok, cTilde, c0, this]
  | case4 a b rest hc0 hc ih =>
    obtain ⟨rfl, rfl⟩ := hc
    have := ih (tildeOK_tail _ _ (tildeOK_tail _ _ h1)) (fun x hx => h2 x (by simp [hx]))
    simp [escapeTok, cTilde, c1, cSlash, this]
  | case5 a b rest hc0 hc1 ih =>
    have ha : a ≠ cTilde := by
      intro hat; subst hat
      simp [tildeOK] at h1
      rcases h1.1 with h | h
      · exact hc0 ⟨rfl, h⟩
      · exact hc1 ⟨rfl, h⟩
    have hs : a ≠ cSlash := h2 a (by simp)
    have := ih (tildeOK_tail _ _ h1) (fun x hx => h2 x (by simp [hx]))
    have h7 : a ≠ 0x7e := by simpa [cTilde] using ha
    have h2f : a ≠ 0x2f := by simpa [cSlash] using hs
    simp [escapeTok, h7, h2f, this]

theorem tildeOK_split (a rest : Bytes) (h : tildeOK (a ++ rest) = true) (hr : SlashLed rest) :
    tildeOK a = true ∧ tildeOK rest = true := by
  induction a with
  | nil => exact ⟨rfl, h⟩
  | cons x a' ih =>
    cases a' with
    | nil =>
      rcases hr with rfl | ⟨r, rfl⟩
      · exact ⟨by simpa using h, rfl⟩
      · simp [tildeOK, cSlash, c0, c1] at h
        exact ⟨by simpa [tildeOK] using h.1, h.2⟩
    | cons y a'' =>
      simp only [List.cons_append, tildeOK, Bool.and_eq_true] at h
      have := ih h.2
      exact ⟨by simp only [tildeOK, Bool.and_eq_true]; exact ⟨h.1, this.1⟩, this.2⟩

theorem render_image (p : Bytes) (hp : SlashLed p) (ht : tildeOK p = true) : ∃ ts, p = render ts := by
  revert ht
  refine slashLed_induction (P := fun p => tildeOK p = true → ∃ ts, p = render ts) (fun _ => ⟨[], rfl⟩) ?_ p hp
  intro a rest ha hrest ih ht
  obtain ⟨hta, htr⟩ := tildeOK_split a rest (tildeOK_tail _ _ ht) hrest
  obtain ⟨ts, hts⟩ := ih htr
  exact ⟨unesc1 a :: ts, by simp only [render, escapeTok_unesc1 a hta ha, ← hts]; rfl⟩

theorem isValid_render (p : Bytes) (h : isValid p = true) : p = render (tokens p) := by
  rw [isValid_eq, Bool.and_eq_true] at h
  have hled : SlashLed p := by
    cases p with
    | nil => exact Or.inl rfl
    | cons b r => have : b = cSlash := by simpa using h.2
                  subst this; exact Or.inr ⟨r, rfl⟩
  obtain ⟨ts, hts⟩ := render_image p hled (allStep_tildeOK p h.1)
  rw [hts, tokens_render]

end JsonV.Lemmas.Pointer
