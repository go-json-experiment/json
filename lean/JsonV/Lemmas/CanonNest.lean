/-
The token grammar of C12 (`accepts`) on the tokens of a tree: a tree whose atoms are scalars is accepted exactly
when no container is opened beyond the nesting limit.
-/
import JsonV.Model.Canon
import JsonV.Lemmas.FormatPda

namespace JsonV.Lemmas.CanonNest
open JsonV JsonV.Fmt JsonV.Canon

/-- The tree is a string literal: what `Fr.value` asks about a value (an object name must be one). -/
def isStrT : JV → Bool
  | .atom (.str _) => true
  | _ => false

/-- A scalar token: not one of the four brackets. -/
def atomOK : Tok → Bool
  | .bo | .eo | .ba | .ea => false
  | _ => true

mutual
/-- Every atom is a scalar token (never a bracket). -/
def AtomsOK : JV → Bool
  | .atom k => atomOK k
  | .arr es => AtomsOKL es
  | .obj ms => AtomsOKM ms
def AtomsOKL : List JV → Bool
  | [] => true
  | e :: es => AtomsOK e && AtomsOKL es
def AtomsOKM : List (Bytes × JV) → Bool
  | [] => true
  | (_, v) :: ms => AtomsOK v && AtomsOKM ms
end

mutual
/-- With `d` containers already open, no container of the tree is opened at depth ≥ `maxDepth`. -/
def depthOK : JV → Nat → Bool
  | .atom _, _ => true
  | .arr es, d => decide (d < maxDepth) && depthOKL es (d + 1)
  | .obj ms, d => decide (d < maxDepth) && depthOKM ms (d + 1)
def depthOKL : List JV → Nat → Bool
  | [], _ => true
  | e :: es, d => depthOK e d && depthOKL es d
def depthOKM : List (Bytes × JV) → Nat → Bool
  | [], _ => true
  | (_, v) :: ms, d => depthOK v d && depthOKM ms d
end

theorem toks_arr_append (es : List JV) (rest : List Tok) :
    (JV.arr es).toks ++ rest = Tok.ba :: (toksL es ++ Tok.ea :: rest) := by simp [JV.toks]

theorem toks_obj_append (ms : List (Bytes × JV)) (rest : List Tok) :
    (JV.obj ms).toks ++ rest = Tok.bo :: (toksM ms ++ Tok.eo :: rest) := by simp [JV.toks]

theorem toksL_cons_append (e : JV) (es : List JV) (rest : List Tok) :
    toksL (e :: es) ++ rest = e.toks ++ (toksL es ++ rest) := by simp [toksL]

theorem toksM_cons_append (n : Bytes) (v : JV) (ms : List (Bytes × JV)) (rest : List Tok) :
    toksM ((n, v) :: ms) ++ rest = Tok.str n :: (v.toks ++ (toksM ms ++ rest)) := by simp [toksM]

theorem accepts_cons_eq (st : Stack) (k : Tok) (ts : List Tok) :
    accepts st (k :: ts) = ((step st k).map (fun p => accepts p.2 ts)).getD false := by
  simp only [accepts]
  cases step st k with
  | none => rfl
  | some p => rfl

theorem _root_.JsonV.Fmt.step_scalar (f : Fr) (s : Stack) (k : Tok) (hk : atomOK k = true) :
    step (f :: s) k = (match f.value k.isStr with
      | some (d, f') => some (d, f' :: s)
      | none => none) := by
  cases k
  case bo | eo | ba | ea => simp [atomOK] at hk
  all_goals
    simp only [step, Tok.isStr]
    split <;> simp only [*]

theorem accepts_scalar (f : Fr) (s : Stack) (k : Tok) (hk : atomOK k = true) (rest : List Tok) :
    accepts (f :: s) (k :: rest) =
      ((f.value k.isStr).map (fun p => accepts (p.2 :: s) rest)).getD false := by
  rw [accepts_cons_eq, step_scalar f s k hk]
  cases f.value k.isStr <;> rfl

theorem accepts_open (f : Fr) (s : Stack) {k : Tok} {g : Fr} (hk : (k = .ba ∧ g = .arr0) ∨ (k = .bo ∧ g = .obj0))
    (body : List Tok) :
    accepts (f :: s) (k :: body) =
      ((f.value false).map (fun p => decide (s.length < maxDepth) && accepts (g :: p.2 :: s) body)).getD false := by
  rw [accepts_cons_eq, step_open f s hk]
  cases f.value false with
  | none => rfl
  | some p => by_cases hd : s.length < maxDepth <;> simp [hd]

mutual
/-- `accepts` on the tokens of a tree of scalars followed by any `rest` (continuation form): a value may stand in frame `f`, the
tree stays within the depth limit counted from the frames below, and `rest` is accepted after a value.  `accL` / `accM` say the
same of the elements up to `]` and the members up to `}`. -/
theorem accV : ∀ (t : JV), AtomsOK t = true → ∀ (f : Fr) (s : Stack) (rest : List Tok),
    accepts (f :: s) (t.toks ++ rest) =
      ((f.value (isStrT t)).map (fun p => depthOK t s.length && accepts (p.2 :: s) rest)).getD false
  | .atom k, h, f, s, rest => by
    simp only [AtomsOK] at h
    simp only [JV.toks, List.singleton_append, depthOK, Bool.true_and]
    rw [accepts_scalar f s k h rest]
    have : isStrT (.atom k) = k.isStr := by cases k <;> rfl
    rw [this]
  | .arr es, h, f, s, rest => by
    simp only [AtomsOK] at h
    have ih := fun s' => accL es h .arr0 s' rest (Or.inl rfl)
    rw [toks_arr_append, accepts_open f s (.inl ⟨rfl, rfl⟩)]
    simp only [ih, isStrT, depthOK, List.length_cons, Bool.and_assoc]
  | .obj ms, h, f, s, rest => by
    simp only [AtomsOK] at h
    have ih := fun s' => accM ms h .obj0 s' rest (Or.inl rfl)
    rw [toks_obj_append, accepts_open f s (.inr ⟨rfl, rfl⟩)]
    simp only [ih, isStrT, depthOK, List.length_cons, Bool.and_assoc]
theorem accL : ∀ (es : List JV), AtomsOKL es = true → ∀ (g : Fr) (s : Stack) (rest : List Tok), (g = .arr0 ∨ g = .arrN) →
    accepts (g :: s) (toksL es ++ Tok.ea :: rest) = (depthOKL es s.length && accepts s rest)
  | [], _, g, s, rest, hg => by
    simp only [toksL, List.nil_append, depthOKL, Bool.true_and]
    rw [accepts_cons_eq]
    simp [step, hg]
  | e :: es, h, g, s, rest, hg => by
    simp only [AtomsOKL, Bool.and_eq_true] at h
    rw [toksL_cons_append, accV e h.1 g s _]
    have hv : g.value (isStrT e) = some (if g = .arr0 then none else some Delim.comma, .arrN) := by
      rcases hg with rfl | rfl <;> simp [Fr.value]
    rw [hv]
    simp only [depthOKL, Option.map_some, Option.getD_some]
    rw [accL es h.2 .arrN s rest (Or.inr rfl), Bool.and_assoc]
theorem accM : ∀ (ms : List (Bytes × JV)), AtomsOKM ms = true → ∀ (g : Fr) (s : Stack) (rest : List Tok), (g = .obj0 ∨ g = .objV) →
    accepts (g :: s) (toksM ms ++ Tok.eo :: rest) = (depthOKM ms s.length && accepts s rest)
  | [], _, g, s, rest, hg => by
    simp only [toksM, List.nil_append, depthOKM, Bool.true_and]
    rw [accepts_cons_eq]
    simp [step, hg]
  | (n, v) :: ms, h, g, s, rest, hg => by
    simp only [AtomsOKM, Bool.and_eq_true] at h
    rw [toksM_cons_append, accepts_cons_eq]
    have hs : step (g :: s) (Tok.str n) = some (if g = .obj0 then none else some Delim.comma, .objK :: s) := by
      rcases hg with rfl | rfl <;> simp [step, Fr.value]
    rw [hs]
    simp only [Option.map_some, Option.getD_some]
    rw [accV v h.1 .objK s _]
    have hv : Fr.objK.value (isStrT v) = some (some Delim.colon, .objV) := by simp [Fr.value]
    rw [hv]
    simp only [depthOKM, Option.map_some, Option.getD_some]
    rw [accM ms h.2 .objV s rest (Or.inr rfl), Bool.and_assoc]
end

theorem accepts_tree (t : JV) (h : AtomsOK t = true) : accepts [.top0] t.toks = depthOK t 0 := by
  have := accV t h .top0 [] []
  simp only [List.append_nil, Fr.value, List.length_nil] at this
  rw [this]
  simp [accepts]

end JsonV.Lemmas.CanonNest
