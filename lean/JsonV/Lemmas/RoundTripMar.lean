/-
The graph of `mar` as an inductive relation `Mar`, one rule per successful arm of `mar` (`mar_iff`).  A non-nil interface is
marshaled at the dynamic type of what it holds (`Mar.iface`), which folds the structural twins
`marAny`/`marDyn`/`marAnyL`/`marAnyM` away (`marDyn_eq`).  The elements of a rule are given zipped (value with tree; name with
type, value and tree), which keeps the relation free of nested occurrences: `induction` works on it and hands out the
hypothesis for every element.
-/
import JsonV.Lemmas.RoundTripBase

namespace JsonV.Lemmas.RoundTrip
open JsonV JsonV.Spec JsonV.Model JsonV.Lemmas.Merge

/-- `Mar o T v j`: marshaling the value `v` at static type `T` succeeds and writes the tree `j`. -/
inductive Mar (o : MOpts) : GoType → GoVal → JTree → Prop
  | bool (b : Bool) : Mar o .bool (.bool b) (.bool b)
  | int (w : Nat) (i : Int) : Mar o (.int w) (.int i) (.num (Time.intDigits i))
  | uint (w n : Nat) : Mar o (.uint w) (.uint n) (.num (Time.natDigits n))
  | float (l : Bytes) : Mar o .float64 (.float l) (.num l)
  | str (s : Bytes) : Utf8.valid s = true → Mar o .string (.str s) (.str s)
  | nilSlice (t : GoType) : Mar o (.slice t) .nilSlice (nilSliceTree o)
  | slice (t : GoType) (es : List (GoVal × JTree)) : (∀ e ∈ es, Mar o t e.1 e.2) →
      Mar o (.slice t) (.sliceOf (es.map (·.1))) (.arr (es.map (·.2)))
  | array (n : Nat) (t : GoType) (es : List (GoVal × JTree)) : (∀ e ∈ es, Mar o t e.1 e.2) →
      Mar o (.array n t) (.arrayOf (es.map (·.1))) (.arr (es.map (·.2)))
  | nilMap (t : GoType) : Mar o (.map t) .nilMap (nilMapTree o)
  | map (t : GoType) (es : List (Bytes × GoVal × JTree)) :
      (∀ e ∈ es, Utf8.valid e.1 = true) → (∀ e ∈ es, Mar o t e.2.1 e.2.2) →
      Mar o (.map t) (.mapOf (es.map fun e => (e.1, e.2.1))) (.obj (sortMembers (es.map fun e => (e.1, e.2.2))))
  | nilPtr (t : GoType) : Mar o (.ptr t) .nilPtr .null
  | ptr (t : GoType) (w : GoVal) (j : JTree) : Mar o t w j → Mar o (.ptr t) (.ptrTo w) j
  | struct (es : List (Bytes × GoType × GoVal × JTree)) : (∀ e ∈ es, Mar o e.2.1 e.2.2.1 e.2.2.2) →
      Mar o (.struct (es.map fun e => (e.1, e.2.1))) (.structOf (es.map fun e => (e.1, e.2.2.1)))
        (.obj (es.map fun e => (e.1, e.2.2.2)))
  | nilIface : Mar o .any .nilIface .null
  | iface (T : GoType) (dv : GoVal) (j : JTree) : dv.dynType = some T → Mar o T dv j → Mar o .any (.ifaceOf dv) j

theorem marList_ok {f : Enc} : ∀ {vs : List GoVal} {js : List JTree}, marList f vs = .ok js →
    ∃ es : List (GoVal × JTree), vs = es.map (·.1) ∧ js = es.map (·.2) ∧ ∀ e ∈ es, f e.1 = .ok e.2
  | [], _, h => ⟨[], rfl, (Except.ok.inj h).symm, nofun⟩
  | v :: r, js, h => by
    rw [marList] at h
    cases hv : f v with
    | error e => rw [hv] at h; cases h
    | ok j =>
      cases hr : marList f r with
      | error e => rw [hv, hr] at h; cases h
      | ok jr =>
        rw [hv, hr] at h
        obtain ⟨es, rfl, rfl, hes⟩ := marList_ok hr
        exact ⟨(v, j) :: es, rfl, (Except.ok.inj h).symm, List.forall_mem_cons.2 ⟨hv, hes⟩⟩

theorem marList_map {f : Enc} : ∀ es : List (GoVal × JTree), (∀ e ∈ es, f e.1 = .ok e.2) →
    marList f (es.map (·.1)) = .ok (es.map (·.2))
  | [], _ => rfl
  | e :: es, h => by
    rw [List.forall_mem_cons] at h
    simp only [List.map_cons, marList, h.1, marList_map es h.2]

theorem marMembers_ok {f : Enc} : ∀ {ms : List (Bytes × GoVal)} {mem : List (Bytes × JTree)}, marMembers f ms = .ok mem →
    ∃ es : List (Bytes × GoVal × JTree), ms = es.map (fun e => (e.1, e.2.1)) ∧ mem = es.map (fun e => (e.1, e.2.2)) ∧
      ∀ e ∈ es, Utf8.valid e.1 = true ∧ f e.2.1 = .ok e.2.2
  | [], _, h => ⟨[], rfl, (Except.ok.inj h).symm, nofun⟩
  | (k, v) :: r, mem, h => by
    rw [marMembers] at h
    by_cases hk : Utf8.valid k = true
    · rw [if_pos hk] at h
      cases hv : f v with
      | error e => rw [hv] at h; cases h
      | ok j =>
        cases hr : marMembers f r with
        | error e => rw [hv, hr] at h; cases h
        | ok jr =>
          rw [hv, hr] at h
          obtain ⟨es, rfl, rfl, hes⟩ := marMembers_ok hr
          exact ⟨(k, v, j) :: es, rfl, (Except.ok.inj h).symm, List.forall_mem_cons.2 ⟨⟨hk, hv⟩, hes⟩⟩
    · rw [if_neg hk] at h; cases h

theorem marMembers_map {f : Enc} : ∀ es : List (Bytes × GoVal × JTree), (∀ e ∈ es, Utf8.valid e.1 = true ∧ f e.2.1 = .ok e.2.2) →
    marMembers f (es.map fun e => (e.1, e.2.1)) = .ok (es.map fun e => (e.1, e.2.2))
  | [], _ => rfl
  | e :: es, h => by
    rw [List.forall_mem_cons] at h
    simp only [List.map_cons, marMembers, h.1.1, if_true, h.1.2, marMembers_map es h.2]

theorem marFields_ok {o : MOpts} : ∀ {fs : List (Bytes × GoType)} {fvs : List (Bytes × GoVal)} {mem : List (Bytes × JTree)},
    marFields o fs fvs = .ok mem →
    ∃ es : List (Bytes × GoType × GoVal × JTree), fs = es.map (fun e => (e.1, e.2.1)) ∧
      fvs = es.map (fun e => (e.1, e.2.2.1)) ∧ mem = es.map (fun e => (e.1, e.2.2.2)) ∧
      ∀ e ∈ es, mar o e.2.1 e.2.2.1 = .ok e.2.2.2
  | [], [], _, h => ⟨[], rfl, rfl, (Except.ok.inj h).symm, nofun⟩
  | [], _ :: _, _, h => by cases h
  | _ :: _, [], _, h => by cases h
  | (n, t) :: fr, (n', v) :: r, mem, h => by
    simp only [marFields] at h
    by_cases hn : n = n'
    · subst hn
      rw [if_pos rfl] at h
      cases hv : mar o t v with
      | error e => rw [hv] at h; cases h
      | ok j =>
        cases hr : marFields o fr r with
        | error e => rw [hv, hr] at h; cases h
        | ok jr =>
          rw [hv, hr] at h
          obtain ⟨es, rfl, rfl, rfl, hes⟩ := marFields_ok hr
          exact ⟨(n, t, v, j) :: es, rfl, rfl, (Except.ok.inj h).symm, List.forall_mem_cons.2 ⟨hv, hes⟩⟩
    · rw [if_neg hn] at h; cases h

theorem marFields_map {o : MOpts} : ∀ es : List (Bytes × GoType × GoVal × JTree), (∀ e ∈ es, mar o e.2.1 e.2.2.1 = .ok e.2.2.2) →
    marFields o (es.map fun e => (e.1, e.2.1)) (es.map fun e => (e.1, e.2.2.1)) = .ok (es.map fun e => (e.1, e.2.2.2))
  | [], _ => rfl
  | e :: es, h => by
    rw [List.forall_mem_cons] at h
    simp only [List.map_cons, marFields, if_true, h.1, marFields_map es h.2]

/-- arshal_default.go:1827-1868: the value an interface holds is marshaled by the arshaler of its dynamic type. -/
theorem marDyn_eq (o : MOpts) (dv : GoVal) :
    marDyn o dv = match dv.dynType with | some T => mar o T dv | none => .error .unmodelled := by
  have hL : ∀ vs, marAnyL o vs = marList (mar o .any) vs := marAnyL_eq o
  have hM : ∀ ms, marAnyM o ms = marMembers (mar o .any) ms := marAnyM_eq o
  cases dv <;> simp only [marDyn, GoVal.dynType, mar, hL, hM]

theorem Mar.of_ok (o : MOpts) : ∀ (v : GoVal) (T : GoType) (j : JTree), mar o T v = .ok j → Mar o T v j := by
  -- by the form of the value: at most one kind of type accepts it, every other one answers `illTyped` by computation
  intro v
  induction v using GoVal.induct with
  | hbool b => intro T j h; cases T <;> cases h; exact .bool b
  | hint i => intro T j h; cases T <;> cases h; exact .int _ i
  | huint n => intro T j h; cases T <;> cases h; exact .uint _ n
  | hfloat l => intro T j h; cases T <;> cases h; exact .float l
  | hstr s =>
    intro T j h
    cases T <;> try (cases h; done)
    simp only [mar] at h
    split at h <;> cases h
    exact .str s ‹_›
  | hnilSlice => intro T j h; cases T <;> cases h; exact .nilSlice _
  | hnilMap => intro T j h; cases T <;> cases h; exact .nilMap _
  | hnilPtr => intro T j h; cases T <;> cases h; exact .nilPtr _
  | hnilIface => intro T j h; cases T <;> cases h; exact .nilIface
  | hslice vs ih =>
    intro T j h
    cases T <;> try (cases h; done)
    rename_i t
    simp only [mar] at h
    cases hl : marList (mar o t) vs with
    | error e => rw [hl] at h; cases h
    | ok js =>
      rw [hl] at h; cases h
      obtain ⟨es, rfl, rfl, hes⟩ := marList_ok hl
      exact .slice t es fun e he => ih e.1 (List.mem_map_of_mem he) t e.2 (hes e he)
  | harray vs ih =>
    intro T j h
    cases T <;> try (cases h; done)
    rename_i n t
    simp only [mar] at h
    cases hl : marList (mar o t) vs with
    | error e => rw [hl] at h; cases h
    | ok js =>
      rw [hl] at h; cases h
      obtain ⟨es, rfl, rfl, hes⟩ := marList_ok hl
      exact .array n t es fun e he => ih e.1 (List.mem_map_of_mem he) t e.2 (hes e he)
  | hmap ms ih =>
    intro T j h
    cases T <;> try (cases h; done)
    rename_i t
    simp only [mar] at h
    cases hl : marMembers (mar o t) ms with
    | error e => rw [hl] at h; cases h
    | ok mem =>
      rw [hl] at h; cases h
      obtain ⟨es, rfl, rfl, hes⟩ := marMembers_ok hl
      exact .map t es (fun e he => (hes e he).1) fun e he =>
        ih e.1 e.2.1 (List.mem_map_of_mem (f := fun e => (e.1, e.2.1)) he) t e.2.2 (hes e he).2
  | hstruct fvs ih =>
    intro T j h
    cases T <;> try (cases h; done)
    rename_i fs
    simp only [mar] at h
    cases hl : marFields o fs fvs with
    | error e => rw [hl] at h; cases h
    | ok mem =>
      rw [hl] at h; cases h
      obtain ⟨es, rfl, rfl, rfl, hes⟩ := marFields_ok hl
      exact .struct es fun e he =>
        ih e.1 e.2.2.1 (List.mem_map_of_mem (f := fun e => (e.1, e.2.2.1)) he) e.2.1 e.2.2.2 (hes e he)
  | hptr w ih =>
    intro T j h
    cases T <;> try (cases h; done)
    exact .ptr _ w j (ih _ j h)
  | hiface dv ih =>
    intro T j h
    cases T <;> try (cases h; done)
    simp only [mar, marAny, marDyn_eq] at h
    cases hT : dv.dynType with
    | none => rw [hT] at h; cases h
    | some T => rw [hT] at h; exact .iface T dv j hT (ih T j h)

theorem Mar.ok {o : MOpts} {T : GoType} {v : GoVal} {j : JTree} (h : Mar o T v j) : mar o T v = .ok j := by
  induction h with
  | bool | int | uint | float | nilSlice | nilMap | nilPtr | nilIface => rfl
  | str s hs => simp only [mar, hs, if_true]
  | slice t es _ ih | array n t es _ ih => simp only [mar, marList_map es ih]
  | map t es hk _ ih => simp only [mar, marMembers_map es fun e he => ⟨hk e he, ih e he⟩]
  | struct es _ ih => simp only [mar, marFields_map es ih]
  | ptr t w j _ ih => exact ih
  | iface T dv j hT _ ih => simp only [mar, marAny, marDyn_eq, hT, ih]

theorem mar_iff {o : MOpts} {T : GoType} {v : GoVal} {j : JTree} : mar o T v = .ok j ↔ Mar o T v j :=
  ⟨Mar.of_ok o v T j, Mar.ok⟩

end JsonV.Lemmas.RoundTrip
