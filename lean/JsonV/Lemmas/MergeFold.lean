/-
The object member loop `objFold` on duplicate-free objects is characterised key by key (`Facts`), and
from that follows the merge law of the loop (`objFold_merge`): folding `ms1` and then `ms2` into a
zero-like destination equals folding the merged member list.
-/
import JsonV.Lemmas.MergeBase

namespace JsonV.Lemmas.Merge
open JsonV JsonV.Spec JsonV.Model

/-- Key sequence of the destination after the loop: unknown names are skipped, known names not
yet present are appended. -/
def keysAfter (known : Bytes → Bool) : List Bytes → List Bytes → List Bytes
  | [], k => k
  | n :: r, k => keysAfter known r (if known n && !k.contains n then k ++ [n] else k)

theorem keysAfter_cons_unknown {known : Bytes → Bool} {n : Bytes} (h : known n = false) (a k : List Bytes) :
    keysAfter known (n :: a) k = keysAfter known a k := by
  rw [keysAfter, h, Bool.false_and, if_neg Bool.false_ne_true]

theorem keysAfter_cons_aset {α : Type} {known : Bytes → Bool} {n : Bytes} (h : known n = true) (a : List Bytes)
    (v : α) (m : List (Bytes × α)) :
    keysAfter known (n :: a) (akeys m) = keysAfter known a (akeys (aset n v m)) := by
  rw [keysAfter, h, Bool.true_and, akeys_aset]
  cases (akeys m).contains n <;> rfl

theorem nodup_keysAfter (known : Bytes → Bool) (a k : List Bytes) (hk : k.Nodup) :
    (keysAfter known a k).Nodup := by
  induction a generalizing k with
  | nil => exact hk
  | cons n r ih =>
    refine ih _ ?_
    split
    · rename_i hc
      exact List.nodup_concat hk fun hm => by simp [hm] at hc
    · exact hk

theorem keysAfter_nodup (known : Bytes → Bool) (a k : List Bytes) (hnd : a.Nodup) :
    keysAfter known a k = k ++ a.filter fun n => known n && !k.contains n := by
  induction a generalizing k with
  | nil => exact (List.append_nil k).symm
  | cons n r ih =>
    rw [List.nodup_cons] at hnd
    rw [keysAfter, ih _ hnd.2, List.filter_cons]
    by_cases hc : (known n && !k.contains n) = true
    · rw [if_pos hc, if_pos hc, List.append_assoc]
      refine congrArg (k ++ n :: ·) (List.filter_congr fun x hx => ?_)
      have : (x == n) = false := beq_false_of_ne fun e => hnd.1 (e ▸ hx)
      rw [List.contains_append, List.contains_cons, List.contains_nil, this, Bool.or_false, Bool.or_false]
    · rw [if_neg hc, if_neg hc]

theorem keysAfter_noop (known : Bytes → Bool) (a k : List Bytes) (hnd : a.Nodup) (h : ∀ n ∈ a, n ∈ k) :
    keysAfter known a k = k := by
  rw [keysAfter_nodup _ _ _ hnd, List.filter_eq_nil_iff.2 fun n hn => ?_, List.append_nil]
  rw [List.contains_iff_mem.2 (h n hn), Bool.not_true, Bool.and_false]
  exact Bool.false_ne_true

theorem keysAfter_new (known : Bytes → Bool) (a k : List Bytes) (hnd : a.Nodup) (hk : ∀ n ∈ a, n ∉ k) :
    keysAfter known a k = k ++ a.filter known := by
  rw [keysAfter_nodup _ _ _ hnd]
  refine congrArg _ (List.filter_congr fun n hn => ?_)
  rw [Bool.eq_false_iff.2 (mt List.contains_iff_mem.1 (hk n hn)), Bool.not_false, Bool.and_true]

theorem keysAfter_merge (known : Bytes → Bool) (K1 K2 k : List Bytes) (h1 : K1.Nodup) (h2 : K2.Nodup) :
    keysAfter known K2 (keysAfter known K1 k) =
      keysAfter known (K1 ++ K2.filter fun n => !(K1.contains n)) k := by
  have h12 : (K1 ++ K2.filter fun n => !(K1.contains n)).Nodup :=
    List.nodup_append.2 ⟨h1, h2.filter _, fun a ha b hb e => by
      rw [← e, List.mem_filter, List.contains_iff_mem.2 ha] at hb; exact Bool.noConfusion hb.2⟩
  rw [keysAfter_nodup _ K2 _ h2, keysAfter_nodup _ K1 _ h1, keysAfter_nodup _ _ _ h12, List.filter_append,
    List.filter_filter, List.append_assoc]
  refine congrArg (k ++ ·) (congrArg (_ ++ ·) (List.filter_congr fun n _ => ?_))
  -- a known name is new after the first run iff it was new before it and the first input does not mention it
  cases hk : known n with
  | false => rfl
  | true =>
    rw [Bool.true_and, Bool.true_and, List.contains_append, Bool.not_or]
    cases hc : k.contains n with
    | true => rfl
    | false =>
      refine congrArg (fun b => !false && !b) (Bool.eq_iff_iff.2 ?_)
      rw [List.contains_iff_mem, List.contains_iff_mem, List.mem_filter, hk, hc]
      exact and_iff_left rfl

/-- What a successful run of the member loop over a duplicate-free member list `ms` does to the
destination `m`, resulting in `m'`. -/
structure Facts (o : UOpts) (dec : Bytes → Option Dec) (z : Bytes → GoVal) (ms : List (Bytes × JTree))
    (m m' : List (Bytes × GoVal)) : Prop where
  known : ∀ n j f, (n, j) ∈ ms → dec n = some f →
    ∃ v, f j ((alookup n m).getD (z n)) = .ok v ∧ alookup n m' = some v
  unknown : ∀ n j, (n, j) ∈ ms → dec n = none → skipOK o j = true
  frame : ∀ n, (n ∉ akeys ms ∨ dec n = none) → alookup n m' = alookup n m
  keys : akeys m' = keysAfter (fun n => (dec n).isSome) (akeys ms) (akeys m)

section Loop
variable {o : UOpts} {dec : Bytes → Option Dec} {z : Bytes → GoVal} {n : Bytes} {j : JTree}
  {r ms : List (Bytes × JTree)} {seen : List Bytes} {m m' : List (Bytes × GoVal)}

theorem objFold_cons_none (hd : dec n = none) :
    objFold o dec z ((n, j) :: r) seen m = .ok m' ↔
      (!o.allowDup && seen.contains n) = false ∧ skipOK o j = true ∧
        objFold o dec z r (n :: seen) m = .ok m' := by
  rw [objFold, hd]
  cases (!o.allowDup && seen.contains n) <;> cases skipOK o j <;> simp

theorem objFold_cons_some {f : Dec} (hd : dec n = some f) :
    objFold o dec z ((n, j) :: r) seen m = .ok m' ↔
      (!o.allowDup && seen.contains n) = false ∧ ∃ v, f j ((alookup n m).getD (z n)) = .ok v ∧
        objFold o dec z r (n :: seen) (aset n v m) = .ok m' := by
  rw [objFold, hd]
  dsimp only
  cases (!o.allowDup && seen.contains n)
  · cases f j ((alookup n m).getD (z n)) <;> simp
  · simp

theorem objFold_frame (h : objFold o dec z ms seen m = .ok m') (k : Bytes) (hk : k ∉ akeys ms ∨ dec k = none) :
    alookup k m' = alookup k m := by
  induction ms generalizing seen m with
  | nil => cases h; rfl
  | cons p r ih =>
    obtain ⟨n, j⟩ := p
    have hk' : k ∉ akeys r ∨ dec k = none := hk.imp_left fun h hc => h (List.mem_cons_of_mem _ hc)
    cases hd : dec n with
    | none => exact ih ((objFold_cons_none hd).1 h).2.2 hk'
    | some f =>
      obtain ⟨_, v, _, h⟩ := (objFold_cons_some hd).1 h
      have hne : n ≠ k := fun e => hk.elim (fun h => h (e ▸ List.mem_cons_self)) fun h => by
        rw [← e, hd] at h; cases h
      rw [ih h hk', alookup_aset_ne hne]

theorem objFold_unknown (h : objFold o dec z ms seen m = .ok m') :
    ∀ k x, (k, x) ∈ ms → dec k = none → skipOK o x = true := by
  induction ms generalizing seen m with
  | nil => intro k x hm; cases hm
  | cons p r ih =>
    obtain ⟨n, j⟩ := p
    intro k x hm hdk
    cases hd : dec n with
    | none =>
      obtain ⟨_, hj, h⟩ := (objFold_cons_none hd).1 h
      cases List.mem_cons.1 hm with
      | inl e => cases e; exact hj
      | inr e => exact ih h k x e hdk
    | some f =>
      obtain ⟨_, v, _, h⟩ := (objFold_cons_some hd).1 h
      cases List.mem_cons.1 hm with
      | inl e => cases e; rw [hd] at hdk; cases hdk
      | inr e => exact ih h k x e hdk

theorem objFold_known (hnd : (akeys ms).Nodup) (h : objFold o dec z ms seen m = .ok m') :
    ∀ k x f, (k, x) ∈ ms → dec k = some f →
      ∃ v, f x ((alookup k m).getD (z k)) = .ok v ∧ alookup k m' = some v := by
  induction ms generalizing seen m with
  | nil => intro k x f hm; cases hm
  | cons p r ih =>
    obtain ⟨n, j⟩ := p
    rw [akeys_cons, List.nodup_cons] at hnd
    intro k x f hm hdk
    cases List.mem_cons.1 hm with
    | inl e =>
      obtain ⟨rfl, rfl⟩ := Prod.mk.inj e
      obtain ⟨_, v, hv, h⟩ := (objFold_cons_some hdk).1 h
      exact ⟨v, hv, by rw [objFold_frame h k (Or.inl hnd.1), alookup_aset_same]⟩
    | inr e =>
      cases hd : dec n with
      | none => exact ih hnd.2 ((objFold_cons_none hd).1 h).2.2 k x f e hdk
      | some g =>
        obtain ⟨_, v, _, h⟩ := (objFold_cons_some hd).1 h
        have hne : n ≠ k := fun hc => hnd.1 (hc ▸ mem_akeys_of_mem e)
        rw [← alookup_aset_ne hne v m]
        exact ih hnd.2 h k x f e hdk

theorem objFold_keys (h : objFold o dec z ms seen m = .ok m') :
    akeys m' = keysAfter (fun n => (dec n).isSome) (akeys ms) (akeys m) := by
  induction ms generalizing seen m with
  | nil => cases h; rfl
  | cons p r ih =>
    obtain ⟨n, j⟩ := p
    cases hd : dec n with
    | none => rw [ih ((objFold_cons_none hd).1 h).2.2]; exact (keysAfter_cons_unknown (by rw [hd]; rfl) _ _).symm
    | some f =>
      obtain ⟨_, v, _, h⟩ := (objFold_cons_some hd).1 h
      rw [ih h]
      exact (keysAfter_cons_aset (by rw [hd]; rfl) _ v m).symm

theorem objFold_facts (hnd : (akeys ms).Nodup) (h : objFold o dec z ms seen m = .ok m') : Facts o dec z ms m m' :=
  ⟨objFold_known hnd h, objFold_unknown h, objFold_frame h, objFold_keys h⟩

theorem objFold_of_facts (hnd : (akeys ms).Nodup) (hseen : ∀ n, n ∈ akeys ms → n ∉ seen) (hm : (akeys m).Nodup)
    (F : Facts o dec z ms m m') : objFold o dec z ms seen m = .ok m' := by
  -- the facts give the step for the head and, for the tail, the facts into the destination after that step;
  -- with no member left the two destinations agree key by key (`aext`)
  induction ms generalizing seen m with
  | nil =>
    refine congrArg Except.ok (aext ?_ hm fun n => ?_)
    · rw [F.keys]; rfl
    · rw [F.frame n (Or.inl List.not_mem_nil)]
  | cons p r ih =>
    obtain ⟨n, j⟩ := p
    rw [akeys_cons, List.nodup_cons] at hnd
    have hns : (!o.allowDup && seen.contains n) = false := by simp [hseen n List.mem_cons_self]
    have hseen' : ∀ k, k ∈ akeys r → k ∉ n :: seen := fun k hk hc =>
      (List.mem_cons.1 hc).elim (fun e => hnd.1 (e ▸ hk)) (hseen k (List.mem_cons_of_mem _ hk))
    have hframe : ∀ k, k ≠ n → (k ∉ akeys r ∨ dec k = none) → alookup k m' = alookup k m := fun k e hk =>
      F.frame k (hk.imp_left fun h hc => (List.mem_cons.1 hc).elim e h)
    cases hd : dec n with
    | none =>
      refine (objFold_cons_none hd).2 ⟨hns, F.unknown n j List.mem_cons_self hd, ih hnd.2 hseen' hm ⟨?_, ?_, ?_, ?_⟩⟩
      · exact fun k x f hk => F.known k x f (List.mem_cons_of_mem _ hk)
      · exact fun k x hk => F.unknown k x (List.mem_cons_of_mem _ hk)
      · intro k hk
        by_cases e : k = n
        · exact F.frame k (Or.inr (e ▸ hd))
        · exact hframe k e hk
      · rw [F.keys]; exact keysAfter_cons_unknown (by rw [hd]; rfl) _ _
    | some f =>
      obtain ⟨v, hv, hl⟩ := F.known n j f List.mem_cons_self hd
      refine (objFold_cons_some hd).2 ⟨hns, v, hv, ih hnd.2 hseen' (nodup_akeys_aset n v m hm) ⟨?_, ?_, ?_, ?_⟩⟩
      · intro k x g hk hdk
        have hne : n ≠ k := fun e => hnd.1 (e ▸ mem_akeys_of_mem hk)
        rw [alookup_aset_ne hne]
        exact F.known k x g (List.mem_cons_of_mem _ hk) hdk
      · exact fun k x hk => F.unknown k x (List.mem_cons_of_mem _ hk)
      · intro k hk
        by_cases e : k = n
        · rw [e, hl, alookup_aset_same]
        · rw [alookup_aset_ne (Ne.symm e), hframe k e hk]
      · rw [F.keys]; exact keysAfter_cons_aset (by rw [hd]; rfl) _ v m

end Loop

theorem dupFreeM_iff (ms : List (Bytes × JTree)) :
    JTree.dupFreeM ms = true ↔ ∀ n x, (n, x) ∈ ms → x.dupFree = true := by
  rw [List.all_cons_iff (p := fun a => a.2.dupFree) rfl (fun _ _ => rfl) ms, Prod.forall]

theorem dupFreeL_iff (xs : List JTree) :
    JTree.dupFreeL xs = true ↔ ∀ x, x ∈ xs → x.dupFree = true :=
  List.all_cons_iff rfl (fun _ _ => rfl) xs

theorem dupFree_obj (ms : List (Bytes × JTree)) :
    (JTree.obj ms).dupFree = true ↔ (akeys ms).Nodup ∧ ∀ n x, (n, x) ∈ ms → x.dupFree = true := by
  simp only [JTree.dupFree, Bool.and_eq_true, nodupB_iff, dupFreeM_iff]

theorem akeys_mergeL (ms1 ms2 : List (Bytes × JTree)) : akeys (JTree.mergeL ms1 ms2) = akeys ms1 := by
  induction ms1 with
  | nil => rfl
  | cons p r ih => obtain ⟨n, a⟩ := p; simp [JTree.mergeL, akeys_cons, ih]

/-- The value a left member `(n, a)` has in the merged object. -/
def mergedWith (ms2 : List (Bytes × JTree)) (n : Bytes) (a : JTree) : JTree :=
  match alookup n ms2 with
  | some b => JTree.merge a b
  | none => a

theorem mem_mergeL {ms1 ms2 : List (Bytes × JTree)} {n : Bytes} {x : JTree}
    (h : (n, x) ∈ JTree.mergeL ms1 ms2) : ∃ a, (n, a) ∈ ms1 ∧ x = mergedWith ms2 n a := by
  induction ms1 with
  | nil => simp [JTree.mergeL] at h
  | cons p r ih =>
    obtain ⟨k, a⟩ := p
    simp only [JTree.mergeL, List.mem_cons, Prod.mk.injEq] at h
    cases h with
    | inl e => obtain ⟨rfl, rfl⟩ := e; exact ⟨a, List.mem_cons_self, rfl⟩
    | inr e => obtain ⟨a', h1, h2⟩ := ih e; exact ⟨a', List.mem_cons_of_mem _ h1, h2⟩

theorem akeys_filter_new (ms1 ms2 : List (Bytes × JTree)) :
    akeys (ms2.filter (fun p => !(ahas p.1 ms1))) = (akeys ms2).filter (fun n => !((akeys ms1).contains n)) := by
  have hh : ∀ n, ahas n ms1 = (akeys ms1).contains n := fun n =>
    Bool.eq_iff_iff.2 ((ahas_iff n ms1).trans List.contains_iff_mem.symm)
  unfold akeys
  rw [List.filter_map]
  congr 2
  funext p
  exact congrArg (!·) (hh p.1)

/-- Member list of `merge (obj ms1) (obj ms2)`. -/
def mergedMembers (ms1 ms2 : List (Bytes × JTree)) : List (Bytes × JTree) :=
  JTree.mergeL ms1 ms2 ++ ms2.filter (fun p => !(ahas p.1 ms1))

theorem merge_obj (ms1 ms2 : List (Bytes × JTree)) :
    JTree.merge (.obj ms1) (.obj ms2) = .obj (mergedMembers ms1 ms2) := by
  simp [JTree.merge, mergedMembers]

theorem akeys_mergedMembers (ms1 ms2 : List (Bytes × JTree)) :
    akeys (mergedMembers ms1 ms2) = akeys ms1 ++ (akeys ms2).filter (fun n => !((akeys ms1).contains n)) := by
  simp [mergedMembers, akeys_append, akeys_mergeL, akeys_filter_new]

theorem nodup_mergedMembers {ms1 ms2 : List (Bytes × JTree)} (h1 : (akeys ms1).Nodup) (h2 : (akeys ms2).Nodup) :
    (akeys (mergedMembers ms1 ms2)).Nodup := by
  rw [akeys_mergedMembers, List.nodup_append]
  refine ⟨h1, h2.filter _, ?_⟩
  intro a ha b hb e
  subst e
  simp only [List.mem_filter] at hb
  have := hb.2
  simp at this
  exact this ha

theorem mem_mergedMembers {ms1 ms2 : List (Bytes × JTree)} {n : Bytes} {x : JTree}
    (h : (n, x) ∈ mergedMembers ms1 ms2) :
    (∃ a, (n, a) ∈ ms1 ∧ x = mergedWith ms2 n a) ∨ ((n, x) ∈ ms2 ∧ n ∉ akeys ms1) := by
  simp only [mergedMembers, List.mem_append, List.mem_filter] at h
  cases h with
  | inl h => exact Or.inl (mem_mergeL h)
  | inr h =>
    right
    refine ⟨h.1, ?_⟩
    have := h.2
    simp only [Bool.not_eq_eq_eq_not, Bool.not_true] at this
    exact (ahas_false_iff n ms1).1 this

theorem merge_nonobj (a b : JTree) (h : a.isObj = false ∨ b.isObj = false) : JTree.merge a b = b := by
  cases a with
  | obj ms1 =>
    cases b with
    | obj ms2 => rcases h with h | h <;> cases h
    | _ => rfl
  | _ => rfl

theorem dupFree_merge : ∀ a b : JTree, a.dupFree = true → b.dupFree = true → (JTree.merge a b).dupFree = true := by
  intro a
  induction a using JTree.induct with
  | hobj ms1 ih =>
    intro b ha hb
    cases b with
    | obj ms2 =>
      rw [merge_obj, dupFree_obj]
      rw [dupFree_obj] at ha hb
      refine ⟨nodup_mergedMembers ha.1 hb.1, ?_⟩
      intro n x hx
      rcases mem_mergedMembers hx with ⟨a, hma, rfl⟩ | ⟨hx2, _⟩
      · unfold mergedWith
        cases hl : alookup n ms2 with
        | none => exact ha.2 n a hma
        | some b => exact ih n a hma b (ha.2 n a hma) (hb.2 n b (alookup_mem hl))
      · exact hb.2 n x hx2
    | _ => exact hb
  | _ => intro b _ hb; exact hb

theorem objFold_merge {o : UOpts} {dec : Bytes → Option Dec} {z : Bytes → GoVal} {ms1 ms2 : List (Bytes × JTree)}
    {m0 m1 m2 : List (Bytes × GoVal)}
    (hnd1 : (akeys ms1).Nodup) (hnd2 : (akeys ms2).Nodup)
    (hdf1 : ∀ n x, (n, x) ∈ ms1 → x.dupFree = true) (hdf2 : ∀ n x, (n, x) ∈ ms2 → x.dupFree = true)
    (hnd0 : (akeys m0).Nodup) (hm0 : ∀ n, (alookup n m0).getD (z n) = z n)
    (hML : ∀ n a, (n, a) ∈ ms1 → ∀ f, dec n = some f → ∀ b v1 v2, a.dupFree = true → b.dupFree = true →
      f a (z n) = .ok v1 → f b v1 = .ok v2 → f (JTree.merge a b) (z n) = .ok v2)
    (h1 : objFold o dec z ms1 [] m0 = .ok m1) (h2 : objFold o dec z ms2 [] m1 = .ok m2) :
    objFold o dec z (mergedMembers ms1 ms2) [] m0 = .ok m2 := by
  have F1 := objFold_facts hnd1 h1
  have F2 := objFold_facts hnd2 h2
  apply objFold_of_facts (nodup_mergedMembers hnd1 hnd2) (by intro n _ h; cases h) hnd0
  refine ⟨?_, ?_, ?_, ?_⟩
  · intro n x f hm hd
    rcases mem_mergedMembers hm with ⟨a, ha, rfl⟩ | ⟨hx2, hn1⟩
    · obtain ⟨v1, hv1, hl1⟩ := F1.known n a f ha hd
      rw [hm0] at hv1
      unfold mergedWith
      cases hb : alookup n ms2 with
      | none =>
        refine ⟨v1, by rw [hm0]; exact hv1, ?_⟩
        rw [F2.frame n (Or.inl ((alookup_none_iff n ms2).1 hb)), hl1]
      | some b =>
        have hb' := alookup_mem hb
        obtain ⟨v2, hv2, hl2⟩ := F2.known n b f hb' hd
        rw [hl1] at hv2
        simp only [Option.getD_some] at hv2
        refine ⟨v2, ?_, hl2⟩
        rw [hm0]
        exact hML n a ha f hd b v1 v2 (hdf1 n a ha) (hdf2 n b hb') hv1 hv2
    · obtain ⟨v2, hv2, hl2⟩ := F2.known n x f hx2 hd
      rw [F1.frame n (Or.inl hn1)] at hv2
      exact ⟨v2, hv2, hl2⟩
  · intro n x hm _
    have hd := dupFree_merge (.obj ms1) (.obj ms2) ((dupFree_obj _).2 ⟨hnd1, hdf1⟩) ((dupFree_obj _).2 ⟨hnd2, hdf2⟩)
    rw [merge_obj, dupFree_obj] at hd
    rw [skipOK, hd.2 n x hm, Bool.or_true]
  · intro n hn
    cases hn with
    | inl hn =>
      rw [akeys_mergedMembers] at hn
      have hn1 : n ∉ akeys ms1 := fun h => hn (List.mem_append_left _ h)
      have hn2 : n ∉ akeys ms2 := by
        intro h; apply hn; apply List.mem_append_right
        simp [List.mem_filter, h, hn1]
      rw [F2.frame n (Or.inl hn2), F1.frame n (Or.inl hn1)]
    | inr hn => rw [F2.frame n (Or.inr hn), F1.frame n (Or.inr hn)]
  · rw [F2.keys, F1.keys, akeys_mergedMembers]
    exact keysAfter_merge _ _ _ _ hnd1 hnd2

end JsonV.Lemmas.Merge
