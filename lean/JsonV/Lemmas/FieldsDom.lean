/-
The dominance loop of `makeStructFields` computes the documented winners of the enumerated candidates:
on a list sorted by `candLe` without duplicates, `f ∈ dominant S ↔ WinnerIn S f`; and the kept names are
pairwise different.
-/
import JsonV.Lemmas.FieldsOrder
import JsonV.Spec.FieldRule

namespace JsonV.Lemmas.Fields
open JsonV JsonV.Model JsonV.Model.Fields JsonV.Spec.FieldRule

/-- Sorted by the comparator of the stable sort. -/
abbrev CandSorted (S : List RField) : Prop := S.Pairwise (fun a b => candLe a b = true)

theorem dropWhile_name_ne (h : RField) : ∀ (rest : List RField), CandSorted (h :: rest) →
    ∀ x ∈ rest.dropWhile (fun x => x.name == h.name), x.name ≠ h.name
  | [], _, x, hx => by simp at hx
  | r :: rs, hs, x, hx => by
    rw [List.dropWhile_cons] at hx
    by_cases hp : (r.name == h.name) = true
    · rw [if_pos hp] at hx
      have hs' : CandSorted (h :: rs) := hs.sublist (List.Sublist.cons_cons _ (List.sublist_cons_self _ _))
      exact dropWhile_name_ne h rs hs' x hx
    · rw [if_neg hp] at hx
      have hrn : r.name ≠ h.name := by simpa using hp
      obtain ⟨hh, hrest⟩ := List.pairwise_cons.mp hs
      have hhr := hh r (List.mem_cons_self ..)
      rw [candLe_iff] at hhr
      have b1 : bytesLe h.name r.name = true := hhr.elim And.right fun e => absurd e.1.symm hrn
      rcases List.mem_cons.mp hx with rfl | hxr
      · exact hrn
      · intro hxn
        have hrx := (List.pairwise_cons.mp hrest).1 x hxr
        rw [candLe_iff] at hrx
        rcases hrx with ⟨_, b⟩ | ⟨e, _⟩
        · rw [hxn] at b; exact hrn (bytesLe_antisymm _ _ b b1)
        · exact hrn (e.trans hxn)

theorem dominant_sublist (S : List RField) : (dominant S).Sublist S := by
  fun_induction dominant S with
  | case1 => exact List.Sublist.slnil
  | case2 f rest grp keep h ih =>
    exact List.Sublist.cons_cons _ (ih.trans (List.dropWhile_sublist _))
  | case3 f rest grp keep h ih =>
    exact List.Sublist.cons _ (ih.trans (List.dropWhile_sublist _))

theorem dominant_names_nodup (S : List RField) (hs : CandSorted S) :
    (dominant S).Pairwise (fun a b => a.name ≠ b.name) := by
  fun_induction dominant S with
  | case1 => exact List.Pairwise.nil
  | case2 f rest grp keep h ih =>
    have hs' : CandSorted (rest.dropWhile (fun x => x.name == f.name)) :=
      (List.pairwise_cons.mp hs).2.sublist (List.dropWhile_sublist _)
    refine List.pairwise_cons.mpr ⟨?_, ih hs'⟩
    intro x hx
    have hx' := (dominant_sublist _).subset hx
    exact fun e => dropWhile_name_ne f rest hs x hx' e.symm
  | case3 f rest grp keep h ih =>
    exact ih ((List.pairwise_cons.mp hs).2.sublist (List.dropWhile_sublist _))

theorem beats_iff_rank (a b : RField) : Beats a.depth a.hasName b.depth b.hasName ↔ rank a < rank b := by
  unfold Beats rank
  cases a.hasName <;> cases b.hasName <;> simp <;> omega

theorem rank_ne_iff (a b : RField) : (a.depth != b.depth || a.hasName != b.hasName) = true ↔ rank a ≠ rank b := by
  unfold rank
  cases a.hasName <;> cases b.hasName <;> simp <;> omega

theorem rank_le_of_candLe {a b : RField} (h : candLe a b = true) (e : a.name = b.name) : rank a ≤ rank b :=
  ((candLe_iff a b).mp h).elim (fun h => absurd e h.1) And.right

theorem winnerIn_iff_rank (L : List RField) (f : RField) :
    WinnerIn L f ↔ f ∈ L ∧ ∀ x ∈ L, x.name = f.name → x ≠ f → rank f < rank x := by
  simp only [WinnerIn, beats_iff_rank]

/-- One round of the dominance loop on a sorted list without repetitions.  The fields of the head's name are the
head and the group `takeWhile` cuts off, in ascending rank; so the head wins iff the group is empty or its first
element ranks differently, no other field of the group wins, and the remaining names are all behind the group. -/
theorem winnerIn_cons (h : RField) (rest : List RField) (hs : CandSorted (h :: rest)) (hnd : (h :: rest).Nodup)
    (f : RField) :
    WinnerIn (h :: rest) f ↔
      (f = h ∧ (match rest.takeWhile (fun x => x.name == h.name) with
                | [] => true
                | f1 :: _ => h.depth != f1.depth || h.hasName != f1.hasName) = true) ∨
      WinnerIn (rest.dropWhile (fun x => x.name == h.name)) f := by
  have hT : ∀ x ∈ rest.takeWhile (fun x => x.name == h.name), x.name = h.name :=
    fun x hx => by simpa using List.all_eq_true.1 List.all_takeWhile x hx
  have hD := dropWhile_name_ne h rest hs
  have hrest : ∀ x, x ∈ rest ↔
      x ∈ rest.takeWhile (fun x => x.name == h.name) ∨ x ∈ rest.dropWhile (fun x => x.name == h.name) := by
    intro x
    rw [← List.mem_append, List.takeWhile_append_dropWhile]
  obtain ⟨hhead, hsr⟩ := List.pairwise_cons.mp hs
  have hle : ∀ x ∈ rest, x.name = h.name → rank h ≤ rank x := fun x hx e => rank_le_of_candLe (hhead x hx) e.symm
  have hne : ∀ x ∈ rest, x ≠ h := fun x hx e => (List.nodup_cons.mp hnd).1 (e ▸ hx)
  have hTs : CandSorted (rest.takeWhile (fun x => x.name == h.name)) := hsr.sublist (List.takeWhile_sublist _)
  simp only [winnerIn_iff_rank]
  constructor
  · rintro ⟨hf, hw⟩
    rcases List.mem_cons.mp hf with rfl | hfr
    · refine Or.inl ⟨rfl, ?_⟩
      cases hg : rest.takeWhile (fun x => x.name == f.name) with
      | nil => rfl
      | cons f1 tl =>
        have hf1 : f1 ∈ rest.takeWhile (fun x => x.name == f.name) := hg ▸ List.mem_cons_self ..
        have hf1r := (hrest f1).mpr (Or.inl hf1)
        exact (rank_ne_iff f f1).mpr (Nat.ne_of_lt (hw f1 (List.mem_cons_of_mem _ hf1r) (hT f1 hf1) (hne f1 hf1r)))
    · rcases (hrest f).mp hfr with hfT | hfD
      · have h1 := hw h (List.mem_cons_self ..) (hT f hfT).symm (fun e => hne f hfr e.symm)
        have h2 := hle f hfr (hT f hfT)
        omega
      · exact Or.inr ⟨hfD, fun x hx => hw x (List.mem_cons_of_mem _ ((hrest x).mpr (Or.inr hx)))⟩
  · rintro (⟨rfl, hkeep⟩ | ⟨hfD, hw⟩)
    · refine ⟨List.mem_cons_self .., fun x hx hxn hxf => ?_⟩
      have hxr : x ∈ rest := (List.mem_cons.mp hx).resolve_left hxf
      rcases (hrest x).mp hxr with hxT | hxD
      · cases hg : rest.takeWhile (fun x => x.name == f.name) with
        | nil => rw [hg] at hxT; cases hxT
        | cons f1 tl =>
          rw [hg] at hkeep hxT hTs hT
          have h1 := (rank_ne_iff f f1).mp hkeep
          have hf1r : f1 ∈ rest := (hrest f1).mpr (Or.inl (hg ▸ List.mem_cons_self ..))
          have h2 := hle f1 hf1r (hT f1 (List.mem_cons_self ..))
          have h3 : rank f1 ≤ rank x := by
            rcases List.mem_cons.mp hxT with rfl | hxt
            · exact Nat.le_refl _
            · exact rank_le_of_candLe ((List.pairwise_cons.mp hTs).1 x hxt) ((hT f1 (List.mem_cons_self ..)).trans hxn.symm)
          omega
      · exact absurd hxn (hD x hxD)
    · refine ⟨List.mem_cons_of_mem _ ((hrest f).mpr (Or.inr hfD)), fun x hx hxn hxf => ?_⟩
      rcases List.mem_cons.mp hx with rfl | hxr
      · exact absurd hxn.symm (hD f hfD)
      · rcases (hrest x).mp hxr with hxT | hxD
        · exact absurd (hxn.symm.trans (hT x hxT)) (hD f hfD)
        · exact hw x hxD hxn hxf

theorem mem_dominant_iff (S : List RField) (hs : CandSorted S) (hnd : S.Nodup) (f : RField) :
    f ∈ dominant S ↔ WinnerIn S f := by
  fun_induction dominant S with
  | case1 => simp [WinnerIn]
  | case2 h rest grp keep hk ih =>
    have hk' : (match rest.takeWhile (fun x => x.name == h.name) with
        | [] => true
        | f1 :: _ => h.depth != f1.depth || h.hasName != f1.hasName) = true := hk
    rw [winnerIn_cons h rest hs hnd, List.mem_cons,
      ih ((List.pairwise_cons.mp hs).2.sublist (List.dropWhile_sublist _))
        ((List.nodup_cons.mp hnd).2.sublist (List.dropWhile_sublist _))]
    simp only [hk', and_true]
  | case3 h rest grp keep hk ih =>
    have hk' : ¬ (match rest.takeWhile (fun x => x.name == h.name) with
        | [] => true
        | f1 :: _ => h.depth != f1.depth || h.hasName != f1.hasName) = true := hk
    rw [winnerIn_cons h rest hs hnd,
      ih ((List.pairwise_cons.mp hs).2.sublist (List.dropWhile_sublist _))
        ((List.nodup_cons.mp hnd).2.sublist (List.dropWhile_sublist _))]
    simp only [hk', Bool.false_eq_true, and_false, false_or]

end JsonV.Lemmas.Fields
