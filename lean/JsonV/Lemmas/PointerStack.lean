/-
Lemmas for C16: the pointer assembled by `appendStackPointer(-1)` from the stack of
(kind, count) entries and the names stack is the rendering of the list of member names / indices.
-/
import JsonV.Lemmas.PointerEsc

namespace JsonV.Lemmas.Pointer
open JsonV JsonV.Model JsonV.Model.Pointer JsonV.Spec.Pointer

theorem decimal_plain (n : Nat) : ∀ b ∈ decimal n, b ≠ cTilde ∧ b ≠ cSlash := by
  intro b hb
  unfold decimal at hb
  simp only [List.mem_map] at hb
  obtain ⟨c, hc, rfl⟩ := hb
  have hd := Nat.isDigit_of_mem_toDigits (by decide) (by decide) hc
  simp only [Char.isDigit, Bool.and_eq_true, decide_eq_true_eq] at hd
  have h1 : 48 ≤ c.toNat := by have := hd.1; simpa [Char.le_def, UInt32.le_iff_toNat_le] using this
  have h2 : c.toNat ≤ 57 := by have := hd.2; simpa [Char.le_def, UInt32.le_iff_toNat_le] using this
  have key : (UInt8.ofNat c.toNat).toNat = c.toNat := UInt8.toNat_ofNat_lt (by omega)
  constructor
  · intro h; have := congrArg UInt8.toNat h; rw [key] at this; simp [cTilde] at this; omega
  · intro h; have := congrArg UInt8.toNat h; rw [key] at this; simp [cSlash] at this; omega

theorem escapeTok_decimal (n : Nat) : escapeTok (decimal n) = decimal n :=
  escapeTok_id _ (fun b hb => (decimal_plain n b hb).1) (fun b hb => (decimal_plain n b hb).2)

/-- The reference tokens that `appendStackPointer(-1)` writes for entries that all have a current child. -/
def refsOf (names : List Bytes) : List SEntry → Nat → List Bytes
  | [], _ => []
  | e :: rest, od =>
    if e.isObj then sanitize (names.getD od []) :: refsOf names rest (od + 1)
    else decimal (e.len - 1) :: refsOf names rest od

/-- The number of object entries: each reads one slot of the names stack. -/
def countObj : List SEntry → Nat
  | [] => 0
  | e :: rest => (if e.isObj then 1 else 0) + countObj rest

theorem stackLoop_render (names : List Bytes) (es : List SEntry) (od : Nat) (b : Bytes)
    (hlen : ∀ e ∈ es, e.len > 0) (hnames : od + countObj es ≤ names.length) :
    stackLoop (-1) names es od b = some (b ++ render (refsOf names es od)) := by
  induction es generalizing od b with
  | nil => simp [stackLoop, refsOf, render]
  | cons e rest ih =>
    have hpos : e.len > 0 := hlen e (by simp)
    have hne : e.len ≠ 0 := by omega
    have hrest : ∀ e ∈ rest, e.len > 0 := fun x hx => hlen x (by simp [hx])
    unfold stackLoop
    by_cases ho : e.isObj = true
    · simp only [countObj, ho, if_true] at hnames
      have hod : od < names.length := by omega
      simp [hne, ho, refsOf, List.getElem?_eq_getElem hod]
      rw [ih (od + 1) _ hrest (by omega), appendEscape_eq]
      simp [render, cSlash]
    · simp only [countObj, ho] at hnames
      simp [hne, ho, refsOf]
      rw [ih od _ hrest (by simpa using hnames)]
      simp [render, cSlash, escapeTok_decimal]

end JsonV.Lemmas.Pointer
