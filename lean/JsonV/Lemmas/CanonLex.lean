/-
Re-spelled literals are lexically valid tokens for the tokenizer of C12: a re-quoted string is a string of the grammar
(C11) and the tokenizer's string scanner accepts exactly those (C12); a canonicalized number is a number (C10).
-/
import JsonV.Model.Canon
import JsonV.Lemmas.CanonAtom
import JsonV.Lemmas.CanonTree
import JsonV.Lemmas.GlueFormatStr
import JsonV.Props.C10Glue

namespace JsonV.Lemmas.CanonLex
open JsonV JsonV.Fmt JsonV.Canon JsonV.Model.Utf8 JsonV.Spec.StringSpec JsonV.Lemmas.CanonAtom

theorem canonQuote_valid (s : Bytes) : (Tok.str (canonQuote s)).valid = true := by
  rw [← JsonV.Props.C11.quote_minimal {} s rfl rfl]
  exact (str_valid_iff _).mpr (JsonV.Lemmas.QuoteJString.appendQuote_is_jstring {} false s)

theorem canonStr_valid (lit : Bytes) : (Tok.str (canonStr lit)).valid = true := by
  rw [canonStr_minimal]; exact canonQuote_valid _

theorem canonAtom_valid (fp : FloatCodec) (hw : ∀ f, JsonV.Lemmas.NumFloat.WFD (fp.shortest f).1 (fp.shortest f).2)
    (k : Tok) (h : k.valid = true) : (canonAtom fp k).valid = true := by
  rcases canonAtom_cases fp k with ⟨lit, rfl⟩ | ⟨lit, rfl⟩ | e
  · exact canonStr_valid lit
  · exact (JsonV.Props.C10Glue.reformat_number_spec fp hw true true lit ((num_valid_iff lit).1 h)).2.1
  · rw [e]; exact h

theorem valid_canonTree (fp : FloatCodec) (hw : ∀ f, JsonV.Lemmas.NumFloat.WFD (fp.shortest f).1 (fp.shortest f).2)
    (t : JV) (hv : ∀ k ∈ t.toks, k.valid = true) : ∀ k ∈ (canonTree fp t).toks, k.valid = true := by
  intro k hk
  obtain ⟨k0, hk0, rfl⟩ := JsonV.Lemmas.CanonTree.mem_toks_canonTree.mp hk
  exact canonAtom_valid fp hw k0 (hv k0 hk0)

end JsonV.Lemmas.CanonLex
