/-
C10 lemmas: the integer unmarshalers and Token.Int/Token.Uint, characterised through `parseUint_exact`; `formatInt`
prints an integer literal of the same value; the accessors on tokens built with jsontext.Int / jsontext.Uint.
-/
import JsonV.Lemmas.NumDigits

namespace JsonV.Lemmas.NumInt
open JsonV JsonV.Model.Number JsonV.Spec.Ecma JsonV.Lemmas.NumParse JsonV.Lemmas.NumDigits

theorem toInt_pos (V : Nat) (h : V < 2 ^ 63) : (UInt64.ofNat V).toInt64.toInt = V := by
  rw [UInt64.toInt64_ofNat', Int64.toInt_ofNat_of_lt h]

theorem toInt_neg (V : Nat) (h : V ≤ 2 ^ 63) : (-(UInt64.ofNat V)).toInt64.toInt = -(V : Int) := by
  rw [UInt64.toInt64_neg, UInt64.toInt64_ofNat', Int64.toInt_neg, Int64.toInt_ofNat', Int64.size, Int.bmod_neg_bmod]
  exact Int.bmod_eq_of_le_mul_two (by omega) (by omega)

theorem ofNat_ne_max_iff (V : Nat) (h : V < 2 ^ 64) : (UInt64.ofNat V != maxUint64) = decide (V ≠ 2 ^ 64 - 1) := by
  rw [bne, Bool.eq_iff_iff]
  simp only [Bool.not_eq_true', beq_eq_false_iff_ne, ne_eq, decide_eq_true_eq]
  rw [← UInt64.toNat_inj, UInt64.toNat_ofNat_of_lt' h]; rfl

/-- Widths of the Go integer kinds. -/
def GoWidth (w : Nat) : Prop := w = 8 ∨ w = 16 ∨ w = 32 ∨ w = 64

theorem GoWidth.bounds {w : Nat} (h : GoWidth w) : 0 < w ∧ w ≤ 64 := by
  rcases h with rfl | rfl | rfl | rfl <;> decide

theorem shl1_toNat (s : Nat) (h : s < 64) : (shl1 s).toNat = 2 ^ s := by
  simp only [shl1, UInt64.toNat_ofBitVec, BitVec.toNat_shiftLeft]
  rw [show BitVec.toNat 1 = 1 from rfl, Nat.one_shiftLeft, Nat.mod_eq_of_lt (Nat.pow_lt_pow_right (by decide) h)]

theorem shl1_sub_one (s : Nat) (h : s ≤ 64) : (shl1 s - 1).toNat = 2 ^ s - 1 := by
  rcases Nat.lt_or_eq_of_le h with h | rfl
  · have hs := shl1_toNat s h
    rw [UInt64.toNat_sub_of_le _ _ (by rw [UInt64.le_iff_toNat_le, hs]; exact Nat.pow_pos (by decide)), hs]; rfl
  · decide

theorem wrapInt_id (w : Nat) (hw : 0 < w) (x : Int) (h1 : -(2 ^ (w - 1) : Int) ≤ x) (h2 : x < 2 ^ (w - 1)) :
    wrapInt w x = x := by
  have hp : ((2 ^ w : Nat) : Int) = 2 ^ (w - 1) * 2 := by
    rw [Int.natCast_pow, ← Int.pow_succ, Nat.succ_eq_add_one, Nat.sub_add_cancel hw]; rfl
  apply Int.bmod_eq_of_le_mul_two <;> rw [hp]
  · rw [← Int.neg_mul]; exact Int.mul_le_mul_of_nonneg_right h1 (by decide)
  · exact Int.mul_lt_mul_of_pos_right h2 (by decide)

theorem canonical_not_minus (t : Bytes) (h : canonicalDecimal t = true) : t.head? ≠ some 45 := by
  intro h45
  obtain ⟨r, rfl⟩ := List.head?_eq_some_iff.1 h45
  exact absurd (((canonical_iff _).1 h).2.1 45 List.mem_cons_self) (by decide)

theorem unsigned_lit (b : Bytes) (h : b.head? ≠ some 45) :
    isIntLit b = canonicalDecimal b ∧ intVal b = bytesVal b := by
  unfold isIntLit intVal
  split
  · exact absurd rfl h
  · exact ⟨rfl, rfl⟩

theorem neg_range_iff (k V : Nat) : (-(2 ^ k : Int) ≤ -(V : Int) ∧ -(V : Int) < 2 ^ k) ↔ V ≤ 2 ^ k := by
  have hc : (2 : Int) ^ k = ((2 ^ k : Nat) : Int) := by rw [Int.natCast_pow]; rfl
  have := Nat.pow_pos (n := k) (show 0 < 2 by decide)
  rw [hc]; omega

theorem pos_range_iff (k V : Nat) : (-(2 ^ k : Int) ≤ (V : Int) ∧ (V : Int) < 2 ^ k) ↔ V < 2 ^ k := by
  have hc : (2 : Int) ^ k = ((2 ^ k : Nat) : Int) := by rw [Int.natCast_pow]; rfl
  rw [hc]; omega

theorem syntaxThenRange_ok_iff {ε α : Type} {c r : Prop} [Decidable c] [Decidable r] (v i : α) (e e' : ε) :
    (if c then (if r then Except.ok v else Except.error e) else Except.error e' : Except ε α) = .ok i ↔ c ∧ v = i ∧ r := by
  by_cases hc : c <;> by_cases hr : r <;> simp [hc, hr]

theorem syntaxThenRange_syntax_iff {α : Type} {c r : Prop} [Decidable c] [Decidable r] (v : α) :
    (if c then (if r then Except.ok v else Except.error ArshErr.range) else Except.error ArshErr.syntax) =
      .error .syntax ↔ ¬ c := by
  by_cases hc : c <;> by_cases hr : r <;> simp [hc, hr]

theorem unmarshalInt_spec (w : Nat) (h0 : 0 < w) (h64 : w ≤ 64) (lit : Bytes) :
    unmarshalInt w lit =
      if isIntLit lit then
        (if -(2 ^ (w - 1) : Int) ≤ intVal lit ∧ intVal lit < 2 ^ (w - 1) then .ok (intVal lit) else .error .range)
      else .error .syntax := by
  have hm : (shl1 (w - 1)).toNat = 2 ^ (w - 1) := shl1_toNat _ (Nat.lt_of_lt_of_le (Nat.sub_lt h0 Nat.one_pos) h64)
  have hm1 : (shl1 (w - 1) - 1).toNat = 2 ^ (w - 1) - 1 := shl1_sub_one _ (Nat.le_trans (Nat.sub_le w 1) h64)
  have hle : 2 ^ (w - 1) ≤ 2 ^ 63 := Nat.pow_le_pow_right (by decide) (Nat.sub_le_sub_right h64 1)
  by_cases hneg : lit.head? = some 45
  · obtain ⟨t, rfl⟩ := List.head?_eq_some_iff.1 hneg
    have hl : isIntLit (45 :: t) = canonicalDecimal t := rfl
    have hv : intVal (45 :: t) = -(bytesVal t : Int) := rfl
    simp only [unmarshalInt, List.head?_cons, beq_self_eq_true, if_true, List.drop_one, List.tail_cons, hl, hv,
      neg_range_iff]
    rcases parseUint_cases t with ⟨hcan, hfit, hp⟩ | ⟨hcan, hbig, hp⟩ | ⟨hcan, hp⟩
    · simp only [hp, hcan, if_true, Bool.not_true, Bool.false_eq_true, if_false, Bool.true_and, Bool.false_and,
        Bool.or_false, decide_eq_true_eq, UInt64.lt_ofNat_iff hfit, hm, UInt64.zero_sub]
      by_cases hov : bytesVal t ≤ 2 ^ (w - 1)
      · have hb := (neg_range_iff (w - 1) _).2 hov
        rw [if_neg (Nat.not_lt.2 hov), if_pos hov, toInt_neg _ (Nat.le_trans hov hle), wrapInt_id w h0 _ hb.1 hb.2]
      · rw [if_pos (Nat.lt_of_not_le hov), if_neg hov]
    · simp only [hp, hcan, if_true, Bool.not_false]
      rw [if_neg (by decide), if_neg (fun h => Nat.not_lt.2 hbig (Nat.lt_of_le_of_lt (Nat.le_trans h hle) (by decide)))]
    · simp only [hp, hcan, Bool.false_eq_true, if_false, Bool.not_false, if_true]
      rw [if_pos (by decide)]
  · obtain ⟨hl, hv⟩ := unsigned_lit lit hneg
    have hb : (lit.head? == some 45) = false := by simpa using hneg
    simp only [unmarshalInt, hb, Bool.false_eq_true, if_false, List.drop_zero, hl, hv, pos_range_iff]
    rcases parseUint_cases lit with ⟨hcan, hfit, hp⟩ | ⟨hcan, hbig, hp⟩ | ⟨hcan, hp⟩
    · simp only [hp, hcan, if_true, Bool.not_true, Bool.false_eq_true, if_false, Bool.true_and, Bool.false_and,
        Bool.false_or, Bool.not_false, decide_eq_true_eq, UInt64.lt_ofNat_iff hfit, hm1]
      by_cases hov : bytesVal lit < 2 ^ (w - 1)
      · have hb := (pos_range_iff (w - 1) _).2 hov
        rw [if_neg (Nat.not_lt.2 (Nat.le_sub_one_of_lt hov)), if_pos hov, toInt_pos _ (Nat.lt_of_lt_of_le hov hle),
          wrapInt_id w h0 _ hb.1 hb.2]
      · rw [if_pos (Nat.sub_one_lt_of_le (Nat.pow_pos (by decide)) (Nat.le_of_not_lt hov)), if_neg hov]
    · simp only [hp, hcan, if_true, Bool.not_false]
      rw [if_neg (by decide), if_neg (fun h => Nat.not_lt.2 hbig (Nat.lt_trans (Nat.lt_of_lt_of_le h hle) (by decide)))]
    · simp only [hp, hcan, Bool.false_eq_true, if_false, Bool.not_false, if_true]
      rw [if_pos (by decide)]

theorem unmarshalUint_spec (w : Nat) (h64 : w ≤ 64) (lit : Bytes) :
    unmarshalUint w lit =
      if canonicalDecimal lit then
        (if bytesVal lit < 2 ^ w then .ok (bytesVal lit) else .error .range)
      else .error .syntax := by
  have hle : 2 ^ w ≤ 2 ^ 64 := Nat.pow_le_pow_right (by decide) h64
  have hm : (shl1 w - 1).toNat = 2 ^ w - 1 := shl1_sub_one w h64
  unfold unmarshalUint
  rcases parseUint_cases lit with ⟨hcan, hfit, hp⟩ | ⟨hcan, hbig, hp⟩ | ⟨hcan, hp⟩
  · simp only [hp, hcan, if_true, Bool.not_true, Bool.false_eq_true, if_false, decide_eq_true_eq, UInt64.lt_ofNat_iff hfit, hm,
      UInt64.toNat_ofNat_of_lt' hfit, wrapUint]
    by_cases hov : bytesVal lit < 2 ^ w
    · rw [if_neg (Nat.not_lt.2 (Nat.le_sub_one_of_lt hov)), if_pos hov, Nat.mod_eq_of_lt hov]
    · rw [if_pos (Nat.sub_one_lt_of_le (Nat.pow_pos (by decide)) (Nat.le_of_not_lt hov)), if_neg hov]
  · rw [hp, if_pos hcan, if_neg (fun h => Nat.not_lt.2 hbig (Nat.lt_of_lt_of_le h hle))]
    rfl
  · rw [hp, if_neg (Bool.not_eq_true _ ▸ hcan)]
    rfl

theorem not_digit_frac (c : UInt8) (h : (c == 46 || c == 101 || c == 69) = true) : Spec.Ecma.isDigit c = false := by
  simp only [Bool.or_eq_true, beq_iff_eq] at h
  rcases h with (h | h) | h <;> subst h <;> decide

theorem canonical_no_frac (t : Bytes) (h : canonicalDecimal t = true) : hasFracOrExp t = false := by
  rw [hasFracOrExp, List.any_eq_false]
  intro x hx hfx
  have := not_digit_frac x hfx
  rw [((canonical_iff t).1 h).2.1 x hx] at this
  exact absurd this (by decide)

theorem intLit_no_frac (b : Bytes) (h : isIntLit b = true) : hasFracOrExp b = false := by
  unfold isIntLit at h
  split at h
  · rename_i t
    have := canonical_no_frac t h
    simp only [hasFracOrExp, List.any_cons] at this ⊢
    rw [this]; decide
  · exact canonical_no_frac b h

theorem tokenInt_spec (pf : Bytes → Fl) (buf : Bytes) :
    tokenInt pf buf =
      if isIntLit buf then
        (if -(2 ^ 63 : Int) ≤ intVal buf ∧ intVal buf < 2 ^ 63 then (intVal buf, .none)
         else if intVal buf < 0 then (-(2 ^ 63), .range) else (2 ^ 63 - 1, .range))
      else (f64toi64 (pf buf), .syntax) := by
  by_cases hneg : buf.head? = some 45
  · obtain ⟨t, rfl⟩ := List.head?_eq_some_iff.1 hneg
    have hl : isIntLit (45 :: t) = canonicalDecimal t := rfl
    have hv : intVal (45 :: t) = -(bytesVal t : Int) := rfl
    simp only [tokenInt, List.head?_cons, beq_self_eq_true, if_true, List.drop_one, List.tail_cons, hl, hv, neg_range_iff]
    rcases parseUint_cases t with ⟨hcan, hfit, hp⟩ | ⟨hcan, hbig, hp⟩ | ⟨hcan, hp⟩
    · simp only [hp, hcan, if_true, UInt64.lt_ofNat_iff hfit, show (9223372036854775808 : UInt64).toNat = 2 ^ 63 from rfl,
        Int64.neg_mul, Int64.one_mul, ← UInt64.toInt64_neg]
      by_cases hov : bytesVal t ≤ 2 ^ 63
      · rw [if_neg (Nat.not_lt.2 hov), if_pos hov, toInt_neg _ hov]
      · rw [if_pos (Nat.lt_of_not_le hov), if_neg hov, if_pos (by omega)]
    · simp only [hp, hcan, if_true]
      rw [if_pos (by decide), if_neg (by omega), if_pos (by omega)]
    · simp only [hp, hcan, Bool.false_eq_true, if_false]
      rw [if_neg (by decide)]
  · obtain ⟨hl, hv⟩ := unsigned_lit buf hneg
    have hb : (buf.head? == some 45) = false := by simpa using hneg
    simp only [tokenInt, hb, Bool.false_eq_true, if_false, hl, hv, pos_range_iff]
    rcases parseUint_cases buf with ⟨hcan, hfit, hp⟩ | ⟨hcan, hbig, hp⟩ | ⟨hcan, hp⟩
    · simp only [hp, hcan, if_true, UInt64.lt_ofNat_iff hfit, show (9223372036854775807 : UInt64).toNat = 2 ^ 63 - 1 from rfl]
      by_cases hov : bytesVal buf < 2 ^ 63
      · rw [if_neg (Nat.not_lt.2 (Nat.le_sub_one_of_lt hov)), if_pos hov, toInt_pos _ hov]
      · rw [if_pos (Nat.sub_one_lt_of_le (by decide) (Nat.le_of_not_lt hov)), if_neg hov, if_neg (by omega)]
    · simp only [hp, hcan, if_true]
      rw [if_pos (by decide), if_neg (by omega), if_neg (by omega)]
    · simp only [hp, hcan, Bool.false_eq_true, if_false]
      rw [if_neg (by decide)]

theorem tokenUint_spec (pf : Bytes → Fl) (buf : Bytes) :
    tokenUint pf buf =
      if canonicalDecimal buf then
        (if bytesVal buf < 2 ^ 64 then (bytesVal buf, .none) else (2 ^ 64 - 1, .range))
      else (f64tou64 (pf buf), .syntax) := by
  unfold tokenUint
  rcases parseUint_cases buf with ⟨hcan, hfit, hp⟩ | ⟨hcan, hbig, hp⟩ | ⟨hcan, hp⟩
  · rw [hp, if_pos hcan, if_pos hfit]
    simp only [if_true, UInt64.toNat_ofNat_of_lt' hfit]
  · rw [hp, if_pos hcan, if_neg (Nat.not_lt.2 hbig)]
    rfl
  · rw [hp, if_neg (Bool.not_eq_true _ ▸ hcan)]
    rfl

theorem natDigits_lt (n : Nat) : ∀ d ∈ natDigits n, d < 10 := by
  rw [natDigits_eq_decimal]; exact decimal_lt n

theorem natDigits_ne_nil (n : Nat) : natDigits n ≠ [] := by
  rw [natDigits_eq_decimal]; exact decimal_ne_nil n

theorem natDigits_head (n : Nat) (h : 0 < n) : (natDigits n).head? ≠ some 0 := by
  rw [natDigits_eq_decimal]; exact decimal_head n h

theorem natDigits_length (k n : Nat) (h1 : 10 ^ k ≤ n) (h2 : n < 10 ^ (k + 1)) : (natDigits n).length = k + 1 := by
  have : (formatUint n).length = k + 1 := by
    rw [← Model.Time.natDigits_eq_formatUint, Model.Time.natDigits_eq_pad k n h2 h1, padDigits_length]
  rwa [formatUint, List.length_map] at this

theorem isIntLit_of_canonical (b : Bytes) (h : canonicalDecimal b = true) :
    isIntLit b = true ∧ intVal b = (bytesVal b : Int) := by
  obtain ⟨hl, hv⟩ := unsigned_lit b (canonical_not_minus b h)
  exact ⟨hl.trans h, hv⟩

theorem formatInt_lit (i : Int) : isIntLit (formatInt i) = true ∧ intVal (formatInt i) = i := by
  unfold formatInt
  by_cases h : i < 0
  · rw [if_pos h]
    refine ⟨formatUint_canonical _, ?_⟩
    show -(bytesVal (formatUint i.natAbs) : Int) = i
    rw [bytesVal_formatUint]; omega
  · rw [if_neg h]
    obtain ⟨h1, h2⟩ := isIntLit_of_canonical _ (formatUint_canonical i.natAbs)
    refine ⟨h1, ?_⟩
    rw [h2, bytesVal_formatUint]; omega

theorem tokenInt_zero (pf : Bytes → Fl) : tokenInt pf [48] = (0, .none) := by
  rw [tokenInt_spec, if_pos (by decide), if_pos (by decide)]; rfl

theorem tokenUint_zero (pf : Bytes → Fl) : tokenUint pf [48] = (0, .none) := by
  rw [tokenUint_spec, if_pos (by decide), if_pos (by decide)]; rfl

theorem int64_roundtrip (n : Int) (h1 : -(2 ^ 63 : Int) ≤ n) (h2 : n < 2 ^ 63) :
    (Int64.ofInt n).toUInt64.toInt64.toInt = n := by
  rw [Int64.toInt64_toUInt64, Int64.toInt_ofInt_of_le (by simpa using h1) (by simpa using h2)]

theorem int64_neg_iff (n : Int) (h1 : -(2 ^ 63 : Int) ≤ n) (h2 : n < 2 ^ 63) :
    (Int64.ofInt n).toUInt64.toInt64 < 0 ↔ n < 0 := by
  rw [Int64.lt_iff_toInt_lt, int64_roundtrip n h1 h2]
  rfl

theorem int64_toNat (n : Int) (h1 : 0 ≤ n) (h2 : n < 2 ^ 63) : (Int64.ofInt n).toUInt64.toNat = n.toNat := by
  have hx : (0 : Int64) ≤ Int64.ofInt n := by
    rw [Int64.le_iff_toInt_le, Int64.toInt_ofInt_of_le (by omega) (by simpa using h2)]; simpa using h1
  rw [Int64.toNat_toUInt64_of_le hx, Int64.toNatClampNeg, Int64.toInt_ofInt_of_le (by omega) (by simpa using h2)]

theorem mkInt_tokInt (pf : Bytes → Fl) (n : Int) (h1 : -(2 ^ 63 : Int) ≤ n) (h2 : n < 2 ^ 63) :
    tokInt pf (mkInt n) = (n, .none) := by
  unfold mkInt
  by_cases h0 : n = 0
  · subst h0; exact tokenInt_zero pf
  · rw [if_neg (by simpa using h0)]
    simp only [tokInt, int64_roundtrip n h1 h2]

theorem mkInt_tokUint (pf : Bytes → Fl) (n : Int) (h1 : -(2 ^ 63 : Int) ≤ n) (h2 : n < 2 ^ 63) :
    tokUint pf (mkInt n) = if n < 0 then (0, .syntax) else (n.toNat, .none) := by
  unfold mkInt
  by_cases h0 : n = 0
  · subst h0; exact tokenUint_zero pf
  · rw [if_neg (by simpa using h0)]
    have hlt := int64_neg_iff n h1 h2
    simp only [tokUint]
    by_cases hn : n < 0
    · rw [if_pos (hlt.2 hn), if_pos hn]
    · rw [if_neg (fun hh => hn (hlt.1 hh)), if_neg hn, int64_toNat n (by omega) h2]

theorem mkUint_tokUint (pf : Bytes → Fl) (u : Nat) (h : u < 2 ^ 64) : tokUint pf (mkUint u) = (u, .none) := by
  unfold mkUint
  by_cases h0 : u = 0
  · subst h0; exact tokenUint_zero pf
  · rw [if_neg (by simpa using h0)]
    simp only [tokUint, UInt64.toNat_ofNat_of_lt' h]

theorem mkUint_tokInt (pf : Bytes → Fl) (u : Nat) (h : u < 2 ^ 64) :
    tokInt pf (mkUint u) = if u < 2 ^ 63 then ((u : Int), .none) else (2 ^ 63 - 1, .range) := by
  unfold mkUint
  by_cases h0 : u = 0
  · subst h0; exact tokenInt_zero pf
  · rw [if_neg (by simpa using h0)]
    have hgt : (UInt64.ofNat u > 9223372036854775807) ↔ ¬ u < 2 ^ 63 := by
      rw [gt_iff_lt, UInt64.lt_ofNat_iff h, show (9223372036854775807 : UInt64).toNat = 2 ^ 63 - 1 from rfl]; omega
    simp only [tokInt]
    by_cases hu : u < 2 ^ 63
    · rw [if_neg (fun hh => (hgt.1 hh) hu), if_pos hu, toInt_pos u hu]
    · rw [if_pos (hgt.2 hu), if_neg hu]

end JsonV.Lemmas.NumInt
