/-
Lemmas for C16: Parent / LastToken / Tokens / Contains on pointer texts.
-/
import JsonV.Lemmas.PointerEsc

namespace JsonV.Lemmas.Pointer
open JsonV JsonV.Model JsonV.Model.Pointer JsonV.Spec.Pointer

/-- `q` is empty or begins with '/'. -/
def SlashLed (q : Bytes) : Prop := q = [] ∨ ∃ r, q = cSlash :: r

theorem render_slashLed (ts : List Bytes) : SlashLed (render ts) := by
  cases ts with
  | nil => exact Or.inl rfl
  | cons t ts => exact Or.inr ⟨_, rfl⟩

theorem render_append (ts us : List Bytes) : render (ts ++ us) = render ts ++ render us := by
  induction ts with
  | nil => rfl
  | cons t ts ih => simp [render, ih]

theorem lastIndexByte_none (c : UInt8) (s : Bytes) (h : ∀ b ∈ s, b ≠ c) : lastIndexByte c s = none := by
  induction s with
  | nil => rfl
  | cons b rest ih =>
    simp only [lastIndexByte, ih (fun x hx => h x (by simp [hx]))]
    simp [h b (by simp)]

theorem lastIndexByte_sep (c : UInt8) (p s : Bytes) (h : ∀ b ∈ s, b ≠ c) :
    lastIndexByte c (p ++ c :: s) = some p.length := by
  induction p with
  | nil => simp [lastIndexByte, lastIndexByte_none c s h]
  | cons a p ih => simp [lastIndexByte, ih]

theorem lastSlash_sep (p s : Bytes) (h : ∀ b ∈ s, b ≠ cSlash) : lastSlash (p ++ cSlash :: s) = p.length := by
  simp [lastSlash, lastIndexByte_sep cSlash p s h]

theorem parent_sep (p s : Bytes) (h : ∀ b ∈ s, b ≠ cSlash) : parent (p ++ cSlash :: s) = p := by
  simp [parent, lastSlash_sep p s h]

theorem lastToken_sep (p s : Bytes) (h : ∀ b ∈ s, b ≠ cSlash) : lastToken (p ++ cSlash :: s) = unescape s := by
  simp [lastToken, lastSlash_sep p s h, trimSlash]

theorem appendToken_eq (p t : Bytes) : appendToken p t = p ++ cSlash :: escapeTok (sanitize t) :=
  appendName_eq p t

theorem cutAtSlash_sep (a q : Bytes) (ha : ∀ b ∈ a, b ≠ cSlash) (hq : SlashLed q) : cutAtSlash (a ++ q) = (a, q) := by
  induction a with
  | nil =>
    rcases hq with rfl | ⟨r, rfl⟩
    · rfl
    · simp [cutAtSlash]
  | cons x a ih =>
    have hx : x ≠ cSlash := ha x (by simp)
    have := ih (fun b hb => ha b (by simp [hb]))
    simp [cutAtSlash, hx, this]

theorem tokens_nil : tokens [] = [] := by rw [tokens]; simp

theorem tokens_seg (a q : Bytes) (ha : ∀ b ∈ a, b ≠ cSlash) (hq : SlashLed q) :
    tokens (cSlash :: a ++ q) = unescape a :: tokens q := by
  rw [tokens]
  simp [trimSlash, cutAtSlash_sep a q ha hq]

theorem tokens_render (ts : List Bytes) : tokens (render ts) = ts := by
  induction ts with
  | nil => exact tokens_nil
  | cons t ts ih =>
    have := tokens_seg (escapeTok t) (render ts) (escapeTok_no_slash t) (render_slashLed ts)
    simp only [render]
    rw [show (0x2f : UInt8) = cSlash from rfl, this, ih, unescape_escapeTok]

theorem foldl_appendToken (ts : List Bytes) (p : Bytes) :
    ts.foldl appendToken p = p ++ render (ts.map sanitize) := by
  induction ts generalizing p with
  | nil => simp [render]
  | cons t ts ih =>
    simp only [List.foldl_cons, ih, appendToken_eq, List.map_cons, render]
    simp [cSlash]

theorem cutAtSlash_spec (r : Bytes) : r = (cutAtSlash r).1 ++ (cutAtSlash r).2 ∧ (∀ b ∈ (cutAtSlash r).1, b ≠ cSlash) ∧
    SlashLed (cutAtSlash r).2 := by
  induction r with
  | nil => exact ⟨rfl, by simp [cutAtSlash], Or.inl rfl⟩
  | cons x r ihr =>
    by_cases hx : x = cSlash
    · subst hx; simp only [cutAtSlash, if_true]; exact ⟨rfl, by simp, Or.inr ⟨_, rfl⟩⟩
    · simp only [cutAtSlash, hx, if_false]
      refine ⟨by simpa using ihr.1, ?_, ihr.2.2⟩
      intro b hb
      simp only [List.mem_cons] at hb
      rcases hb with h | h
      · subst h; exact hx
      · exact ihr.2.1 b h

theorem slashLed_induction {P : Bytes → Prop} (nil : P [])
    (seg : ∀ a rest, (∀ b ∈ a, b ≠ cSlash) → SlashLed rest → P rest → P (cSlash :: a ++ rest)) :
    ∀ p, SlashLed p → P p := by
  intro p hp
  generalize hn : p.length = n
  induction n using Nat.strongRecOn generalizing p with
  | _ n ih =>
    rcases hp with rfl | ⟨r, rfl⟩
    · exact nil
    · obtain ⟨h1, h2, h3⟩ := cutAtSlash_spec r
      have hlen := cutAtSlash_length r
      have := seg _ _ h2 h3 (ih _ (by rw [← hn, List.length_cons]; omega) _ h3 rfl)
      rwa [List.cons_append, ← h1] at this

theorem tokens_append (p q : Bytes) (hp : SlashLed p) (hq : SlashLed q) : tokens (p ++ q) = tokens p ++ tokens q := by
  refine slashLed_induction (P := fun p => tokens (p ++ q) = tokens p ++ tokens q) (by rw [tokens_nil]; rfl) ?_ p hp
  intro a rest ha hrest ih
  have hrq : SlashLed (rest ++ q) := by
    rcases hrest with rfl | ⟨r', rfl⟩
    · exact hq
    · exact Or.inr ⟨_, rfl⟩
  rw [List.append_assoc, tokens_seg a (rest ++ q) ha hrq, tokens_seg a rest ha hrest, ih]
  rfl

theorem cutPrefix_append (p s : Bytes) : cutPrefix (p ++ s) p = some s := by
  induction p with
  | nil => cases s <;> rfl
  | cons a p ih => simp [cutPrefix, ih]

theorem cutPrefix_some (p q s : Bytes) (h : cutPrefix q p = some s) : q = p ++ s := by
  induction p generalizing q with
  | nil => cases q <;> simp_all [cutPrefix]
  | cons a p ih =>
    cases q with
    | nil => simp [cutPrefix] at h
    | cons b q =>
      simp only [cutPrefix] at h
      split at h
      · rename_i hab; subst hab; simp [ih q h]
      · simp at h

theorem contains_iff (p q : Bytes) : contains p q = true ↔ ∃ s, q = p ++ s ∧ SlashLed s := by
  unfold contains
  constructor
  · intro h
    split at h
    · simp at h
    · rename_i hc; exact ⟨[], cutPrefix_some _ _ _ hc, Or.inl rfl⟩
    · rename_i b r hc
      have : b = cSlash := by simpa using h
      subst this
      exact ⟨_, cutPrefix_some _ _ _ hc, Or.inr ⟨_, rfl⟩⟩
  · rintro ⟨s, rfl, hs⟩
    rw [cutPrefix_append]
    rcases hs with rfl | ⟨r, rfl⟩ <;> simp

theorem contains_render (ts us : List Bytes) : contains (render ts) (render us) = true ↔ ∃ r, us = ts ++ r := by
  rw [contains_iff]
  constructor
  · rintro ⟨s, hs, hled⟩
    have := congrArg tokens hs
    rw [tokens_render, tokens_append _ _ (render_slashLed ts) hled, tokens_render] at this
    exact ⟨_, this⟩
  · rintro ⟨r, rfl⟩
    exact ⟨render r, render_append ts r, render_slashLed r⟩

end JsonV.Lemmas.Pointer
