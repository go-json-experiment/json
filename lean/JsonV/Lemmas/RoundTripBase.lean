/-
Lemmas for the L3 round trip (C04L3): integer literals, the member order of
Deterministic maps, an induction principle for `GoVal`, and what the list predicates say element by element.
-/
import JsonV.Model.Marshal
import JsonV.Lemmas.MergeLaw
import JsonV.Lemmas.TimeUint

namespace JsonV.Lemmas.RoundTrip
open JsonV JsonV.Spec JsonV.Model JsonV.Lemmas.Merge

theorem parseNat_eq (b : Bytes) :
    parseNat b = if Spec.Ecma.canonicalDecimal b then some (Spec.Ecma.bytesVal b) else none := by
  have h : Spec.Ecma.canonicalDecimal b =
      !(b.isEmpty || !b.all Model.isDigit || (b.head? == some 0x30 && b != [0x30])) := by
    simp only [Spec.Ecma.canonicalDecimal, Bool.not_or, Bool.not_and, Bool.not_not, bne]
    rfl
  rw [parseNat, h]
  generalize (b.isEmpty || !b.all Model.isDigit || (b.head? == some 0x30 && b != [0x30])) = c
  cases c <;> rfl

theorem parseNat_natDigits (n : Nat) : parseNat (Time.natDigits n) = some n := by
  rw [parseNat_eq, if_pos (Time.natDigits_canonical n), Time.bytesVal_natDigits]

theorem natDigits_head_ne_minus (n : Nat) : ((Time.natDigits n).head? == some 0x2d) = false :=
  beq_false_of_ne (NumInt.canonical_not_minus _ (Time.natDigits_canonical n))

theorem unmUint_natDigits (o : UOpts) (b n : Nat) (h : n < 2 ^ b) : unmUint o b (.num (Time.natDigits n)) = .ok (.uint n) := by
  simp only [unmUint, parseNat_natDigits]
  have : ¬ n > 2 ^ b - 1 := by omega
  simp [this]

theorem unmInt_intDigits (o : UOpts) (b : Nat) (i : Int) (h0 : -(2 ^ (b - 1) : Int) ≤ i) (h1 : i < (2 ^ (b - 1) : Int)) :
    unmInt o b (.num (Time.intDigits i)) = .ok (.int i) := by
  have hcast : (2 ^ (b - 1) : Int) = ((2 ^ (b - 1) : Nat) : Int) := by simp
  rw [hcast] at h0 h1
  have hpos : 0 < 2 ^ (b - 1) := Nat.pos_of_ne_zero (by simp)
  generalize hp : 2 ^ (b - 1) = p at h0 h1 hpos
  unfold Time.intDigits
  by_cases hn : i < 0
  · rw [if_pos hn]
    have hm : ((Time.cMinus :: Time.natDigits (-i).toNat).head? == some 0x2d) = true := rfl
    simp only [unmInt, hm, if_true, List.drop_one, List.tail_cons, parseNat_natDigits, hp]
    have hc : ¬ ((-i).toNat > p) := by omega
    simp only [Bool.true_and, Bool.not_true, Bool.false_and, Bool.or_false, decide_eq_true_eq, hc, if_false]
    congr 2
    omega
  · rw [if_neg hn]
    simp only [unmInt, natDigits_head_ne_minus, Bool.false_eq_true, if_false, parseNat_natDigits, hp]
    have hc : ¬ (i.toNat > p - 1) := by omega
    simp only [Bool.false_and, Bool.not_false, Bool.true_and, Bool.false_or, decide_eq_true_eq, hc, if_false]
    congr 2
    omega

section SortSec
variable {α : Type}

theorem keyLe_trans (a b c : Bytes × α) (h1 : keyLe a b = true) (h2 : keyLe b c = true) : keyLe a c = true := by
  simp only [keyLe, decide_eq_true_eq] at *
  exact List.le_trans h1 h2

theorem keyLe_total (a b : Bytes × α) : (keyLe a b || keyLe b a) = true := by
  simp only [keyLe, Bool.or_eq_true, decide_eq_true_eq]
  exact List.le_total a.1 b.1

theorem sortMembers_perm (ms : List (Bytes × α)) : (sortMembers ms).Perm ms := List.mergeSort_perm ms keyLe

theorem sortMembers_pairwise (ms : List (Bytes × α)) :
    (sortMembers ms).Pairwise (fun a b => keyLe a b = true) :=
  List.pairwise_mergeSort keyLe_trans keyLe_total ms

theorem sortMembers_idem (ms : List (Bytes × α)) : sortMembers (sortMembers ms) = sortMembers ms :=
  List.mergeSort_of_pairwise (sortMembers_pairwise ms)

theorem mem_sortMembers {ms : List (Bytes × α)} {p : Bytes × α} : p ∈ sortMembers ms ↔ p ∈ ms :=
  (sortMembers_perm ms).mem_iff

theorem akeys_sortMembers_perm (ms : List (Bytes × α)) : (akeys (sortMembers ms)).Perm (akeys ms) :=
  (sortMembers_perm ms).map Prod.fst

theorem nodup_sortMembers {ms : List (Bytes × α)} (h : (akeys ms).Nodup) : (akeys (sortMembers ms)).Nodup :=
  (akeys_sortMembers_perm ms).nodup_iff.2 h

end SortSec

theorem GoVal.induct {P : GoVal → Prop}
    (hbool : ∀ b, P (.bool b)) (hint : ∀ i, P (.int i)) (huint : ∀ n, P (.uint n))
    (hfloat : ∀ l, P (.float l)) (hstr : ∀ s, P (.str s)) (hnilSlice : P .nilSlice)
    (hslice : ∀ vs, (∀ v ∈ vs, P v) → P (.sliceOf vs)) (harray : ∀ vs, (∀ v ∈ vs, P v) → P (.arrayOf vs))
    (hnilMap : P .nilMap) (hmap : ∀ ms : List (Bytes × GoVal), (∀ k v, (k, v) ∈ ms → P v) → P (.mapOf ms))
    (hnilPtr : P .nilPtr) (hptr : ∀ v, P v → P (.ptrTo v))
    (hstruct : ∀ fvs : List (Bytes × GoVal), (∀ k v, (k, v) ∈ fvs → P v) → P (.structOf fvs))
    (hnilIface : P .nilIface) (hiface : ∀ v, P v → P (.ifaceOf v)) : ∀ v, P v := by
  intro v
  refine GoVal.rec (motive_1 := P) (motive_2 := fun vs => ∀ v ∈ vs, P v)
    (motive_3 := fun ms => ∀ k v, (k, v) ∈ ms → P v) (motive_4 := fun p => P p.2)
    hbool hint huint hfloat hstr hnilSlice hslice harray hnilMap hmap hnilPtr hptr hstruct hnilIface hiface
    ?_ ?_ ?_ ?_ ?_ v
  · intro x hx; cases hx
  · intro h t ih1 ih2 x hx
    cases List.mem_cons.1 hx with
    | inl e => exact e ▸ ih1
    | inr e => exact ih2 x e
  · intro n x hx; cases hx
  · intro h t ih1 ih2 n x hx
    cases List.mem_cons.1 hx with
    | inl e => subst e; exact ih1
    | inr e => exact ih2 n x e
  · intro _ _ ih; exact ih

theorem allB_iff {α : Type} (p : α → Bool) (l : List α) : allB p l = true ↔ ∀ a ∈ l, p a = true :=
  List.all_cons_iff rfl (fun _ _ => rfl) l

theorem allB_map {α β : Type} (p : β → Bool) (f : α → β) (l : List α) :
    allB p (l.map f) = true ↔ ∀ e ∈ l, p (f e) = true := by
  rw [allB_iff, List.forall_mem_map]

theorem akeys_map {α β : Type} (k : α → Bytes) (g : α → β) (es : List α) :
    akeys (es.map fun e => (k e, g e)) = es.map k := by
  rw [akeys, List.map_map]; rfl

theorem exists_zipped {α β : Type} {Q : α → β → Prop} :
    ∀ l : List α, (∀ a ∈ l, ∃ b, Q a b) → ∃ es : List (α × β), l = es.map (·.1) ∧ ∀ e ∈ es, Q e.1 e.2
  | [], _ => ⟨[], rfl, nofun⟩
  | a :: l, h => by
    obtain ⟨b, hb⟩ := h a List.mem_cons_self
    obtain ⟨es, rfl, hes⟩ := exists_zipped l fun a ha => h a (List.mem_cons_of_mem _ ha)
    exact ⟨(a, b) :: es, rfl, List.forall_mem_cons.2 ⟨hb, hes⟩⟩

theorem safeM_iff (o : MOpts) (ms : List (Bytes × GoVal)) :
    safeM o ms = true ↔ ∀ k v, (k, v) ∈ ms → safe o v = true := by
  rw [List.all_cons_iff (p := fun a => safe o a.2) rfl (fun _ _ => rfl) ms, Prod.forall]

theorem anyTypedL_eq (vs : List GoVal) : anyTypedL vs = allB (hasType .any) vs := by
  induction vs with
  | nil => rfl
  | cons v r ih => simp only [anyTypedL, allB, hasType, ih]

theorem anyTypedM_eq (ms : List (Bytes × GoVal)) :
    anyTypedM ms = allB (fun p => Utf8.valid p.1 && hasType .any p.2) ms := by
  induction ms with
  | nil => rfl
  | cons p r ih => simp only [anyTypedM, allB, hasType, ih]

theorem fieldsTyped_map {α : Type} (es : List (Bytes × GoType × GoVal × α)) :
    fieldsTyped (es.map fun e => (e.1, e.2.1)) (es.map fun e => (e.1, e.2.2.1)) = true ↔
      ∀ e ∈ es, hasType e.2.1 e.2.2.1 = true := by
  induction es with
  | nil => exact ⟨nofun, fun _ => rfl⟩
  | cons e es ih =>
    simp only [List.map_cons, fieldsTyped, decide_true, Bool.true_and, Bool.and_eq_true, ih, List.forall_mem_cons]

theorem veqM_iff (ms ms' : List (Bytes × GoVal)) :
    veqM ms ms' ↔ ∀ k v, (k, v) ∈ ms → ∃ w, alookup k ms' = some w ∧ veq v w := by
  induction ms with
  | nil => simp [veqM]
  | cons p r ih =>
    obtain ⟨k, y⟩ := p
    simp only [veqM, ih, List.mem_cons, Prod.mk.injEq]
    constructor
    · rintro ⟨h1, h2⟩ n x (⟨rfl, rfl⟩ | h)
      · cases hl : alookup n ms' with
        | none => simp [hl] at h1
        | some w => simp only [hl] at h1; exact ⟨w, rfl, h1⟩
      · exact h2 n x h
    · intro h
      refine ⟨?_, fun n x hx => h n x (Or.inr hx)⟩
      obtain ⟨w, hw, hv⟩ := h k y (Or.inl ⟨rfl, rfl⟩)
      simp only [hw]; exact hv

theorem marAnyL_eq (o : MOpts) (vs : List GoVal) : marAnyL o vs = marList (marAny o) vs := by
  induction vs with
  | nil => simp [marAnyL, marList]
  | cons v r ih => simp only [marAnyL, marList, ih]

theorem marAnyM_eq (o : MOpts) (ms : List (Bytes × GoVal)) : marAnyM o ms = marMembers (marAny o) ms := by
  induction ms with
  | nil => simp [marAnyM, marMembers]
  | cons p r ih => obtain ⟨k, v⟩ := p; simp only [marAnyM, marMembers, ih]

end JsonV.Lemmas.RoundTrip
