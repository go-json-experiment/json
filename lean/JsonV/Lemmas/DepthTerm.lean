/-
C20 — termination of the modelled ReadValue loop over a stream (Model/Validate.lean `streamLoop`):
the loop fuel `|b| + 1` is never exhausted, because every successful ReadValue consumes at least one byte
(the model's `bug` arm) and at most the remaining input.  Then the same for the ReadToken loop (Model/TokenLoop.lean).
-/
import JsonV.Lemmas.WireTokenStep

namespace JsonV.Lemmas.DepthTerm
open JsonV JsonV.Model JsonV.Model.Wire JsonV.Model.Validate
open JsonV.Lemmas.WireValue JsonV.Lemmas.WireFuel

theorem streamLoop_no_fuel (o : VOpts) (vfuel : Nat) : ∀ (fuel : Nat) (r : Bytes) (cnt base : Nat),
    3 * r.length + 1 ≤ vfuel → r.length + 1 ≤ fuel → (streamLoop o vfuel fuel r cnt base).2.2 ≠ .fuel := by
  intro fuel
  induction fuel with
  | zero => intro r cnt base _ h; omega
  | succ fuel ih =>
    intro r cnt base hv hf
    rcases hr : readValueTop o vfuel r with ⟨n, e⟩
    by_cases he : e = .ok
    · subst he
      obtain ⟨h0, hn⟩ := readValueTop_pos hr
      rw [streamLoop_ok hr]
      exact ih (r.drop n) _ _ (fuel_suffix (List.drop_suffix n r) hv) (by rw [List.length_drop]; omega)
    · rw [streamLoop_err hr he]
      have := readValueTop_no_fuel o vfuel r hv
      rwa [hr] at this

theorem stream_no_fuel (o : VOpts) (b : Bytes) : (stream o b).2.2 ≠ .fuel :=
  streamLoop_no_fuel o (fuelFor b) (b.length + 1) b 0 0 (by simp [fuelFor]) (Nat.le_refl _)

/-! The ReadToken loop (Model/TokenLoop.lean): every token consumes at least one byte and at most the remaining input, and no
lexer reports the out-of-fuel class, so the loop fuel `|b| + 1` is never exhausted. -/

open JsonV.Model.TokenLoop JsonV.Lemmas.WireTokenStep

theorem tokenLoop_no_fuel (o : VOpts) : ∀ (F : Nat) (st : TState) (r : Bytes) (cnt base : Nat),
    r.length + 1 ≤ F → (tokenLoop o F st r cnt base).2.2 ≠ .fuel := by
  intro F
  induction F with
  | zero => intro st r cnt base h; omega
  | succ F ih =>
    intro st r cnt base hF
    have hb := Position.readToken_outcome o st r
    simp only [tokenLoop]
    cases hrt : readToken o st r with
    | err off e =>
      rw [hrt] at hb
      exact hb.1
    | tok n st' =>
      rw [hrt] at hb
      obtain ⟨-, -, hle⟩ := hb
      simp only
      split
      · simp
      · rename_i hn0
        have hpos : 0 < n := by
          cases n with
          | zero => simp at hn0
          | succ k => omega
        exact ih st' (r.drop n) _ _ (by simp; omega)

theorem tokens_no_fuel (o : VOpts) (b : Bytes) : (tokens o b).2.2 ≠ .fuel :=
  tokenLoop_no_fuel o (b.length + 1) {} b 0 0 (Nat.le_refl _)

end JsonV.Lemmas.DepthTerm
