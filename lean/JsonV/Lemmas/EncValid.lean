/-
The encoder-side validator `reformatValue` and the decoder-side validator `Validate.consumeValue` (slice C01)
accept the same texts with the same extent: two simulations by induction on the fuel (the leaves are shared:
Model/Encoder.lean uses the jsonwire models of Model/Validate.lean), then the link to the grammar through
slice C01's `WireValue.sound_all` / `WireComplete.value_complete`.
-/
import JsonV.Lemmas.EncReformat
import JsonV.Lemmas.WireComplete

namespace JsonV.Lemmas.EncValid
open JsonV JsonV.Model JsonV.Model.Encoder JsonV.Model.Wire JsonV.Lemmas.EncReformat
open JsonV.Lemmas.WireValue (valueThen valueThen_spec nameThen nameThen_spec arrayLoop_succ objectLoop_nameThen)

theorem isWS_eq (c : UInt8) : isWS c = Wire.isWs c := rfl

theorem skipWS_drop : ∀ r : Bytes, skipWS r = r.drop (consumeWhitespace r) := by
  intro r
  induction r with
  | nil => rfl
  | cons c r ih =>
    rw [skipWS, consumeWhitespace, isWS_eq]
    by_cases h : Wire.isWs c = true
    · rw [if_pos h, if_pos h, List.drop_succ_cons]; exact ih
    · rw [if_neg h, if_neg h]; rfl

def vo (o : Opts) : Validate.VOpts := vopts o

/-- The validator returns an offset and a verdict; `Accepts p src rest` reads that as acceptance that leaves `rest`, so
that one step of each of its functions can be stated in the shape of EncReformat's lemmas for the encoder's. -/
def Accepts (p : Nat × Err) (src rest : Bytes) : Prop := p.2 = .ok ∧ rest = src.drop p.1

theorem accepts_iff {p : Nat × Err} {src rest : Bytes} :
    Accepts p src rest ↔ ∃ n, p = (n, .ok) ∧ rest = src.drop n :=
  ⟨fun h => ⟨p.1, Prod.ext rfl h.1, h.2⟩, fun ⟨_, hp, hr⟩ => by rw [hp]; exact ⟨rfl, hr⟩⟩

theorem accepts_addOff {k : Nat} {p : Nat × Err} {src rest : Bytes} :
    Accepts (Validate.addOff k p) src rest ↔ Accepts p (src.drop k) rest := by
  simp only [Accepts, Validate.addOff, List.drop_drop]

theorem accepts_guard {e : Err} {n : Nat} {q : Nat × Err} {src rest : Bytes} :
    Accepts (if e != .ok then (n, e) else q) src rest ↔ e = .ok ∧ Accepts q src rest := by
  by_cases he : e = .ok
  · subst he; rw [if_neg (by decide)]; exact ⟨fun h => ⟨rfl, h⟩, (·.2)⟩
  · rw [if_pos (by simpa using he)]; exact ⟨fun h => absurd h.1 he, fun h => absurd h.1 he⟩

variable {ov : Validate.VOpts} {F d : Nat} {src rest : Bytes} {c : UInt8} {s : Bytes}

theorem accepts_valueThen {close : UInt8} {base : Nat} {r : Bytes} {next : Bytes → Nat × Err}
    (hcl : close ≠ 0x2c) (hr : src.drop base = r) :
    Accepts (valueThen ov F d close base r next) src rest ↔
      ∃ c0 s0 s1 c2 s2, skipWS r = c0 :: s0 ∧ Accepts (Validate.consumeValue ov F d (c0 :: s0)) (c0 :: s0) s1 ∧
        skipWS s1 = c2 :: s2 ∧ (c2 = 0x2c ∧ Accepts (next s2) s2 rest ∨ c2 = close ∧ rest = s2) := by
  simp only [skipWS_drop]
  have hs2 : ∀ {c0 s0 k c2 s2}, r.drop (consumeWhitespace r) = c0 :: s0 →
      ((c0 :: s0).drop k).drop (consumeWhitespace ((c0 :: s0).drop k)) = c2 :: s2 →
      src.drop (base + consumeWhitespace r + k + consumeWhitespace ((c0 :: s0).drop k) + 1) = s2 :=
    fun hs hw => (List.drop_eq_cons (by rw [← List.drop_drop, ← List.drop_drop, ← List.drop_drop, hr, hs, hw])).2
  constructor
  · intro h
    have hsp := valueThen_spec ov F d close base r next
    generalize valueThen ov F d close base r next = res at h hsp
    cases hsp with
    | eof | eof2 | other => cases h.1
    | bad _ _ _ _ _ _ he => exact absurd h.1 he
    | comma c0 s0 k s2 n' e' hs hv hw hn =>
      refine ⟨c0, s0, _, _, s2, hs, accepts_iff.mpr ⟨k, hv, rfl⟩, hw, .inl ⟨rfl, ?_⟩⟩
      rw [hn]
      exact ⟨h.1, by rw [h.2, ← hs2 hs hw, List.drop_drop]⟩
    | close c0 s0 k s2 hs hv hw =>
      exact ⟨c0, s0, _, _, s2, hs, accepts_iff.mpr ⟨k, hv, rfl⟩, hw, .inr ⟨rfl, by rw [h.2, hs2 hs hw]⟩⟩
  · rintro ⟨c0, s0, s1, c2, s2, hs, hv, hw, h⟩
    obtain ⟨k, hk, rfl⟩ := accepts_iff.mp hv
    simp only [valueThen, hs, hk, hw]
    refine accepts_guard.mpr ⟨rfl, ?_⟩
    rcases h with ⟨hc, h⟩ | ⟨hc, h⟩
    · rw [if_pos (by simpa using hc), accepts_addOff, hs2 hs hw]; exact h
    · subst hc
      rw [if_neg (by simpa using hcl), if_pos (by simp)]
      exact ⟨rfl, by rw [h, hs2 hs hw]⟩

theorem vArrayLoop_iff :
    Accepts (Validate.arrayLoop ov (F + 1) d src) src rest ↔
      ∃ c0 s0 s1 c2 s2, skipWS src = c0 :: s0 ∧ Accepts (Validate.consumeValue ov F d (c0 :: s0)) (c0 :: s0) s1 ∧
        skipWS s1 = c2 :: s2 ∧ (c2 = 0x2c ∧ Accepts (Validate.arrayLoop ov F d s2) s2 rest ∨ c2 = 0x5d ∧ rest = s2) := by
  rw [arrayLoop_succ]
  exact accepts_valueThen (by decide) rfl

theorem vObjectLoop_iff {names : List Bytes} :
    Accepts (Validate.objectLoop ov (F + 1) d names src) src rest ↔
      ∃ c0 s0 n fl s2 c3 s3 s4 c5 s5, skipWS src = c0 :: s0 ∧ Validate.valueString ov (c0 :: s0) = (n, fl, .ok) ∧
        (!ov.allowDup && names.contains (Validate.unescapedName ((c0 :: s0).take n) fl)) = false ∧
        skipWS ((c0 :: s0).drop n) = 0x3a :: s2 ∧ skipWS s2 = c3 :: s3 ∧
        Accepts (Validate.consumeValue ov F d (c3 :: s3)) (c3 :: s3) s4 ∧ skipWS s4 = c5 :: s5 ∧
        (c5 = 0x2c ∧ Accepts (Validate.objectLoop ov F d
            (if ov.allowDup then names else names ++ [Validate.unescapedName ((c0 :: s0).take n) fl]) s5) s5 rest ∨
          c5 = 0x7d ∧ rest = s5) := by
  have hs2 : ∀ {c0 s0 n s2}, src.drop (consumeWhitespace src) = c0 :: s0 →
      ((c0 :: s0).drop n).drop (consumeWhitespace ((c0 :: s0).drop n)) = 0x3a :: s2 →
      src.drop (consumeWhitespace src + n + consumeWhitespace ((c0 :: s0).drop n) + 1) = s2 :=
    fun hs hw => (List.drop_eq_cons (by rw [← List.drop_drop, ← List.drop_drop, hs, hw])).2
  rw [objectLoop_nameThen]
  constructor
  · intro h
    have hsp := nameThen_spec ov names src fun base names' rc =>
      valueThen ov F d 0x7d base rc (Validate.objectLoop ov F d names')
    generalize nameThen ov names src _ = res at h hsp
    cases hsp with
    | eof | dup | eof2 | noColon => cases h.1
    | bad _ _ _ _ _ _ _ he => exact absurd h.1 he
    | name c0 s0 n fl s2 _ hs hq hdup hw hk =>
      subst hk
      obtain ⟨c3, s3, s4, c5, s5, h3⟩ := (accepts_valueThen (by decide) (hs2 hs hw)).mp h
      exact ⟨c0, s0, n, fl, s2, c3, s3, s4, c5, s5, (skipWS_drop src).trans hs, hq, by rcases hdup with h | h <;> simp [h],
        (skipWS_drop _).trans hw, h3⟩
  · rintro ⟨c0, s0, n, fl, s2, c3, s3, s4, c5, s5, hs, hq, hdup, hw, h3⟩
    rw [skipWS_drop] at hs hw
    simp only [nameThen, hs, hq, hdup, hw]
    refine accepts_guard.mpr ⟨rfl, ?_⟩
    rw [if_neg (by decide), if_neg (by decide)]
    exact (accepts_valueThen (by decide) (hs2 hs hw)).mpr ⟨c3, s3, s4, c5, s5, h3⟩

theorem vContainer_iff {cls : UInt8} {loop : Bytes → Nat × Err} :
    Accepts (WireValue.bracketThen d cls (c :: s) loop) (c :: s) rest ↔
      d ≠ Validate.maxNestingDepth + 1 ∧ ∃ c1 r1, skipWS s = c1 :: r1 ∧
        (c1 = cls ∧ rest = r1 ∨ c1 ≠ cls ∧ Accepts (loop (c1 :: r1)) (c1 :: r1) rest) := by
  simp only [skipWS_drop]
  rcases WireValue.bracketThen_cases d cls c s loop with ⟨hd, h⟩ | ⟨hd, ⟨hs, h⟩ | ⟨c1, r1, hs, hc⟩⟩
  · rw [h]; exact ⟨fun h => (nomatch h.1), fun h => absurd hd h.1⟩
  · rw [h, hs]; exact ⟨fun h => (nomatch h.1), fun ⟨_, _, _, h, _⟩ => nomatch h⟩
  · have hr : (c :: s).drop (1 + consumeWhitespace s) = c1 :: r1 := by
      rw [Nat.add_comm 1, List.drop_succ_cons, hs]
    have hr1 := (List.drop_eq_cons hr).2
    rw [hs]
    rcases hc with ⟨hc, h⟩ | ⟨hc, h⟩ <;> rw [h]
    · constructor
      · intro h; exact ⟨hd, c1, r1, rfl, Or.inl ⟨hc, by rw [h.2, hr1]⟩⟩
      · rintro ⟨_, _, _, he, h | h⟩ <;> cases he
        · exact ⟨rfl, by rw [h.2, hr1]⟩
        · exact absurd hc h.1
    · rw [accepts_addOff, hr]
      constructor
      · intro h; exact ⟨hd, c1, r1, rfl, Or.inr ⟨hc, h⟩⟩
      · rintro ⟨_, _, _, he, h | h⟩ <;> cases he
        · exact absurd h.1 hc
        · exact h.2

/-- The two models of `Kind.normalize` test the same cases in a different order: a minus sign or digit is none
of the eight bytes that stand for themselves. -/
theorem normKind_eq (c : UInt8) : normKind c = Validate.normKind c := by
  unfold normKind Validate.normKind
  by_cases hd : (c == 0x2D || Wire.isDigit c) = true
  · have hd' : c = 0x2d ∨ Encoder.isDigit c = true := by simpa [Wire.isDigit, Encoder.isDigit] using hd
    rw [if_pos hd, if_pos hd', if_neg]
    simp only [Encoder.isDigit, Bool.and_eq_true, decide_eq_true_eq] at hd'
    rintro (h | h | h | h | h | h | h | h) <;> subst h <;> revert hd' <;> decide
  · have hd' : ¬ (c = 0x2d ∨ Encoder.isDigit c = true) := by simpa [Wire.isDigit, Encoder.isDigit] using hd
    rw [if_neg hd, if_neg hd']
    simp only [Bool.or_eq_true, beq_iff_eq, or_assoc]

theorem accepts_kind (h : Accepts (Validate.consumeValue ov F d src) src rest) :
    ∃ F' c s, F = F' + 1 ∧ src = c :: s ∧ IsValueKind (normKind c) := by
  cases F with
  | zero => simp [Validate.consumeValue] at h; cases h.1
  | succ F' =>
    cases src with
    | nil => simp [Validate.consumeValue] at h; cases h.1
    | cons c s =>
      refine ⟨F', c, s, rfl, rfl, Classical.byContradiction fun hk => ?_⟩
      simp only [IsValueKind, not_or] at hk
      simp only [Validate.consumeValue, ← normKind_eq, beq_iff_eq, hk, if_false] at h
      split at h <;> cases h.1

/-- Without fuel each of the five functions of the validator returns `(0, .fuel)`.  At a use `p` is one of these calls
and the default value of `hp` unfolds it. -/
theorem not_accepts_zero {p : Nat × Err}
    (hp : p = (0, .fuel) := by
      simp only [Validate.consumeValue, Validate.consumeObject, Validate.consumeArray, Validate.objectLoop,
        Validate.arrayLoop]) :
    ¬ Accepts p src rest :=
  fun h => by rw [hp] at h; cases h.1

theorem scalar_agree {o : Opts} {f : Nat} {dst : Bytes}
    (hk : IsValueKind (normKind c)) (hobj : normKind c ≠ 0x7b) (harr : normKind c ≠ 0x5b) :
    (∃ dst', reformatValue o (f + 1) dst (c :: s) d = .ok (dst', rest)) ↔
      Accepts (Validate.consumeValue (vopts o) (F + 1) d (c :: s)) (c :: s) rest := by
  have lit : ∀ l : Bytes, (∃ dst', (scanLiteral (c :: s) l).map (fun r => (dst ++ l, r)) = .ok (dst', rest)) ↔
      Accepts (Validate.valueLiteral l (c :: s)) (c :: s) rest := fun l => by
    rw [accepts_iff, ← scanLiteral_ok_iff]
    simp only [Except.map_eq_ok, Prod.mk.injEq]
    exact ⟨fun ⟨_, _, h, _, hr⟩ => hr ▸ h, fun h => ⟨_, _, h, rfl, rfl⟩⟩
  rcases hk with k | k | k | k | k | k | k
  · rw [reformatValue_null k, WireValue.consumeValue_lit _ _ _ _ (.inl ⟨normKind_eq c ▸ k, rfl⟩)]; exact lit _
  · rw [reformatValue_false k, WireValue.consumeValue_lit _ _ _ _ (.inr (.inl ⟨normKind_eq c ▸ k, rfl⟩))]; exact lit _
  · rw [reformatValue_true k, WireValue.consumeValue_lit _ _ _ _ (.inr (.inr ⟨normKind_eq c ▸ k, rfl⟩))]; exact lit _
  · rw [reformatValue_str k, WireValue.consumeValue_str _ _ _ _ (normKind_eq c ▸ k), accepts_iff]
    simp only [Except.map_eq_ok, Prod.mk.injEq, Prod.exists, reformatString_ok_iff]
    constructor
    · rintro ⟨_, q, name, r, ⟨n, fl, hv, _, _, hr⟩, _, rfl⟩; exact ⟨n, by rw [hv]; exact ⟨rfl, rfl⟩, hr⟩
    · rintro ⟨n, hv, hr⟩
      exact ⟨_, _, _, _, ⟨n, (Validate.valueString (vopts o) (c :: s)).2.1, Prod.ext hv.1 (Prod.ext rfl hv.2),
        rfl, rfl, hr⟩, rfl, rfl⟩
  · rw [reformatValue_num k, WireValue.consumeValue_num _ _ _ _ (normKind_eq c ▸ k), accepts_iff]
    simp only [Except.map_eq_ok, Prod.mk.injEq, Prod.exists, scanNumber_ok_iff]
    constructor
    · rintro ⟨_, t, r, ⟨n, hv, _, hr⟩, _, rfl⟩; exact ⟨n, hv, hr⟩
    · rintro ⟨n, hv, hr⟩; exact ⟨_, _, _, ⟨n, hv, rfl, hr⟩, rfl, rfl⟩
  · exact absurd k hobj
  · exact absurd k harr

/-- Forward: what the encoder accepts with fuel `f`, the validator accepts with any fuel from `2 * f` on, and
leaves the same rest. -/
def SV (o : Opts) (f : Nat) : Prop :=
  ∀ dst src d dst' rest, reformatValue o f dst src d = .ok (dst', rest) →
    ∀ F, 2 * f ≤ F → Accepts (Validate.consumeValue (vopts o) F d src) src rest
/-- `SV` for `objectLoop`. -/
def SO (o : Opts) (f : Nat) : Prop :=
  ∀ dst src d names dst' rest, objectLoop o f dst src d names = .ok (dst', rest) →
    ∀ F, 2 * f ≤ F → Accepts (Validate.objectLoop (vopts o) F d names src) src rest
/-- `SV` for `arrayLoop`. -/
def SA (o : Opts) (f : Nat) : Prop :=
  ∀ dst src d dst' rest, arrayLoop o f dst src d = .ok (dst', rest) →
    ∀ F, 2 * f ≤ F → Accepts (Validate.arrayLoop (vopts o) F d src) src rest

theorem forward_all (o : Opts) (hmax : o.maxDepth = Validate.maxNestingDepth) :
    ∀ f, SV o f ∧ SO o f ∧ SA o f := by
  intro f
  induction f with
  | zero =>
    refine ⟨fun _ _ _ _ _ h => ?_, fun _ _ _ _ _ _ h => ?_, fun _ _ _ _ _ h => ?_⟩
    · rw [reformatValue_zero] at h; cases h
    · rw [objectLoop_zero] at h; cases h
    · rw [arrayLoop_zero] at h; cases h
  | succ f ih =>
    obtain ⟨hV, hO, hA⟩ := ih
    refine ⟨fun dst src d dst' rest h F hF => ?_, fun dst src d names dst' rest h F hF => ?_,
      fun dst src d dst' rest h F hF => ?_⟩
    · obtain ⟨c, s, rfl, hk⟩ := reformat_ok_kind h
      obtain ⟨F, rfl⟩ : ∃ F', F = F' + 1 + 1 := ⟨F - 2, by omega⟩
      by_cases k : normKind c = 0x7b
      · obtain ⟨hd, c1, r1, hs, hc⟩ := (reformatValue_obj_ok_iff k).mp h
        rw [WireValue.consumeValue_obj _ _ _ _ (normKind_eq c ▸ k), WireValue.consumeObject_succ, vContainer_iff, ← hmax]
        exact ⟨hd, c1, r1, hs, hc.imp (fun h => ⟨h.1, h.2.2⟩) fun h => ⟨h.1, hO _ _ _ _ _ _ h.2 F (by omega)⟩⟩
      by_cases k' : normKind c = 0x5b
      · obtain ⟨hd, c1, r1, hs, hc⟩ := (reformatValue_arr_ok_iff k').mp h
        rw [WireValue.consumeValue_arr _ _ _ _ (normKind_eq c ▸ k'), WireValue.consumeArray_succ, vContainer_iff, ← hmax]
        exact ⟨hd, c1, r1, hs, hc.imp (fun h => ⟨h.1, h.2.2⟩) fun h => ⟨h.1, hA _ _ _ _ _ h.2 F (by omega)⟩⟩
      exact (scalar_agree hk k k').mp ⟨_, h⟩
    · obtain ⟨F, rfl⟩ : ∃ F', F = F' + 1 := ⟨F - 1, by omega⟩
      obtain ⟨c0, s0, q, name, s1, s2, c3, s3, dst5, s4, c5, s5, hs, hq, hdup, hw, hw3, hv, hw5, hc⟩ :=
        objectLoop_ok_iff.mp h
      obtain ⟨n, fl, hvs, rfl, -, rfl⟩ := reformatString_ok_iff.mp hq
      exact vObjectLoop_iff.mpr ⟨c0, s0, n, fl, s2, c3, s3, s4, c5, s5, hs, hvs, hdup, hw, hw3,
        hV _ _ _ _ _ hv F (by omega), hw5,
        hc.imp (fun h => ⟨h.1, hO _ _ _ _ _ _ h.2 F (by omega)⟩) fun h => ⟨h.1, h.2.2⟩⟩
    · obtain ⟨F, rfl⟩ : ∃ F', F = F' + 1 := ⟨F - 1, by omega⟩
      obtain ⟨c0, s0, dst2, s1, c2, s2, hs, hv, hw, hc⟩ := arrayLoop_ok_iff.mp h
      exact vArrayLoop_iff.mpr ⟨c0, s0, s1, c2, s2, hs, hV _ _ _ _ _ hv F (by omega), hw,
        hc.imp (fun h => ⟨h.1, hA _ _ _ _ _ h.2 F (by omega)⟩) fun h => ⟨h.1, h.2.2⟩⟩

/-- Backward: what the validator accepts with fuel `F ≤ f`, the encoder accepts with fuel `f`, whatever it has
written so far, and leaves the same rest. -/
def TV (o : Opts) (f : Nat) : Prop :=
  ∀ F, F ≤ f → ∀ d src rest, Accepts (Validate.consumeValue (vopts o) F d src) src rest →
    ∀ dst, ∃ dst', reformatValue o f dst src d = .ok (dst', rest)
/-- `TV` for `objectLoop`. -/
def TOL (o : Opts) (f : Nat) : Prop :=
  ∀ F, F ≤ f → ∀ d names src rest, Accepts (Validate.objectLoop (vopts o) F d names src) src rest →
    ∀ dst, ∃ dst', objectLoop o f dst src d names = .ok (dst', rest)
/-- `TV` for `arrayLoop`. -/
def TAL (o : Opts) (f : Nat) : Prop :=
  ∀ F, F ≤ f → ∀ d src rest, Accepts (Validate.arrayLoop (vopts o) F d src) src rest →
    ∀ dst, ∃ dst', arrayLoop o f dst src d = .ok (dst', rest)

theorem backward_all (o : Opts) (hmax : o.maxDepth = Validate.maxNestingDepth) :
    ∀ f, TV o f ∧ TOL o f ∧ TAL o f := by
  intro f
  induction f with
  | zero =>
    refine ⟨fun F hF _ _ _ h => ?_, fun F hF _ _ _ _ h => ?_, fun F hF _ _ _ h => ?_⟩ <;>
      obtain rfl := Nat.le_zero.mp hF <;> exact absurd h not_accepts_zero
  | succ f ih =>
    obtain ⟨hV, hO, hA⟩ := ih
    refine ⟨fun F hF d src rest h dst => ?_, fun F hF d names src rest h dst => ?_,
      fun F hF d src rest h dst => ?_⟩
    · obtain ⟨F, c, s, rfl, rfl, hk⟩ := accepts_kind h
      by_cases k : normKind c = 0x7b
      · rw [WireValue.consumeValue_obj _ _ _ _ (normKind_eq c ▸ k)] at h
        cases F with
        | zero => exact absurd h not_accepts_zero
        | succ F =>
          obtain ⟨hd, c1, r1, hs, hc⟩ := vContainer_iff.mp (WireValue.consumeObject_succ .. ▸ h)
          rcases hc with hc | hc
          · exact ⟨_, (reformatValue_obj_ok_iff k).mpr ⟨hmax ▸ hd, c1, r1, hs, Or.inl ⟨hc.1, rfl, hc.2⟩⟩⟩
          · obtain ⟨dst', h'⟩ := hO F (by omega) _ _ _ _ hc.2 (dst ++ [0x7b])
            exact ⟨dst', (reformatValue_obj_ok_iff k).mpr ⟨hmax ▸ hd, c1, r1, hs, Or.inr ⟨hc.1, h'⟩⟩⟩
      by_cases k' : normKind c = 0x5b
      · rw [WireValue.consumeValue_arr _ _ _ _ (normKind_eq c ▸ k')] at h
        cases F with
        | zero => exact absurd h not_accepts_zero
        | succ F =>
          obtain ⟨hd, c1, r1, hs, hc⟩ := vContainer_iff.mp (WireValue.consumeArray_succ .. ▸ h)
          rcases hc with hc | hc
          · exact ⟨_, (reformatValue_arr_ok_iff k').mpr ⟨hmax ▸ hd, c1, r1, hs, Or.inl ⟨hc.1, rfl, hc.2⟩⟩⟩
          · obtain ⟨dst', h'⟩ := hA F (by omega) _ _ _ hc.2 (dst ++ [0x5b])
            exact ⟨dst', (reformatValue_arr_ok_iff k').mpr ⟨hmax ▸ hd, c1, r1, hs, Or.inr ⟨hc.1, h'⟩⟩⟩
      exact (scalar_agree hk k k').mpr h
    · cases F with
      | zero => exact absurd h not_accepts_zero
      | succ F =>
        obtain ⟨c0, s0, n, fl, s2, c3, s3, s4, c5, s5, hs, hvs, hdup, hw, hw3, hv, hw5, hc⟩ := vObjectLoop_iff.mp h
        have hq := reformatString_ok_iff.mpr ⟨n, fl, hvs, rfl, rfl, rfl⟩
        obtain ⟨dst5, hv'⟩ := hV F (by omega) _ _ _ hv
          (dst ++ ind o d ++ (appendQuote o (Validate.unescapedName ((c0 :: s0).take n) fl)).1 ++ 0x3a :: spColon o)
        rcases hc with hc | hc
        · obtain ⟨dst', h'⟩ := hO F (by omega) _ _ _ _ hc.2 (dst5 ++ 0x2c :: spComma o)
          exact ⟨dst', objectLoop_ok_iff.mpr ⟨c0, s0, _, _, _, s2, c3, s3, dst5, s4, c5, s5, hs, hq, hdup, hw, hw3,
            hv', hw5, Or.inl ⟨hc.1, h'⟩⟩⟩
        · exact ⟨_, objectLoop_ok_iff.mpr ⟨c0, s0, _, _, _, s2, c3, s3, dst5, s4, c5, s5, hs, hq, hdup, hw, hw3,
            hv', hw5, Or.inr ⟨hc.1, rfl, hc.2⟩⟩⟩
    · cases F with
      | zero => exact absurd h not_accepts_zero
      | succ F =>
        obtain ⟨c0, s0, s1, c2, s2, hs, hv, hw, hc⟩ := vArrayLoop_iff.mp h
        obtain ⟨dst2, hv'⟩ := hV F (by omega) _ _ _ hv (dst ++ ind o d)
        rcases hc with hc | hc
        · obtain ⟨dst', h'⟩ := hA F (by omega) _ _ _ hc.2 (dst2 ++ 0x2c :: spComma o)
          exact ⟨dst', arrayLoop_ok_iff.mpr ⟨c0, s0, dst2, s1, c2, s2, hs, hv', hw, Or.inl ⟨hc.1, h'⟩⟩⟩
        · exact ⟨_, arrayLoop_ok_iff.mpr ⟨c0, s0, dst2, s1, c2, s2, hs, hv', hw, Or.inr ⟨hc.1, rfl, hc.2⟩⟩⟩

open JsonV.Spec.Grammar JsonV.Lemmas.WireBasic JsonV.Lemmas.WireValue JsonV.Lemmas.WireComplete

theorem skipWS_nil_ws {r : Bytes} (h : skipWS r = []) : JWs r := by
  rw [skipWS_drop, List.drop_eq_nil_iff] at h
  have := ws_take r
  rwa [List.take_of_length_le h] at this

theorem skipWS_ws_append {w tail : Bytes} (hw : JWs w) (ht : ∀ c t, tail = c :: t → isWs c = false) :
    skipWS (w ++ tail) = tail := by
  rw [skipWS_drop, ws_exact w tail hw ht]; simp

theorem ws_skipWS_nil {r : Bytes} (h : JWs r) : skipWS r = [] := by
  simpa using skipWS_ws_append (tail := []) h nofun

/-- C06 `reformat_valid`, at every depth: `d + 1` is the encoder's one-based depth, `3·|v| + 4` the fuel the model uses. -/
theorem reformat_iff_grammar (o : Opts) (hmax : o.maxDepth = Validate.maxNestingDepth) (d : Nat)
    (hd : d ≤ Validate.maxNestingDepth) (dst v : Bytes) :
    (∃ out rest, reformatValue o (3 * v.length + 4) dst (skipWS v) (d + 1) = .ok (out, rest) ∧ skipWS rest = []) ↔
      ∃ w1 val w2, JWs w1 ∧ JValue (G (vopts o)) Validate.maxNestingDepth (nameKey (vopts o)) d val ∧ JWs w2 ∧
        v = w1 ++ val ++ w2 := by
  constructor
  · rintro ⟨out, rest, hr, hws⟩
    obtain ⟨n, hn, hrest⟩ := accepts_iff.mp ((forward_all o hmax (3 * v.length + 4)).1 _ _ _ _ _ hr _ (Nat.le_refl _))
    obtain ⟨hle, hv⟩ := (sound_all (vopts o) _).1 d (skipWS v) n hd hn
    refine ⟨v.take (consumeWhitespace v), (skipWS v).take n, rest, ws_take v, hv, skipWS_nil_ws hws, ?_⟩
    rw [hrest, List.append_assoc, List.take_append_drop, skipWS_drop, List.take_append_drop]
  · rintro ⟨w1, val, w2, hw1, hv, hw2, rfl⟩
    obtain ⟨hcv, c, t, hval, hc⟩ := value_complete (vopts o) d val hv
    have hstart : ∀ c' t', val ++ w2 = c' :: t' → isWs c' = false := by
      intro c' t' h; rw [hval] at h
      simp only [List.cons_append, List.cons.injEq] at h; rw [← h.1]; exact (start_facts c hc).1
    have hskip : skipWS (w1 ++ val ++ w2) = val ++ w2 := by
      rw [List.append_assoc]; exact skipWS_ws_append hw1 hstart
    have hcons := hcv w2 (3 * (val ++ w2).length + 1) (follow_of_delim _ _ (delimHead_ws w2 hw2)) (Nat.le_refl _)
    obtain ⟨dst', hm⟩ := (backward_all o hmax (3 * (w1 ++ val ++ w2).length + 4)).1 (3 * (val ++ w2).length + 1)
      (by simp only [List.length_append]; omega) _ _ _ (accepts_iff.mpr ⟨_, hcons, rfl⟩) dst
    refine ⟨dst', w2, by rw [hskip]; simpa using hm, ws_skipWS_nil hw2⟩

end JsonV.Lemmas.EncValid
