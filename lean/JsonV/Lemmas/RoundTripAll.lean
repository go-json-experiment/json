/-
The L3 round trip (C04L3), by induction on `Mar`: a tree is `null` only for a null-printing value, has no repeated member
name, and comes back as a value that marshals to it again; every well-typed value marshals.
-/
import JsonV.Lemmas.RoundTripLoops
import JsonV.Lemmas.MergeClauses

namespace JsonV.Lemmas.RoundTrip
open JsonV JsonV.Spec JsonV.Model JsonV.Lemmas.Merge

theorem nilSliceTree_null (o : MOpts) : (nilSliceTree o).isNull = o.nilSliceAsNull := by
  unfold nilSliceTree; cases o.nilSliceAsNull <;> rfl

theorem nilMapTree_null (o : MOpts) : (nilMapTree o).isNull = o.nilMapAsNull := by
  unfold nilMapTree; cases o.nilMapAsNull <;> rfl

variable {o : MOpts} {T : GoType} {v : GoVal} {j : JTree}

theorem Mar.null (h : Mar o T v j) (hn : j.isNull = true) : printsNull o v = true := by
  induction h with
  | nilSlice => exact (nilSliceTree_null o).symm.trans hn
  | nilMap => exact (nilMapTree_null o).symm.trans hn
  | nilPtr | nilIface => rfl
  | ptr _ _ _ _ ih | iface _ _ _ _ _ ih => exact ih hn
  | _ => cases hn

theorem dynType_typed {dv : GoVal} (h : dv.dynType = some T) : T.wf = true ∧ hasType T dv = dynTyped dv := by
  cases dv <;> cases h <;> exact ⟨rfl, by simp only [hasType, dynTyped, anyTypedL_eq, anyTypedM_eq]⟩

theorem Mar.dynType {dv w : GoVal} (hT : dv.dynType = some T) (h : Mar o T w j) : w.dynType = some T := by
  cases dv <;> cases hT <;> cases h <;> rfl

theorem unmAny_fresh (uo : UOpts) {dv w : GoVal} (hT : dv.dynType = some T) (hj : j.isNull = false)
    (h : unm uo T j T.zero = .ok w) : unmAny uo j .nilIface = .ok (.ifaceOf w) := by
  have hz : T.zero.dynType = some T := by cases dv <;> cases hT <;> rfl
  have hd := unmAny_dyn uo T.zero T hz j hj
  rw [h] at hd
  cases ho : j.isObj with
  | false => exact (replaces_any uo).repl j _ _ ho hd
  | true =>
    cases j with
    | obj ms => cases dv <;> cases hT <;> first | exact hd | cases h
    | _ => cases ho

theorem dupFree_sorted_obj {mem : List (Bytes × JTree)} (hnd : (akeys mem).Nodup)
    (hd : ∀ k j, (k, j) ∈ mem → j.dupFree = true) : (JTree.obj (sortMembers mem)).dupFree = true := by
  rw [dupFree_obj]
  exact ⟨nodup_sortMembers hnd, fun k j hm => hd k j (mem_sortMembers.1 hm)⟩

theorem Mar.dupFree (h : Mar o T v j) (hwf : T.wf = true) (ht : hasType T v = true) : j.dupFree = true := by
  induction h with
  | bool | int | uint | float | str | nilPtr | nilIface => rfl
  | nilSlice => unfold nilSliceTree; split <;> rfl
  | nilMap => unfold nilMapTree; split <;> rfl
  | slice t es _ ih =>
    simp only [GoType.wf, Bool.and_eq_true] at hwf
    simp only [hasType, allB_map] at ht
    simp only [JTree.dupFree, dupFreeL_iff, List.forall_mem_map]
    exact fun e he => ih e he hwf.2 (ht e he)
  | array n t es _ ih =>
    simp only [GoType.wf, Bool.and_eq_true] at hwf
    simp only [hasType, allB_map, Bool.and_eq_true] at ht
    simp only [JTree.dupFree, dupFreeL_iff, List.forall_mem_map]
    exact fun e he => ih e he hwf.2 (ht.2 e he)
  | map t es _ _ ih =>
    simp only [hasType, allB_map, Bool.and_eq_true, nodupB_iff] at ht
    refine dupFree_sorted_obj (by rw [akeys_map] at ht ⊢; exact ht.1) fun k j hm => ?_
    obtain ⟨e, he, ⟨⟩⟩ := List.mem_map.1 hm
    exact ih e he hwf (ht.2 e he).2
  | ptr t w j _ ih => exact ih hwf ht
  | struct es _ ih =>
    rw [wf_struct, akeys_map] at hwf
    rw [dupFree_obj, akeys_map]
    refine ⟨hwf.1, fun n j hm => ?_⟩
    obtain ⟨e, he, ⟨⟩⟩ := List.mem_map.1 hm
    exact ih e he (hwf.2 _ _ (List.mem_map_of_mem (f := fun e => (e.1, e.2.1)) he)) ((fieldsTyped_map es).1 ht e he)
  | iface T dv j hT _ ih => exact ih (dynType_typed hT).1 ((dynType_typed hT).2.trans ht)

theorem struct_decode (uo : UOpts) (es : List (Bytes × GoType × GoVal × JTree)) (hnd : (es.map (·.1)).Nodup)
    (h : ∀ e ∈ es, unm uo e.2.1 e.2.2.2 e.2.1.zero = .ok e.2.2.1) :
    objFold uo (fieldDec uo (es.map fun e => (e.1, e.2.1))) (fieldZero (es.map fun e => (e.1, e.2.1)))
      (es.map fun e => (e.1, e.2.2.2)) [] (GoType.zeroFields (es.map fun e => (e.1, e.2.1))) =
      .ok (es.map fun e => (e.1, e.2.2.1)) := by
  have hfs : (akeys (es.map fun e => (e.1, e.2.1))).Nodup := by rwa [akeys_map]
  refine objFold_of_facts (by rwa [akeys_map]) (fun _ _ h => nomatch h) (by rwa [akeys_zeroFields])
    ⟨fun n j f hm hd => ?_, fun n j hm hd => ?_, fun n hn => ?_, ?_⟩
  · obtain ⟨t, hl, rfl⟩ := fieldDec_some hd
    obtain ⟨e, he, ⟨⟩⟩ := List.mem_map.1 hm
    cases (alookup_of_mem hfs (List.mem_map_of_mem (f := fun e => (e.1, e.2.1)) he)).symm.trans hl
    refine ⟨_, ?_, alookup_of_mem (by rwa [akeys_map]) (List.mem_map_of_mem (f := fun e => (e.1, e.2.2.1)) he)⟩
    rw [fieldZero_getD, fieldZero, hl]
    exact h e he
  · exact absurd (by rw [akeys_map, ← akeys_map (g := fun e => e.2.2.2)]; exact mem_akeys_of_mem hm) (fieldDec_none.1 hd)
  · have hnf : n ∉ es.map (·.1) := hn.elim (by rw [akeys_map]; exact id) fun hd => by
      rw [← akeys_map (g := fun e => e.2.1)]; exact fieldDec_none.1 hd
    rw [(alookup_none_iff n _).2 (by rwa [akeys_map]), (alookup_none_iff n _).2 (by rwa [akeys_zeroFields, akeys_map])]
  · rw [keysAfter_noop _ _ _ (by rwa [akeys_map]), akeys_zeroFields, akeys_map, akeys_map]
    intro n hn
    rwa [akeys_zeroFields, akeys_map, ← akeys_map (g := fun e => e.2.2.2)]

theorem Mar.rt (uo : UOpts) (h : Mar o T v j) (hwf : T.wf = true) (ht : hasType T v = true) : ∃ v', Back o uo T v j v' := by
  induction h with
  | bool b => exact ⟨_, rfl, fun _ => by simp only [veq], .bool b, rfl⟩
  | float l => exact ⟨_, rfl, fun _ => by simp only [veq], .float l, rfl⟩
  | str s hs => exact ⟨_, rfl, fun _ => by simp only [veq], .str s hs, ht⟩
  | int w i =>
    have hr := ht
    simp only [hasType, Bool.and_eq_true, decide_eq_true_eq] at hr
    exact ⟨_, unmInt_intDigits uo w i hr.1.2 hr.2, fun _ => by simp only [veq], .int w i, ht⟩
  | uint w n =>
    exact ⟨_, unmUint_natDigits uo w n (by simpa only [hasType, decide_eq_true_eq] using ht), fun _ => by simp only [veq],
      .uint w n, ht⟩
  | nilPtr t => exact ⟨_, rfl, fun _ => by simp only [veq], .nilPtr t, rfl⟩
  | nilIface => exact ⟨_, rfl, fun _ => by simp only [veq], .nilIface, rfl⟩
  | nilSlice t =>
    unfold nilSliceTree
    cases ho : o.nilSliceAsNull with
    | true => exact ⟨.nilSlice, rfl, fun _ => by simp only [veq, true_or], .of_ok _ _ _ _ (by simp [mar, nilSliceTree, ho]), rfl⟩
    | false => exact ⟨.sliceOf [], unm_slice_arr uo t [] _, fun _ => by simp only [veq, or_true], .slice t [] nofun, rfl⟩
  | nilMap t =>
    unfold nilMapTree
    cases ho : o.nilMapAsNull with
    | true => exact ⟨.nilMap, rfl, fun _ => by simp only [veq, true_or], .of_ok _ _ _ _ (by simp [mar, nilMapTree, ho]), rfl⟩
    | false =>
      exact ⟨.mapOf [], unm_map_obj_nil uo t [], fun _ => by simp only [veq, or_true],
        .of_ok _ _ _ _ (by simp [mar, marMembers, sortMembers]), rfl⟩
  | slice t es _ ih =>
    simp only [GoType.wf, Bool.and_eq_true] at hwf
    simp only [hasType, allB_map] at ht
    obtain ⟨es', e2, hd, hm, hq⟩ := rt_list (uo := uo) es fun e he => ih e he hwf.2 (ht e he)
    refine ⟨.sliceOf (es'.map (·.1)), by rw [unm_slice_arr, hd]; rfl, fun hs => ?_, e2 ▸ .slice t es' fun e he => (hm e he).1, ?_⟩
    · simp only [safe] at hs; simp only [veq]; exact hq hs
    · simp only [hasType, allB_map]; exact fun e he => (hm e he).2
  | array n t es _ ih =>
    simp only [GoType.wf, Bool.and_eq_true] at hwf
    simp only [hasType, Bool.and_eq_true, decide_eq_true_eq, allB_map, List.length_map] at ht
    obtain ⟨es', e2, hd, hm, hq⟩ := rt_list (uo := uo) es fun e he => ih e he hwf.2 (ht.2 e he)
    have hl : es'.length = n := by simpa only [List.length_map, ht.1] using congrArg List.length e2
    refine ⟨.arrayOf (es'.map (·.1)), ?_, fun hs => ?_, e2 ▸ .array n t es' fun e he => (hm e he).1, ?_⟩
    · rw [unm_array_arr, ← ht.1, ← List.length_map (f := (·.2)), arrayElems_eq, hd]
      simp only [bne_self_eq_false, Bool.false_and, Bool.false_eq_true, if_false]; rfl
    · simp only [safe] at hs; simp only [veq]; exact hq hs
    · simp only [hasType, Bool.and_eq_true, decide_eq_true_eq, allB_map, List.length_map]; exact ⟨hl, fun e he => (hm e he).2⟩
  | map t es hk _ ih =>
    simp only [hasType, Bool.and_eq_true, nodupB_iff, allB_map, akeys_map] at ht
    obtain ⟨es', ej, hp, hd, hm, hq⟩ := rt_map (uo := uo) es ht.1 hk fun e he => ih e he hwf (ht.2 e he).2
    refine ⟨.mapOf (es'.map fun e => (e.1, e.2.1)), ?_, fun hs => ?_, ?_, ?_⟩
    · exact (unm_map_obj_nil uo t _).trans (by rw [← ej, hd]; rfl)
    · simp only [safe] at hs
      simp only [veq, ahas_iff, akeys_map]
      exact ⟨fun k => hp.mem_iff.1, hq hs⟩
    · have := Mar.map t es' (fun e he => (hm e he).1) fun e he => (hm e he).2.1
      rwa [ej, sortMembers_idem] at this
    · simp only [hasType, Bool.and_eq_true, nodupB_iff, allB_map, akeys_map]
      exact ⟨hp.nodup_iff.2 ht.1, fun e he => ⟨(hm e he).1, (hm e he).2.2⟩⟩
  | ptr t w j hw ih =>
    cases hj : j.isNull with
    | true =>
      cases eq_null_of_isNull hj
      refine ⟨.nilPtr, rfl, fun hs => ?_, .nilPtr t, rfl⟩
      simp only [safe, hw.null rfl, Bool.not_true, Bool.false_and, Bool.false_eq_true] at hs
    | false =>
      obtain ⟨w', h1, h2, h3, h4⟩ := ih hwf ht
      refine ⟨.ptrTo w', ?_, fun hs => ?_, .ptr t w' j h3, h4⟩
      · show unm uo (.ptr t) j .nilPtr = _
        rw [unm_ptr_nil, unm_ptr_to uo t j _ hj, h1]; rfl
      · simp only [safe, Bool.and_eq_true] at hs
        simp only [veq]; exact h2 hs.2
  | struct es _ ih =>
    rw [wf_struct, akeys_map] at hwf
    simp only [hasType, fieldsTyped_map] at ht
    obtain ⟨es', e1, e2, h1, h2⟩ := rt_fields (uo := uo) es fun e he =>
      ih e he (hwf.2 _ _ (List.mem_map_of_mem (f := fun e => (e.1, e.2.1)) he)) (ht e he)
    have hn : es'.map (·.1) = es.map (·.1) := by simpa only [akeys_map] using congrArg akeys e1
    rw [← e1, ← e2]
    refine ⟨.structOf (es'.map fun e => (e.1, e.2.2.1)), (unm_struct_obj uo _ _ _).trans ?_, fun hs => ?_,
      .struct es' fun e he => (h1 e he).2.1, ?_⟩
    · rw [struct_decode uo es' (hn ▸ hwf.1) fun e he => (h1 e he).1]; rfl
    · simp only [safe] at hs; simp only [veq]; exact h2 hs
    · simp only [hasType, fieldsTyped_map]; exact fun e he => (h1 e he).2.2
  | iface T dv j hT hdv ih =>
    cases hj : j.isNull with
    | true =>
      cases eq_null_of_isNull hj
      refine ⟨.nilIface, rfl, fun hs => ?_, .nilIface, rfl⟩
      simp only [safe, hdv.null rfl, Bool.not_true, Bool.false_and, Bool.false_eq_true] at hs
    | false =>
      obtain ⟨dv', h1, h2, h3, h4⟩ := ih (dynType_typed hT).1 ((dynType_typed hT).2.trans ht)
      have hT' := h3.dynType hT
      refine ⟨.ifaceOf dv', unmAny_fresh uo hT hj h1, fun hs => ?_, .iface T dv' j hT' h3, (dynType_typed hT').2.symm.trans h4⟩
      simp only [safe, Bool.and_eq_true] at hs
      simp only [veq]; exact h2 hs.2

theorem fields_zipped : ∀ (fs : List (Bytes × GoType)) (fvs : List (Bytes × GoVal)),
    fieldsTyped fs fvs = true → (∀ n v, (n, v) ∈ fvs → ∀ t, hasType t v = true → ∃ j, Mar o t v j) →
    ∃ es : List (Bytes × GoType × GoVal × JTree), fs = es.map (fun e => (e.1, e.2.1)) ∧
      fvs = es.map (fun e => (e.1, e.2.2.1)) ∧ ∀ e ∈ es, Mar o e.2.1 e.2.2.1 e.2.2.2
  | [], [], _, _ => ⟨[], rfl, rfl, nofun⟩
  | [], _ :: _, h, _ => by cases h
  | _ :: _, [], h, _ => by cases h
  | (n, t) :: fs, (n', v) :: fvs, ht, H => by
    simp only [fieldsTyped, Bool.and_eq_true, decide_eq_true_eq] at ht
    obtain ⟨⟨rfl, htv⟩, htr⟩ := ht
    obtain ⟨j, hj⟩ := H n v List.mem_cons_self t htv
    obtain ⟨es, rfl, rfl, hes⟩ := fields_zipped fs fvs htr fun n v hm => H n v (List.mem_cons_of_mem _ hm)
    exact ⟨(n, t, v, j) :: es, rfl, rfl, List.forall_mem_cons.2 ⟨hj, hes⟩⟩

theorem Mar.total (o : MOpts) : ∀ (v : GoVal) (T : GoType), hasType T v = true → ∃ j, Mar o T v j := by
  -- by the form of the value, as in `Mar.of_ok`
  intro v
  induction v using GoVal.induct with
  | hbool b => intro T ht; cases T <;> cases ht; exact ⟨_, .bool b⟩
  | hint i => intro T ht; cases T <;> first | cases ht | exact ⟨_, .int _ i⟩
  | huint n => intro T ht; cases T <;> first | cases ht | exact ⟨_, .uint _ n⟩
  | hfloat l => intro T ht; cases T <;> cases ht; exact ⟨_, .float l⟩
  | hstr s => intro T ht; cases T <;> first | cases ht | exact ⟨_, .str s ht⟩
  | hnilSlice => intro T ht; cases T <;> cases ht; exact ⟨_, .nilSlice _⟩
  | hnilMap => intro T ht; cases T <;> cases ht; exact ⟨_, .nilMap _⟩
  | hnilPtr => intro T ht; cases T <;> cases ht; exact ⟨_, .nilPtr _⟩
  | hnilIface => intro T ht; cases T <;> cases ht; exact ⟨_, .nilIface⟩
  | hslice vs ih =>
    intro T ht
    cases T <;> try (cases ht; done)
    rename_i t
    simp only [hasType, allB_iff] at ht
    obtain ⟨es, rfl, hes⟩ := exists_zipped vs fun v hv => ih v hv t (ht v hv)
    exact ⟨_, .slice t es hes⟩
  | harray vs ih =>
    intro T ht
    cases T <;> try (cases ht; done)
    rename_i n t
    simp only [hasType, Bool.and_eq_true, allB_iff] at ht
    obtain ⟨es, rfl, hes⟩ := exists_zipped vs fun v hv => ih v hv t (ht.2 v hv)
    exact ⟨_, .array n t es hes⟩
  | hmap ms ih =>
    intro T ht
    cases T <;> try (cases ht; done)
    rename_i t
    simp only [hasType, Bool.and_eq_true, allB_iff] at ht
    obtain ⟨es, rfl, hes⟩ := exists_zipped ms fun p hp => ih p.1 p.2 hp t (ht.2 p hp).2
    have := Mar.map t (es.map fun e : (Bytes × GoVal) × JTree => (e.1.1, e.1.2, e.2))
      (List.forall_mem_map.2 fun e he => (ht.2 _ (List.mem_map_of_mem he)).1) (List.forall_mem_map.2 hes)
    rw [List.map_map] at this
    exact ⟨_, this⟩
  | hptr w ih =>
    intro T ht
    cases T <;> try (cases ht; done)
    obtain ⟨j, hj⟩ := ih _ ht
    exact ⟨j, .ptr _ w j hj⟩
  | hstruct fvs ih =>
    intro T ht
    cases T <;> try (cases ht; done)
    obtain ⟨es, rfl, rfl, hes⟩ := fields_zipped _ fvs ht ih
    exact ⟨_, .struct es hes⟩
  | hiface dv ih =>
    intro T ht
    cases T <;> try (cases ht; done)
    obtain ⟨T, hT⟩ : ∃ T, dv.dynType = some T := by cases dv <;> first | exact ⟨_, rfl⟩ | cases ht
    obtain ⟨j, hj⟩ := ih T ((dynType_typed hT).2.trans ht)
    exact ⟨j, .iface T dv j hT hj⟩

/-- Round trip of ONE value through an encoder/decoder pair: the decoder, started from its zero
value `z`, accepts what the encoder wrote, yields a value that is again of the type and encodes to
the same tree; if the original is `safe`, the decoded value is related to it by `veq`. -/
def RT1 (o : MOpts) (menc : Enc) (mdec : Dec) (z : GoVal) (ty : GoVal → Bool) (v : GoVal) : Prop :=
  ∀ j, ty v = true → menc v = .ok j →
    ∃ v', mdec j z = .ok v' ∧ (safe o v = true → veq v v') ∧ menc v' = .ok j ∧ ty v' = true

theorem rt_all (o : MOpts) (uo : UOpts) : ∀ T : GoType, T.wf = true → ∀ v, RT1 o (mar o T) (unm uo T) T.zero (hasType T) v :=
  fun T hwf v j ht h => by
    obtain ⟨v', h1, h2, h3, h4⟩ := (Mar.of_ok o v T j h).rt uo hwf ht
    exact ⟨v', h1, h2, h3.ok, h4⟩

theorem rt_any (o : MOpts) (uo : UOpts) (v : GoVal) : RT1 o (marAny o) (unmAny uo) .nilIface anyTyped v :=
  rt_all o uo .any rfl v

theorem mar_null (o : MOpts) : ∀ (T : GoType) (v : GoVal) (j : JTree), mar o T v = .ok j → j.isNull = true →
    printsNull o v = true := fun T v j h => (Mar.of_ok o v T j h).null

theorem mar_total_all (o : MOpts) : ∀ (T : GoType) (v : GoVal), hasType T v = true → ∃ j, mar o T v = .ok j :=
  fun T v ht => (Mar.total o v T ht).imp fun _ => Mar.ok

theorem mar_dupFree_all (o : MOpts) : ∀ (T : GoType), T.wf = true → ∀ (v : GoVal) (j : JTree),
    hasType T v = true → mar o T v = .ok j → j.dupFree = true :=
  fun T hwf v j ht h => (Mar.of_ok o v T j h).dupFree hwf ht

end JsonV.Lemmas.RoundTrip
