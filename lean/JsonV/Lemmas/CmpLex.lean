/-
The spec comparison `lexCmp` on UTF-16 unit arrays is core's `compare` on lists, whence its order laws; the unit
arrays of two different scalar values differ before either ends (`lexCmp_units_append`).
-/
import JsonV.Spec.Utf16Order

namespace JsonV.Lemmas.CmpLex
open JsonV JsonV.Spec.Utf16Order

theorem lexCmp_cons_lt {x y : Nat} (h : x < y) (as bs : List Nat) : lexCmp (x :: as) (y :: bs) = -1 := by
  rw [lexCmp, if_pos h]

theorem lexCmp_cons_gt {x y : Nat} (h : y < x) (as bs : List Nat) : lexCmp (x :: as) (y :: bs) = 1 := by
  rw [lexCmp, if_neg (Nat.lt_asymm h), if_pos h]

theorem lexCmp_cons_same (x : Nat) (as bs : List Nat) : lexCmp (x :: as) (x :: bs) = lexCmp as bs := by
  rw [lexCmp, if_neg (Nat.lt_irrefl x), if_neg (Nat.lt_irrefl x)]

theorem lexCmp_nil_left_ne (l : List Nat) (h : l ≠ []) : lexCmp [] l = -1 := by
  cases l with
  | nil => exact absurd rfl h
  | cons a as => rfl

theorem lexCmp_nil_right_ne (l : List Nat) (h : l ≠ []) : lexCmp l [] = 1 := by
  cases l with
  | nil => exact absurd rfl h
  | cons a as => rfl

theorem lexCmp_cons_ne {x y : Nat} (h : x ≠ y) (as bs as' bs' : List Nat) :
    lexCmp (x :: as) (y :: bs) = lexCmp (x :: as') (y :: bs') := by
  rcases Nat.lt_or_gt_of_ne h with c | c
  · rw [lexCmp_cons_lt c, lexCmp_cons_lt c]
  · rw [lexCmp_cons_gt c, lexCmp_cons_gt c]

theorem lexCmp_append_left (p U V : List Nat) : lexCmp (p ++ U) (p ++ V) = lexCmp U V := by
  induction p with
  | nil => rfl
  | cons x xs ih => rw [List.cons_append, List.cons_append, lexCmp_cons_same, ih]

theorem lexCmp_eq_compare (a b : List Nat) :
    lexCmp a b = match compare a b with | .lt => -1 | .eq => 0 | .gt => 1 := by
  induction a generalizing b with
  | nil => cases b <;> simp [lexCmp, List.compare_nil_cons]
  | cons x xs ih =>
    cases b with
    | nil => simp [lexCmp, List.compare_cons_nil]
    | cons y ys =>
      rw [List.compare_cons_cons]
      rcases Nat.lt_trichotomy x y with h | rfl | h
      · rw [lexCmp_cons_lt h, Nat.compare_eq_lt.mpr h]; rfl
      · rw [lexCmp_cons_same, Nat.compare_eq_eq.mpr rfl, ih]; rfl
      · rw [lexCmp_cons_gt h, Nat.compare_eq_gt.mpr h]; rfl

theorem lexCmp_range (a b : List Nat) : lexCmp a b = -1 ∨ lexCmp a b = 0 ∨ lexCmp a b = 1 := by
  rw [lexCmp_eq_compare]
  cases compare a b <;> simp

theorem lexCmp_swap (a b : List Nat) : lexCmp b a = - lexCmp a b := by
  rw [lexCmp_eq_compare b a, lexCmp_eq_compare a b, Std.OrientedCmp.eq_swap (cmp := compare) (a := b) (b := a)]
  cases compare a b <;> rfl

theorem lexCmp_eq_zero {a b : List Nat} : lexCmp a b = 0 ↔ a = b := by
  have h : compare a b = .eq ↔ a = b := Std.LawfulEqCmp.compare_eq_iff_eq
  rw [lexCmp_eq_compare, ← h]
  cases compare a b <;> simp

theorem lexCmp_self (a : List Nat) : lexCmp a a = 0 := lexCmp_eq_zero.mpr rfl

theorem lexCmp_le_iff (a b : List Nat) : lexCmp a b ≤ 0 ↔ (compare a b).isLE = true := by
  rw [lexCmp_eq_compare]
  cases compare a b <;> simp [Ordering.isLE]

theorem lexCmp_le_trans {a b c : List Nat} (h1 : lexCmp a b ≤ 0) (h2 : lexCmp b c ≤ 0) : lexCmp a c ≤ 0 :=
  (lexCmp_le_iff a c).mpr (Std.TransCmp.isLE_trans ((lexCmp_le_iff a b).mp h1) ((lexCmp_le_iff b c).mp h2))

theorem lexCmp_lt_iff (a b : List Nat) : lexCmp a b < 0 ↔ compare a b = .lt := by
  rw [lexCmp_eq_compare]
  cases compare a b <;> simp

theorem lexCmp_total (a b : List Nat) : lexCmp a b ≤ 0 ∨ lexCmp b a ≤ 0 := by
  rw [lexCmp_swap a b]
  rcases lexCmp_range a b with h | h | h <;> omega

theorem unitsOfRune_ne_nil (r : Nat) : unitsOfRune r ≠ [] := by
  unfold unitsOfRune; split <;> simp

theorem units_cons (r : Nat) (rs : List Nat) : units (r :: rs) = unitsOfRune r ++ units rs := by
  simp [units]

theorem lexCmp_units_append (r s : Nat) (hr : IsScalar r) (hs : IsScalar s) (U V : List Nat) :
    lexCmp (unitsOfRune r ++ U) (unitsOfRune s ++ V) =
      if r = s then lexCmp U V else lexCmp (unitsOfRune r) (unitsOfRune s) := by
  unfold IsScalar at hr hs
  by_cases e : r = s
  · rw [if_pos e, e, lexCmp_append_left]
  rw [if_neg e]
  unfold unitsOfRune
  by_cases h1 : r < 0x10000 <;> by_cases h2 : s < 0x10000
  · rw [if_pos h1, if_pos h2]
    exact lexCmp_cons_ne e _ _ _ _
  · rw [if_pos h1, if_neg h2]
    exact lexCmp_cons_ne (by omega) _ _ _ _
  · rw [if_neg h1, if_pos h2]
    exact lexCmp_cons_ne (by omega) _ _ _ _
  · rw [if_neg h1, if_neg h2]
    by_cases q : 0xD800 + (r - 0x10000) / 1024 = 0xD800 + (s - 0x10000) / 1024
    · rw [q]
      show lexCmp (_ :: _ :: U) (_ :: _ :: V) = _
      rw [lexCmp_cons_same, lexCmp_cons_same]
      exact lexCmp_cons_ne (by omega) _ _ _ _
    · exact lexCmp_cons_ne q _ _ _ _

end JsonV.Lemmas.CmpLex
