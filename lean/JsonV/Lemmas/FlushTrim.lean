/-
The wire.go trim helpers (Model/Flush.lean part (i)) on the reversed buffer and on the buffer: what TrimSuffixWhitespace,
TrimSuffixByte and TrimSuffixString remove.  The hypotheses they are stated under: `WsOnly`, and `QuotesEscaped` for the body
of the string literal that TrimSuffixString cuts off (`StrBody` is a sufficient condition, `EscR` its reversed-buffer form).
-/
import JsonV.Model.Flush

namespace JsonV.Model.Flush
open JsonV

/-- Whitespace bytes only. -/
def WsOnly (ws : Bytes) : Prop := ∀ c ∈ ws, isWs c = true

theorem WsOnly.reverse {ws : Bytes} (h : WsOnly ws) : WsOnly ws.reverse :=
  fun c hc => h c (List.mem_reverse.mp hc)

theorem ne_of_isWs {c d : UInt8} (hc : isWs c = true) (hd : isWs d = false) : c ≠ d := by
  intro e; rw [e, hd] at hc; cases hc

theorem ws_not_special {c : UInt8} (h : isWs c = true) :
    c ≠ 0x6c ∧ c ≠ 0x22 ∧ c ≠ 0x7b ∧ c ≠ 0x5b ∧ c ≠ 0x7d ∧ c ≠ 0x5d ∧ c ≠ 0x5c :=
  ⟨ne_of_isWs h rfl, ne_of_isWs h rfl, ne_of_isWs h rfl, ne_of_isWs h rfl, ne_of_isWs h rfl, ne_of_isWs h rfl,
    ne_of_isWs h rfl⟩

theorem WsOnly.eq_nil_of_append {ws r r' : List UInt8} {y : UInt8} (hws : WsOnly ws) (hy : isWs y = false)
    (h : ws ++ r = y :: r') : ws = [] := by
  cases ws with
  | nil => rfl
  | cons a ws => exact absurd (List.cons.inj h).1 (ne_of_isWs (hws a List.mem_cons_self) hy)

/-- Every `"` of the string body is immediately preceded by a backslash.  This is the minimal hypothesis about the
string literal under which TrimSuffixString finds the opening quote; every valid JSON string body satisfies it
(`StrBody.quotesEscaped`). -/
def QuotesEscaped (body : Bytes) : Prop :=
  ∀ l1 l2, body = l1 ++ 0x22 :: l2 → ∃ l1', l1 = l1' ++ [0x5c]

/-- The body of a JSON string literal, over-approximated: unescaped bytes other than `"` and `\`, or a backslash
followed by any byte (`\"`, `\\`, `\n`, `\u` …; the four hex digits of `\uXXXX` are then plain bytes). -/
inductive StrBody : Bytes → Prop
  | nil : StrBody []
  | plain (c : UInt8) (rest : Bytes) : c ≠ 0x22 → c ≠ 0x5c → StrBody rest → StrBody (c :: rest)
  | esc (c : UInt8) (rest : Bytes) : StrBody rest → StrBody (0x5c :: c :: rest)

theorem StrBody.quotesEscaped {body : Bytes} (h : StrBody body) : QuotesEscaped body := by
  induction h with
  | nil => intro l1 l2 e; cases l1 <;> simp at e
  | plain c rest h1 h2 _ ih =>
    intro l1 l2 e
    cases l1 with
    | nil => simp at e; exact absurd e.1 h1
    | cons a l1t =>
      simp at e
      obtain ⟨l1', hl⟩ := ih l1t l2 e.2
      exact ⟨a :: l1', by simp [hl]⟩
  | esc c rest _ ih =>
    intro l1 l2 e
    match l1, e with
    | [], e => simp at e
    | [a], e => simp at e; exact ⟨[], by simp [e.1]⟩
    | a :: b :: l1t, e =>
      simp at e
      obtain ⟨l1', hl⟩ := ih l1t l2 e.2.2
      exact ⟨a :: b :: l1', by simp [hl]⟩

/-- `QuotesEscaped` seen from the end of the buffer. -/
def EscR : List UInt8 → Prop
  | [] => True
  | a :: r => (a = 0x22 → r.head? = some 0x5c) ∧ EscR r

theorem escR_of_quotesEscaped : ∀ (r : List UInt8), QuotesEscaped r.reverse → EscR r
  | [], _ => trivial
  | a :: r, h => by
    refine ⟨?_, escR_of_quotesEscaped r ?_⟩
    · intro ha
      obtain ⟨l1', hl⟩ := h r.reverse [] (by simp [ha])
      have : r = 0x5c :: l1'.reverse := by
        have := congrArg List.reverse hl
        simpa using this
      simp [this]
    · intro l1 l2 e
      exact h l1 (l2 ++ [a]) (by simp [e])

theorem trimWsR_append {ws : List UInt8} (h : ∀ c ∈ ws, isWs c = true) (r : List UInt8) :
    trimWsR (ws ++ r) = trimWsR r := List.dropWhile_append_of_pos h

theorem trimWsR_cons_of_not_ws {a : UInt8} (h : isWs a = false) (r : List UInt8) :
    trimWsR (a :: r) = a :: r := List.dropWhile_cons_of_neg (Bool.eq_false_iff.mp h)

@[simp] theorem trimWsR_nil : trimWsR [] = [] := rfl

theorem trimWsR_head (r : List UInt8) : ∀ c, (trimWsR r).head? = some c → isWs c = false := by
  intro c h
  have := List.head?_dropWhile_not isWs r
  rwa [show (List.dropWhile isWs r).head? = some c from h] at this

theorem trimWsR_decomp (r : List UInt8) : ∃ ws, (∀ c ∈ ws, isWs c = true) ∧ r = ws ++ trimWsR r :=
  ⟨r.takeWhile isWs, List.all_eq_true.mp List.all_takeWhile, List.takeWhile_append_dropWhile.symm⟩

@[simp] theorem trimByteR_cons_self (c : UInt8) (r : List UInt8) : trimByteR (c :: r) c = r := by
  simp [trimByteR]

theorem trimByteR_cons_ne {a c : UInt8} (h : a ≠ c) (r : List UInt8) : trimByteR (a :: r) c = a :: r := by
  simp [trimByteR, h]

@[simp] theorem trimByteR_nil (c : UInt8) : trimByteR [] c = [] := rfl

theorem scanOpenR_spec : ∀ (rb pr : List UInt8), EscR rb → pr.head? ≠ some 0x5c →
    scanOpenR (rb ++ 0x22 :: pr) = 0x22 :: pr
  | [], [], _, _ => by simp [scanOpenR]
  | [], b :: r, _, hp => by
    have : b ≠ 0x5c := by simpa using hp
    simp [scanOpenR, this]
  | [a], pr, h, hp => by
    have ha : a ≠ 0x22 := by
      intro e; have := h.1 e; simp at this
    have ih := scanOpenR_spec [] pr trivial hp
    simp only [List.cons_append, List.nil_append] at ih ⊢
    rw [scanOpenR]; simp [ha, ih]
  | a :: b :: rb, pr, h, hp => by
    have ih := scanOpenR_spec (b :: rb) pr h.2 hp
    have hc : (a == 0x22 && b != 0x5c) = false := by
      by_cases e : a = 0x22
      · have := h.1 e; simp at this; simp [this]
      · simp [e]
    simp only [List.cons_append] at ih ⊢
    rw [scanOpenR]; simp only [hc]; simpa using ih

theorem trimStringR_spec (rb pr : List UInt8) (h : EscR rb) (hp : pr.head? ≠ some 0x5c) :
    trimStringR (0x22 :: (rb ++ 0x22 :: pr)) = pr := by
  simp only [trimStringR, trimByteR_cons_self]
  rw [scanOpenR_spec rb pr h hp]; simp

theorem trimSuffixWhitespace_append (p ws : Bytes) (hws : WsOnly ws) (hp : ∀ c, p.getLast? = some c → isWs c = false) :
    trimSuffixWhitespace (p ++ ws) = p := by
  unfold trimSuffixWhitespace
  rw [List.reverse_append, trimWsR_append hws.reverse]
  rcases List.eq_nil_or_concat p with rfl | ⟨q, a, rfl⟩
  · rfl
  · rw [List.concat_eq_append] at hp ⊢
    rw [List.reverse_concat, trimWsR_cons_of_not_ws (hp a List.getLast?_concat), ← List.reverse_concat,
      List.reverse_reverse]

theorem trimSuffixString_append (p body : Bytes) (hb : QuotesEscaped body) (hp : p.getLast? ≠ some 0x5c) :
    trimSuffixString (p ++ (0x22 :: body ++ [0x22])) = p := by
  have hesc : EscR body.reverse := escR_of_quotesEscaped body.reverse (by simpa using hb)
  have hp' : p.reverse.head? ≠ some 0x5c := by rwa [List.head?_reverse]
  have hrev : (p ++ (0x22 :: body ++ [0x22])).reverse = 0x22 :: (body.reverse ++ 0x22 :: p.reverse) := by
    simp [List.reverse_append]
  unfold trimSuffixString
  rw [hrev, trimStringR_spec _ _ hesc hp', List.reverse_reverse]

end JsonV.Model.Flush
