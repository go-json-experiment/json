/-
The member lookup of the struct unmarshaler: exact name first; otherwise the fields whose folded name
equals the folded member name and that `matchFoldedName`, in breadth-first id order.
-/
import JsonV.Lemmas.FieldsOrder
import JsonV.Lemmas.Basics

namespace JsonV.Lemmas.Fields
open JsonV JsonV.Model JsonV.Model.Fields

theorem find_exact (fs : List RField) (f : RField) (name : Bytes) (hnd : (fs.map (·.name)).Nodup) (hm : f ∈ fs)
    (hn : f.name = name) : fs.find? (fun x => x.name == name) = some f := by
  cases h : fs.find? (fun x => x.name == name) with
  | none => exact absurd (beq_iff_eq.2 hn) (List.find?_eq_none.1 h f hm)
  | some x =>
    have hx : (x.name == name) = true := List.find?_some (p := fun x : RField => x.name == name) h
    exact congrArg some (List.nodup_map_inj (·.name) hnd (List.mem_of_find?_eq_some h) hm ((beq_iff_eq.1 hx).trans hn.symm))

/-- The fold-matching fields for `name`, in the order the lookup considers them. -/
def matching (foldRune : Nat → Nat) (fs : List RField) (name : Bytes) (fl : Fold.MatchFlags) : List RField :=
  (foldedCandidates foldRune fs name).filter (fun f => Fold.matchFoldedName foldRune f.name f.opts.casing name fl)

theorem mem_matching (foldRune fs name fl) (x : RField) :
    x ∈ matching foldRune fs name fl ↔
      x ∈ fs ∧ Fold.foldName foldRune x.name = Fold.foldName foldRune name ∧
      Fold.matchFoldedName foldRune x.name x.opts.casing name fl = true := by
  unfold matching foldedCandidates
  rw [List.mem_filter, (List.mergeSort_perm _ _).mem_iff, List.mem_filter]
  simp [and_assoc]

theorem matching_sorted (foldRune fs name fl) :
    (matching foldRune fs name fl).Pairwise (fun a b => a.id ≤ b.id) := by
  unfold matching foldedCandidates
  exact (pairwise_mergeSort_id _).sublist List.filter_sublist

theorem lookup_of_no_exact (foldRune fs name fl) (h : fs.find? (fun f => f.name == name) = none) :
    lookup foldRune fs name fl =
      match matching foldRune fs name fl with
      | [] => .unknown
      | [f] => .found f
      | f :: _ :: _ => if fl.legacyErrors then .found f else .ambiguous := by
  unfold lookup matching
  rw [h]
  rfl

end JsonV.Lemmas.Fields
