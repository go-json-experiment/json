/-
A non-degenerate instance of the float parameter of Model/Canon.lean for which the laws that the C13 theorems
assume of strconv are PROVED: the exact integer codec.  It reads an integer literal of at most 16 digits as that
integer (every other text as 0) and writes an integer as its decimal digits — which is what strconv does on the
integers below 2^53 (exactly representable, shortest digits = all digits up to trailing zeros, layout without
exponent up to 21 digits).
-/
import JsonV.Props.C10Glue
import JsonV.Lemmas.NumDigits

namespace JsonV.Lemmas.CanonIntCodec
open JsonV JsonV.Canon JsonV.Model.Number JsonV.Spec.Ecma
open JsonV.Fmt
open JsonV.Lemmas.NumInt JsonV.Lemmas.NumFloat JsonV.Lemmas.NumParse JsonV.Lemmas.NumDigits JsonV.Lemmas.CanonAtom JsonV.Props.C10Glue

def zeroFl : Fl := ⟨false, false, 0, 0⟩

/-- `ParseFloat` restricted to integer literals of at most 16 digits (exact there); everything else reads as 0. -/
def intParse (lit : Bytes) : Fl :=
  match lit with
  | 45 :: t => if canonicalDecimal t = true ∧ t.length ≤ 16 then ⟨true, false, bytesVal t, 0⟩ else zeroFl
  | _ => if canonicalDecimal lit = true ∧ lit.length ≤ 16 then ⟨false, false, bytesVal lit, 0⟩ else zeroFl

/-- Shortest digits of an integer: all its decimal digits, decimal point after the last one. -/
def intShortest (f : Fl) : List Nat × Int :=
  if f.mant = 0 ∨ 16 < (natDigits f.mant).length then ([], 0)
  else (natDigits f.mant, ((natDigits f.mant).length : Int))

def intCodec : FloatCodec := ⟨intParse, intShortest⟩

theorem intParse_minus (t : Bytes) : intParse (45 :: t) =
    if canonicalDecimal t = true ∧ t.length ≤ 16 then ⟨true, false, bytesVal t, 0⟩ else zeroFl := rfl

theorem intParse_plain {lit : Bytes} (h : ∀ t, lit ≠ 45 :: t) : intParse lit =
    if canonicalDecimal lit = true ∧ lit.length ≤ 16 then ⟨false, false, bytesVal lit, 0⟩ else zeroFl := by
  unfold intParse
  split
  · next t => exact absurd rfl (h t)
  · rfl

theorem intCodec_wfd (f : Fl) : WFD (intCodec.shortest f).1 (intCodec.shortest f).2 := by
  show WFD (intShortest f).1 (intShortest f).2
  unfold intShortest
  split
  · exact ⟨by simp, by simp, fun _ => rfl, by omega, by omega⟩
  · next h =>
    have hm : 0 < f.mant := by omega
    refine ⟨natDigits_lt _, natDigits_head _ hm, fun e => absurd e (natDigits_ne_nil _), ?_, ?_⟩ <;> simp only [] <;> omega

theorem intCodec_append (f : Fl) :
    intCodec.append f = (if f.neg then [45] else []) ++
      (if f.mant = 0 ∨ 16 < (natDigits f.mant).length then [48] else formatUint f.mant) := by
  have hw := intCodec_wfd f
  show appendFloat f.neg (intCodec.shortest f).1 (intCodec.shortest f).2 = _
  rw [JsonV.Props.C10.float_layout _ _ _ hw]
  show numberToString f.neg (intShortest f).1 (intShortest f).2 = _
  unfold numberToString intShortest
  congr 1
  split
  · simp [layout]
  · next h =>
    have hne := natDigits_ne_nil f.mant
    simp only [layout, hne, if_false]
    rw [if_pos ⟨by omega, by omega⟩]
    simp [zeros, formatUint, dig_eq]

theorem formatUint_length (m : Nat) : (formatUint m).length = (natDigits m).length := by simp [formatUint]

theorem formatUint_not_minus (m : Nat) (t : Bytes) : formatUint m ≠ 45 :: t := by
  intro e
  have := canonical_not_minus _ (formatUint_canonical m)
  rw [e] at this; simp at this

/-- Every value the codec produces: finite, exponent 0, at most 16 digits, zero unsigned after normalisation. -/
def Norm (v : Fl) : Prop :=
  v.inf = false ∧ v.exp = 0 ∧ (v.mant = 0 → v.neg = false) ∧ (natDigits v.mant).length ≤ 16

theorem natDigits_bytesVal_length (t : Bytes) (h : canonicalDecimal t = true) : (natDigits (bytesVal t)).length = t.length := by
  rw [← formatUint_length, formatUint_bytesVal t h]

theorem numValue_finite (fp : FloatCodec) (lit : Bytes) (h : (fp.parse lit).inf = false) :
    numValue fp lit = if (fp.parse lit).mant = 0 then { fp.parse lit with neg := false } else fp.parse lit := by
  unfold numValue
  generalize fp.parse lit = v at h ⊢
  show (if v.isZero then { v with neg := false } else if v.inf then maxFloat64 v.neg else v) = _
  by_cases hz : v.mant = 0
  · have : v.isZero = true := by simp [Fl.isZero, h, hz]
    rw [if_pos hz, if_pos this]
  · have : v.isZero = false := by simp [Fl.isZero, hz]
    rw [if_neg hz, if_neg (by simp [this]), if_neg (by simp [h])]

theorem intParse_finite (lit : Bytes) :
    (intParse lit).inf = false ∧ (intParse lit).exp = 0 ∧ (natDigits (intParse lit).mant).length ≤ 16 := by
  have z : (natDigits 0).length ≤ 16 := by rw [natDigits]; simp
  have nz : ∀ t : Bytes, canonicalDecimal t = true ∧ t.length ≤ 16 → (natDigits (bytesVal t)).length ≤ 16 :=
    fun t h => Nat.le_trans (Nat.le_of_eq (natDigits_bytesVal_length t h.1)) h.2
  unfold intParse
  split
  · split
    · next h => exact ⟨rfl, rfl, nz _ h⟩
    · exact ⟨rfl, rfl, z⟩
  · split
    · next h => exact ⟨rfl, rfl, nz _ h⟩
    · exact ⟨rfl, rfl, z⟩

theorem numValue_norm (lit : Bytes) : Norm (numValue intCodec lit) := by
  obtain ⟨h1, h2, h3⟩ := intParse_finite lit
  rw [numValue_finite intCodec lit h1]
  show Norm (if (intParse lit).mant = 0 then { intParse lit with neg := false } else intParse lit)
  split
  · exact ⟨h1, h2, fun _ => rfl, h3⟩
  · next hz => exact ⟨h1, h2, fun e => absurd e hz, h3⟩

theorem numValue_of_norm (lit : Bytes) (v : Fl) (hp : intParse lit = v) (hn : Norm v) : numValue intCodec lit = v := by
  rw [numValue_finite intCodec lit (by rw [show intCodec.parse lit = v from hp]; exact hn.1)]
  show (if (intParse lit).mant = 0 then { intParse lit with neg := false } else intParse lit) = v
  rw [hp]
  split
  · next hz =>
    have hs := hn.2.2.1 hz
    cases v
    simp only [] at hs ⊢
    rw [hs]
  · rfl

theorem intCodec_reread (lit : Bytes) :
    numValue intCodec (intCodec.append (numValue intCodec lit)) = numValue intCodec lit := by
  have hn := numValue_norm lit
  generalize numValue intCodec lit = v at hn ⊢
  apply numValue_of_norm _ v _ hn
  obtain ⟨neg, inf, mant, exp⟩ := v
  obtain ⟨h1, h2, h3, h4⟩ := hn
  simp only [] at h1 h2 h3 h4
  subst h1 h2
  rw [intCodec_append]
  simp only []
  by_cases hz : mant = 0
  · subst hz
    rw [h3 rfl]
    simp only [Bool.false_eq_true, if_false, List.nil_append, true_or, if_true]
    rw [intParse_plain (fun t e => by cases e), if_pos ⟨by decide, by decide⟩]
    simp [bytesVal]
  · rw [if_neg (show ¬ (mant = 0 ∨ 16 < (natDigits mant).length) by omega)]
    have hc := formatUint_canonical mant
    have hl : (formatUint mant).length ≤ 16 := by rw [formatUint_length]; exact h4
    cases neg
    · simp only [Bool.false_eq_true, if_false, List.nil_append]
      rw [intParse_plain (formatUint_not_minus _), if_pos ⟨hc, hl⟩, bytesVal_formatUint]
    · simp only [if_true, List.singleton_append]
      rw [intParse_minus, if_pos ⟨hc, hl⟩, bytesVal_formatUint]

theorem intCodec_laws : CodecLaws intCodec := ⟨intCodec_wfd, intCodec_reread⟩

theorem intCodec_shortInt (lit : Bytes) (hi : isIntLit lit = true) (hs : shortInt lit = true) :
    intCodec.append (numValue intCodec lit) = lit := by
  simp only [shortInt, Bool.and_eq_true, Bool.not_eq_true', decide_eq_true_eq, beq_eq_false_iff_ne, ne_eq] at hs
  obtain ⟨⟨hm0, _hany⟩, hlen⟩ := hs
  rw [maxExactIntegerDigits_eq] at hlen
  have core : ∀ (neg : Bool) (t : Bytes), canonicalDecimal t = true → t.length ≤ 16 → (neg = true → t ≠ [48]) →
      intParse lit = ⟨neg, false, bytesVal t, 0⟩ → lit = (if neg then [45] else []) ++ t →
      intCodec.append (numValue intCodec lit) = lit := by
    intro neg t hc hl hz hp hlit
    have hlenD := natDigits_bytesVal_length t hc
    by_cases hv : bytesVal t = 0
    · have ht : t = [48] := (eq_formatUint hc hv).trans JsonV.Lemmas.NumTokFloat.formatUint_zero
      have hneg : neg = false := by
        cases neg with
        | false => rfl
        | true => exact absurd ht (hz rfl)
      subst hneg
      have hv' : numValue intCodec lit = ⟨false, false, 0, 0⟩ :=
        numValue_of_norm lit _ (by rw [hp, hv]) ⟨rfl, rfl, fun _ => rfl, by rw [natDigits]; simp⟩
      rw [hv', intCodec_append, hlit, ht]; simp
    · have hv' : numValue intCodec lit = ⟨neg, false, bytesVal t, 0⟩ :=
        numValue_of_norm lit _ hp ⟨rfl, rfl, fun e => absurd e hv, by simp only []; omega⟩
      rw [hv', intCodec_append]
      simp only []
      have hcnd : ¬ (bytesVal t = 0 ∨ 16 < (natDigits (bytesVal t)).length) := by omega
      rw [if_neg hcnd, formatUint_bytesVal t hc, hlit]
  unfold isIntLit at hi
  split at hi
  · rename_i t
    have hl : t.length ≤ 16 := by simp at hlen; omega
    refine core true t hi hl (fun _ e => hm0 (by rw [e])) ?_ (by simp)
    rw [intParse_minus, if_pos ⟨hi, hl⟩]
  · rename_i hnm
    have hl : lit.length ≤ 16 := by omega
    refine core false lit hi hl (fun e => by cases e) ?_ (by simp)
    rw [intParse_plain hnm, if_pos ⟨hi, hl⟩]

end JsonV.Lemmas.CanonIntCodec
