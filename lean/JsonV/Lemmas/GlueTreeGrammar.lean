/-
Glue C12 ↔ C01, part 3: a blank layout of the lexemes of a tree (valid atoms, depth within the limit) is a value
of the tree grammar `JValue` of Spec/Grammar.lean, for whichever string mode and duplicate policy (`GOpts`) the
tokens satisfy (`tokenize_text_gen`); `tokenize_text` is the instance with permissive strings and duplicates allowed.
-/
import JsonV.Lemmas.FormatMain
import JsonV.Lemmas.GlueTreeParse
import JsonV.Lemmas.GlueFormatNum
import JsonV.Lemmas.GlueFormatStr
import JsonV.Model.FormatStrict

namespace JsonV.Fmt
open JsonV.Canon JsonV.Lemmas.CanonNest JsonV.Spec.Grammar

theorem wsByte_iff (c : UInt8) : WsByte c ↔ isWs c = true := by
  simp [WsByte, isWs, or_assoc]

theorem jws_iff (w : Bytes) : JWs w ↔ allWs w = true := by
  simp [JWs, allWs, List.all_eq_true, wsByte_iff]

theorem Layout.inv_cons {l : Lex} {ls : List Lex} {b : Bytes} (h : Layout (l :: ls) b) :
    ∃ w b', b = w ++ (l.bytes ++ b') ∧ JWs w ∧ Layout ls b' := by
  cases h with
  | cons w _ _ b' hw hl => exact ⟨w, b', rfl, (jws_iff w).mpr hw, hl⟩

theorem Layout.inv_nil {b : Bytes} (h : Layout [] b) : JWs b := by
  cases h with
  | nil _ hw => exact (jws_iff b).mpr hw

/-- `,x₁,x₂…` -/
def sepTail : List Bytes → Bytes
  | [] => []
  | x :: xs => 0x2C :: (x ++ sepTail xs)

theorem joinSep_cons (x : Bytes) (xs : List Bytes) : joinSep (x :: xs) = x ++ sepTail xs := by
  induction xs generalizing x with
  | nil => simp [joinSep, sepTail]
  | cons y r ih => simp [joinSep, sepTail, ih y]

abbrev elemText (e : Bytes × Bytes × Bytes) : Bytes := e.1 ++ e.2.1 ++ e.2.2
abbrev memText (m : Bytes × Bytes × Bytes × Bytes × Bytes × Bytes) : Bytes :=
  m.1 ++ m.2.1 ++ m.2.2.1 ++ [0x3A] ++ m.2.2.2.1 ++ m.2.2.2.2.1 ++ m.2.2.2.2.2

/-- duplicate names are allowed, or the test `b` passed -/
def DupOK (o : GOpts) (b : Bool) : Prop := o.allowDup = true ∨ b = true

theorem DupOK.and {o : GOpts} {a b : Bool} (h : DupOK o (a && b)) : DupOK o a ∧ DupOK o b := by
  rcases h with h | h
  · exact ⟨Or.inl h, Or.inl h⟩
  · simp only [Bool.and_eq_true] at h; exact ⟨Or.inr h.1, Or.inr h.2⟩

theorem DupOK.mk_and {o : GOpts} {a b : Bool} (ha : DupOK o a) (hb : DupOK o b) : DupOK o (a && b) := by
  rcases ha with h | ha
  · exact Or.inl h
  · rcases hb with h | hb
    · exact Or.inl h
    · exact Or.inr (by simp [ha, hb])

theorem dupOK_decide (o : GOpts) {p : Prop} [Decidable p] : DupOK o (decide p) ↔ (o.allowDup = true ∨ p) := by
  simp [DupOK]

theorem map_key_names {α β : Type} (key : Bytes → Bytes) {f : α → Bytes} {g : β → Bytes} {l : List α} {l' : List β}
    (h : l.map f = l'.map g) : (l.map fun x => key (f x)) = l'.map fun y => key (g y) := by
  have := congrArg (List.map key) h
  rwa [List.map_map, List.map_map] at this

section
variable (o : GOpts) (key : Bytes → Bytes)

/-- the grammar instance: the model's nesting limit, any string mode / duplicate policy -/
abbrev GV (d : Nat) (v : Bytes) : Prop := JValue o maxDepth key d v

/-- the elements of an array as triples (blanks, value, blanks): the blanks are whitespace, the values are values at depth `d` -/
def ElemsOK (d : Nat) (elems : List (Bytes × Bytes × Bytes)) : Prop :=
  (∀ e ∈ elems, JWs e.1 ∧ JWs e.2.2) ∧ (∀ e ∈ elems, GV o key d e.2.1)

/-- the members of an object as tuples (blanks, name, blanks, blanks, value, blanks), the colon standing after the third -/
def MemsOK (d : Nat) (mems : List (Bytes × Bytes × Bytes × Bytes × Bytes × Bytes)) : Prop :=
  (∀ m ∈ mems, JWs m.1 ∧ JString o.strict m.2.1 ∧ JWs m.2.2.1 ∧ JWs m.2.2.2.1 ∧ JWs m.2.2.2.2.2) ∧
  (∀ m ∈ mems, GV o key d m.2.2.2.2.1)

theorem ElemsOK.cons {d : Nat} {e : Bytes × Bytes × Bytes} {es : List (Bytes × Bytes × Bytes)}
    (h1 : JWs e.1) (h2 : JWs e.2.2) (h3 : GV o key d e.2.1) (h : ElemsOK o key d es) : ElemsOK o key d (e :: es) :=
  ⟨fun x hx => by rcases List.mem_cons.mp hx with rfl | hx; exact ⟨h1, h2⟩; exact h.1 x hx,
   fun x hx => by rcases List.mem_cons.mp hx with rfl | hx; exact h3; exact h.2 x hx⟩

theorem MemsOK.cons {d : Nat} {m : Bytes × Bytes × Bytes × Bytes × Bytes × Bytes}
    {ms : List (Bytes × Bytes × Bytes × Bytes × Bytes × Bytes)}
    (h1 : JWs m.1 ∧ JString o.strict m.2.1 ∧ JWs m.2.2.1 ∧ JWs m.2.2.2.1 ∧ JWs m.2.2.2.2.2) (h3 : GV o key d m.2.2.2.2.1)
    (h : MemsOK o key d ms) : MemsOK o key d (m :: ms) :=
  ⟨fun x hx => by rcases List.mem_cons.mp hx with rfl | hx; exact h1; exact h.1 x hx,
   fun x hx => by rcases List.mem_cons.mp hx with rfl | hx; exact h3; exact h.2 x hx⟩

theorem atom_value (k : Tok) (hk : atomOK k = true) (hv : k.valid = true)
    (hs : ∀ raw, k = .str raw → JString o.strict raw) (d : Nat) : GV o key d k.bytes := by
  cases k with
  | bo | eo | ba | ea => simp [atomOK] at hk
  | str raw => exact JValue.str d raw (hs raw rfl)
  | num raw => exact JValue.num d raw ((num_valid_iff raw).mp hv)
  | null => exact JValue.null d
  | tru => exact JValue.true d
  | fls => exact JValue.false d

/-- every string token of `ts` is a string of the selected mode -/
def StrsOK (ts : List Tok) : Prop := ∀ raw, Tok.str raw ∈ ts → JString o.strict raw

theorem strsOK_cons (k : Tok) (ts : List Tok) :
    StrsOK o (k :: ts) ↔ (∀ raw, k = .str raw → JString o.strict raw) ∧ StrsOK o ts :=
  ⟨fun h => ⟨fun raw e => h raw (e ▸ List.mem_cons_self), fun raw hm => h raw (List.mem_cons_of_mem _ hm)⟩,
   fun h raw hm => (List.mem_cons.mp hm).elim (fun e => h.1 raw e.symm) (h.2 raw)⟩

theorem strsOK_append (ts ts' : List Tok) : StrsOK o (ts ++ ts') ↔ StrsOK o ts ∧ StrsOK o ts' :=
  ⟨fun h => ⟨fun raw hm => h raw (List.mem_append_left _ hm), fun raw hm => h raw (List.mem_append_right _ hm)⟩,
   fun h raw hm => (List.mem_append.mp hm).elim (h.1 raw) (h.2 raw)⟩

mutual
/-- Reading a layout back along the tree: a layout of the lexemes of `t` followed by `rest` splits into whitespace, a
grammar value for `t`, and a layout of `rest`.  Structural recursion on the tree; `bodyL`/`bodyM` take the inside of a
container, `tailL`/`tailM` the elements (members) after the first, one at a time. -/
theorem coreV : ∀ (t : JV), AtomsOK t = true → (∀ k ∈ t.toks, k.valid = true) → StrsOK o t.toks → DupOK o (dupT key t) →
    ∀ (d : Nat) (rest : List Lex) (b : Bytes),
    depthOK t d = true → Layout (lexT t ++ rest) b →
    ∃ w v b', b = w ++ (v ++ b') ∧ JWs w ∧ GV o key d v ∧ Layout rest b'
  | .atom k, h, hv, hs, _, d, rest, b, _, hl => by
    simp only [AtomsOK] at h
    simp only [lexT, List.singleton_append] at hl
    obtain ⟨w, b', rfl, hw, hl'⟩ := hl.inv_cons
    exact ⟨w, k.bytes, b', rfl, hw,
      atom_value o key k h (hv k (by simp [JV.toks])) (fun raw e => hs raw (by simp [JV.toks, e])) d, hl'⟩
  | .arr es, h, hv, hs, hdp, d, rest, b, hd, hl => by
    simp only [AtomsOK, depthOK, dupT, JV.toks, Bool.and_eq_true, decide_eq_true_eq, List.forall_mem_cons,
      List.forall_mem_append, strsOK_cons, strsOK_append] at h hd hdp hv hs
    have e : lexT (.arr es) ++ rest = .tok .ba :: (lexL true es ++ (.tok .ea :: rest)) := by simp [lexT]
    rw [e] at hl
    obtain ⟨w, b1, rfl, hw, hl1⟩ := hl.inv_cons
    obtain ⟨body, b', rfl, hl', hb⟩ := bodyL es h hv.2.1 hs.2.1 hdp (d + 1) rest b1 hd.2 hl1
    refine ⟨w, 0x5B :: (body ++ [0x5D]), b', by simp [Lex.bytes, Tok.bytes], hw, ?_, hl'⟩
    rcases hb with hws | ⟨elems, hne, hok, rfl⟩
    · exact JValue.emptyArr d body hd.1 hws
    · exact JValue.arr d elems hd.1 hne hok.1 hok.2
  | .obj ms, h, hv, hs, hdp, d, rest, b, hd, hl => by
    simp only [AtomsOK, depthOK, dupT, JV.toks, Bool.and_eq_true, decide_eq_true_eq, List.forall_mem_cons,
      List.forall_mem_append, strsOK_cons, strsOK_append] at h hd hdp hv hs
    have e : lexT (.obj ms) ++ rest = .tok .bo :: (lexM true ms ++ (.tok .eo :: rest)) := by simp [lexT]
    rw [e] at hl
    obtain ⟨w, b1, rfl, hw, hl1⟩ := hl.inv_cons
    obtain ⟨body, b', rfl, hl', hb⟩ := bodyM ms h hv.2.1 hs.2.1 hdp.and.2 (d + 1) rest b1 hd.2 hl1
    refine ⟨w, 0x7B :: (body ++ [0x7D]), b', by simp [Lex.bytes, Tok.bytes], hw, ?_, hl'⟩
    rcases hb with hws | ⟨mems, hne, hok, hnames, rfl⟩
    · exact JValue.emptyObj d body hd.1 hws
    · refine JValue.obj d mems hd.1 hne hok.1 hok.2 ?_
      rw [map_key_names key hnames]
      exact (dupOK_decide o).mp hdp.and.1
theorem bodyL : ∀ (es : List JV), AtomsOKL es = true → (∀ k ∈ toksL es, k.valid = true) → StrsOK o (toksL es) →
    DupOK o (dupL key es) →
    ∀ (d : Nat) (rest : List Lex) (b : Bytes), depthOKL es d = true → Layout (lexL true es ++ (.tok .ea :: rest)) b →
    ∃ body b', b = body ++ (0x5D :: b') ∧ Layout rest b' ∧
      (JWs body ∨ ∃ elems, elems ≠ [] ∧ ElemsOK o key d elems ∧ body = joinSep (elems.map fun e => e.1 ++ e.2.1 ++ e.2.2))
  | [], _, _, _, _, d, rest, b, _, hl => by
    simp only [lexL, List.nil_append] at hl
    obtain ⟨w, b', rfl, hw, hl'⟩ := hl.inv_cons
    exact ⟨w, b', by simp [Lex.bytes, Tok.bytes], hl', Or.inl hw⟩
  | e :: es, h, hv, hs, hdp, d, rest, b, hd, hl => by
    simp only [AtomsOKL, depthOKL, dupL, toksL, Bool.and_eq_true, List.forall_mem_append, strsOK_append] at h hd hdp hv hs
    have e1 : lexL true (e :: es) ++ (.tok .ea :: rest) = lexT e ++ (lexL false es ++ (.tok .ea :: rest)) := by
      simp [lexL, sepLex]
    rw [e1] at hl
    obtain ⟨w1, v, b2, rfl, hw1, hgv, hl2⟩ := coreV e h.1 hv.1 hs.1 hdp.and.1 d _ b hd.1 hl
    obtain ⟨w2, elems, b', rfl, hw2, hok, hl'⟩ := tailL es h.2 hv.2 hs.2 hdp.and.2 d rest b2 hd.2 hl2
    refine ⟨(w1 ++ v ++ w2) ++ sepTail (elems.map elemText), b', by simp [List.append_assoc], hl', Or.inr ?_⟩
    refine ⟨(w1, v, w2) :: elems, by simp, ElemsOK.cons o key hw1 hw2 hgv hok, ?_⟩
    rw [List.map_cons, joinSep_cons]
theorem tailL : ∀ (es : List JV), AtomsOKL es = true → (∀ k ∈ toksL es, k.valid = true) → StrsOK o (toksL es) →
    DupOK o (dupL key es) →
    ∀ (d : Nat) (rest : List Lex) (b : Bytes), depthOKL es d = true → Layout (lexL false es ++ (.tok .ea :: rest)) b →
    ∃ w elems b', b = w ++ (sepTail (elems.map elemText) ++ (0x5D :: b')) ∧ JWs w ∧ ElemsOK o key d elems ∧ Layout rest b'
  | [], _, _, _, _, d, rest, b, _, hl => by
    simp only [lexL, List.nil_append] at hl
    obtain ⟨w, b', rfl, hw, hl'⟩ := hl.inv_cons
    exact ⟨w, [], b', by simp [Lex.bytes, Tok.bytes, sepTail], hw, ⟨by simp, by simp⟩, hl'⟩
  | e :: es, h, hv, hs, hdp, d, rest, b, hd, hl => by
    simp only [AtomsOKL, depthOKL, dupL, toksL, Bool.and_eq_true, List.forall_mem_append, strsOK_append] at h hd hdp hv hs
    have e1 : lexL false (e :: es) ++ (.tok .ea :: rest) =
        .delim .comma :: (lexT e ++ (lexL false es ++ (.tok .ea :: rest))) := by simp [lexL, sepLex]
    rw [e1] at hl
    obtain ⟨w, b1, rfl, hw, hl1⟩ := hl.inv_cons
    obtain ⟨w1, v, b2, rfl, hw1, hgv, hl2⟩ := coreV e h.1 hv.1 hs.1 hdp.and.1 d _ b1 hd.1 hl1
    obtain ⟨w2, elems, b', rfl, hw2, hok, hl'⟩ := tailL es h.2 hv.2 hs.2 hdp.and.2 d rest b2 hd.2 hl2
    exact ⟨w, (w1, v, w2) :: elems, b', by simp [Lex.bytes, Delim.bytes, sepTail, List.append_assoc], hw,
      ElemsOK.cons o key hw1 hw2 hgv hok, hl'⟩
theorem bodyM : ∀ (ms : List (Bytes × JV)), AtomsOKM ms = true → (∀ k ∈ toksM ms, k.valid = true) → StrsOK o (toksM ms) →
    DupOK o (dupM key ms) →
    ∀ (d : Nat) (rest : List Lex) (b : Bytes), depthOKM ms d = true → Layout (lexM true ms ++ (.tok .eo :: rest)) b →
    ∃ body b', b = body ++ (0x7D :: b') ∧ Layout rest b' ∧
      (JWs body ∨ ∃ mems, mems ≠ [] ∧ MemsOK o key d mems ∧ (mems.map fun m => m.2.1) = ms.map Prod.fst ∧
        body = joinSep (mems.map fun m =>
        m.1 ++ m.2.1 ++ m.2.2.1 ++ [0x3A] ++ m.2.2.2.1 ++ m.2.2.2.2.1 ++ m.2.2.2.2.2))
  | [], _, _, _, _, d, rest, b, _, hl => by
    simp only [lexM, List.nil_append] at hl
    obtain ⟨w, b', rfl, hw, hl'⟩ := hl.inv_cons
    exact ⟨w, b', by simp [Lex.bytes, Tok.bytes], hl', Or.inl hw⟩
  | (n, x) :: ms, h, hv, hs, hdp, d, rest, b, hd, hl => by
    simp only [AtomsOKM, depthOKM, dupM, toksM, Bool.and_eq_true, List.forall_mem_cons, List.forall_mem_append, strsOK_cons,
      strsOK_append] at h hd hdp hv hs
    have e1 : lexM true ((n, x) :: ms) ++ (.tok .eo :: rest) =
        .tok (.str n) :: .delim .colon :: (lexT x ++ (lexM false ms ++ (.tok .eo :: rest))) := by simp [lexM, sepLex]
    rw [e1] at hl
    obtain ⟨w1, b1, rfl, hw1, hl1⟩ := hl.inv_cons
    obtain ⟨w2, b2, rfl, hw2, hl2⟩ := hl1.inv_cons
    obtain ⟨w3, v, b3, rfl, hw3, hgv, hl3⟩ := coreV x h.1 hv.2.1 hs.2.1 hdp.and.1 d _ b2 hd.1 hl2
    obtain ⟨w4, mems, b', rfl, hw4, hok, hnames, hl'⟩ := tailM ms h.2 hv.2.2 hs.2.2 hdp.and.2 d rest b3 hd.2 hl3
    have hn : JString o.strict n := hs.1 n rfl
    refine ⟨memText (w1, n, w2, w3, v, w4) ++ sepTail (mems.map memText), b',
      by simp [Lex.bytes, Tok.bytes, Delim.bytes, List.append_assoc], hl', Or.inr ?_⟩
    refine ⟨(w1, n, w2, w3, v, w4) :: mems, by simp, MemsOK.cons o key ⟨hw1, hn, hw2, hw3, hw4⟩ hgv hok,
      by simp [hnames], ?_⟩
    rw [List.map_cons, joinSep_cons]
theorem tailM : ∀ (ms : List (Bytes × JV)), AtomsOKM ms = true → (∀ k ∈ toksM ms, k.valid = true) → StrsOK o (toksM ms) →
    DupOK o (dupM key ms) →
    ∀ (d : Nat) (rest : List Lex) (b : Bytes), depthOKM ms d = true → Layout (lexM false ms ++ (.tok .eo :: rest)) b →
    ∃ w mems b', b = w ++ (sepTail (mems.map memText) ++ (0x7D :: b')) ∧ JWs w ∧ MemsOK o key d mems ∧
      (mems.map fun m => m.2.1) = ms.map Prod.fst ∧ Layout rest b'
  | [], _, _, _, _, d, rest, b, _, hl => by
    simp only [lexM, List.nil_append] at hl
    obtain ⟨w, b', rfl, hw, hl'⟩ := hl.inv_cons
    exact ⟨w, [], b', by simp [Lex.bytes, Tok.bytes, sepTail], hw, ⟨by simp, by simp⟩, rfl, hl'⟩
  | (n, x) :: ms, h, hv, hs, hdp, d, rest, b, hd, hl => by
    simp only [AtomsOKM, depthOKM, dupM, toksM, Bool.and_eq_true, List.forall_mem_cons, List.forall_mem_append, strsOK_cons,
      strsOK_append] at h hd hdp hv hs
    have e1 : lexM false ((n, x) :: ms) ++ (.tok .eo :: rest) =
        .delim .comma :: .tok (.str n) :: .delim .colon :: (lexT x ++ (lexM false ms ++ (.tok .eo :: rest))) := by
      simp [lexM, sepLex]
    rw [e1] at hl
    obtain ⟨w, b0, rfl, hw, hl0⟩ := hl.inv_cons
    obtain ⟨w1, b1, rfl, hw1, hl1⟩ := hl0.inv_cons
    obtain ⟨w2, b2, rfl, hw2, hl2⟩ := hl1.inv_cons
    obtain ⟨w3, v, b3, rfl, hw3, hgv, hl3⟩ := coreV x h.1 hv.2.1 hs.2.1 hdp.and.1 d _ b2 hd.1 hl2
    obtain ⟨w4, mems, b', rfl, hw4, hok, hnames, hl'⟩ := tailM ms h.2 hv.2.2 hs.2.2 hdp.and.2 d rest b3 hd.2 hl3
    have hn : JString o.strict n := hs.1 n rfl
    exact ⟨w, (w1, n, w2, w3, v, w4) :: mems, b',
      by simp [Lex.bytes, Tok.bytes, Delim.bytes, sepTail, List.append_assoc], hw,
      MemsOK.cons o key ⟨hw1, hn, hw2, hw3, hw4⟩ hgv hok, by simp [hnames], hl'⟩
end

theorem tokenize_text_gen (b : Bytes) (ts : List Tok) (h : tokenize b = some ts) (hs : StrsOK o ts)
    (hdp : ∀ t : JV, ts = t.toks → AtomsOK t = true → DupOK o (dupT key t)) :
    JText o maxDepth key b := by
  obtain ⟨hw, hl⟩ := (tokenize_eq_some_iff b ts).mp h
  obtain ⟨t, rfl, ht, hd⟩ := accepts_is_tree ts hw.2
  rw [punct_top t ht hd] at hl
  have hl' : Layout (lexT t ++ []) b := by simpa using hl
  obtain ⟨w, v, b', rfl, hws, hgv, hrest⟩ := coreV o key t ht hw.1 hs (hdp t rfl ht) 0 [] b hd hl'
  exact ⟨w, v, b', hws, hgv, hrest.inv_nil, by simp [List.append_assoc]⟩

end

theorem tokenize_text (key : Bytes → Bytes) (b : Bytes) (ts : List Tok) (h : tokenize b = some ts) :
    JText ⟨false, true⟩ maxDepth key b :=
  tokenize_text_gen ⟨false, true⟩ key b ts h
    (fun raw hm => (str_valid_iff raw).mp ((wellNested_of_tokenize b ts h).1 _ hm)) (fun _ _ _ => Or.inl rfl)

end JsonV.Fmt
