/-
ISO 8601 durations, part 1: `cutBytes`, and the two halves of `mayParseUnit` on canonical input.  `cleanSt` serves the proofs
only: the model and the oracle do not have it.
-/
import JsonV.Lemmas.TimeDur

namespace JsonV.Model.Time
open JsonV

theorem cutBytes_absent (ca cb : UInt8) (b : Bytes) (h : ∀ c ∈ b, c ≠ ca ∧ c ≠ cb) : cutBytes ca cb b = (b, [], false) := by
  induction b with
  | nil => rfl
  | cons x xs ih =>
    have hx := h x (List.mem_cons_self)
    have : ¬ (x = ca ∨ x = cb) := by intro e; cases e with
      | inl e => exact hx.1 e
      | inr e => exact hx.2 e
    rw [cutBytes, if_neg this, ih (fun c hc => h c (List.mem_cons_of_mem _ hc))]

theorem cutBytes_present (ca cb : UInt8) (pre rest : Bytes) (h : ∀ c ∈ pre, c ≠ ca ∧ c ≠ cb) :
    cutBytes ca cb (pre ++ ca :: rest) = (pre, rest, true) := by
  induction pre with
  | nil => simp [cutBytes]
  | cons x xs ih =>
    have hx := h x (List.mem_cons_self)
    have : ¬ (x = ca ∨ x = cb) := by intro e; cases e with
      | inl e => exact hx.1 e
      | inr e => exact hx.2 e
    rw [List.cons_append, cutBytes, if_neg this, ih (fun c hc => h c (List.mem_cons_of_mem _ hc))]

theorem cutBytes_head (ca cb : UInt8) (rest : Bytes) : cutBytes ca cb (ca :: rest) = ([], rest, true) := by
  simp [cutBytes]

theorem digits_avoid {ds : Bytes} (hd : ds.all isDigit = true) {a b : UInt8}
    (ha : a.toNat < 48 ∨ 57 < a.toNat) (hb : b.toNat < 48 ∨ 57 < b.toNat) : ∀ c ∈ ds, c ≠ a ∧ c ≠ b := by
  intro c hc
  have := List.all_eq_true.mp hd c hc
  exact ⟨digit_ne this ha, digit_ne this hb⟩

theorem trimLeadingZeros_natDigits (x : Nat) : trimLeadingZeros (natDigits x) = natDigits x := by
  have hlead := ((Lemmas.NumParse.canonical_iff _).1 (natDigits_canonical x)).2.2
  match natDigits x, hlead with
  | [], _ => rfl
  | [_], _ => rfl
  | c :: d :: rest, hlead =>
    exact if_neg fun e => hlead.elim (fun h => h (congrArg some e)) fun h => nomatch (List.cons.inj h).2

/-- a clean state: no flag raised, `a` nanoseconds accumulated, `sf` = a fraction has been seen. -/
def cleanSt (a : Nat) (sf : Bool) : IsoSt := ⟨false, false, false, sf, a, false⟩

theorem unitWhole_digits (a x unit : Nat) (sf : Bool) (hunit : ¬ unit > hourNs) (hsum : a + x * unit < U64) (hx : x < U64) :
    unitWhole (cleanSt a sf) (natDigits x) unit = cleanSt (a + x * unit) sf := by
  have hmul := mul64_small (x := x) (y := unit) (by omega)
  have hadd := add64_small hsum
  have hdec : decide (unit > hourNs) = false := by simp [hunit]
  unfold unitWhole cleanSt
  simp only [trimLeadingZeros_natDigits, parseUint_natDigits hx, hmul, hadd, hdec]
  rfl

theorem unitFrac_second (ff : FloatFrac) (a f : Nat) (ds : Bytes) (hne : ds ≠ [])
    (hpad : parsePaddedBase10 ds secondNs = (f, true)) (hsum : a + f < U64) :
    unitFrac ff (cleanSt a false) ds secondNs = cleanSt (a + f) true := by
  have hadd := add64_small hsum
  have hlen : decide (ds.length = 0) = false := by
    cases ds with
    | nil => exact absurd rfl hne
    | cons _ _ => rfl
  have hu : decide (secondNs > hourNs) = false := by decide
  unfold unitFrac cleanSt
  simp only [if_true, hpad, hlen, hu, hadd]
  rfl

theorem mayParseUnit_absent (ff : FloatFrac) (st : IsoSt) (b : Bytes) (hi lo : UInt8) (unit : Nat)
    (h : ∀ c ∈ b, c ≠ hi ∧ c ≠ lo) : mayParseUnit ff st b hi lo unit = (st, b) := by
  have hc := cutBytes_absent hi lo b h
  unfold mayParseUnit
  simp only [hc]
  simp

theorem mayParseUnit_whole (ff : FloatFrac) (a x : Nat) (rest : Bytes) (hi lo : UInt8) (unit : Nat)
    (hhi : hi.toNat < 48 ∨ 57 < hi.toNat) (hlo : lo.toNat < 48 ∨ 57 < lo.toNat)
    (hunit : ¬ unit > hourNs) (hsum : a + x * unit < U64) (hx : x < U64) :
    mayParseUnit ff (cleanSt a false) (natDigits x ++ hi :: rest) hi lo unit = (cleanSt (a + x * unit) false, rest) := by
  have hc1 := cutBytes_present hi lo _ rest (digits_avoid (natDigits_allDigits x) hhi hlo)
  have hc2 := cutBytes_absent cDot cComma _ (digits_avoid (natDigits_allDigits x)
    (by decide : cDot.toNat < 48 ∨ 57 < cDot.toNat) (by decide : cComma.toNat < 48 ∨ 57 < cComma.toNat))
  have hw := unitWhole_digits a x unit false hunit hsum hx
  have hsf : (cleanSt a false).sawFrac = false := rfl
  unfold mayParseUnit
  simp only [hc1, hc2, hsf]
  simp
  exact hw

theorem mayParseUnit_secFrac (ff : FloatFrac) (a x f : Nat) (ds rest : Bytes) (hne : ds ≠ [])
    (hds : ds.all isDigit = true) (hpad : parsePaddedBase10 ds secondNs = (f, true))
    (hsum : a + f + x * secondNs < U64) (hx : x < U64) :
    mayParseUnit ff (cleanSt a false) (natDigits x ++ (cDot :: ds) ++ 83 :: rest) 83 115 secondNs
      = (cleanSt (a + f + x * secondNs) true, rest) := by
  have hav : ∀ c ∈ natDigits x ++ (cDot :: ds), c ≠ (83 : UInt8) ∧ c ≠ (115 : UInt8) := by
    intro c hc
    rcases List.mem_append.mp hc with h | h
    · exact digits_avoid (natDigits_allDigits x) (by decide) (by decide) c h
    · rcases List.mem_cons.mp h with h | h
      · subst h; decide
      · exact digits_avoid hds (by decide) (by decide) c h
  have hc1 := cutBytes_present 83 115 _ rest hav
  have hc2 := cutBytes_present cDot cComma _ ds (digits_avoid (natDigits_allDigits x)
    (by decide : cDot.toNat < 48 ∨ 57 < cDot.toNat) (by decide : cComma.toNat < 48 ∨ 57 < cComma.toNat))
  have hf := unitFrac_second ff a f ds hne hpad (by omega)
  have hw := unitWhole_digits (a + f) x secondNs true (by decide) hsum hx
  have hsf : (cleanSt a false).sawFrac = false := rfl
  unfold mayParseUnit
  simp only [hc1, hc2, hsf, hf]
  simp
  exact hw

end JsonV.Model.Time
