/-
Wrap-around facts (`toU64`, `toI64`, `wrapI`), `negateSecNano`, and the round trip of the decimal
duration codec `appendDurationBase10`/`parseDurationBase10` for every int64.
-/
import JsonV.Lemmas.TimePadded
import JsonV.Lemmas.TimeUint

namespace JsonV.Model.Time
open JsonV

theorem toU64_nonneg {i : Int} (h0 : 0 ≤ i) (h1 : i < 18446744073709551616) : toU64 i = i.toNat :=
  congrArg Int.toNat (Int.emod_eq_of_lt h0 h1)
theorem toU64_neg {i : Int} (h0 : i < 0) (h1 : -18446744073709551616 ≤ i) : toU64 i = (i + 18446744073709551616).toNat := by
  show (i % 18446744073709551616).toNat = _
  rw [← Int.add_emod_right, Int.emod_eq_of_lt (by omega) (by omega)]
theorem toI64_small {n : Nat} (h : n < 9223372036854775808) : toI64 n = n := by
  have hm : n % U64 = n := Nat.mod_eq_of_lt (Nat.lt_trans h (by decide))
  rw [toI64, hm]
  exact if_pos h
theorem toI64_big {n : Nat} (h1 : 9223372036854775808 ≤ n) (h2 : n < 18446744073709551616) : toI64 n = (n : Int) - 18446744073709551616 := by
  have hm : n % U64 = n := Nat.mod_eq_of_lt h2
  rw [toI64, hm]
  exact if_neg (Nat.not_lt.2 h1)

theorem wrapI_id {i : Int} (h0 : -9223372036854775808 ≤ i) (h1 : i < 9223372036854775808) : wrapI i = i := by
  unfold wrapI
  by_cases hi : 0 ≤ i
  · rw [toU64_nonneg hi (by omega), toI64_small (by omega)]; omega
  · rw [toU64_neg (by omega) (by omega), toI64_big (by omega) (by omega)]; omega

theorem toU64_lt (i : Int) : toU64 i < 18446744073709551616 :=
  (Int.toNat_lt (Int.emod_nonneg i (by decide))).2 (Int.emod_lt_of_pos i (by decide))

theorem toU64_toI64 {n : Nat} (h : n < 18446744073709551616) : toU64 (toI64 n) = n := by
  by_cases hs : n < 9223372036854775808
  · rw [toI64_small hs, toU64_nonneg (Int.natCast_nonneg n) (by omega)]; exact Int.toNat_natCast n
  · rw [toI64_big (by omega) h, toU64_neg (by omega) (by omega)]; omega

/-- `^sec` of an int64 is `-sec - 1`. -/
theorem toI64_compl {i : Int} (h0 : -9223372036854775808 ≤ i) (h1 : i < 9223372036854775808) :
    toI64 (U64 - 1 - toU64 i) = -i - 1 := by
  unfold U64
  by_cases hi : 0 ≤ i
  · rw [toU64_nonneg hi (by omega), toI64_big (by omega) (by omega)]; omega
  · rw [toU64_neg (by omega) (by omega), toI64_small (by omega)]; omega

theorem negate_spec (sec nsec : Int) (hs0 : -9223372036854775808 ≤ sec) (hs1 : sec < 9223372036854775808)
    (hn0 : 0 ≤ nsec) (hn1 : nsec < 1000000000) :
    negateSecNano sec nsec = (if nsec = 0 then (if sec = -9223372036854775808 then sec else -sec) else -sec - 1, if nsec = 0 then 0 else 1000000000 - nsec) := by
  have e1 : wrapI (wrapI (-nsec) + 1000000000) = 1000000000 - nsec := by
    rw [wrapI_id (i := -nsec) (by omega) (by omega), wrapI_id (by omega) (by omega)]; omega
  unfold negateSecNano
  simp only [e1, toI64_compl hs0 hs1]
  by_cases h0 : nsec = 0
  · subst h0
    rw [if_pos rfl, if_pos rfl]
    by_cases hm : sec = -9223372036854775808
    · subst hm; decide
    · rw [if_neg hm, Int.sub_zero, Int.tdiv_self (by decide), Int.tmod_self, show -sec - 1 + 1 = -sec by omega,
        wrapI_id (by omega) (by omega)]
  · have hq : (1000000000 - nsec).tdiv 1000000000 = 0 := Int.tdiv_eq_zero_of_lt (by omega) (by omega)
    have hr : (1000000000 - nsec).tmod 1000000000 = 1000000000 - nsec := Int.tmod_eq_of_lt (by omega) (by omega)
    rw [if_neg h0, if_neg h0, hq, hr, Int.add_zero, wrapI_id (by omega) (by omega)]

theorem negate_range (sec nsec : Int) (hs0 : -9223372036854775808 ≤ sec) (hs1 : sec < 9223372036854775808)
    (hn0 : 0 ≤ nsec) (hn1 : nsec < 1000000000) :
    -9223372036854775808 ≤ (negateSecNano sec nsec).1 ∧ (negateSecNano sec nsec).1 < 9223372036854775808 ∧
    0 ≤ (negateSecNano sec nsec).2 ∧ (negateSecNano sec nsec).2 < 1000000000 := by
  rw [negate_spec sec nsec hs0 hs1 hn0 hn1]
  by_cases h0 : nsec = 0
  · subst h0; simp only [if_true]
    by_cases hm : sec = -9223372036854775808
    · subst hm; simp
    · rw [if_neg hm]; omega
  · rw [if_neg h0, if_neg h0]; omega

/-- Also at `MinInt64`, where the negation of the seconds wraps both times. -/
theorem negate_involutive (sec nsec : Int) (hs0 : -9223372036854775808 ≤ sec) (hs1 : sec < 9223372036854775808)
    (hn0 : 0 ≤ nsec) (hn1 : nsec < 1000000000) :
    negateSecNano (negateSecNano sec nsec).1 (negateSecNano sec nsec).2 = (sec, nsec) := by
  obtain ⟨r1, r2, r3, r4⟩ := negate_range sec nsec hs0 hs1 hn0 hn1
  rw [negate_spec _ _ r1 r2 r3 r4, negate_spec sec nsec hs0 hs1 hn0 hn1]
  by_cases h0 : nsec = 0
  · subst h0
    by_cases hm : sec = -9223372036854775808
    · subst hm; decide
    · simp only [if_true, if_neg hm]
      rw [if_neg (by omega), Int.neg_neg]
  · simp only [if_neg h0]
    rw [if_neg (by omega)]
    congr 1 <;> omega

theorem mul64_small {x y : Nat} (h : x * y < U64) : mul64 x y = (0, x * y) := by
  rw [mul64, Nat.div_eq_of_lt h, Nat.mod_eq_of_lt h]

theorem add64_small {x y : Nat} (h : x + y < U64) : add64 x y 0 = (x + y, 0) := by
  rw [add64, Nat.add_zero, Nat.div_eq_of_lt h, Nat.mod_eq_of_lt h]

theorem mayAppend_spec (b : Bytes) (d : Int) (h0 : -9223372036854775808 ≤ d) (h1 : d < 9223372036854775808) :
    mayAppendDurationSign b d = (if d < 0 then b ++ [cMinus] else b, d.natAbs) := by
  unfold mayAppendDurationSign
  by_cases hn : d < 0
  · rw [if_pos hn, if_pos hn]
    rw [wrapI, toU64_toI64 (toU64_lt _), toU64_nonneg (by omega) (by omega)]
    congr 1
    omega
  · rw [if_neg hn, if_neg hn, toU64_nonneg (by omega) (by omega)]; congr 1; omega

/-- The magnitude 2^63 wraps to MinInt64. -/
theorem mayApply_natAbs (d : Int) (h0 : -9223372036854775808 ≤ d) (h1 : d < 9223372036854775808) :
    mayApplyDurationSign d.natAbs (decide (d < 0)) = d := by
  unfold mayApplyDurationSign
  by_cases hn : d < 0
  · simp only [hn, decide_true, if_true]
    by_cases hm : d = -9223372036854775808
    · subst hm; decide
    · rw [toI64_small (by omega), wrapI_id (by omega) (by omega)]; omega
  · simp only [hn, decide_false, Bool.false_eq_true, if_false]
    rw [toI64_small (by omega), wrapI_id (by omega) (by omega)]; omega

theorem consumeSign_minus (rest : Bytes) (ap : Bool) : consumeSign (cMinus :: rest) ap = (rest, true) := by
  simp [consumeSign]

theorem consumeSign_digit (c : UInt8) (rest : Bytes) (h : isDigit c = true) (ap : Bool) :
    consumeSign (c :: rest) ap = (c :: rest, false) := by
  have h1 : c ≠ cMinus := digit_ne h (by decide)
  have h2 : c ≠ cPlus := digit_ne h (by decide)
  simp [consumeSign, h1, h2]

theorem consumeSign_natDigits (n : Nat) (rest : Bytes) (ap : Bool) :
    consumeSign (natDigits n ++ rest) ap = (natDigits n ++ rest, false) := by
  obtain ⟨c, cs, hd, hc⟩ := natDigits_cons n
  rw [hd]
  exact consumeSign_digit c _ hc ap

theorem consumeSign_sign (neg : Bool) (n : Nat) (rest : Bytes) :
    consumeSign ((if neg then [cMinus] else []) ++ (natDigits n ++ rest)) false = (natDigits n ++ rest, neg) := by
  cases neg with
  | true => simp only [if_true]; exact consumeSign_minus _ _
  | false => simp only [Bool.false_eq_true, if_false, List.nil_append]; exact consumeSign_natDigits _ _ _

theorem bytesCutByte_digits (ds rest : Bytes) (hd : ds.all isDigit = true)
    (hr : rest = [] ∨ ∃ t, rest = cDot :: t) : bytesCutByte cDot true (ds ++ rest) = (ds, rest) := by
  induction ds with
  | nil =>
    rcases hr with rfl | ⟨t, rfl⟩
    · rfl
    · simp [bytesCutByte]
  | cons c cs ih =>
    simp only [List.all_cons, Bool.and_eq_true] at hd
    have hne : c ≠ cDot := digit_ne hd.1 (by decide)
    rw [List.cons_append, bytesCutByte, if_neg hne, ih hd.2]

theorem fracText_dot (k f : Nat) : fracText k f = [] ∨ ∃ t, fracText k f = cDot :: t := by
  rcases fracText_shape k f with h | ⟨ds, h, _⟩
  · exact Or.inl h
  · exact Or.inr ⟨ds, h⟩

theorem parseDur_canonical (k whole frac : Nat) (neg : Bool) (hf : frac < 10 ^ k)
    (hn : whole * 10 ^ k + frac < U64) (hk : 0 < 10 ^ k) :
    parseDurationBase10 ((if neg then [cMinus] else []) ++ (natDigits whole ++ fracText k frac)) (10 ^ k) =
      (let d := mayApplyDurationSign (whole * 10 ^ k + frac) neg
       if neg ≠ decide (d < 0) then .error .range else .ok d) := by
  have hw : whole < U64 := by
    have : whole ≤ whole * 10 ^ k := Nat.le_mul_of_pos_right _ hk
    omega
  have hcs := consumeSign_sign neg whole (fracText k frac)
  have hcut := bytesCutByte_digits (natDigits whole) (fracText k frac) (natDigits_allDigits _) (fracText_dot k frac)
  have hpu := parseUint_natDigits hw
  have hpf := parseFrac_fracText k frac hf
  have hmul := mul64_small (x := whole) (y := 10 ^ k) (by omega)
  have hadd := add64_small hn
  unfold parseDurationBase10
  simp only [hcs, hcut, hpu, hpf, hmul, hadd]
  simp

/-- C04's `durB10_rt` is this at the bases in use, which are powers of ten. -/
theorem durB10_roundtrip_pow (k : Nat) (d : Int) (h0 : -9223372036854775808 ≤ d) (h1 : d < 9223372036854775808) :
    parseDurationBase10 (appendDurationBase10 [] d (10 ^ k)) (10 ^ k) = .ok d := by
  have hk : 0 < 10 ^ k := Nat.pow_pos (by decide)
  have hfr : d.natAbs % 10 ^ k < 10 ^ k := Nat.mod_lt _ hk
  have happ : appendDurationBase10 [] d (10 ^ k) =
      (if decide (d < 0) then [cMinus] else []) ++ (natDigits (d.natAbs / 10 ^ k) ++ fracText k (d.natAbs % 10 ^ k)) := by
    unfold appendDurationBase10
    rw [mayAppend_spec [] d h0 h1]
    simp only [div64, Nat.zero_mul, Nat.zero_add]
    rw [appendFrac_eq _ k _ hfr]
    by_cases hn : d < 0 <;> simp [hn]
  have hsum : d.natAbs / 10 ^ k * 10 ^ k + d.natAbs % 10 ^ k = d.natAbs := by
    rw [Nat.mul_comm]; exact Nat.div_add_mod _ _
  rw [happ, parseDur_canonical k _ _ _ hfr (by rw [hsum]; simp only [U64]; omega) hk, hsum]
  simp only [mayApply_natAbs d h0 h1]
  simp

end JsonV.Model.Time
