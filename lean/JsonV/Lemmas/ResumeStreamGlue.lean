/-
Bridge between the whole-input functions of the refill lemmas (Model/Resume.lean scanners) and the functions the
whole-buffer token model uses (Model/Validate.lean: valueLiteral / valueString / valueNumber with their inlinable
fast paths), via GlueResume and GlueResumeStr.  The fast paths never change an answer.
-/
import JsonV.Lemmas.ResumeStream
import JsonV.Lemmas.GlueResume
import JsonV.Lemmas.GlueResumeStr
import JsonV.Lemmas.WireValue
import JsonV.Lemmas.WireBasic
import JsonV.Lemmas.WireNumberScan

namespace JsonV.Model.Stream
open JsonV JsonV.Model JsonV.Model.Validate
open JsonV.Lemmas.GlueResume JsonV.Lemmas.WireBasic JsonV.Lemmas.WireNumber

theorem toWire_eq (e : Resume.Err) : toWire e = eR e := by cases e <;> rfl
theorem toWireFlags_eq (f : Resume.VFlags) : toWireFlags f = fR f := rfl

theorem wsW_wire (t : Bytes) :
    wsW t = (Wire.consumeWhitespace t, decide (Wire.consumeWhitespace t ≠ t.length)) := by
  unfold wsW
  rw [ws_eq]
  split <;> simp_all

theorem valueLiteral_eq (lit t : Bytes) (hl : lit ≠ []) :
    valueLiteral lit t = ((litW lit t).1, toWire (litW lit t).2) := by
  rw [JsonV.Lemmas.WireValue.valueLiteral_eq lit t hl, litW, toWire_eq, lit_eq]

theorem valueString_eq (o : VOpts) (t : Bytes) :
    valueString o t = ((strW (!o.allowInvalidUTF8) t).1, toWireFlags (strW (!o.allowInvalidUTF8) t).2.1,
      toWire (strW (!o.allowInvalidUTF8) t).2.2) := by
  have hv : valueString o t = Wire.consumeStringResumable t 0 (!o.allowInvalidUTF8) :=
    JsonV.Lemmas.WireValue.valueString_eq_consumeString o t
  rw [hv, wire_string_eq, toWire_eq, toWireFlags_eq]; rfl

theorem consumeNumberD_eq (t : Bytes) : consumeNumberD t = ((numW t).1, toWire (numW t).2) := by
  have hg := number_resumable_eq t 0 0
  have hb := Resume.num_bound t
  unfold consumeNumberD numW
  rw [Resume.consumeNumberChunks_nil]
  simp only [Wire.stInit, ← hg, mapNum]
  rcases hr : Resume.consumeNumberResumable t 0 0 with ⟨n, st, e⟩
  rw [hr] at hb
  simp only at hb ⊢
  have hl : Wire.lenLt t (n + 1) = decide (n = t.length) := by
    rw [Bool.eq_iff_iff, lenLt_iff, decide_eq_true_iff]; omega
  rw [hl]
  cases e <;> by_cases h : n = t.length <;> simp [eR, toWire, h]

theorem valueNumber_eq (t : Bytes) : valueNumber t = ((numW t).1, toWire (numW t).2) := by
  rw [← consumeNumberD_eq]
  unfold valueNumber
  by_cases h : (Wire.consumeSimpleNumber t == 0 || Wire.lenLt t (Wire.consumeSimpleNumber t + 1)) = true
  · simp [h]
  · simp only [h, Bool.false_eq_true, if_false]
    simp at h
    obtain ⟨h0, h1⟩ := h
    have hs := simple_number_sound' t h0
    unfold Wire.consumeNumber at hs
    unfold consumeNumberD
    rcases hr : Wire.consumeNumberResumable t 0 Wire.stInit with ⟨n, st, e⟩
    rw [hr] at hs
    simp only at hs ⊢
    injection hs with hn he
    subst hn; subst he
    simp [h1]

end JsonV.Model.Stream
