/-
`{}` is a unit of `merge` on objects, and `merge` is idempotent on trees without repeated names: unmarshaling the
same text a second time into the value it produced changes nothing, at tree level.
-/
import JsonV.Lemmas.MergeFold

namespace JsonV.Lemmas.Merge
open JsonV JsonV.Spec

theorem mergeL_nil_right : ∀ (ms : List (Bytes × JTree)), JTree.mergeL ms [] = ms
  | [] => by simp [JTree.mergeL]
  | (n, a) :: rest => by
    rw [JTree.mergeL]; simp [alookup, mergeL_nil_right rest]

theorem merge_empty_object (ms : List (Bytes × JTree)) :
    JTree.merge (.obj ms) (.obj []) = .obj ms ∧ JTree.merge (.obj []) (.obj ms) = .obj ms := by
  constructor
  · rw [JTree.merge]; simp [mergeL_nil_right]
  · rw [JTree.merge]; simp [JTree.mergeL, ahas, alookup]

theorem mergeL_self_sub (ms : List (Bytes × JTree)) (hnd : (akeys ms).Nodup) :
    ∀ sub : List (Bytes × JTree), (∀ p ∈ sub, p ∈ ms) → (∀ n x, (n, x) ∈ sub → JTree.merge x x = x) →
      JTree.mergeL sub ms = sub
  | [], _, _ => by simp [JTree.mergeL]
  | (n, a) :: rest, hsub, hfix => by
    rw [JTree.mergeL]
    have hl : alookup n ms = some a := alookup_of_mem hnd (hsub _ List.mem_cons_self)
    rw [hl]
    simp only
    rw [hfix n a List.mem_cons_self,
      mergeL_self_sub ms hnd rest (fun p hp => hsub p (List.mem_cons_of_mem _ hp))
        (fun m x hx => hfix m x (List.mem_cons_of_mem _ hx))]

theorem merge_self : ∀ a : JTree, a.dupFree = true → JTree.merge a a = a := by
  intro a
  induction a using JTree.induct with
  | hobj ms ih =>
    intro hd
    rw [dupFree_obj] at hd
    rw [JTree.merge]
    have h1 : JTree.mergeL ms ms = ms :=
      mergeL_self_sub ms hd.1 ms (fun _ h => h) (fun n x hx => ih n x hx (hd.2 n x hx))
    have h2 : ms.filter (fun p => !(ahas p.1 ms)) = [] := by
      rw [List.filter_eq_nil_iff]
      intro p hp
      simp [(ahas_iff p.1 ms).2 (List.mem_map_of_mem hp)]
    rw [h1, h2, List.append_nil]
  | _ => intro _; exact merge_nonobj _ _ (Or.inl rfl)

end JsonV.Lemmas.Merge
