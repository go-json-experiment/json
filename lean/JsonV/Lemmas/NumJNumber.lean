/-
C10 glue: the number texts this slice produces or accepts are numbers of the C01 grammar
(`Spec.Grammar.JNumber`, RFC 8259 §6); and the recogniser of Spec/Ecma, `isJsonNumber`, accepts exactly that grammar
(`isJsonNumber_iff`): it is the scanner `pNumber` of Spec/ValidJson run to the end of the text (`isJsonNumber_eq`; the two
recursive descents test the same bytes in the same order), and `pNumber` is the longest match of the number automaton.
-/
import JsonV.Lemmas.GrammarL
import JsonV.Lemmas.NumGrammar
import JsonV.Lemmas.NumInt
import JsonV.Lemmas.EncInvSound

namespace JsonV.Lemmas.NumJNumber
open JsonV JsonV.Spec.Ecma JsonV.Spec.Grammar JsonV.Lemmas.NumFloat JsonV.Lemmas.NumGrammar JsonV.Lemmas.NumParse

theorem isDigit_iff_digit (c : UInt8) : Spec.Ecma.isDigit c = true ↔ Digit c := (WireNumber.digit_iff c).symm

theorem digits0_of_all (l : Bytes) (h : ∀ c ∈ l, Spec.Ecma.isDigit c = true) : Digits0 l :=
  fun c hc => (isDigit_iff_digit c).1 (h c hc)

theorem digit19_of (c : UInt8) (h : Spec.Ecma.isDigit c = true) (h0 : c ≠ 48) : Digit19 c :=
  digit19_iff.2 ⟨(isDigit_iff_digit c).1 h, h0⟩

theorem sgn_minus (neg : Bool) : sgn neg = [] ∨ sgn neg = [0x2D] := by
  cases neg
  · exact Or.inl rfl
  · exact Or.inr rfl

theorem jint_of_canonical (b : Bytes) (h : canonicalDecimal b = true) : JInt b := by
  obtain ⟨hne, hdig, hlead⟩ := (JsonV.Lemmas.NumParse.canonical_iff b).1 h
  cases b with
  | nil => exact absurd rfl hne
  | cons c t =>
    by_cases hc : c = 48
    · rcases hlead with hl | hl
      · exact absurd (by simp [hc]) hl
      · rw [hl]; exact JInt.zero
    · exact JInt.nonzero c t (digit19_of c (hdig c (by simp)) hc)
        (digits0_of_all t (fun x hx => hdig x (by simp [hx])))

theorem canonical_of_jint (b : Bytes) (h : JInt b) : canonicalDecimal b = true := by
  cases h with
  | zero => decide
  | nonzero d ds hd hds =>
    have hd' : Spec.Ecma.isDigit d = true := (isDigit_iff_digit d).2 hd.digit
    have hne : d ≠ 48 := (digit19_iff.1 hd).2
    refine (JsonV.Lemmas.NumParse.canonical_iff _).2 ⟨List.cons_ne_nil d ds, ?_, Or.inl (by simpa using hne)⟩
    intro c hc
    rcases List.mem_cons.1 hc with h | h
    · rw [h]; exact hd'
    · exact (isDigit_iff_digit c).2 (hds c h)

theorem jnumber_of_canonical (b : Bytes) (h : canonicalDecimal b = true) : JNumber b :=
  JNumber.of_int (.inl rfl) (jint_of_canonical b h)

theorem jnumber_of_intLit (b : Bytes) (h : isIntLit b = true) : JNumber b := by
  unfold isIntLit at h
  split at h
  · rename_i t
    exact JNumber.of_int (.inr rfl) (jint_of_canonical t h)
  · exact jnumber_of_canonical b h

theorem not_frac_byte_of_digit (c : UInt8) (h : Digit c) : (c == 46 || c == 101 || c == 69) = false := by
  have := (isDigit_iff_digit c).2 h
  cases hh : (c == 46 || c == 101 || c == 69) with
  | false => rfl
  | true => rw [JsonV.Lemmas.NumInt.not_digit_frac c hh] at this; exact absurd this (by decide)

theorem intLit_iff_noFrac (lit : Bytes) (h : JNumber lit) : isIntLit lit = true ↔ hasFracOrExp lit = false := by
  constructor
  · exact JsonV.Lemmas.NumInt.intLit_no_frac lit
  · intro hn
    cases h with
    | mk minus int frac exp hm hi hf he =>
      rw [hasFracOrExp, List.any_eq_false] at hn
      have hfrac : frac = [] := by
        cases hf with
        | none => rfl
        | some ds _ => exact absurd (hn 0x2E (by simp)) (by decide)
      have hexp : exp = [] := by
        cases he with
        | none => rfl
        | some e sign ds hee _ _ =>
          rcases hee with h | h <;> subst h
          · exact absurd (hn 0x65 (by simp)) (by decide)
          · exact absurd (hn 0x45 (by simp)) (by decide)
      subst hfrac hexp
      have hcan := canonical_of_jint int hi
      rcases hm with h | h <;> subst h
      · simpa using (JsonV.Lemmas.NumInt.isIntLit_of_canonical int hcan).1
      · show isIntLit ([0x2D] ++ int ++ [] ++ []) = true
        simpa [isIntLit] using hcan

theorem canonical_iff_noFrac (lit : Bytes) (h : JNumber lit) :
    canonicalDecimal lit = true ↔ hasFracOrExp lit = false ∧ lit.head? ≠ some 45 := by
  refine ⟨fun hc => ⟨JsonV.Lemmas.NumInt.canonical_no_frac lit hc, JsonV.Lemmas.NumInt.canonical_not_minus lit hc⟩, ?_⟩
  rintro ⟨hf, hm⟩
  rw [← (JsonV.Lemmas.NumInt.unsigned_lit lit hm).1]
  exact (intLit_iff_noFrac lit h).2 hf

theorem jexp_expOpt (xo : Option Int) : JExp (expOpt xo) := by
  cases xo with
  | none => exact JExp.none
  | some x =>
    have hd : Digits1 ((decimal x.natAbs).map dig) :=
      ⟨fun h => decimal_ne_nil x.natAbs (List.map_eq_nil_iff.1 h), digits0_of_all _ (map_dig_digits _ (decimal_lt _))⟩
    show JExp ([101] ++ (if x < 0 then [45] else [43]) ++ (decimal x.natAbs).map dig)
    by_cases h : x < 0
    · rw [if_pos h]; exact JExp.some 101 [45] _ (Or.inl rfl) (Or.inr (Or.inl rfl)) hd
    · rw [if_neg h]; exact JExp.some 101 [43] _ (Or.inl rfl) (Or.inr (Or.inr rfl)) hd

theorem jfrac_fracText (fp : Bytes) (hfp : ∀ c ∈ fp, Spec.Ecma.isDigit c = true) : JFrac (fracText fp) := by
  cases fp with
  | nil => exact JFrac.none
  | cons a t => exact JFrac.some _ ⟨List.cons_ne_nil a t, digits0_of_all _ hfp⟩

theorem jnumber_numText (neg : Bool) (ip fp : Bytes) (xo : Option Int) (hip : canonicalDecimal ip = true)
    (hfp : ∀ c ∈ fp, Spec.Ecma.isDigit c = true) : JNumber (sgn neg ++ numText ip fp xo) :=
  JNumber.mk' (sgn_minus neg) (jint_of_canonical ip hip) (jfrac_fracText fp hfp) (jexp_expOpt xo)

theorem jnumber_numberToString (neg : Bool) (ds : List Nat) (n : Int) (h : WFD ds n) :
    JNumber (numberToString neg ds n) := by
  by_cases hne : ds = []
  · subst hne
    rw [h.2.2.1 rfl]
    exact JNumber.of_int (sgn_minus neg) .zero
  · obtain ⟨ip, fp, xo, hl, hip, hfp, _⟩ := layout_parts ds n h hne
    rw [numberToString_eq, hl]
    exact jnumber_numText neg ip fp xo hip hfp

theorem jnumber_appendFloat (neg : Bool) (ds : List Nat) (n : Int) (h : WFD ds n) :
    JNumber (Model.Number.appendFloat neg ds n) := by
  rw [appendFloat_eq_ecma neg ds n h]; exact jnumber_numberToString neg ds n h

open JsonV.Spec.ValidJson (pNumber pInt pFrac pExp pExpDigits dropDigits)

/-- The result of a scanner of Spec/ValidJson is success with nothing left: the scan has reached the end of the text. -/
def done : Option Bytes → Bool
  | some [] => true
  | _ => false

theorem vjDigit_eq : Spec.ValidJson.isDigit = Spec.Ecma.isDigit := rfl

theorem or_beq {c a b : UInt8} : (c == a || c == b) = true ↔ c = a ∨ c = b := by
  rw [Bool.or_eq_true, beq_iff_eq, beq_iff_eq]

theorem dropDigits_eq (b : Bytes) : dropDigits b = b.dropWhile Spec.Ecma.isDigit := by
  induction b with
  | nil => rfl
  | cons c r ih =>
    rw [dropDigits, List.dropWhile_cons, ih]
    rfl

theorem afterExpSign_eq (t : Bytes) : afterExpSign t = done (pExpDigits t) := by
  cases t with
  | nil => rfl
  | cons d r =>
    rw [afterExpSign, pExpDigits, dropDigits_eq, vjDigit_eq]
    by_cases hd : Spec.Ecma.isDigit d = true
    · rw [if_pos hd, hd, List.dropWhile_cons_of_pos hd]
      cases r.dropWhile Spec.Ecma.isDigit <;> rfl
    · rw [if_neg hd, Bool.eq_false_iff.2 hd]
      rfl

theorem afterFrac_eq (r : Bytes) : afterFrac r = done (pExp r) := by
  cases r with
  | nil => rfl
  | cons c t =>
    simp only [afterFrac, pExp]
    by_cases he : (c == 101 || c == 69) = true
    · rw [if_pos he, if_pos (or_beq.1 he)]
      cases t with
      | nil => rfl
      | cons s u =>
        dsimp only
        by_cases hs : (s == 43 || s == 45) = true
        · rw [if_pos hs, if_pos (or_beq.1 hs), afterExpSign_eq]
        · rw [if_neg hs, if_neg (mt or_beq.2 hs), afterExpSign_eq]
    · rw [if_neg he, if_neg (mt or_beq.2 he)]
      rfl

theorem afterInt_eq (r : Bytes) : afterInt r = done ((pFrac r).bind pExp) := by
  cases r with
  | nil => rfl
  | cons c t =>
    simp only [afterInt, EncInvL.pFrac_cons]
    by_cases hc : (c == 46) = true
    · rw [if_pos hc, if_pos (beq_iff_eq.1 hc)]
      cases t with
      | nil => rfl
      | cons d u =>
        dsimp only
        rw [pExpDigits, vjDigit_eq, dropDigits_eq]
        by_cases hd : Spec.Ecma.isDigit d = true
        · rw [if_pos hd, hd, List.dropWhile_cons_of_pos hd, Bool.true_and, afterFrac_eq]; rfl
        · rw [if_neg hd, Bool.eq_false_iff.2 hd]; rfl
    · rw [if_neg hc, if_neg (mt beq_iff_eq.2 hc), afterFrac_eq]; rfl

theorem unsignedNumber_eq (b : Bytes) : unsignedNumber b = done ((pInt b).bind fun s => (pFrac s).bind pExp) := by
  cases b with
  | nil => rfl
  | cons c r =>
    rw [unsignedNumber, pInt, vjDigit_eq, dropDigits_eq]
    by_cases h0 : (c == 48) = true
    · rw [if_pos h0, if_pos (beq_iff_eq.1 h0), afterInt_eq]; rfl
    · have h0' : c ≠ 0x30 := mt beq_iff_eq.2 h0
      rw [if_neg h0, if_neg h0']
      by_cases hd : Spec.Ecma.isDigit c = true
      · rw [if_pos hd, show (49 ≤ c && c ≤ 57) = true from (EncInvL.isDigit19_iff c).2 ⟨hd, h0'⟩, Bool.true_and, afterInt_eq]
        rfl
      · rw [if_neg hd, show (49 ≤ c && c ≤ 57) = false from Bool.eq_false_iff.2 fun h => hd ((EncInvL.isDigit19_iff c).1 h).1]
        rfl

theorem isJsonNumber_eq (b : Bytes) : isJsonNumber b = done (pNumber b) := by
  cases b with
  | nil => rfl
  | cons c r =>
    show (if c == 45 then unsignedNumber r else unsignedNumber (c :: r)) =
      done ((pInt (if c = 0x2d then r else c :: r)).bind fun s2 => (pFrac s2).bind pExp)
    by_cases hc : (c == 45) = true
    · rw [if_pos hc, if_pos (beq_iff_eq.1 hc), unsignedNumber_eq]
    · rw [if_neg hc, if_neg (mt beq_iff_eq.2 hc), unsignedNumber_eq]

theorem isJsonNumber_iff (b : Bytes) : isJsonNumber b = true ↔ JNumber b := by
  rw [isJsonNumber_eq]
  constructor
  · intro h
    match hp : pNumber b, h with
    | some [], _ =>
      obtain ⟨p, e, hj⟩ := EncInvSound.pNumber_sound hp
      rwa [e, List.append_nil]
  · intro h
    rw [EncInvSound.pNumber_complete b h]
    rfl

end JsonV.Lemmas.NumJNumber
