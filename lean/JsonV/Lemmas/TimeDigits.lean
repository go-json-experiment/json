/-
The digit bytes of Model/Time; `natDigits` and `padDigits` consist of digits, in the `List.all` form the Time files use.
The Time lemma files work in namespace `JsonV.Model.Time`; a definition one of them adds (here `decFrom`) serves the proofs
only: the model and the oracle do not have it.
-/
import JsonV.Lemmas.NumDigits

namespace JsonV.Model.Time
open JsonV JsonV.Lemmas.NumParse JsonV.Lemmas.NumDigits

theorem isDigit_iff (c : UInt8) : isDigit c = true ↔ 48 ≤ c.toNat ∧ c.toNat ≤ 57 :=
  Lemmas.NumParse.isDigit_iff c

theorem not_isDigit_of {c : UInt8} (h : c.toNat < 48 ∨ 57 < c.toNat) : isDigit c = false := by
  cases hc : isDigit c with
  | false => rfl
  | true => rw [isDigit_iff] at hc; omega

theorem digit_ne {c x : UInt8} (hc : isDigit c = true) (hx : x.toNat < 48 ∨ 57 < x.toNat) : c ≠ x := by
  rintro rfl
  rw [isDigit_iff] at hc
  omega

theorem digitVal_lt {c : UInt8} (hc : isDigit c = true) : digitVal c < 10 := by
  rw [isDigit_iff] at hc; simp [digitVal]; omega

/-- value of a digit string read from accumulator `a` (exact, no wrap). -/
def decFrom (a : Nat) (b : Bytes) : Nat := b.foldl (fun a c => 10 * a + digitVal c) a

theorem decFrom_nil (a : Nat) : decFrom a [] = a := rfl

theorem natDigits_lt {n : Nat} (h : n < 10) : natDigits n = [digitChar n] := by
  rw [natDigits, if_pos h]

theorem natDigits_allDigits (n : Nat) : (natDigits n).all isDigit = true :=
  List.all_eq_true.2 (natDigits_digits n)

theorem natDigits_cons (n : Nat) : ∃ c cs, natDigits n = c :: cs ∧ isDigit c = true := by
  obtain ⟨c, cs, h⟩ := List.exists_cons_of_ne_nil ((canonical_iff _).1 (natDigits_canonical n)).1
  exact ⟨c, cs, h, natDigits_digits n c (h ▸ List.mem_cons_self)⟩

theorem padDigits_allDigits (k n : Nat) : (padDigits k n).all isDigit = true :=
  List.all_eq_true.2 (padDigits_digits k n)

end JsonV.Model.Time
