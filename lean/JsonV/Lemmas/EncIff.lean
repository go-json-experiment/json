/-
`WriteToken` of the Encoder model against the specification: the invariant of reachable encoder states (`EncInv`:
machine invariant, namespaces = the names tracked along the history), the encoder at specification level (`Emits`:
PDA step, UTF-8 check, fresh names, rendered bytes), and one call as a refinement step between the two
(`writeToken_spec`), from the normal form of `writeToken` (EncRender).  At the end three facts about `Names.track`,
`PDA.run` and `innermostNames` on whole histories, which EncOps needs.
-/
import JsonV.Model.Encoder
import JsonV.Spec.Names
import JsonV.Lemmas.EncRender

namespace JsonV.Lemmas.EncIff
open JsonV JsonV.Model JsonV.Model.Encoder JsonV.Spec JsonV.Spec.PDA JsonV.Spec.Render JsonV.Spec.Names
open JsonV.Lemmas.StateRefine JsonV.Lemmas.StateRun JsonV.Lemmas.EncRender

/-- Whether a frame is an object's: `EncInv` keeps one namespace per such frame. -/
def isObj : Frame → Bool
  | .obj _ => true
  | .arr _ => false

/-- `e` is an encoder with options `o` whose machine abstracts to the frames `fs` (invariant `Inv` with
budget `b`) and whose namespace stack is `ns`, one entry per open object. -/
structure EncInv (o : Opts) (b : Nat) (fs : Frames) (ns : List (List Bytes)) (e : Enc) : Prop where
  opts : e.o = o
  inv : Inv o.maxDepth b e.m
  abs_eq : abs e.m = fs
  bottom : BottomArr fs
  names : o.allowDup = false → e.ns = ns ∧ ns.length = fs.countP isObj

theorem encInv_new (o : Opts) : EncInv o 0 PDA.init [] (Encoder.new o) :=
  ⟨rfl, inv_init _, abs_init, bottomArr_init, fun _ => ⟨rfl, rfl⟩⟩

theorem needName_isObj {f : Frame} (h : f.needName = true) : isObj f = true := by
  cases f <;> simp_all [Frame.needName, isObj]

theorem isObj_bump (f : Frame) : isObj f.bump = isObj f := by cases f <;> rfl
@[simp] theorem isObj_obj (n : Nat) : isObj (.obj n) = true := rfl
@[simp] theorem isObj_arr (n : Nat) : isObj (.arr n) = false := rfl

theorem last_needName {o : Opts} {b : Nat} {fs : Frames} {ns : List (List Bytes)} {e : Enc}
    (hI : EncInv o b fs ns e) : e.m.last.needObjectName = isNamePos fs := by
  rw [← hI.abs_eq, abs_cons]; simp [isNamePos, needName_abs]

/-- The name check in terms of the tracked names `ns`.  `cur` is the encoder's own namespace stack, returned where no check
is due; it is `ns` unless duplicates are allowed. -/
def nameCheckSpec (o : Opts) (fs : Frames) (ns cur : List (List Bytes)) (name : Bytes) :
    Except EncErr (List (List Bytes)) :=
  if isNamePos fs = true ∧ o.allowDup = false then
    match ns with
    | top :: rest =>
      if top.contains name then .error .dupName else .ok ((top ++ [name]) :: rest)
    | [] => .error .bug
  else .ok cur

theorem checkName_spec {o : Opts} {b : Nat} {fs : Frames} {ns : List (List Bytes)} {e : Enc}
    (hI : EncInv o b fs ns e) (lit : Bytes) :
    checkName e lit = nameCheckSpec o fs ns e.ns (unquote lit) := by
  simp only [nameCheckSpec, checkName, last_needName hI, hI.opts, valid_of_clean hI.inv.last,
    active_of_clean hI.inv.last]
  by_cases hd : o.allowDup = false
  · obtain ⟨h1, _⟩ := hI.names hd
    rw [h1]
    by_cases hn : isNamePos fs = true
    · simp only [hn, hd, Bool.not_false, Bool.and_self, Bool.not_true, Bool.false_eq_true, if_true,
        if_false, and_self]
      cases ns <;> rfl
    · simp [hn]
  · have : o.allowDup = true := by simpa using hd
    simp [this]

theorem nameCheck_str {o : Opts} {b : Nat} {fs : Frames} {ns : List (List Bytes)} {e : Enc}
    (hI : EncInv o b fs ns e) (s : Bytes) :
    nameCheck e (.str s) = nameCheckSpec o fs ns e.ns (nameOf o s) := by
  simp only [nameCheck, checkName_spec hI, nameOf, hI.opts]

theorem ns_nonempty {o : Opts} {b : Nat} {fs : Frames} {ns : List (List Bytes)} {e : Enc}
    (hI : EncInv o b fs ns e) (hd : o.allowDup = false) (hn : isNamePos fs = true) : ns ≠ [] := by
  obtain ⟨_, h2⟩ := hI.names hd
  intro h
  subst h
  cases fs with
  | nil => simp [isNamePos] at hn
  | cons f r =>
    simp only [isNamePos] at hn
    simp [needName_isObj hn] at h2

/-- The name-uniqueness condition on a token after a state with frames `fs` and names `ns`. -/
def Fresh (o : Opts) (fs : Frames) (ns : List (List Bytes)) (t : Tok) : Prop :=
  ∀ s, t = .str s → isNamePos fs = true → nameOf o s ∉ ns.headD []

/-- Newline after a token that returns to the top level. -/
def NL (fs : Frames) : Bytes := if fs.length = 1 then [0x0a] else []

/-- The encoder at specification level: from frames `fs` and names `ns` every token of `ts` is acceptable
(the PDA admits it, it passes the UTF-8 check, a member name is fresh), the tokens lead to `fs'`, `ns'`, and `out`
is what is written for them. -/
inductive Emits (o : Opts) : Frames → List (List Bytes) → List Tok → Bytes → Frames → List (List Bytes) → Prop
  | nil (fs ns) : Emits o fs ns [] [] fs ns
  | cons {fs fs1 fs' ns ns' t ts out} : step o.maxDepth fs (kindOf t) = some fs1 → badUTF8 o t = false →
      (o.allowDup = false → Fresh o fs ns t) → Emits o fs1 (namesStep o fs ns t) ts out fs' ns' →
      Emits o fs ns (t :: ts) (sepBytes o fs (kindOf t) ++ tokText o t ++ NL fs1 ++ out) fs' ns'

namespace Emits
variable {o : Opts} {fs fs1 fs' : Frames} {ns ns1 ns' : List (List Bytes)} {ts us : List Tok} {out out' : Bytes}

theorem append (h : Emits o fs ns ts out fs1 ns1) (h' : Emits o fs1 ns1 us out' fs' ns') :
    Emits o fs ns (ts ++ us) (out ++ out') fs' ns' := by
  induction h with
  | nil => exact h'
  | cons hs hb hf _ ih => rw [List.append_assoc]; exact cons hs hb hf (ih h')

theorem render (h : Emits o fs ns ts out fs' ns') : renderFrom o fs ts = out := by
  induction h with
  | nil => rfl
  | cons hs _ _ _ ih => simp only [renderFrom, hs, ih, NL]

theorem run (h : Emits o fs ns ts out fs' ns') : PDA.run o.maxDepth fs (ts.map kindOf) = some fs' := by
  induction h with
  | nil => rfl
  | cons hs _ _ _ ih => simp only [List.map_cons, PDA.run, hs, ih]

theorem track (h : Emits o fs ns ts out fs' ns') : Names.track o (fs, ns) ts = (fs', ns') := by
  induction h with
  | nil => rfl
  | cons hs _ _ _ ih => simp only [Names.track, hs, ih]

end Emits

theorem nameCheckSpec_ok_iff {o : Opts} {fs : Frames} {ns cur : List (List Bytes)} (name : Bytes)
    (hne : o.allowDup = false → isNamePos fs = true → ns ≠ []) :
    (∃ ns', nameCheckSpec o fs ns cur name = .ok ns') ↔
      (o.allowDup = false → isNamePos fs = true → name ∉ ns.headD []) := by
  unfold nameCheckSpec
  by_cases hd : o.allowDup = false
  · by_cases hn : isNamePos fs = true
    · cases ns with
      | nil => exact absurd rfl (hne hd hn)
      | cons top rest =>
        rw [if_pos ⟨hn, hd⟩]
        show (∃ ns', (if top.contains name = true then Except.error EncErr.dupName
          else Except.ok ((top ++ [name]) :: rest)) = Except.ok ns') ↔ _
        by_cases hc : top.contains name = true
        · rw [if_pos hc]
          constructor
          · rintro ⟨_, h⟩; cases h
          · intro h
            exact absurd (List.contains_iff_mem.mp hc) (h hd hn)
        · rw [if_neg hc]
          constructor
          · intro _ _ _ hm
            exact hc (List.contains_iff_mem.mpr hm)
          · intro _; exact ⟨_, rfl⟩
    · rw [if_neg (fun h => hn h.1)]
      constructor
      · intro _ _ h; exact absurd h hn
      · intro _; exact ⟨_, rfl⟩
  · rw [if_neg (fun h => hd h.2)]
    constructor
    · intro _ h; exact absurd h hd
    · intro _; exact ⟨_, rfl⟩

theorem nameCheck_ok_iff {o : Opts} {b : Nat} {fs : Frames} {ns : List (List Bytes)} {e : Enc}
    (hI : EncInv o b fs ns e) (t : Tok) :
    (∃ ns', nameCheck e t = .ok ns') ↔ (o.allowDup = false → Fresh o fs ns t) := by
  cases t
  case str s =>
    rw [nameCheck_str hI, nameCheckSpec_ok_iff (nameOf o s) (fun hd hn => ns_nonempty hI hd hn)]
    constructor
    · intro h hd s' hs hn; cases hs; exact h hd hn
    · intro h hd hn; exact h hd s rfl hn
  all_goals
    constructor
    · intro _ _ s hs; cases hs
    · intro _; exact ⟨_, rfl⟩

theorem step_countObj {max : Nat} {fs fs' : Frames} {k : Kind} (h : step max fs k = some fs') :
    fs'.countP isObj + (if k = .endObj then 1 else 0) = fs.countP isObj + (if k = .beginObj then 1 else 0) := by
  cases JsonV.Lemmas.StateStep.step_iff.mp h <;> simp [List.countP_cons, isObj_bump]

theorem namesStep_length (o : Opts) (fs : Frames) (ns : List (List Bytes)) (t : Tok) :
    (namesStep o fs ns t).length =
      if t = .beginObj then ns.length + 1 else if t = .endObj then ns.length - 1 else ns.length := by
  cases t <;> simp [namesStep]
  case str s =>
    split
    · cases ns <;> simp
    · rfl

/-- Names after a string with the given name (the `.str` case of `namesStep`). -/
def namesAfterName (fs : Frames) (ns : List (List Bytes)) (name : Bytes) : List (List Bytes) :=
  if isNamePos fs then
    match ns with
    | top :: rest => (top ++ [name]) :: rest
    | [] => []
  else ns

theorem namesStep_str (o : Opts) (fs : Frames) (ns : List (List Bytes)) (s : Bytes) :
    namesStep o fs ns (.str s) = namesAfterName fs ns (nameOf o s) := rfl

theorem nameCheckSpec_ok {o : Opts} {fs : Frames} {ns ns' : List (List Bytes)} {name : Bytes}
    (h : nameCheckSpec o fs ns ns name = .ok ns') (hd : o.allowDup = false) :
    ns' = namesAfterName fs ns name := by
  unfold nameCheckSpec at h
  unfold namesAfterName
  by_cases hn : isNamePos fs = true
  · rw [if_pos ⟨hn, hd⟩] at h
    rw [if_pos hn]
    cases ns with
    | nil => cases h
    | cons top rest =>
      simp only at h
      split at h
      · cases h
      · cases h; rfl
  · rw [if_neg (fun h' => hn h'.1)] at h
    rw [if_neg hn]
    cases h; rfl

theorem writeToken_spec {o : Opts} {b : Nat} {fs : Frames} {ns : List (List Bytes)} {e : Enc}
    (hI : EncInv o b fs ns e) (hb : b + 1 < 2^61) (t : Tok) :
    match writeToken e t with
    | (e', none) => ∃ out fs', Emits o fs ns [t] out fs' (namesStep o fs ns t) ∧
        EncInv o (b + 1) fs' (namesStep o fs ns t) e' ∧ e'.out = e.out ++ out
    | (_, some _) => ¬ ((step o.maxDepth fs (kindOf t)).isSome = true ∧ badUTF8 o t = false ∧
        (o.allowDup = false → Fresh o fs ns t)) := by
  have hnc := nameCheck_ok_iff hI t
  rw [writeToken_nf, writeTokenNF, hI.opts]
  by_cases hbad : badUTF8 o t = true
  · rw [if_pos hbad]; exact fun h => by simp [hbad] at h
  rw [if_neg hbad]
  have hbad' : badUTF8 o t = false := by simpa using hbad
  cases hn : nameCheck e t with
  | error x => exact fun h => by obtain ⟨_, h'⟩ := hnc.mpr h.2.2; rw [hn] at h'; cases h'
  | ok ns' =>
    rcases step_cases hI.inv hb (kindOf t) with ⟨m, hs, hstep, hinv'⟩ | ⟨x, hs, hstep⟩ <;> rw [hI.abs_eq] at hstep <;>
      simp only [hs]
    case inr => exact fun h => by simp [hstep] at h
    case inl =>
      have hem := Emits.cons hstep hbad' (hnc.mp ⟨ns', hn⟩) (.nil _ _)
      refine ⟨_, abs m, hem, ⟨hI.opts, hinv', rfl, step_bottomArr hstep hI.bottom, fun hd => ?_⟩, ?_⟩
      · obtain ⟨hns, hlen⟩ := hI.names hd
        have hcount := step_countObj hstep
        have hnl := namesStep_length o fs ns t
        have hns' : nsAfter e ns' t = namesStep o fs ns t := by
          cases t
          case str s =>
            rw [nameCheck_str hI, hns] at hn
            exact nameCheckSpec_ok hn hd
          case beginObj => simp [nsAfter, namesStep, hI.opts, hd, hns]
          case endObj => simp [nsAfter, namesStep, hI.opts, hd, hns]
          all_goals
            simp only [nameCheck, Except.ok.injEq] at hn
            simp [nsAfter, namesStep, ← hn, hns]
        refine ⟨hns', ?_⟩
        rw [hnl]
        cases t <;> simp [kindOf] at hcount ⊢ <;> omega
      · rw [commit_out, beforeToken_eq e t (hI.abs_eq ▸ hI.bottom), hI.opts, hI.abs_eq]
        simp [NL, abs_length, List.append_assoc]

theorem track_snoc (o : Opts) (ts : List Tok) (t : Tok) : ∀ st : Frames × List (List Bytes),
    track o st (ts ++ [t]) = track o (track o st ts) [t] := by
  induction ts with
  | nil => intro st; rfl
  | cons a ts ih =>
    intro st
    obtain ⟨fs, ns⟩ := st
    simp only [List.cons_append, track]
    split <;> exact ih _

theorem run_snoc (max : Nat) (ks : List Kind) (k : Kind) : ∀ fs : Frames,
    run max fs (ks ++ [k]) = (run max fs ks).bind (fun fs' => step max fs' k) := by
  induction ks with
  | nil => intro fs; simp only [List.nil_append, run, Option.bind_some]; cases step max fs k <;> rfl
  | cons a ks ih =>
    intro fs
    simp only [List.cons_append, run]
    cases step max fs a with
    | none => rfl
    | some fs1 => exact ih fs1

theorem innermost_eq (o : Opts) (ts : List Tok) :
    innermostNames o ts = (track o (PDA.init, []) ts).2.headD [] := by
  unfold innermostNames
  cases (track o (PDA.init, []) ts).2 <;> rfl

end JsonV.Lemmas.EncIff
