/-
Lemmas for C20, value path: the `depth` argument of consumeValue/consumeArray/consumeObject and
reformatValue/reformatArray/reformatObject on nests (Model/Depth.lean `value`, `elems`).
-/
import JsonV.Model.Depth

namespace JsonV.Lemmas.DepthValueL
open JsonV.Model JsonV.Model.Depth

theorem opens_length (ks : List Bool) : (opens ks).length = ks.length := by
  induction ks with
  | nil => rfl
  | cons k ks ih => cases k <;> simp [opens, ih]

theorem closes_length (ks : List Bool) : (closes ks).length = ks.length := by
  induction ks with
  | nil => rfl
  | cons k ks ih => cases k <;> simp [closes, ih]

theorem nest_length (ks : List Bool) : (nest ks).length = 2 * ks.length + 1 := by
  simp [nest, opens_length, closes_length]; omega

theorem nestEmpty_length (ks : List Bool) (k : Bool) : (nestEmpty ks k).length = 2 * ks.length + 2 := by
  cases k <;> simp [nestEmpty, opens_length, closes_length] <;> omega

/-- the first symbol of a text is an opening bracket or a scalar -/
def HeadOk (t : List Sym) : Prop := ∃ s r, t = s :: r ∧ s ≠ .ca ∧ s ≠ .co

theorem headOk_opens (ks : List Bool) (t : List Sym) (h : HeadOk t) : HeadOk (opens ks ++ t) := by
  cases ks with
  | nil => simpa [opens] using h
  | cons k ks => cases k <;> exact ⟨_, _, rfl, by decide, by decide⟩

theorem headOk_append {t : List Sym} (u : List Sym) (h : HeadOk t) : HeadOk (t ++ u) := by
  obtain ⟨s, r, rfl, h1, h2⟩ := h
  exact ⟨s, r ++ u, rfl, h1, h2⟩

theorem closes_cons (k : Bool) (ks : List Bool) :
    closes (k :: ks) = closes ks ++ [if k then Sym.co else Sym.ca] := by
  cases k <;> rfl

theorem opens_cons (k : Bool) (ks : List Bool) :
    opens (k :: ks) = (if k then Sym.oo else Sym.oa) :: opens ks := by
  cases k <;> rfl

/-- `x` is the verdict one level deeper (`.ok ()`: accepted up to the matching closer; `.error e`); the wrapped text gets the same. -/
theorem value_wrap (max fuel depth : Nat) (k : Bool) (inner rest : List Sym) (x : Except VErr Unit)
    (hd : depth ≠ max + 1) (hh : HeadOk inner)
    (hi : value max fuel (depth + 1) inner = x.map fun _ => (if k then Sym.co else Sym.ca) :: rest) :
    value max (fuel + 2) depth ((if k then Sym.oo else Sym.oa) :: inner) = x.map fun _ => rest := by
  obtain ⟨s, r, rfl, h1, h2⟩ := hh
  cases x <;> cases k <;> simp [value, elems, hd, h1, h2, hi, Except.map]

theorem value_open_refused (max fuel : Nat) (k : Bool) (inner : List Sym) :
    value max (fuel + 1) (max + 1) ((if k then Sym.oo else Sym.oa) :: inner) = .error .maxDepth := by
  cases k <;> simp [value]

/-- Wrapping a core in `ks` levels none of which is entered at depth max+1: the verdict `x` on the core is the verdict on the whole. -/
theorem wrap (max : Nat) (core : List Sym) (F : Nat) (x : Except VErr Unit) (hh : HeadOk core) :
    ∀ (ks : List Bool) (depth : Nat) (rest : List Sym),
      (∀ rest', value max F (depth + ks.length) (core ++ rest') = x.map fun _ => rest') →
      (∀ i < ks.length, depth + i ≠ max + 1) →
      value max (F + 2 * ks.length) depth (opens ks ++ (core ++ (closes ks ++ rest))) = x.map fun _ => rest := by
  intro ks
  induction ks with
  | nil => intro depth rest hc _; exact hc rest
  | cons k ks ih =>
    intro depth rest hc hd
    rw [opens_cons, closes_cons, List.cons_append, List.append_assoc, List.length_cons, Nat.mul_succ, ← Nat.add_assoc]
    refine value_wrap max _ depth k _ rest x (hd 0 (Nat.succ_pos _)) (headOk_opens ks _ (headOk_append _ hh)) ?_
    refine ih (depth + 1) _ (fun r => ?_) fun i hi => ?_
    · rw [Nat.add_right_comm, Nat.add_assoc]
      exact hc r
    · rw [Nat.add_right_comm]
      exact hd (i + 1) (Nat.succ_lt_succ hi)

theorem ite_imp {α : Type} {c : Prop} [Decidable c] {a b b' r : α} (h : (if c then a else b) = r)
    (hb : b = r → b' = r) : (if c then a else b') = r := by
  by_cases hc : c
  · rwa [if_pos hc] at h ⊢
  · rw [if_neg hc] at h ⊢
    exact hb h

theorem fuel_mono (max : Nat) :
    ∀ (fuel : Nat),
      (∀ depth inp r, value max fuel depth inp = r → r ≠ .error .fuel → value max (fuel + 1) depth inp = r) ∧
      (∀ depth c inp r, elems max fuel depth c inp = r → r ≠ .error .fuel → elems max (fuel + 1) depth c inp = r) := by
  intro fuel
  induction fuel with
  | zero => exact ⟨fun _ _ r h hr => absurd h.symm hr, fun _ _ _ r h hr => absurd h.symm hr⟩
  | succ n ih =>
    obtain ⟨ihv, ihe⟩ := ih
    constructor
    · intro depth inp r h hr
      match inp with
      | [] | .sc :: _ | .ca :: _ | .co :: _ => exact h
      | .oa :: rest | .oo :: rest =>
        rw [value] at h ⊢
        exact ite_imp h fun h => ite_imp h fun h => ihe _ _ _ _ h hr
    · intro depth c inp r h hr
      rw [elems] at h ⊢
      cases hv : value max n depth inp with
      | error e =>
        rw [hv] at h
        rw [ihv depth inp _ hv fun he => hr (h ▸ he)]
        exact h
      | ok r' =>
        rw [hv] at h
        rw [ihv depth inp _ hv nofun]
        exact ite_imp h fun h => ite_imp h fun h => ihe _ _ _ _ h hr

theorem value_fuel_le (max : Nat) {fuel fuel' depth : Nat} {inp : List Sym} {r : Except VErr (List Sym)}
    (h : value max fuel depth inp = r) (hr : r ≠ .error .fuel) (hle : fuel ≤ fuel') :
    value max fuel' depth inp = r := by
  induction hle with
  | refl => exact h
  | step _ ih => exact (fuel_mono max _).1 _ _ _ ih hr

theorem headOk_bracket (k : Bool) (t : List Sym) : HeadOk ((if k then Sym.oo else Sym.oa) :: t) := by
  cases k <;> exact ⟨_, _, rfl, by decide, by decide⟩

theorem value_nest_ok (max depth fuel : Nat) (ks : List Bool) (rest : List Sym)
    (hd : depth + ks.length ≤ max + 1) (hf : 2 * ks.length + 1 ≤ fuel) :
    value max fuel depth (nest ks ++ rest) = .ok rest := by
  have h := wrap max [Sym.sc] 1 (.ok ()) ⟨_, _, rfl, by decide, by decide⟩ ks depth rest (fun _ => rfl)
    fun i hi => by omega
  rw [nest, List.append_assoc]
  exact value_fuel_le max h nofun (by omega)

/-- an empty innermost container counts as a level -/
theorem value_nestEmpty_ok (max depth fuel : Nat) (ks : List Bool) (k : Bool) (rest : List Sym)
    (hd : depth + ks.length + 1 ≤ max + 1) (hf : 2 * ks.length + 1 ≤ fuel) :
    value max fuel depth (nestEmpty ks k ++ rest) = .ok rest := by
  have hne : depth + ks.length ≠ max + 1 := by omega
  have h := wrap max (if k then [Sym.oo, Sym.co] else [Sym.oa, Sym.ca]) 1 (.ok ())
    (by cases k <;> exact ⟨_, _, rfl, by decide, by decide⟩) ks depth rest
    (by intro r; cases k <;> simp [value, hne, Except.map]) fun i hi => by omega
  rw [nestEmpty, List.append_assoc, List.append_assoc]
  exact value_fuel_le max h nofun (by omega)

theorem value_nestEmpty_refused (max depth fuel : Nat) (ks : List Bool) (k : Bool) (rest : List Sym)
    (hd : depth + ks.length = max + 1) (hf : 2 * ks.length + 1 ≤ fuel) :
    value max fuel depth (nestEmpty ks k ++ rest) = .error .maxDepth := by
  have h := wrap max (if k then [Sym.oo, Sym.co] else [Sym.oa, Sym.ca]) 1 (.error .maxDepth)
    (by cases k <;> exact ⟨_, _, rfl, by decide, by decide⟩) ks depth rest
    (by intro r; cases k <;> simp [value, hd, Except.map]) fun i hi => by omega
  rw [nestEmpty, List.append_assoc, List.append_assoc]
  exact value_fuel_le max h nofun (by omega)

theorem opens_append (a b : List Bool) : opens (a ++ b) = opens a ++ opens b := by
  induction a with
  | nil => rfl
  | cons k a ih => rw [List.cons_append, opens_cons, opens_cons, ih, List.cons_append]

theorem closes_append (a b : List Bool) : closes (a ++ b) = closes b ++ closes a := by
  induction a with
  | nil => exact (List.append_nil _).symm
  | cons k a ih => rw [List.cons_append, closes_cons, closes_cons, ih, List.append_assoc]

theorem value_nest_refused (max depth fuel : Nat) (ks : List Bool) (rest : List Sym)
    (h0 : depth ≤ max + 1) (hd : max + 1 < depth + ks.length) (hf : 2 * ks.length + 1 ≤ fuel) :
    value max fuel depth (nest ks ++ rest) = .error .maxDepth := by
  -- split ks at the level that sits at depth max+1
  obtain ⟨n, hn⟩ : ∃ n, depth + n = max + 1 := ⟨max + 1 - depth, by omega⟩
  obtain ⟨k, kt, hdrop⟩ : ∃ k kt, ks.drop n = k :: kt := List.exists_cons_of_ne_nil (l := ks.drop n) (by
    intro h; have := congrArg List.length h; rw [List.length_drop] at this; simp at this; omega)
  have hlen : (ks.take n).length = n := List.length_take_of_le (by omega)
  have h := wrap max ((if k then Sym.oo else Sym.oa) :: (opens kt ++ Sym.sc :: (closes kt ++ [if k then Sym.co else Sym.ca])))
    1 (.error .maxDepth) (headOk_bracket k _) (ks.take n) depth rest
    (by intro r; rw [hlen, hn]; exact value_open_refused max 0 k _) fun i hi => by omega
  have hnest : nest ks ++ rest = opens (ks.take n) ++ (((if k then Sym.oo else Sym.oa) ::
      (opens kt ++ Sym.sc :: (closes kt ++ [if k then Sym.co else Sym.ca]))) ++ (closes (ks.take n) ++ rest)) := by
    conv => lhs; rw [← List.take_append_drop n ks, hdrop]
    simp only [nest, opens_append, closes_append, opens_cons, closes_cons, List.append_assoc, List.cons_append]
  rw [hnest]
  exact value_fuel_le max h nofun (by rw [hlen]; omega)

end JsonV.Lemmas.DepthValueL
