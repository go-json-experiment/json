/-
The option `allowDup` (AllowDuplicateNames), for C14 and C08.
  * On trees without repeated names the option is irrelevant (`unm_congr_dup`).
  * With the option on, unmarshaling an object is unmarshaling a front part of its members and then
    the rest, as two successive calls (`unm_obj_append`): duplicates are merged like sequential calls.
-/
import JsonV.Lemmas.MergeLaw

namespace JsonV.Lemmas.Merge
open JsonV JsonV.Spec JsonV.Model

theorem skipOK_of_dupFree (o : UOpts) {j : JTree} (h : j.dupFree = true) : skipOK o j = true := by
  rw [skipOK, h, Bool.or_true]

theorem wrongKind_of_dupFree (o : UOpts) {j : JTree} (h : j.dupFree = true) : wrongKind o j = .kind := by
  rw [wrongKind, skipOK_of_dupFree o h, if_pos rfl]

theorem wrongKind_congr (o1 o2 : UOpts) {j : JTree} (h : j.dupFree = true) : wrongKind o1 j = wrongKind o2 j :=
  (wrongKind_of_dupFree o1 h).trans (wrongKind_of_dupFree o2 h).symm

theorem heldMismatch_congr (o1 o2 : UOpts) {j : JTree} (h : j.dupFree = true) (dv : GoVal) :
    heldMismatch o1 j dv = heldMismatch o2 j dv := by
  rw [heldMismatch, heldMismatch, wrongKind_congr o1 o2 h]

theorem elemsFresh_congr {f1 f2 : Dec} (z : GoVal) (xs : List JTree) (h : ∀ x ∈ xs, ∀ p, f1 x p = f2 x p) :
    elemsFresh f1 z xs = elemsFresh f2 z xs := by
  induction xs with
  | nil => rfl
  | cons x r ih =>
    simp only [elemsFresh, h x List.mem_cons_self, ih (fun y hy => h y (List.mem_cons_of_mem _ hy))]

theorem arrayElems_congr (o1 o2 : UOpts) {f1 f2 : Dec} (z : GoVal) (n : Nat) (xs : List JTree)
    (hd : ∀ x ∈ xs, x.dupFree = true) (h : ∀ x ∈ xs, ∀ p, f1 x p = f2 x p) :
    arrayElems o1 f1 z n xs = arrayElems o2 f2 z n xs := by
  induction xs generalizing n with
  | nil => cases n <;> rfl
  | cons x r ih =>
    have ihr := fun n => ih n (fun y hy => hd y (List.mem_cons_of_mem _ hy)) (fun y hy => h y (List.mem_cons_of_mem _ hy))
    cases n with
    | zero =>
      simp only [arrayElems, skipOK_of_dupFree _ (hd x List.mem_cons_self), if_true]
      exact ihr 0
    | succ n => simp only [arrayElems, h x List.mem_cons_self, ihr n]

/-- `ty n`: the type of the destination named `n`, if any. -/
theorem objFold_congr (o1 o2 : UOpts) (ty : Bytes → Option GoType) (z : Bytes → GoVal)
    (ms : List (Bytes × JTree)) (hnd : (akeys ms).Nodup) (hd : ∀ n j, (n, j) ∈ ms → j.dupFree = true)
    (h : ∀ n j t, (n, j) ∈ ms → ty n = some t → ∀ p, unm o1 t j p = unm o2 t j p) :
    ∀ seen m, (∀ n ∈ akeys ms, n ∉ seen) →
      objFold o1 (fun n => (ty n).map (unm o1)) z ms seen m =
        objFold o2 (fun n => (ty n).map (unm o2)) z ms seen m := by
  induction ms with
  | nil => intro seen m _; rfl
  | cons p r ih =>
    obtain ⟨n, j⟩ := p
    rw [akeys_cons, List.nodup_cons] at hnd
    intro seen m hseen
    have hns : seen.contains n = false := by simpa using hseen n List.mem_cons_self
    have ihr := fun m => ih hnd.2 (fun n' j' hm => hd n' j' (List.mem_cons_of_mem _ hm))
      (fun n' j' t hm => h n' j' t (List.mem_cons_of_mem _ hm)) (n :: seen) m
      (fun k hk hc => (List.mem_cons.1 hc).elim (fun (e : k = n) => hnd.1 (e ▸ hk)) (hseen k (List.mem_cons_of_mem _ hk)))
    cases ht : ty n with
    | none =>
      simp only [objFold, hns, Bool.and_false, Bool.false_eq_true, if_false, ht, Option.map_none,
        skipOK_of_dupFree _ (hd n j List.mem_cons_self), if_true]
      exact ihr _
    | some t =>
      simp only [objFold, hns, Bool.and_false, Bool.false_eq_true, if_false, ht, Option.map_some,
        h n j t List.mem_cons_self ht]
      cases unm o2 t j ((alookup n m).getD (z n)) with
      | error e => rfl
      | ok v => exact ihr _

theorem objFold_congr_nil (o1 o2 : UOpts) (ty : Bytes → Option GoType) (z : Bytes → GoVal)
    {ms : List (Bytes × JTree)} (hd : (JTree.obj ms).dupFree = true)
    (h : ∀ n j t, (n, j) ∈ ms → j.dupFree = true → ty n = some t → ∀ p, unm o1 t j p = unm o2 t j p)
    (m : List (Bytes × GoVal)) :
    objFold o1 (fun n => (ty n).map (unm o1)) z ms [] m = objFold o2 (fun n => (ty n).map (unm o2)) z ms [] m := by
  rw [dupFree_obj] at hd
  exact objFold_congr o1 o2 ty z ms hd.1 hd.2 (fun n j t hm => h n j t hm (hd.2 n j hm)) [] m fun _ _ hc => nomatch hc

theorem anyPrior_congr (o1 o2 : UOpts) {j : JTree} (hd : j.dupFree = true) (p : GoVal) (acc : GoVal → Bool) :
    anyPrior o1 j p acc = anyPrior o2 j p acc := by
  cases p with
  | ifaceOf dv => rw [anyPrior, anyPrior, heldMismatch_congr o1 o2 hd]
  | _ => rfl

theorem unmAny_congr (o1 o2 : UOpts) : ∀ (j : JTree) (p : GoVal), j.dupFree = true → unmAny o1 j p = unmAny o2 j p := by
  intro j
  induction j using JTree.induct with
  | hnull => intro p _; rfl
  | harr xs ih =>
    intro p hd
    rw [unmAny_nonobj o1 _ p rfl rfl, unmAny_nonobj o2 _ p rfl rfl, anyPrior_congr o1 o2 hd, unmAny_arr, unmAny_arr,
      elemsFresh_congr _ xs fun x hx p => ih x hx p ((dupFreeL_iff xs).1 hd x hx)]
  | hobj ms ih =>
    intro p hd
    rcases unmAny_obj_prior p with ⟨m0, e⟩ | ⟨dv, e⟩ | e <;> rw [e, e]
    · exact congrArg _ (objFold_congr_nil o1 o2 (fun _ => some .any) _ hd
        (fun n j t hm hdj ht p => Option.some.inj ht ▸ ih n j hm p hdj) m0)
    · rw [heldMismatch_congr o1 o2 hd]
  | _ =>
    intro p hd
    rw [unmAny_nonobj o1 _ p rfl rfl, unmAny_nonobj o2 _ p rfl rfl, anyPrior_congr o1 o2 hd]
    rfl

theorem unm_congr_dup (o1 o2 : UOpts) (ha : o1.arrayAnyLen = o2.arrayAnyLen) :
    ∀ (T : GoType) (j : JTree) (p : GoVal), j.dupFree = true → unm o1 T j p = unm o2 T j p := by
  intro T
  induction T using GoType.induct with
  | hbool => intro j p _; rfl
  | hint | huint | hfloat | hstring =>
    -- these read the whole value first, so only the error for a wrong kind mentions the options
    intro j p hd
    cases j <;> first | exact congrArg Except.error (wrongKind_congr o1 o2 hd) | rfl
  | hany => exact unmAny_congr o1 o2
  | hslice t ih =>
    intro j p hd
    cases j with
    | arr xs =>
      rw [unm_slice_arr, unm_slice_arr,
        elemsFresh_congr _ xs fun x hx p => ih x p ((dupFreeL_iff xs).1 hd x hx)]
    | _ => rfl
  | harray n t ih =>
    intro j p hd
    cases j with
    | arr xs =>
      have hxs := (dupFreeL_iff xs).1 hd
      rw [unm_array_arr, unm_array_arr, arrayElems_congr o1 o2 _ n xs hxs fun x hx p => ih x p (hxs x hx), ha]
    | _ => rfl
  | hmap t ih =>
    intro j p hd
    cases j with
    | obj ms =>
      rcases unm_map_obj_prior t p with ⟨m0, e⟩ | e <;> rw [e, e]
      exact congrArg _ (objFold_congr_nil o1 o2 (fun _ => some t) _ hd
        (fun n j t' _ hdj ht p => Option.some.inj ht ▸ ih j p hdj) m0)
    | _ => rfl
  | hstruct fs ih =>
    intro j p hd
    cases j with
    | obj ms =>
      cases p with
      | structOf fvs =>
        rw [unm_struct_obj, unm_struct_obj, funext (fieldDec_eq o1 fs), funext (fieldDec_eq o2 fs),
          objFold_congr_nil o1 o2 (alookup · fs) _ hd fun n j t _ hdj ht p => ih n t (alookup_mem ht) j p hdj]
      | _ => rfl
    | _ => rfl
  | hptr t ih =>
    intro j p hd
    cases hn : j.isNull with
    | true => rw [eq_null_of_isNull hn, unm_null, unm_null]
    | false =>
      rcases unm_ptr_prior t p with ⟨v0, e⟩ | e <;> rw [e o1 j hn, e o2 j hn]
      rw [ih j v0 hd]

theorem objFold_cons_allowDup {o : UOpts} (ho : o.allowDup = true) (dec : Bytes → Option Dec) (z : Bytes → GoVal)
    (n : Bytes) (j : JTree) (r : List (Bytes × JTree)) (seen : List Bytes) (m : List (Bytes × GoVal)) :
    objFold o dec z ((n, j) :: r) seen m =
      (match dec n with
       | none => Except.ok m
       | some f => (f j ((alookup n m).getD (z n))).map (aset n · m)).bind (objFold o dec z r (n :: seen)) := by
  rw [objFold, skipOK, ho]
  cases dec n with
  | none => rfl
  | some f => dsimp only; cases f j ((alookup n m).getD (z n)) <;> rfl

theorem objFold_seen_irrel {o : UOpts} (ho : o.allowDup = true) (dec : Bytes → Option Dec) (z : Bytes → GoVal)
    (ms : List (Bytes × JTree)) : ∀ seen m, objFold o dec z ms seen m = objFold o dec z ms [] m := by
  induction ms with
  | nil => intro seen m; rfl
  | cons p r ih =>
    obtain ⟨n, j⟩ := p
    intro seen m
    rw [objFold_cons_allowDup ho, objFold_cons_allowDup ho, funext (ih (n :: seen)), funext (ih [n])]

theorem objFold_append {o : UOpts} (ho : o.allowDup = true) (dec : Bytes → Option Dec) (z : Bytes → GoVal)
    (a b : List (Bytes × JTree)) : ∀ seen m, objFold o dec z (a ++ b) seen m =
      (objFold o dec z a seen m).bind (objFold o dec z b []) := by
  induction a with
  | nil => intro seen m; exact objFold_seen_irrel ho dec z b seen m
  | cons p r ih =>
    obtain ⟨n, j⟩ := p
    intro seen m
    rw [List.cons_append, objFold_cons_allowDup ho, objFold_cons_allowDup ho, funext (ih (n :: seen)), Except.bind_bind]

theorem wrongKind_allowDup {o : UOpts} (ho : o.allowDup = true) (j : JTree) : wrongKind o j = .kind := by
  rw [wrongKind, skipOK, ho, Bool.true_or, if_pos rfl]

theorem heldMismatch_allowDup {o : UOpts} (ho : o.allowDup = true) (j j' : JTree) (dv : GoVal) :
    heldMismatch o j dv = heldMismatch o j' dv := by
  rw [heldMismatch, heldMismatch, wrongKind_allowDup ho, wrongKind_allowDup ho]

theorem unm_obj_append (o : UOpts) (ho : o.allowDup = true) :
    ∀ (T : GoType) (a b : List (Bytes × JTree)) (v : GoVal),
      unm o T (.obj (a ++ b)) v = (unm o T (.obj a) v).bind (unm o T (.obj b)) := by
  intro T
  induction T using GoType.induct with
  | hbool | hslice | harray => intro a b v; rfl
  | hint | huint | hfloat | hstring =>
    intro a b v
    exact congrArg Except.error ((wrongKind_allowDup ho _).trans (wrongKind_allowDup ho _).symm)
  | hmap t _ =>
    intro a b v
    rcases unm_map_obj_prior t v with ⟨m0, e⟩ | e <;> rw [e, e]
    · rw [objFold_append ho]
      cases objFold o (fun _ => some (unm o t)) (fun _ => t.zero) a [] m0 with
      | error e => rfl
      | ok m => exact (unm_map_obj o t b m).symm
    · rfl
  | hstruct fs _ =>
    intro a b v
    cases v with
    | structOf fvs =>
      rw [unm_struct_obj, unm_struct_obj, objFold_append ho]
      cases objFold o (fieldDec o fs) (fieldZero fs) a [] fvs with
      | error e => rfl
      | ok m => exact (unm_struct_obj o fs b m).symm
    | _ => rfl
  | hptr t ih =>
    intro a b v
    rcases unm_ptr_prior t v with ⟨v0, e⟩ | e <;> rw [e o _ rfl, e o _ rfl]
    · rw [ih]
      cases unm o t (.obj a) v0 with
      | error e => rfl
      | ok w => exact (unm_ptr_to o t (.obj b) w rfl).symm
    · rfl
  | hany =>
    intro a b v
    rw [unm_any_eq]
    rcases unmAny_obj_prior v with ⟨m0, e⟩ | ⟨dv, e⟩ | e <;> rw [e, e]
    · rw [objFold_append ho]
      cases objFold o (fun _ => some (unmAny o)) (fun _ => GoVal.nilIface) a [] m0 with
      | error e => rfl
      | ok m => exact (unmAny_obj o b m).symm
    · exact congrArg Except.error (heldMismatch_allowDup ho _ _ _)
    · rfl

theorem unmChain_two (o : UOpts) (T : GoType) (a b : JTree) (v : GoVal) :
    unmChain o T [a, b] v = (unm o T a v).bind (unm o T b) := by
  simp only [unmChain]
  cases unm o T a v with
  | error e => rfl
  | ok v' =>
    show (match unm o T b v' with | .error e => .error e | .ok w => .ok w : Except Err GoVal) = unm o T b v'
    cases unm o T b v' <;> rfl

end JsonV.Lemmas.Merge
