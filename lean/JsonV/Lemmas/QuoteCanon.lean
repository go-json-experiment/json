/-
ConsumeString's stringNonCanonical flag (C11).  (←) the RFC 8785 serialisation `canonQuote s` of any text is
accepted and left canonical; (→) along a successful run that never sets the flag, every step consumes exactly
`canonChar` of the one scalar AppendUnquote produces for it.  Hence `consumeString_canonical_iff`.
-/
import JsonV.Lemmas.QuoteSpec
import JsonV.Lemmas.QuoteWf
import JsonV.Lemmas.WireString

namespace JsonV.Lemmas.QuoteCanon
open JsonV JsonV.Model.Utf8 JsonV.Model.Quote JsonV.Lemmas.QuoteL JsonV.Spec.StringSpec JsonV.Lemmas.QuoteSpec JsonV.Lemmas.QuoteWf
open JsonV.Lemmas.QuoteHead
open JsonV.Spec.Grammar (HexDigit hexValue hexValue_lt hex4Value isSurrogate_iff)

theorem csLoop_cont {v src k nc'} (n : Nat) (nc : Bool) (h : csStep v src = .cont k nc') :
    csLoop v src n nc = csLoop v (src.drop k) (n + k) (nc || nc') := by
  rw [csLoop]
  split
  · rename_i h2; rw [h] at h2; cases h2
  · rename_i h2; rw [h] at h2; cases h2; rfl

theorem csLoop_stop {v src off e nc'} (n : Nat) (nc : Bool) (h : csStep v src = .stop off e nc') :
    csLoop v src n nc = (n + off, e, nc || nc') := by
  rw [csLoop]
  split
  · rename_i h2; rw [h] at h2; cases h2; rfl
  · rename_i h2; rw [h] at h2; cases h2

theorem csLoop_nc_true (v : Bool) (src : Bytes) (n : Nat) : (csLoop v src n true).2.2 = true := by
  generalize hnc : true = nc
  fun_induction csLoop v src n nc with
  | case1 src n nc off e nc' h => subst hnc; simp
  | case2 src n nc k nc' h ih => subst hnc; exact ih (by simp)

theorem ctrl_digits : ∀ r : Fin 32,
    parseHexUint16 [0x30, 0x30, hexDigitLower (r.val / 16), hexDigitLower (r.val % 16)] = some r.val ∧
    (¬ (r.val = 8 ∨ r.val = 12 ∨ r.val = 10 ∨ r.val = 13 ∨ r.val = 9) →
      escNonCanon r.val [0x30, 0x30, hexDigitLower (r.val / 16), hexDigitLower (r.val % 16)] = false) := by decide

theorem csStep_canonChar (v : Bool) {r : Nat} (hr : IsScalar r) (tail : Bytes) :
    csStep v (canonChar r ++ tail) = .cont (canonChar r).length false := by
  rw [csStep_eq]
  rcases canonChar_cases r with ⟨e, w, hm, he, -, hc⟩ | ⟨hlt, hn, hc⟩ | ⟨h20, hq, hb, hc⟩
  · rw [hc, List.cons_append, List.cons_append, headOf_simple _ hm]
    exact congrArg (CStep.cont 2) (decide_eq_false fun h => he (UInt8.toNat_inj.mp h))
  · obtain ⟨hp, hnc⟩ := ctrl_digits ⟨r, hlt⟩
    rw [hc]
    simp only [List.cons_append, List.nil_append]
    rw [headOf_uni _ hp (by simp [isSurrogate]; omega)]
    exact congrArg (CStep.cont 6) (hnc hn)
  · rw [hc]
    by_cases h0 : r < 0x80
    · rw [encodeRune_ascii h0, List.cons_append, headOf_plain]
      · rfl
      · rw [UInt8.toNat_ofNat_lt (by omega)]; exact noEscape_of h0 h20 hb hq
    · rw [headOf_multi tail (encodeRune_long (Nat.le_of_not_lt h0)) (decodeRune_encodeRune r tail hr.1 hr.2)]; rfl

theorem csLoop_close (v : Bool) (n : Nat) (nc : Bool) : csLoop v [0x22] n nc = (n + 1, Err.ok, nc) := by
  rw [csLoop_stop (off := 1) (e := .ok) (nc' := false) n nc (by rw [csStep_eq, headOf_close]; rfl)]; simp

theorem csLoop_canon_flatMap (v : Bool) (l : List Nat) (hl : ∀ r ∈ l, IsScalar r) (n : Nat) (nc : Bool) :
    csLoop v (l.flatMap canonChar ++ [0x22]) n nc = (n + (l.flatMap canonChar).length + 1, Err.ok, nc) := by
  induction l generalizing n with
  | nil => simpa using csLoop_close v n nc
  | cons r l ih =>
    rw [List.flatMap_cons, List.append_assoc, csLoop_cont n nc (csStep_canonChar v (hl r (by simp)) _), List.drop_left,
      Bool.or_false, ih (fun x hx => hl x (by simp [hx])), List.length_append, Nat.add_assoc n]

theorem consumeString_canonQuote (v : Bool) (s : Bytes) :
    consumeString v (canonQuote s) = ((canonQuote s).length, Err.ok, false) := by
  simp only [canonQuote, consumeString, if_true, csLoop_canon_flatMap v _ (scalars_isScalar s)]
  simp; omega

theorem canonChar_noEscape : ∀ n : Fin 128, noEscape n.val = true → canonChar n.val = [UInt8.ofNat n.val] := by decide +kernel

theorem hexDigit_lower : ∀ h : UInt8, HexDigit h → (decide (0x41 ≤ h.toNat) && decide (h.toNat ≤ 0x46)) = false →
    h = hexDigitLower (hexValue h) := by
  apply forall_u8; decide +kernel

theorem canonChar_ctrl (x : Nat) (hx : x < 0x20) (hn : ¬ (x = 8 ∨ x = 12 ∨ x = 10 ∨ x = 13 ∨ x = 9)) :
    canonChar x = [0x5c, 0x75, 0x30, 0x30, hexDigitLower (x / 16), hexDigitLower (x % 16)] := by
  rcases canonChar_cases x with ⟨e, v, hm, _, hr, _⟩ | ⟨_, _, he⟩ | ⟨h20, _⟩
  · have : ∀ p ∈ simpleEscapes, p.2.toNat < 0x20 → p.2.toNat = 8 ∨ p.2.toNat = 12 ∨ p.2.toNat = 10 ∨ p.2.toNat = 13 ∨
        p.2.toNat = 9 := by decide
    exact absurd (hr ▸ this _ hm (hr ▸ hx)) hn
  · exact he
  · omega

theorem canon_digits (h1 h2 h3 h4 : UInt8) (v1 : Nat) (hp : parseHexUint16 [h1, h2, h3, h4] = some v1)
    (hc : escNonCanon v1 [h1, h2, h3, h4] = false) :
    v1 < 0x20 ∧ [0x5c, 0x75, h1, h2, h3, h4] = canonChar v1 := by
  simp only [escNonCanon] at hc
  split at hc
  · cases hc
  · rename_i hn
    split at hc
    · cases hc
    · rename_i hlt
      have hx : v1 < 0x20 := by omega
      simp only [hasUpperHex, List.any_cons, List.any_nil, Bool.or_false, Bool.or_eq_false_iff] at hc
      obtain ⟨u1, u2, u3, u4⟩ := hc
      obtain ⟨d1, d2, d3, d4, rfl⟩ := WireString.parseHexQ_some hp
      have := hexValue_lt d1; have := hexValue_lt d2; have := hexValue_lt d3; have := hexValue_lt d4
      unfold hex4Value at hx hn ⊢
      have z1 : hexValue h1 = 0 := by omega
      have z2 : hexValue h2 = 0 := by omega
      have e1 : h1 = 0x30 := (hexDigit_lower h1 d1 u1).trans (by rw [z1]; rfl)
      have e2 : h2 = 0x30 := (hexDigit_lower h2 d2 u2).trans (by rw [z2]; rfl)
      refine ⟨hx, ?_⟩
      rw [canonChar_ctrl _ hx hn, show _ / 16 = hexValue h3 by omega, show _ % 16 = hexValue h4 by omega,
        ← hexDigit_lower h3 d3 u3, ← hexDigit_lower h4 d4 u4, e1, e2]

theorem escNonCanon_of_ge {v : Nat} (d : Bytes) (h : 0x20 ≤ v) : escNonCanon v d = true := by
  unfold escNonCanon
  rw [if_neg (by omega), if_pos h]

theorem simple_canon : ∀ p ∈ simpleEscapes, p.1.toNat ≠ 0x2f →
    canonChar p.2.toNat = [0x5c, p.1] ∧ p.2.toNat < runeSelf := by decide

theorem csStep_canon (v : Bool) (src : Bytes) (k : Nat) (h : csStep v src = .cont k false) :
    ∃ o r, unqStep src = .cont o k none ∧ IsSeq o r ∧ src.take k = canonChar r ∧ k ≤ src.length := by
  rw [csStep_eq] at h
  rw [unqStep_eq]
  have hs := headOf_shape src
  generalize headOf src = hd at h hs
  -- a surrogate escape is never canonical
  have hsur : ∀ {v1 : Nat} (d : Bytes), isSurrogate v1 = true → escNonCanon v1 d = true := fun d hs =>
    escNonCanon_of_ge d (Nat.le_trans (by decide) (isSurrogate_iff.mp hs).1)
  cases hs with
  | @plain c t hne =>
    cases h
    have h0 : c.toNat < runeSelf := by
      simp only [noEscape, Bool.and_eq_true, decide_eq_true_eq] at hne; exact hne.1.1.1
    have := canonChar_noEscape ⟨c.toNat, h0⟩ hne
    simp only [UInt8.ofNat_toNat] at this
    exact ⟨[c], c.toNat, rfl, isSeq_ascii c h0, by simp [this], by simp⟩
  | @multi c t h0 h1 =>
    cases h
    refine ⟨_, (decodeRune (c :: t)).1, rfl, isSeq_take c t h1, ?_, decodeRune_le _⟩
    rw [canonChar_high _ (decodeRune_multi_ge (c :: t) h1), encodeRune_decodeRune c t (by omega)]
  | @simple e w t hm =>
    injection h with hk hnc
    subst hk
    obtain ⟨hc, hw⟩ := simple_canon _ hm (of_decide_eq_false hnc)
    exact ⟨[w], w.toNat, rfl, isSeq_ascii w hw, by simp [hc], by simp⟩
  | @uni a b c d v1 t hp hns =>
    injection h with hk hnc
    obtain ⟨hx, hcan⟩ := canon_digits a b c d v1 hp hnc
    exact ⟨encodeRune v1, v1, by rw [← hk]; rfl, isSeq_encode_valid v1 (by simp only [maxRune]; omega) (by omega),
      by simp [← hk, ← hcan], by simp [← hk]⟩
  | pair hp _ hs _ => cases v <;> simp [csOf, hsur _ hs] at h
  | lone hp hs => cases v <;> simp [csOf, hsur _ hs] at h
  | loneEOF hp hs => cases v <;> simp [csOf, hsur _ hs] at h
  | bad => cases v <;> cases h
  | close | eof | badEscape | ctrl => cases h

theorem csStep_stop_ok {v : Bool} {src : Bytes} {off : Nat} {nc : Bool} (h : csStep v src = .stop off .ok nc) :
    ∃ t, src = 0x22 :: t ∧ off = 1 := by
  rw [csStep_eq] at h
  have hs := headOf_shape src
  generalize headOf src = hd at h hs
  cases hs <;> cases v <;> cases h <;> exact ⟨_, rfl, rfl⟩

theorem csLoop_canon (v : Bool) (src : Bytes) (n : Nat) (nc : Bool) (e : Err)
    (h : csLoop v src n nc = (n + src.length, Err.ok, false)) :
    src = (scalars (unqLoop src e).1).flatMap canonChar ++ [0x22] ∧ (unqLoop src e).2 = e := by
  fun_induction csLoop v src n nc with
  | case1 src n nc off e' nc' hs =>
    injection h with h1 h2
    injection h2 with h2 h3
    subst h2
    obtain ⟨t, rfl, rfl⟩ := csStep_stop_ok hs
    have : t = [] := by
      simp only [List.length_cons] at h1; exact List.eq_nil_of_length_eq_zero (by omega)
    subst this
    rw [unqLoop_close]; simp [scalars]
  | case2 src n nc k nc' hs ih =>
    have hnc : (nc || nc') = false := by
      cases hb : (nc || nc')
      · rfl
      · rw [hb] at h
        have := csLoop_nc_true v (src.drop k) (n + k)
        rw [h] at this; cases this
    obtain rfl : nc' = false := (Bool.or_eq_false_iff.mp hnc).2
    obtain ⟨o, r, hu, hseq, htake, hle⟩ := csStep_canon v src k hs
    have hlen : n + k + (src.drop k).length = n + src.length := by simp only [List.length_drop]; omega
    rw [← hlen] at h
    obtain ⟨ih1, ih2⟩ := ih h
    rw [unqLoop_cont e hu]
    simp only [Option.getD_none]
    refine ⟨?_, ih2⟩
    rw [isSeq_scalars hseq, List.flatMap_cons, ← htake, List.append_assoc, ← ih1, List.take_append_drop]

theorem consumeString_canonical_iff (v : Bool) (lit : Bytes)
    (h : (consumeString v lit).1 = lit.length ∧ (consumeString v lit).2.1 = Err.ok) :
    (consumeString v lit).2.2 = false ↔ lit = canonQuote (appendUnquote lit).1 := by
  constructor
  · intro hc
    match lit with
    | [] => simp [consumeString] at h
    | c :: t =>
      by_cases hq : c = 0x22
      · subst hq
        simp only [consumeString, ↓reduceIte] at h hc
        have hfull : csLoop v t 1 false = (1 + t.length, Err.ok, false) := by
          obtain ⟨h1, h2⟩ := h
          have h1' : (csLoop v t 1 false).1 = 1 + t.length := by simp only [List.length_cons] at h1; omega
          generalize csLoop v t 1 false = res at h1' h2 hc
          obtain ⟨a, b, c⟩ := res
          simp only at h1' h2 hc; subst h1' h2 hc; rfl
        obtain ⟨k1, _⟩ := csLoop_canon v t 1 false Err.ok hfull
        simp only [appendUnquote, ↓reduceIte, canonQuote]
        rw [← k1]
      · simp [consumeString, hq] at h
  · intro hl
    rw [hl, consumeString_canonQuote]

end JsonV.Lemmas.QuoteCanon
