/-
The decoding routes of `Model/AnyDecode.lean` agree: the generic arshalers and the specialised decoder, whatever the string cache
holds on either side (`routes_agree_core`); the `map[string]any` and `[]any` targets on a text that opens with `{` resp. `[`.
-/
import JsonV.Model.AnyDecode

namespace JsonV.Lemmas.MeaningRoutes
open JsonV JsonV.Spec.Meaning JsonV.Model.AnyDecode

theorem makeString_fst (c : Cache) (b : Bytes) : (makeString c b).1 = b := by
  unfold makeString
  split
  · rfl
  · dsimp only
    split
    · next h => exact h
    · rfl

/-- Forget the cache of a step result. -/
def strip {α : Type} : Res α → Except Err (α × Bytes)
  | .ok (v, r, _) => .ok (v, r)
  | .error e => .error e

@[simp] theorem strip_ok {α : Type} (v : α) (r : Bytes) (c : Cache) : strip (.ok (v, r, c) : Res α) = .ok (v, r) := rfl
@[simp] theorem strip_error {α : Type} (e : Err) : strip (.error e : Res α) = .error e := rfl

variable {F : Type} (fp : FloatParse F)

theorem lexNum_none_of_not_start (k : UInt8) (r : Bytes) (h : isNumStart k = false) : lexNum (k :: r) = none := by
  unfold isNumStart at h
  simp only [Bool.or_eq_false_iff, decide_eq_false_iff_not, Bool.and_eq_false_iff] at h
  obtain ⟨h1, h2⟩ := h
  unfold lexNum
  simp only [h1, if_false]
  have h30 : k ≠ 0x30 := by
    intro e; subst e; simp at h2
  simp only [h30, if_false]
  split
  · next h3 =>
    simp only [Bool.and_eq_true, decide_eq_true_eq] at h3
    rcases h2 with h2 | h2
    · exact absurd (UInt8.le_trans (by decide) h3.1) h2
    · exact absurd h3.2 h2
  · rfl

/-- By cases on the first byte, the two dispatches stepped side by side. -/
theorem scalar_agree (opt : Bool) (fuel d : Nat) (c c' : Cache) (k : UInt8) (r : Bytes)
    (h7B : k ≠ 0x7B) (h5B : k ≠ 0x5B) :
    strip (genValue fp opt false (fuel+1) d c (k :: r)) = strip (fastValue fp (fuel+1) d c' (k :: r)) := by
  rw [fastValue, if_neg h7B, if_neg h5B, genValue]
  unfold lexScalar
  dsimp only
  by_cases h1 : k = 0x6E
  · subst h1
    rw [if_pos rfl, if_neg (by decide), if_pos rfl]
    cases stripPrefix litNull (0x6E :: r) <;> rfl
  rw [if_neg h1, if_neg Bool.false_ne_true]
  by_cases h2 : k = 0x66
  · subst h2
    rw [if_pos (by decide), if_neg (by decide), if_neg (by decide), if_neg (by decide), if_pos rfl]
    cases stripPrefix litFalse (0x66 :: r) <;> rfl
  by_cases h3 : k = 0x74
  · subst h3
    rw [if_pos (by decide), if_neg (by decide), if_neg (by decide), if_pos rfl]
    cases stripPrefix litTrue (0x74 :: r) <;> rfl
  rw [if_neg (by simp [h2, h3])]
  by_cases h4 : k = 0x22
  · subst h4
    rw [if_pos rfl, if_pos rfl]
    cases lexStr r with
    | none => rfl
    | some p => simp only [strip, makeString_fst]
  rw [if_neg h4, if_neg h4, if_neg h1, if_neg h3, if_neg h2]
  cases h5 : isNumStart k
  · rw [if_neg Bool.false_ne_true, if_neg h7B, if_neg h5B, lexNum_none_of_not_start k r h5]
  · rw [if_pos rfl]
    cases lexNum (k :: r) with
    | none => rfl
    | some p =>
      obtain ⟨l, r'⟩ := p
      dsimp only
      cases fp l <;> rfl

theorem strip_eq_cases {α : Type} {x y : Res α} (h : strip x = strip y) :
    (∃ e, x = .error e ∧ y = .error e) ∨ ∃ v r c c', x = .ok (v, r, c) ∧ y = .ok (v, r, c') := by
  rcases x with e | ⟨v, r, c⟩ <;> rcases y with e' | ⟨v', r', c'⟩ <;> simp only [strip] at h <;> cases h
  · exact .inl ⟨_, rfl, rfl⟩
  · exact .inr ⟨_, _, _, _, rfl, rfl⟩

/-- The two routes agree up to the cache with `fuel` units: on values, member lists and element lists.  `opt`: the options
permit the specialised decoder below this value; `fo` (`fastOK` of `genValue`): the interface arshaler may hand this very
value to it. -/
def RoutesAgree (fuel : Nat) : Prop :=
  (∀ (opt fo : Bool) (d : Nat) (c c' : Cache) (b : Bytes),
    strip (genValue fp opt fo fuel d c b) = strip (fastValue fp fuel d c' b)) ∧
  (∀ (opt : Bool) (d : Nat) (m : List (Bytes × GoAny F)) (c c' : Cache) (b : Bytes),
    strip (genMembers fp opt fuel d m c b) = strip (fastMembers fp fuel d m c' b)) ∧
  (∀ (opt : Bool) (d : Nat) (a : List (GoAny F)) (c c' : Cache) (b : Bytes),
    strip (genElems fp opt fuel d a c b) = strip (fastElems fp fuel d a c' b))

theorem members_step (fuel : Nat) (ih : RoutesAgree fp fuel)
    (opt : Bool) (d : Nat) (m : List (Bytes × GoAny F)) (c c' : Cache) (b : Bytes) :
    strip (genMembers fp opt (fuel+1) d m c b) = strip (fastMembers fp (fuel+1) d m c' b) := by
  cases b with
  | nil => rfl
  | cons k r =>
    -- the two loops are stepped side by side with `rw`: `simp` with both definitions is much slower
    rw [genMembers, fastMembers]
    dsimp only
    by_cases hk : k = 0x22
    · rw [if_pos hk, if_pos hk]
      cases lexStr r with
      | none => rfl
      | some p =>
        obtain ⟨name, r1⟩ := p
        dsimp only
        rw [makeString_fst]
        by_cases hd : mapHas m name = true
        · rw [if_pos hd, if_pos hd]
        rw [if_neg hd, if_neg hd]
        cases skipWs r1 with
        | nil => rfl
        | cons k2 r2 =>
          dsimp only
          by_cases h2 : k2 = 0x3A
          · rw [if_pos h2, if_pos h2]
            rcases strip_eq_cases (ih.1 opt opt d (makeString c name).2 c' (skipWs r2)) with
              ⟨e, hx, hy⟩ | ⟨v, r3, c3, c3', hx, hy⟩ <;> rw [hx, hy]
            dsimp only
            cases skipWs r3 with
            | nil => rfl
            | cons k4 r4 =>
              dsimp only
              by_cases h4 : k4 = 0x2C
              · rw [if_pos h4, if_pos h4]; exact ih.2.1 opt d _ c3 c3' _
              rw [if_neg h4, if_neg h4]
              by_cases h5 : k4 = 0x7D
              · rw [if_pos h5, if_pos h5]; rfl
              · rw [if_neg h5, if_neg h5]
          · rw [if_neg h2, if_neg h2]
    · rw [if_neg hk, if_neg hk]

theorem elems_step (fuel : Nat) (ih : RoutesAgree fp fuel)
    (opt : Bool) (d : Nat) (a : List (GoAny F)) (c c' : Cache) (b : Bytes) :
    strip (genElems fp opt (fuel+1) d a c b) = strip (fastElems fp (fuel+1) d a c' b) := by
  rw [genElems, fastElems]
  rcases strip_eq_cases (ih.1 opt opt d c c' b) with ⟨e, hx, hy⟩ | ⟨v, r3, c3, c3', hx, hy⟩ <;> rw [hx, hy]
  dsimp only
  cases skipWs r3 with
  | nil => rfl
  | cons k4 r4 =>
    dsimp only
    by_cases h4 : k4 = 0x2C
    · rw [if_pos h4, if_pos h4]; exact ih.2.2 opt d _ c3 c3' _
    rw [if_neg h4, if_neg h4]
    by_cases h5 : k4 = 0x5D
    · rw [if_pos h5, if_pos h5]; rfl
    · rw [if_neg h5, if_neg h5]

theorem value_step_generic (fuel : Nat) (ih : RoutesAgree fp fuel)
    (opt : Bool) (d : Nat) (c c' : Cache) (b : Bytes) :
    strip (genValue fp opt false (fuel+1) d c b) = strip (fastValue fp (fuel+1) d c' b) := by
  cases b with
  | nil => rfl
  | cons k r =>
    by_cases h7 : k = 0x7B
    · subst h7
      show strip (if d = maxDepth then _ else _) = strip (if d = maxDepth then _ else _)
      by_cases hd : d = maxDepth
      · rw [if_pos hd, if_pos hd]
      rw [if_neg hd, if_neg hd]
      cases skipWs r with
      | nil => rfl
      | cons k' r' =>
        show strip (if k' = 0x7D then _ else _) = strip (if k' = 0x7D then _ else _)
        by_cases h7d : k' = 0x7D
        · rw [if_pos h7d, if_pos h7d]; rfl
        rw [if_neg h7d, if_neg h7d]
        rcases strip_eq_cases (ih.2.1 opt (d+1) [] c c' (k' :: r')) with ⟨e, hx, hy⟩ | ⟨ms, r2, c2, c2', hx, hy⟩ <;>
          rw [hx, hy] <;> rfl
    · by_cases h5 : k = 0x5B
      · subst h5
        show strip (if d = maxDepth then _ else _) = strip (if d = maxDepth then _ else _)
        by_cases hd : d = maxDepth
        · rw [if_pos hd, if_pos hd]
        rw [if_neg hd, if_neg hd]
        cases skipWs r with
        | nil => rfl
        | cons k' r' =>
          show strip (if k' = 0x5D then _ else _) = strip (if k' = 0x5D then _ else _)
          by_cases h5d : k' = 0x5D
          · rw [if_pos h5d, if_pos h5d]; rfl
          rw [if_neg h5d, if_neg h5d]
          rcases strip_eq_cases (ih.2.2 opt (d+1) [] c c' (k' :: r')) with ⟨e, hx, hy⟩ | ⟨xs, r2, c2, c2', hx, hy⟩ <;>
            rw [hx, hy] <;> rfl
      · exact scalar_agree fp opt fuel d c c' k r h7 h5

theorem value_step (fuel : Nat) (ih : RoutesAgree fp fuel)
    (opt fo : Bool) (d : Nat) (c c' : Cache) (b : Bytes) :
    strip (genValue fp opt fo (fuel+1) d c b) = strip (fastValue fp (fuel+1) d c' b) := by
  cases fo with
  | false => exact value_step_generic fp fuel ih opt d c c' b
  | true =>
    -- except for `null`, which it reads itself, the arshaler calls `fastValue` on its own cache: two uses of the generic case
    cases b with
    | nil => simp [genValue, fastValue]
    | cons k r =>
      by_cases hk : k = 0x6E
      · have : genValue fp opt true (fuel+1) d c (k :: r) = genValue fp opt false (fuel+1) d c (k :: r) := by
          simp only [genValue, hk, if_true]
        rw [this]
        exact value_step_generic fp fuel ih opt d c c' (k :: r)
      · have : genValue fp opt true (fuel+1) d c (k :: r) = fastValue fp (fuel+1) d c (k :: r) := by
          simp only [genValue, hk, if_false, if_true]
        rw [this]
        exact (value_step_generic fp fuel ih opt d c c (k :: r)).symm.trans
          (value_step_generic fp fuel ih opt d c c' (k :: r))

theorem routes_agree_core (fuel : Nat) : RoutesAgree fp fuel := by
  induction fuel with
  | zero => exact ⟨fun _ _ _ _ _ _ => rfl, fun _ _ _ _ _ _ => rfl, fun _ _ _ _ _ _ => rfl⟩
  | succ n ih => exact ⟨value_step fp n ih, members_step fp n ih, elems_step fp n ih⟩

theorem finish_congr {x y : Res (GoAny F)} (h : strip x = strip y) : finish x = finish y := by
  rcases strip_eq_cases h with ⟨e, hx, hy⟩ | ⟨v, r, c, c', hx, hy⟩ <;> rw [hx, hy] <;> rfl

/-- Target `map[string]any` on a text whose first token is `{`: the map arshaler enters the member loop at depth 1,
as `fastValue` does after the same two tests. -/
theorem unmarshalMap_eq_fast (opt : Bool) (c c' : Cache) (b r : Bytes) (hb : skipWs b = 0x7B :: r) :
    unmarshalMap fp opt c b = fast fp c' b := by
  unfold unmarshalMap fast fuelFor
  apply finish_congr
  rw [hb]
  dsimp only
  rw [if_pos rfl, fastValue, if_pos rfl, if_neg (by decide)]
  cases skipWs r with
  | nil => rfl
  | cons k' r' =>
    dsimp only
    by_cases h : k' = 0x7D
    · rw [if_pos h, if_pos h]; rfl
    · rw [if_neg h, if_neg h]
      rcases strip_eq_cases ((routes_agree_core fp (2 * b.length + 1)).2.1 opt 1 [] c c' (k' :: r')) with
        ⟨e, hx, hy⟩ | ⟨ms, r2, c2, c2', hx, hy⟩ <;> rw [hx, hy] <;> rfl

theorem unmarshalSlice_eq_fast (opt : Bool) (c c' : Cache) (b r : Bytes) (hb : skipWs b = 0x5B :: r) :
    unmarshalSlice fp opt c b = fast fp c' b := by
  unfold unmarshalSlice fast fuelFor
  apply finish_congr
  rw [hb]
  dsimp only
  rw [if_pos rfl, fastValue, if_neg (by decide), if_pos rfl, if_neg (by decide)]
  cases skipWs r with
  | nil => rfl
  | cons k' r' =>
    dsimp only
    by_cases h : k' = 0x5D
    · rw [if_pos h, if_pos h]; rfl
    · rw [if_neg h, if_neg h]
      rcases strip_eq_cases ((routes_agree_core fp (2 * b.length + 1)).2.2 opt 1 [] c c' (k' :: r')) with
        ⟨e, hx, hy⟩ | ⟨xs, r2, c2, c2', hx, hy⟩ <;> rw [hx, hy] <;> rfl

end JsonV.Lemmas.MeaningRoutes
