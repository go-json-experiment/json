/-
Lemmas about the quote/unquote model (C11): the regenerated escapeASCII table, one-step unfolding of the unquote loop
(`unqLoop_cont`, `unqLoop_stop`), hex digits, and what `quoteStep` emits, one equation per kind of head byte, through which the
proofs about the quote loop go.
-/
import JsonV.Lemmas.QuoteHead

namespace JsonV.Lemmas.QuoteL
open JsonV JsonV.Model.Utf8 JsonV.Model.Quote JsonV.Spec.StringSpec JsonV.Lemmas.QuoteHead

theorem escapeASCII_eq_zero : ∀ c : Fin 128,
    escapeASCII c.val = 0 ↔ noEscape c.val = true ∧ isHTMLChar c.val = false := by decide +kernel

theorem escapeASCII_val : ∀ c : Fin 128, escapeASCII c.val =
    if c.val < 0x20 ∨ c.val = 0x22 ∨ c.val = 0x5c ∨ c.val = 0x3c ∨ c.val = 0x3e ∨ c.val = 0x26 then 1 else 0 := by
  decide +kernel

theorem escapeASCII_table (c : Fin 128) : escapeASCII c.val = 1 ↔
    (c.val < 0x20 ∨ c.val = 0x22 ∨ c.val = 0x5c ∨ c.val = 0x3c ∨ c.val = 0x3e ∨ c.val = 0x26) := by
  rw [escapeASCII_val c]
  split <;> simp [*]

theorem escapeASCII_01 (c : Fin 128) : escapeASCII c.val = 0 ∨ escapeASCII c.val = 1 := by
  rw [escapeASCII_val c]
  split
  · exact .inr rfl
  · exact .inl rfl

theorem unqLoop_cont {src o k e'} (e : Err) (h : unqStep src = .cont o k e') :
    unqLoop src e = (o ++ (unqLoop (src.drop k) (e'.getD e)).1, (unqLoop (src.drop k) (e'.getD e)).2) := by
  rw [unqLoop]
  split
  · rename_i h2; rw [h] at h2; cases h2
  · rename_i h2; rw [h] at h2; cases h2; rfl

theorem unqLoop_stop {src o e'} (e : Err) (h : unqStep src = .stop o e') : unqLoop src e = (o, e'.getD e) := by
  rw [unqLoop]
  split
  · rename_i h2; rw [h] at h2; cases h2; rfl
  · rename_i h2; rw [h] at h2; cases h2

theorem hexVal_hexLower : ∀ n : Fin 16, hexVal (hexLower n.val).toNat = some n.val := by decide +kernel

theorem parseHex_digits (a b c d : Nat) (ha : a < 16) (hb : b < 16) (hc : c < 16) (hd : d < 16) :
    parseHexUint16 [hexLower a, hexLower b, hexLower c, hexLower d] = some (((a * 16 + b) * 16 + c) * 16 + d) := by
  have h1 := hexVal_hexLower ⟨a, ha⟩
  have h2 := hexVal_hexLower ⟨b, hb⟩
  have h3 := hexVal_hexLower ⟨c, hc⟩
  have h4 := hexVal_hexLower ⟨d, hd⟩
  simp only at h1 h2 h3 h4
  simp only [parseHexUint16, h1, h2, h3, h4]

theorem parseHex_u16 (x : Nat) (hx : x < 65536) :
    parseHexUint16 [hexLower ((x >>> 12) % 16), hexLower ((x >>> 8) % 16), hexLower ((x >>> 4) % 16), hexLower (x % 16)] = some x := by
  rw [parseHex_digits _ _ _ _ (Nat.mod_lt _ (by omega)) (Nat.mod_lt _ (by omega)) (Nat.mod_lt _ (by omega)) (Nat.mod_lt _ (by omega))]
  simp only [Nat.shiftRight_eq_div_pow]
  congr 1
  omega

theorem noEscape_of {n : Nat} (h0 : n < runeSelf) (h20 : 0x20 ≤ n) (hb : n ≠ 0x5c) (hq : n ≠ 0x22) :
    noEscape n = true := by
  simp only [noEscape, Bool.and_eq_true, decide_eq_true_eq, ne_eq]
  exact ⟨⟨⟨h0, h20⟩, hb⟩, hq⟩

theorem appendEscapedASCII_cases (c : Nat) :
    (∃ e : UInt8, appendEscapedASCII c = [0x5c, e] ∧
      ((c = 0x22 ∨ c = 0x5c) ∧ e = UInt8.ofNat c ∨ c = 0x08 ∧ e = 0x62 ∨ c = 0x0c ∧ e = 0x66 ∨ c = 0x0a ∧ e = 0x6e ∨
        c = 0x0d ∧ e = 0x72 ∨ c = 0x09 ∧ e = 0x74)) ∨
    (appendEscapedASCII c = appendEscapedUTF16 c ∧
      ¬ (c = 0x22 ∨ c = 0x5c ∨ c = 0x08 ∨ c = 0x0c ∨ c = 0x0a ∨ c = 0x0d ∨ c = 0x09)) := by
  unfold appendEscapedASCII
  by_cases h1 : c = 0x22 ∨ c = 0x5c
  · rw [if_pos h1]; exact .inl ⟨_, rfl, .inl ⟨h1, rfl⟩⟩
  rw [if_neg h1]
  by_cases h2 : c = 0x08
  · rw [if_pos h2]; exact .inl ⟨_, rfl, .inr (.inl ⟨h2, rfl⟩)⟩
  rw [if_neg h2]
  by_cases h3 : c = 0x0c
  · rw [if_pos h3]; exact .inl ⟨_, rfl, .inr (.inr (.inl ⟨h3, rfl⟩))⟩
  rw [if_neg h3]
  by_cases h4 : c = 0x0a
  · rw [if_pos h4]; exact .inl ⟨_, rfl, .inr (.inr (.inr (.inl ⟨h4, rfl⟩)))⟩
  rw [if_neg h4]
  by_cases h5 : c = 0x0d
  · rw [if_pos h5]; exact .inl ⟨_, rfl, .inr (.inr (.inr (.inr (.inl ⟨h5, rfl⟩))))⟩
  rw [if_neg h5]
  by_cases h6 : c = 0x09
  · rw [if_pos h6]; exact .inl ⟨_, rfl, .inr (.inr (.inr (.inr (.inr ⟨h6, rfl⟩))))⟩
  rw [if_neg h6]
  exact .inr ⟨rfl, by omega⟩

theorem html_noEscape {n : Nat} (h : isHTMLChar n = true) : noEscape n = true := by
  simp only [isHTMLChar, Bool.or_eq_true, decide_eq_true_eq] at h
  rcases h with (h | h) | h <;> subst h <;> decide

theorem quoteStep_ascii (html js : Bool) {c : UInt8} (t : Bytes) (h0 : c.toNat < runeSelf) :
    quoteStep html js c t =
      (if escapeASCII c.toNat ≠ 0 ∧ (!isHTMLChar c.toNat || html) = true then appendEscapedASCII c.toNat else [c],
       1, false) := by
  rw [quoteStep, if_pos h0]
  by_cases he : escapeASCII c.toNat = 0
  · rw [if_pos he, if_neg (fun h => h.1 he)]
  · rw [if_neg he]
    by_cases hh : (!isHTMLChar c.toNat || html) = true
    · rw [if_pos hh, if_pos ⟨he, hh⟩]
    · rw [if_neg hh, if_neg (fun h => hh h.2)]

theorem quoteStep_multi (html js : Bool) {c : UInt8} {t : Bytes} (h0 : ¬ c.toNat < runeSelf)
    (h1 : 1 < (decodeRune (c :: t)).2) :
    quoteStep html js c t =
      (if ((decodeRune (c :: t)).1 = 0x2028 ∨ (decodeRune (c :: t)).1 = 0x2029) ∧ js = true
        then appendEscapedUnicode (decodeRune (c :: t)).1 else (c :: t).take (decodeRune (c :: t)).2,
       (decodeRune (c :: t)).2, false) := by
  have hinv : isInvalidUTF8 (decodeRune (c :: t)).1 (decodeRune (c :: t)).2 = false := by
    simp only [isInvalidUTF8, Bool.and_eq_false_iff, decide_eq_false_iff_not]; omega
  rw [quoteStep, if_neg h0]
  simp only [hinv, Bool.false_eq_true, ↓reduceIte]
  by_cases hj : ((decodeRune (c :: t)).1 = 0x2028 ∨ (decodeRune (c :: t)).1 = 0x2029) ∧ js = true
  · rw [if_pos hj, if_pos hj, if_neg (by omega)]
  · rw [if_neg hj, if_neg hj, ite_self]

theorem quoteStep_bad (html js : Bool) {c : UInt8} {t : Bytes} (h0 : ¬ c.toNat < runeSelf)
    (h1 : decodeRune (c :: t) = (runeError, 1)) : quoteStep html js c t = (utf8FFFD, 1, true) := by
  rw [quoteStep, if_neg h0]
  simp [h1, isInvalidUTF8, runeError]

theorem appendEscapedUnicode_bmp (r : Nat) (h : r < 0x10000) : appendEscapedUnicode r = appendEscapedUTF16 r := by
  simp [appendEscapedUnicode, utf16EncodeRune, h, Nat.mod_eq_of_lt h]

theorem unqLoop_close (e : Err) : unqLoop [0x22] e = ([], e) := by
  rw [unqLoop_stop (o := []) (e' := none) e (by rw [unqStep_eq, headOf_close]; rfl)]; rfl

end JsonV.Lemmas.QuoteL
