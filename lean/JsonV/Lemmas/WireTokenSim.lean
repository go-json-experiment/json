/-
The token path simulates the value path (and rejects whenever the value path rejects): the induction over the fuel of the
value-path recogniser.  Both paths run the same scanners on the same bytes (`WireTokenStep.consumeValue_scan`), so no grammar of
values is involved.  Arrays and objects are walked once, through what WireValue says they share (`bracketThen`, `valueThen`) and a
`Shape`; every ReadToken is `Ok.tok` (a token the token grammar admits) or one of `rej_pre`, `rej_after`, `rej_end` of
Lemmas/WireTokens.lean.
-/
import JsonV.Lemmas.WireTokens

namespace JsonV.Lemmas.WireTokenSim
open JsonV JsonV.Model JsonV.Model.Wire JsonV.Model.Validate JsonV.Model.TokenLoop JsonV.Spec.Grammar
open JsonV.Spec JsonV.Spec.PDA
open JsonV.Lemmas.WireBasic JsonV.Lemmas.WireComplete JsonV.Lemmas.WireValue JsonV.Lemmas.WireFuel
open JsonV.Lemmas.StateRefine JsonV.Lemmas.StateRun JsonV.Lemmas.StateStep JsonV.Lemmas.WireTokenStep JsonV.Lemmas.WireTokens

/-- reading `lead ++ r`, the token path gets through `lead` and the first `n` bytes of `r`, and is then in a good state for the
frames `fs'`, with namespaces `nss'`; the last token completes a top-level value iff `fs'` is the bottom frame alone -/
def Ok (o : VOpts) (st : TState) (lead r : Bytes) (n : Nat) (fs' : Frames) (nss' : List (List Bytes)) : Prop :=
  1 ≤ n ∧ n ≤ r.length ∧ ∃ st', Reads o st (lead ++ r) (lead.length + n) st' (fs'.length == 1) ∧ st'.nss = nss' ∧
    Good st' fs' (r.drop n)

/-- the value path's result `res` on `r` against the token path on `lead ++ r` -/
def Concl (o : VOpts) (st : TState) (lead r : Bytes) (fs' : Frames) (nss' : List (List Bytes)) (res : Nat × Err) : Prop :=
  (res.2 = .ok → Ok o st lead r res.1 fs' nss') ∧ (res.2 ≠ .ok → Rejects o st (lead ++ r))

section
variable {o : VOpts} {st : TState} {lead r : Bytes} {fs' : Frames} {nss' : List (List Bytes)}

theorem Concl.ok {n : Nat} (h : Ok o st lead r n fs' nss') : Concl o st lead r fs' nss' (n, .ok) :=
  ⟨fun _ => h, fun he => absurd rfl he⟩

theorem Concl.rej {n : Nat} {e : Err} (he : e ≠ .ok) (h : Rejects o st (lead ++ r)) : Concl o st lead r fs' nss' (n, e) :=
  ⟨fun h' => absurd h' he, fun _ => h⟩

theorem Ok.tok {fs : Frames} {dl c : UInt8} {tl : Bytes} {k : Kind} {n : Nat} {fl : ValueFlags}
    (hg : Good st fs (c :: tl)) (hpre : PreOK dl lead) (hs : scan o (c :: tl) = .tok k n fl)
    (hdl : delimByte (delim fs k) = dl) (hst : PDA.step maxNestingDepth fs k = some fs')
    (hns : nsStep o st k ((c :: tl).take n) fl = .ok nss') : Ok o st lead (c :: tl) n fs' nss' := by
  obtain ⟨hc, hcd⟩ := scan_start hs
  obtain ⟨hn1, hn2⟩ := scan_tok hs
  obtain ⟨h1, h2⟩ := gap_pre (tl := tl) hpre hc (fun _ => hcd)
  obtain ⟨st', hrt, hnss, hg'⟩ := read_ok (inp := lead ++ c :: tl) hg (by rw [h2, List.drop_left]) hs (by rw [hdl, h1]) hst hns
    (y := (c :: tl).drop n) (by rw [List.length_drop]; omega)
  rw [h2] at hrt
  refine ⟨hn1, hn2, st', ?_, hnss, hg'⟩
  have := Reads.one hrt (by omega)
  rwa [hg'.depth] at this

theorem Concl.skip {w : Nat} {x : Bytes} {res : Nat × Err} (h : Concl o st (lead ++ r.take w) x fs' nss' res)
    (hd : r.drop w = x) (hw : w ≤ r.length) : Concl o st lead r fs' nss' (addOff w res) := by
  have hin : (lead ++ r.take w) ++ x = lead ++ r := by rw [List.append_assoc, ← hd, List.take_append_drop]
  have hlen : (lead ++ r.take w).length = lead.length + w := by
    rw [List.length_append, List.length_take, Nat.min_eq_left hw]
  have hx : w + x.length = r.length := by rw [← hd, List.length_drop]; omega
  rw [Concl, hin] at h
  refine ⟨fun he => ?_, h.2⟩
  obtain ⟨h1, h2, st', hr, hns, hg⟩ := h.1 he
  rw [hin, hlen, Nat.add_assoc] at hr
  refine ⟨by simp only [addOff]; omega, by simp only [addOff]; omega, st', hr, hns, ?_⟩
  simp only [addOff]
  rw [← List.drop_drop, hd]
  exact hg

variable {n1 : Nat} {f1 g : Frame} {gs : Frames} {nss1 : List (List Bytes)}

theorem length_ne_one (f1 g : Frame) (gs : Frames) : ((f1 :: g :: gs).length == 1) = false := by
  rw [beq_eq_false_iff_ne, List.length_cons, List.length_cons]; omega

theorem Ok.rejects {x : Bytes} (h1 : Ok o st lead r n1 (f1 :: g :: gs) nss1) (hx : r.drop n1 = x)
    (h2 : ∀ st1, Good st1 (f1 :: g :: gs) x → st1.nss = nss1 → Rejects o st1 x) : Rejects o st (lead ++ r) := by
  obtain ⟨-, -, st1, hr, hns, hg⟩ := h1
  rw [length_ne_one] at hr
  refine hr.rejects ?_
  rw [← List.drop_drop, List.drop_left, hx]
  exact h2 st1 (hx ▸ hg) hns

/-- a run that ends inside a container, then the value path's next piece `res` on `r2` against the token path on what is
left, `lead2 ++ r2` -/
theorem Ok.seq {lead2 r2 : Bytes} {fs2 : Frames} {nss2 : List (List Bytes)} {res : Nat × Err} {m : Nat}
    (h1 : Ok o st lead r n1 (f1 :: g :: gs) nss1) (hsplit : r.drop n1 = lead2 ++ r2) (hm : m = n1 + lead2.length)
    (h2 : ∀ st1, Good st1 (f1 :: g :: gs) (lead2 ++ r2) → st1.nss = nss1 → (lead2 ++ r2).length < r.length →
      Concl o st1 lead2 r2 fs2 nss2 res) : Concl o st lead r fs2 nss2 (addOff m res) := by
  obtain ⟨hn1, hn1', st1, hr1, hns1, hg1⟩ := h1
  rw [length_ne_one] at hr1
  have hd : (lead ++ r).drop (lead.length + n1) = lead2 ++ r2 := by rw [← List.drop_drop, List.drop_left, hsplit]
  have hlen : n1 + (lead2.length + r2.length) = r.length := by
    rw [← List.length_append, ← hsplit, List.length_drop]; omega
  have h2' := h2 st1 (hsplit ▸ hg1) hns1 (by rw [List.length_append]; omega)
  subst hm
  refine ⟨fun he => ?_, fun he => hr1.rejects (by rw [hd]; exact h2'.2 he)⟩
  obtain ⟨hk1, hk2, st2, hr2, hns2, hg2⟩ := h2'.1 he
  rw [← hd] at hr2
  have hr := hr1.trans hr2
  have e : lead.length + n1 + (lead2.length + res.1) = lead.length + (n1 + lead2.length + res.1) := by omega
  rw [e] at hr
  refine ⟨by simp only [addOff]; omega, by simp only [addOff]; omega, st2, hr, hns2, ?_⟩
  simp only [addOff]
  rw [Nat.add_assoc, ← List.drop_drop, hsplit, ← List.drop_drop, List.drop_left]
  exact hg2
end

/-- what precedes the blanks in front of the next element or member value: blanks only, or blanks and the delimiter (`PreOK` without the
blanks behind it: `pre_of_lead`) -/
def LeadOK (dl : UInt8) (lead : Bytes) : Prop :=
  (dl = 0 ∧ JWs lead) ∨ ((dl == 0x3A || dl == 0x2C) = true ∧ ∃ w, JWs w ∧ lead = w ++ [dl])

theorem pre_of_lead (dl : UInt8) (lead w1 : Bytes) (h : LeadOK dl lead) (hw : JWs w1) : PreOK dl (lead ++ w1) := by
  rcases h with ⟨h0, hl⟩ | ⟨hd, w, hw0, rfl⟩
  · exact Or.inl ⟨h0, hl.append hw⟩
  · exact Or.inr ⟨hd, w, w1, hw0, hw, by simp⟩

theorem step_closing {f : Frame} {frest fs' : Frames} {k : Kind} (hk : k.closing = true)
    (h : Step maxNestingDepth (f :: frest) k fs') :
    frest ≠ [] ∧ ((k = .endArr ∧ ∃ n, f = .arr n) ∨ (k = .endObj ∧ ∃ n, f = .obj n ∧ n % 2 = 0)) := by
  cases h <;> first
    | exact ⟨List.cons_ne_nil _ _, .inl ⟨rfl, _, rfl⟩⟩
    | exact ⟨List.cons_ne_nil _ _, .inr ⟨rfl, _, rfl, ‹_›⟩⟩
    | cases hk

theorem step_name {f : Frame} {frest fs' : Frames} {k : Kind} (hf : f.needName = true)
    (h : Step maxNestingDepth (f :: frest) k fs') : k = .str ∨ k = .endObj := by
  cases h <;> simp_all [Frame.needName]

/-- a token state aligned with a value position of the value path -/
structure AtValue (D : Nat) (st : TState) (f : Frame) (frest : Frames) (pre : Bytes) (c : UInt8) (tl : Bytes) : Prop where
  good : Good st (f :: frest) (c :: tl)
  depth : frest.length + 1 = D
  vpos : f.needName = false
  pre : PreOK (ncDelim (f :: frest)) pre
  cws : isWs c = false
  /-- `bracketThen` has dealt with the empty container, so the first value of an array does not begin with its closer -/
  guard : f = .arr 0 → frest ≠ [] → c ≠ 0x5D

/-- the simulation for `consumeValue` at this fuel: at a value position its result is matched by the token path (`Concl`) -/
def SV (o : VOpts) (fuel : Nat) : Prop :=
  ∀ D c tl st f frest pre, AtValue D st f frest pre c tl → 3 * (c :: tl).length + 1 ≤ fuel →
    Concl o st pre (c :: tl) (f.bump :: frest) st.nss (consumeValue o fuel D (c :: tl))

/-- `consumeArray` (`k = .beginArr`) or `consumeObject` (`k = .beginObj`) -/
def SB (o : VOpts) (fuel : Nat) (k : Kind) (cv : Nat → Nat → Bytes → Nat × Err) : Prop :=
  ∀ D tl st f frest pre, AtValue D st f frest pre k.byte tl → 3 * (k.byte :: tl).length ≤ fuel →
    Concl o st pre (k.byte :: tl) (f.bump :: frest) st.nss (cv fuel D (k.byte :: tl))

theorem nsStep_value {o : VOpts} {st : TState} {f : Frame} {frest : Frames} {x : Bytes} (hg : Good st (f :: frest) x)
    (hv : f.needName = false) (k : Kind) (hk : k ≠ .beginObj) (hk' : k ≠ .endObj) (q : Bytes) (fl : ValueFlags) :
    nsStep o st k q fl = .ok st.nss := by
  have : st.m.last.needObjectName = false := by rw [hg.needName, hv]
  cases k <;> first | rfl | exact absurd rfl hk | exact absurd rfl hk' | simp only [nsStep, this, Bool.false_and,
    Bool.false_eq_true, if_false]

theorem no_close_at_value {D : Nat} {st : TState} {f : Frame} {frest : Frames} {pre : Bytes} {c : UInt8} {tl : Bytes}
    (ha : AtValue D st f frest pre c tl) {k : Kind} (hk : k.closing = true) (hc : c = k.byte)
    (hdl : delimByte (delim (f :: frest) k) = ncDelim (f :: frest))
    {fs' : Frames} (h : Step maxNestingDepth (f :: frest) k fs') : False := by
  obtain ⟨hne, ⟨rfl, n, rfl⟩ | ⟨rfl, n, rfl, hn⟩⟩ := step_closing hk h
  · -- `]` needs no delimiter, so none is due: the array is empty
    obtain ⟨g, gs, rfl⟩ := List.exists_cons_of_ne_nil hne
    rw [closeDelim_zero rfl _ rfl] at hdl
    have := (nc0_nested _ g gs hdl.symm).1
    simp only [Frame.count] at this
    subst this
    exact ha.guard rfl hne hc
  · -- `}` closes an object only where a name is due
    have := ha.vpos
    simp [Frame.needName, hn] at this

theorem sv_step (o : VOpts) (fuel : Nat) (hA : SB o fuel .beginArr (consumeArray o)) (hO : SB o fuel .beginObj (consumeObject o)) :
    SV o (fuel + 1) := by
  intro D c tl st f frest pre ha hfuel
  rw [consumeValue_scan]
  cases hs : scan o (c :: tl) with
  | bad n e =>
    exact Concl.rej (scan_bad hs).1 (rej_pre ha.good ha.pre ha.cws fun k n' fl _ hs' => by rw [hs] at hs'; cases hs')
  | tok k n fl =>
    have scalar (hk : k = .lit ∨ k = .str ∨ k = .num) : Concl o st pre (c :: tl) (f.bump :: frest) st.nss (n, .ok) :=
      Concl.ok (Ok.tok ha.good ha.pre hs (delim_nc _ (by rcases hk with rfl | rfl | rfl <;> rfl)) (step_value k ha.vpos hk)
        (nsStep_value ha.good ha.vpos k (by rcases hk with rfl | rfl | rfl <;> nofun) (by rcases hk with rfl | rfl | rfl <;> nofun) _ _))
    have close (hk : k.closing = true) {e : Err} (he : e ≠ .ok) : Concl o st pre (c :: tl) (f.bump :: frest) st.nss (0, e) := by
      refine Concl.rej he (rej_pre ha.good ha.pre ha.cws fun k' n' fl' _ hs' hdl hst => ?_)
      rw [hs] at hs'; cases hs'
      rcases scan_kind hs with hc | ⟨hk', -⟩
      · exact (no_close_at_value ha hk hc hdl hst).elim
      · rcases hk' with rfl | rfl <;> cases hk
    have hc (hk : k ≠ .lit) (hk' : k ≠ .num) : c = k.byte :=
      (scan_kind hs).resolve_right fun h => h.1.elim hk hk'
    cases k with
    | lit => exact scalar (.inl rfl)
    | str => exact scalar (.inr (.inl rfl))
    | num => exact scalar (.inr (.inr rfl))
    | beginObj =>
      obtain rfl := hc nofun nofun
      exact hO D tl st f frest pre ha (by simp at hfuel ⊢; omega)
    | beginArr =>
      obtain rfl := hc nofun nofun
      exact hA D tl st f frest pre ha (by simp at hfuel ⊢; omega)
    | endObj => exact close rfl nofun
    | endArr => exact close rfl nofun

theorem scan_bracket (o : VOpts) (k : Kind) (hk : k.opening = true ∨ k.closing = true) (tl : Bytes) :
    scan o (k.byte :: tl) = .tok k 1 {} := by
  cases k <;> first | rfl | (rcases hk with h | h <;> cases h)

/-- a kind of container, by what the simulation uses of it: its brackets `kopen` and `kclose`, the byte `close` of the latter,
and the frame `fr k` of such a container that holds `k` elements -/
structure Shape (kopen kclose : Kind) (close : UInt8) (fr : Nat → Frame) : Prop where
  opening : kopen.opening = true ∧ kopen.closing = false
  closing : kclose.closing = true
  byte : close = kclose.byte
  count : ∀ k, (fr k).count = k
  bump : ∀ k, (fr k).bump = fr (k + 1)
  start : (fr 0).needValue = false
  stepOpen : ∀ {f : Frame} {frest : Frames}, f.needName = false → frest.length < maxNestingDepth →
    PDA.step maxNestingDepth (f :: frest) kopen = some (fr 0 :: f.bump :: frest)
  stepClose : ∀ {k : Nat} {g : Frame} {gs : Frames}, (fr k).needValue = false →
    PDA.step maxNestingDepth (fr k :: g :: gs) kclose = some (g :: gs)
  room : ∀ {f : Frame} {frest fs' : Frames}, Step maxNestingDepth (f :: frest) kopen fs' → frest.length < maxNestingDepth
  onlyClose : ∀ {k : Nat} {frest fs' : Frames} {k' : Kind}, k'.closing = true →
    Step maxNestingDepth (fr k :: frest) k' fs' → k' = kclose
  /-- only an empty array has the frame that `AtValue.guard` speaks of -/
  arr0 : ∀ {k : Nat}, fr k = .arr 0 → k = 0 ∧ close = 0x5D

theorem Shape.arr : Shape .beginArr .endArr 0x5D .arr where
  opening := ⟨rfl, rfl⟩
  closing := rfl
  byte := rfl
  count _ := rfl
  bump _ := rfl
  start := rfl
  stepOpen := step_beginArr
  stepClose _ := step_endArr
  room h := by cases h; assumption
  onlyClose hk h := by
    obtain ⟨-, ⟨rfl, -⟩ | ⟨-, n, hf, -⟩⟩ := step_closing hk h
    · rfl
    · cases hf
  arr0 h := by cases h; exact ⟨rfl, rfl⟩

theorem Shape.obj : Shape .beginObj .endObj 0x7D .obj where
  opening := ⟨rfl, rfl⟩
  closing := rfl
  byte := rfl
  count _ := rfl
  bump _ := rfl
  start := rfl
  stepOpen := step_beginObj
  stepClose hv := step_endObj (by simpa [Frame.needValue] using hv)
  room h := by cases h; assumption
  onlyClose hk h := by
    obtain ⟨-, ⟨-, n, hf⟩ | ⟨rfl, -⟩⟩ := step_closing hk h
    · cases hf
    · rfl
  arr0 h := by cases h

/-- the namespaces once a container is open: an object gets one of its own when duplicate names are refused -/
def nsOpen (o : VOpts) : Kind → List (List Bytes) → List (List Bytes)
  | .beginObj, nss => if o.allowDup then nss else [] :: nss
  | _, nss => nss

theorem nsStep_open (o : VOpts) (st : TState) {k : Kind} (hk : k.opening = true) (q : Bytes) (fl : ValueFlags) :
    nsStep o st k q fl = .ok (nsOpen o k st.nss) := by
  cases k <;> first | rfl | cases hk

section
variable {o : VOpts} {kopen kclose : Kind} {close : UInt8} {fr : Nat → Frame}

theorem open_concl (sh : Shape kopen kclose close fr) {D : Nat} {st : TState} {f : Frame} {frest : Frames} {pre : Bytes}
    {tl : Bytes} (ha : AtValue D st f frest pre kopen.byte tl) :
    (D = maxNestingDepth + 1 → Rejects o st (pre ++ kopen.byte :: tl)) ∧
    (D ≠ maxNestingDepth + 1 → Ok o st pre (kopen.byte :: tl) 1 (fr 0 :: f.bump :: frest) (nsOpen o kopen st.nss)) := by
  have hs := scan_bracket o kopen (.inl sh.opening.1) tl
  have hle := ha.good.open_le
  have hD := ha.depth
  constructor
  · intro hD'
    refine rej_pre ha.good ha.pre ha.cws fun k n fl fs' hs' _ hst => ?_
    rw [hs] at hs'; cases hs'
    have := sh.room hst
    omega
  · intro hD'
    exact Ok.tok ha.good ha.pre hs (delim_nc _ sh.opening.2) (sh.stepOpen ha.vpos (by omega)) (nsStep_open o st sh.opening.1 _ _)

/-- a token state aligned with the value path inside a container, where a loop round begins: behind the opening bracket, a comma or
(for `valueThen` in an object) the colon -/
structure AtLoop (D : Nat) (st : TState) (fr : Frame) (g : Frame) (grest : Frames) (lead r : Bytes) (close : UInt8) : Prop where
  good : Good st (fr :: g :: grest) r
  depth : grest.length + 2 = D
  lead : LeadOK (ncDelim (fr :: g :: grest)) lead
  /-- as `AtValue.guard`: in a container that is still empty the next byte is not its closer -/
  guard : fr.count = 0 → ∀ c t, r.drop (consumeWhitespace r) = c :: t → c ≠ close

theorem close_tok (sh : Shape kopen kclose close fr) {k : Nat} {g : Frame} {grest : Frames} {st : TState} {w tl : Bytes}
    {outer : List (List Bytes)} (hg : Good st (fr k :: g :: grest) (close :: tl)) (hv : (fr k).needValue = false) (hw : JWs w)
    (hns : ∀ q fl, nsStep o st kclose q fl = .ok outer) : Ok o st w (close :: tl) 1 (g :: grest) outer := by
  rw [sh.byte] at hg ⊢
  exact Ok.tok hg (.inl ⟨rfl, hw⟩) (scan_bracket o kclose (.inr sh.closing) tl) (closeDelim_zero hv _ sh.closing)
    (sh.stepClose hv) (hns _ _)

/-- `bracketThen` against the token path.  `hclose`: the closing bracket gives back the namespaces `st.nss`; `hloop`: the simulation of
`loop` behind the opening bracket, on shorter input. -/
theorem bracket_step (sh : Shape kopen kclose close fr) {D : Nat} {tl : Bytes} {st : TState} {f : Frame} {frest : Frames}
    {pre : Bytes} (ha : AtValue D st f frest pre kopen.byte tl) (loop : Bytes → Nat × Err)
    (hclose : ∀ st1 : TState, st1.nss = nsOpen o kopen st.nss → ∀ q fl, nsStep o st1 kclose q fl = .ok st.nss)
    (hloop : ∀ st1 lead r, AtLoop (D + 1) st1 (fr 0) f.bump frest lead r close → st1.nss = nsOpen o kopen st.nss →
      r.length < (kopen.byte :: tl).length → Concl o st1 lead r (f.bump :: frest) st.nss (loop r)) :
    Concl o st pre (kopen.byte :: tl) (f.bump :: frest) st.nss (bracketThen D close (kopen.byte :: tl) loop) := by
  obtain ⟨hmax, hopen⟩ := open_concl (o := o) sh ha
  have hdrop : (kopen.byte :: tl).drop 1 = tl := rfl
  rcases bracketThen_cases D close kopen.byte tl loop with ⟨hD, h⟩ | ⟨hD, ⟨hd, h⟩ | ⟨c, rest, hd, ⟨hc, h⟩ | ⟨hc, h⟩⟩⟩ <;> rw [h]
  · exact Concl.rej nofun (hmax hD)
  · exact Concl.rej nofun ((hopen hD).rejects hdrop fun st1 hg1 _ =>
      rej_end hg1 (.inl ⟨rfl, jws_of_drop_nil tl hd⟩) (.inr (by simp)))
  all_goals obtain ⟨hcw, hsplit⟩ := ws_head hd
  · -- the empty container
    rw [hc] at hsplit
    exact (hopen hD).seq (lead2 := tl.take (consumeWhitespace tl)) (r2 := close :: rest) (res := (1, .ok))
      (hdrop.trans hsplit) (by rw [take_ws_len]) fun st1 hg1 hns1 _ =>
        Concl.ok (close_tok sh (hg1.mono (by simp)) sh.start (ws_take tl) (hclose st1 hns1))
  · refine (hopen hD).seq (lead2 := tl.take (consumeWhitespace tl)) (r2 := c :: rest) (hdrop.trans hsplit) (by rw [take_ws_len])
      fun st1 hg1 hns1 hlt => hloop st1 _ _ ?_ hns1 (by simp at hlt ⊢; omega)
    exact
      { good := hg1.mono (by simp)
        depth := by have := ha.depth; omega
        lead := by rw [ncDelim_zero sh.start (sh.count 0)]; exact .inl ⟨rfl, ws_take tl⟩
        guard := by
          intro _ c' t' h'
          have hwsc : consumeWhitespace (c :: rest) = 0 := by simp [consumeWhitespace, hcw]
          rw [hwsc] at h'
          cases h'
          exact hc }

/-- `valueThen` against the token path.  `hclose`: the closing bracket leaves the namespaces `outer`; `hnext`: the simulation of `next`
behind a comma, on shorter input. -/
theorem then_step {fuel : Nat} (hV : SV o fuel) (sh : Shape kopen kclose close fr) {D k : Nat} {st : TState} {g : Frame}
    {grest : Frames} {lead r : Bytes} {outer : List (List Bytes)} (ha : AtLoop D st (fr k) g grest lead r close)
    (hv : (fr k).needName = false) (hv1 : (fr (k + 1)).needValue = false) (hfuel : 3 * r.length + 1 ≤ fuel)
    (next : Bytes → Nat × Err)
    (hclose : ∀ st1 : TState, st1.nss = st.nss → ∀ q fl, nsStep o st1 kclose q fl = .ok outer)
    (hnext : ∀ st1 lead2 rf, AtLoop D st1 (fr (k + 1)) g grest lead2 rf close → st1.nss = st.nss → rf.length < r.length →
      Concl o st1 lead2 rf (g :: grest) outer (next rf)) :
    Concl o st lead r (g :: grest) outer (valueThen o fuel D close 0 r next) := by
  -- behind an element the frame asks for a comma before every token but its closing bracket
  have hnc : ncDelim (fr (k + 1) :: g :: grest) = 0x2C := ncDelim_comma hv1 (by rw [sh.count]; omega) _ _
  -- the element itself, behind `lead` and blanks
  have value {c1 : UInt8} {rd0 : Bytes} {kk : Nat} {e : Err} (hd : r.drop (consumeWhitespace r) = c1 :: rd0)
      (hcv : consumeValue o fuel D (c1 :: rd0) = (kk, e)) :
      Concl o st lead r (fr (k + 1) :: g :: grest) st.nss (consumeWhitespace r + kk, e) := by
    have hl1 := len_of_drop r _ c1 rd0 hd
    have hav : AtValue D st (fr k) (g :: grest) (lead ++ r.take (consumeWhitespace r)) c1 rd0 :=
      { good := ha.good.mono (by simp; omega)
        depth := by have := ha.depth; simp; omega
        vpos := hv
        pre := pre_of_lead _ _ _ ha.lead (ws_take r)
        cws := (ws_head hd).1
        guard := by
          intro hf _ hc
          obtain ⟨rfl, hcl⟩ := sh.arr0 hf
          exact ha.guard (sh.count 0) c1 rd0 hd (hcl ▸ hc) }
    have := (hV D c1 rd0 st (fr k) (g :: grest) _ hav (by simp at hfuel ⊢; omega)).skip hd (ws_le r)
    rwa [hcv, sh.bump] at this
  have hs := valueThen_spec o fuel D close 0 r next
  generalize valueThen o fuel D close 0 r next = res at hs
  cases hs with
  | eof hd => exact Concl.rej nofun (rej_end ha.good (pre_of_lead _ _ _ ha.lead (jws_of_drop_nil r hd)) (.inr (by simp)))
  | bad c1 rd0 kk e hd hcv he => rw [Nat.zero_add]; exact Concl.rej he ((value hd hcv).2 he)
  | eof2 c1 rd0 kk hd hcv hd2 =>
    exact Concl.rej nofun (((value hd hcv).1 rfl).rejects (List.drop_add_of_drop hd kk) fun st1 hg1 _ =>
      rej_end hg1 (.inl ⟨rfl, jws_of_drop_nil _ hd2⟩) (.inr (by simp)))
  | comma c1 rd0 kk rf n' e' hd hcv hd2 hn =>
    have := ((value hd hcv).1 rfl).seq (lead2 := ((c1 :: rd0).drop kk).take (consumeWhitespace ((c1 :: rd0).drop kk)) ++ [0x2C])
      (r2 := rf) (res := next rf) (m := consumeWhitespace r + kk + consumeWhitespace ((c1 :: rd0).drop kk) + 1)
      ((List.drop_add_of_drop hd kk).trans (by simpa using (ws_head hd2).2))
      (by rw [List.length_append, take_ws_len]; rfl) fun st1 hg1 hns1 hlt => hnext st1 _ rf
        { good := hg1.mono (by simp; omega)
          depth := ha.depth
          lead := by rw [hnc]; exact .inr ⟨by decide, _, ws_take _, rfl⟩
          guard := fun h0 => by rw [sh.count] at h0; cases h0 } hns1 (by simp at hlt; omega)
    rw [hn] at this
    rw [Nat.zero_add]
    exact this
  | close c1 rd0 kk rf hd hcv hd2 =>
    rw [Nat.zero_add]
    exact ((value hd hcv).1 rfl).seq (lead2 := ((c1 :: rd0).drop kk).take (consumeWhitespace ((c1 :: rd0).drop kk)))
      (r2 := close :: rf) (res := (1, .ok)) ((List.drop_add_of_drop hd kk).trans (ws_head hd2).2) (by rw [take_ws_len])
      fun st1 hg1 hns1 _ => Concl.ok (close_tok sh (hg1.mono (by simp)) hv1 (ws_take _) (hclose st1 hns1))
  | other c1 rd0 kk c2 rf hd hcv hd2 hcomma hclose' =>
    refine Concl.rej nofun (((value hd hcv).1 rfl).rejects (List.drop_add_of_drop hd kk) fun st1 hg1 _ => ?_)
    rw [(ws_head hd2).2]
    refine rej_after hg1 (ws_take _) (ws_head hd2).1 (fun _ => by rw [hnc]; exact hcomma) fun k' n fl fs' hs hdl hst => ?_
    -- without the comma only a closing bracket may follow, and the PDA admits only the one of this container
    have hkc : k'.closing = true := by
      cases hkc : k'.closing
      · rw [delim_nc _ hkc, hnc] at hdl; cases hdl
      · rfl
    have hc2 : c2 = k'.byte := (scan_kind hs).resolve_right fun h => by rcases h.1 with rfl | rfl <;> cases hkc
    exact absurd (hc2.trans ((sh.onlyClose hkc hst) ▸ sh.byte.symm)) hclose'

end

/-- `SV` for `arrayLoop`, at the start of a round -/
def SL (o : VOpts) (fuel : Nat) : Prop :=
  ∀ D r st k g grest lead, AtLoop D st (.arr k) g grest lead r 0x5D → 3 * r.length + 2 ≤ fuel →
    Concl o st lead r (g :: grest) st.nss (arrayLoop o fuel D r)

theorem sl_step (o : VOpts) (fuel : Nat) (hV : SV o fuel) (hL : SL o fuel) : SL o (fuel + 1) := by
  intro D r st k g grest lead ha hfuel
  rw [arrayLoop_succ]
  exact then_step hV Shape.arr ha rfl rfl (by omega) _ (fun st1 h _ _ => congrArg Except.ok h)
    fun st1 lead2 rf ha1 hns hlt => hns ▸ hL D rf st1 (k + 1) g grest lead2 ha1 (by omega)

theorem sa_step (o : VOpts) (fuel : Nat) (hL : SL o fuel) : SB o (fuel + 1) .beginArr (consumeArray o) := by
  intro D tl st f frest pre ha hfuel
  rw [consumeArray_succ]
  exact bracket_step Shape.arr ha _ (fun st1 h _ _ => congrArg Except.ok h)
    fun st1 lead r ha1 hns hlt => (show st1.nss = st.nss from hns) ▸ hL (D + 1) r st1 0 f.bump frest lead ha1 (by omega)

/-- the namespaces of the token path hold the names the value path has collected for the current object -/
def NsOK (o : VOpts) (st : TState) (names : List Bytes) (outer : List (List Bytes)) : Prop :=
  if o.allowDup then st.nss = outer else st.nss = names :: outer

/-- a state inside an object whose frame counter `k` is even (a name comes next), aligned with `objectLoop … names`: the
innermost namespace holds the names the value path has collected -/
structure AtMem (o : VOpts) (D : Nat) (st : TState) (k : Nat) (g : Frame) (grest : Frames) (lead r : Bytes)
    (names : List Bytes) (outer : List (List Bytes)) : Prop where
  loop : AtLoop D st (.obj k) g grest lead r 0x7D
  even : k % 2 = 0
  ns : NsOK o st names outer

/-- `SV` for `objectLoop`, at the start of a round, with the names it has stored in the innermost namespace (`AtMem`) -/
def SOL (o : VOpts) (fuel : Nat) : Prop :=
  ∀ D r names st k g grest lead outer, AtMem o D st k g grest lead r names outer → 3 * r.length + 2 ≤ fuel →
    Concl o st lead r (g :: grest) outer (objectLoop o fuel D names r)

theorem nsStep_name {o : VOpts} {st : TState} {k : Nat} {g : Frame} {grest : Frames} {x : Bytes}
    (hg : Good st (.obj k :: g :: grest) x) (hk : k % 2 = 0) {names : List Bytes} {outer : List (List Bytes)}
    (hns : NsOK o st names outer) (q : Bytes) (fl : ValueFlags) :
    nsStep o st .str q fl =
      if !o.allowDup && names.contains (unescapedName q fl) then .error .dupName
      else .ok (if o.allowDup then outer else (names ++ [unescapedName q fl]) :: outer) := by
  have hnn : st.m.last.needObjectName = true := by rw [hg.needName]; simp [Frame.needName, hk]
  obtain ⟨hvn, han⟩ := hg.ns_flags
  unfold NsOK at hns
  cases ha : o.allowDup <;> simp only [ha, Bool.false_eq_true, if_false, if_true] at hns <;>
    simp [nsStep, hnn, ha, hvn, han, hns]

theorem scan_name {o : VOpts} {c0 : UInt8} {ra0 : Bytes} {n : Nat} {fl : ValueFlags} {e : Err}
    (hvs : valueString o (c0 :: ra0) = (n, fl, e)) (hq : c0 = 0x22 ∨ e = .ok) :
    c0 = 0x22 ∧ scan o (c0 :: ra0) = .of .str fl n e := by
  have hc : c0 = 0x22 := by
    rcases hq with h | rfl
    · exact h
    · obtain ⟨hn, hs⟩ := valueString_sound o _ n fl hvs
      obtain ⟨body, -, -, hr, -⟩ := hs.of_take hn
      exact (List.cons.inj hr).1
  subst hc
  have hk : normKind 0x22 = 0x22 := by decide
  refine ⟨rfl, ?_⟩
  simp only [scan, hk, hvs]
  rfl

theorem nsStep_endObj (o : VOpts) (st : TState) (q : Bytes) (fl : ValueFlags) :
    nsStep o st .endObj q fl = .ok (if o.allowDup then st.nss else st.nss.drop 1) := rfl

theorem sol_step (o : VOpts) (fuel : Nat) (hV : SV o fuel) (hL : SOL o fuel) : SOL o (fuel + 1) := by
  intro D r names st k g grest lead outer ha hfuel
  have hname : (Frame.obj k).needName = true := by simp [Frame.needName, ha.even]
  have heven : (Frame.obj k).needValue = false := decide_eq_false (by have := ha.even; omega)
  -- the name makes the counter odd: a member value is due, and behind it the counter is even again
  have hodd : (Frame.obj (k + 1)).needValue = true := decide_eq_true (by have := ha.even; omega)
  have heven2 : (k + 1 + 1) % 2 = 0 := by have := ha.even; omega
  have at0 {c0 : UInt8} {ra0 : Bytes} (hd : r.drop (consumeWhitespace r) = c0 :: ra0) :
      PreOK (ncDelim (.obj k :: g :: grest)) (lead ++ r.take (consumeWhitespace r)) ∧
      lead ++ r = (lead ++ r.take (consumeWhitespace r)) ++ c0 :: ra0 ∧ Good st (.obj k :: g :: grest) (c0 :: ra0) :=
    ⟨pre_of_lead _ _ _ ha.loop.lead (ws_take r), by rw [List.append_assoc, ← (ws_head hd).2],
      ha.loop.good.mono (by rw [← hd, List.length_drop]; omega)⟩
  -- a name that is accepted and new is one token
  have nameOk {c0 : UInt8} {ra0 : Bytes} {n : Nat} {fl : ValueFlags} (hd : r.drop (consumeWhitespace r) = c0 :: ra0)
      (hvs : valueString o (c0 :: ra0) = (n, fl, .ok))
      (hnew : o.allowDup = true ∨ unescapedName ((c0 :: ra0).take n) fl ∉ names) :
      Ok o st lead r (consumeWhitespace r + n) (.obj (k + 1) :: g :: grest)
        (if o.allowDup then outer else (names ++ [unescapedName ((c0 :: ra0).take n) fl]) :: outer) := by
    obtain ⟨hpre0, -, hg0⟩ := at0 hd
    have hnsn := nsStep_name (o := o) hg0 ha.even ha.ns ((c0 :: ra0).take n) fl
    rw [if_neg (by rcases hnew with h | h <;> simp [h])] at hnsn
    exact ((Concl.ok (Ok.tok hg0 hpre0 (scan_name hvs (.inr rfl)).2 (delim_nc _ rfl) (step_iff.2 .str) hnsn)).skip hd
      (ws_le r)).1 rfl
  rw [objectLoop_nameThen]
  have hs := nameThen_spec o names r fun base names' rc => valueThen o fuel D 0x7D base rc (objectLoop o fuel D names')
  revert hs
  generalize nameThen o names r (fun base names' rc => valueThen o fuel D 0x7D base rc (objectLoop o fuel D names')) = res
  intro hs
  cases hs with
  | eof hd =>
    exact Concl.rej nofun (rej_end ha.loop.good (pre_of_lead _ _ _ ha.loop.lead (jws_of_drop_nil r hd)) (.inr (by simp)))
  | bad c0 ra0 n fl e hd hvs he =>
    -- where a name is due the grammar admits a string, which the scanner refuses, and the `}` of an empty object only
    obtain ⟨hpre0, hin, hg0⟩ := at0 hd
    refine Concl.rej he (hin ▸ rej_pre hg0 hpre0 (ws_head hd).1 fun k' n' fl' fs' hs hdl hst => ?_)
    have hc0 : c0 = k'.byte := (scan_kind hs).resolve_right fun h => by
      rcases step_name hname hst with rfl | rfl <;> rcases h.1 with h | h <;> cases h
    rcases step_name hname hst with rfl | rfl
    · rw [(scan_name hvs (.inl hc0)).2, Scan.of, if_pos (by simpa using he)] at hs; cases hs
    · rw [closeDelim_zero heven _ rfl] at hdl
      exact absurd hc0 (ha.loop.guard (nc0_nested _ g grest hdl.symm).1 c0 ra0 hd)
  | dup c0 ra0 n fl hd hvs hallow hm =>
    obtain ⟨hpre0, hin, hg0⟩ := at0 hd
    refine Concl.rej nofun (hin ▸ rej_pre hg0 hpre0 (ws_head hd).1 fun k' n' fl' _ hs _ _ => ?_)
    rw [(scan_name hvs (.inr rfl)).2] at hs; cases hs
    exact ⟨_, by rw [nsStep_name hg0 ha.even ha.ns, if_pos (by simp [hallow, hm])]⟩
  | eof2 c0 ra0 n fl hd hvs hnew hd2 =>
    exact Concl.rej nofun ((nameOk hd hvs hnew).rejects (List.drop_add_of_drop hd n) fun st1 hg1 _ =>
      rej_end hg1 (.inl ⟨rfl, jws_of_drop_nil _ hd2⟩) (.inr (by simp)))
  | noColon c0 ra0 n fl c rc hd hvs hnew hd2 hcol =>
    refine Concl.rej nofun ((nameOk hd hvs hnew).rejects (List.drop_add_of_drop hd n) fun st1 hg1 _ => ?_)
    rw [(ws_head hd2).2]
    -- a frame that waits for a member value asks for the colon before every token
    exact rej_after hg1 (ws_take _) (ws_head hd2).1 (fun _ => by rw [ncDelim_colon hodd]; exact hcol) fun k' n fl' _ _ hdl => by
      rw [closeDelim_colon hodd] at hdl; cases hdl
  | name c0 ra0 n fl rc res hd hvs hnew hd2 hk =>
    subst hk
    rw [valueThen_base]
    have hnameOk := nameOk hd hvs hnew
    generalize hnss1 : (if o.allowDup = true then outer
      else (names ++ [unescapedName ((c0 :: ra0).take n) fl]) :: outer) = nss1 at hnameOk
    have hrb := List.drop_add_of_drop hd n
    generalize (c0 :: ra0).drop n = rb at hrb hd2
    have hlen2 := len_of_drop rb _ _ rc hd2
    have hlenb : consumeWhitespace r + n + rb.length = r.length := by
      rw [← hrb, List.length_drop]; have := hnameOk.2.1; omega
    refine hnameOk.seq (lead2 := rb.take (consumeWhitespace rb) ++ [0x3A]) (r2 := rc)
      (hrb.trans (by simpa using (ws_head hd2).2)) (by rw [List.length_append, take_ws_len]; rfl) fun st1 hg1 hns1 hlt => ?_
    refine then_step hV Shape.obj (k := k + 1) (st := st1) ?_ (decide_eq_false (by have := ha.even; omega))
      (decide_eq_false (by omega)) (by omega) _
      (fun st2 h _ _ => by rw [nsStep_endObj, h, hns1, ← hnss1]; cases o.allowDup <;> rfl)
      fun st2 lead2 rf ha2 hns2 hlt2 => hL D rf _ st2 (k + 1 + 1) g grest lead2 outer
        ⟨ha2, heven2, by unfold NsOK; rw [hns2, hns1, ← hnss1]; cases o.allowDup <;> simp⟩ (by omega)
    exact
      { good := hg1.mono (by simp; omega)
        depth := ha.loop.depth
        lead := by rw [ncDelim_colon hodd]; exact .inr ⟨by decide, _, ws_take rb, rfl⟩
        guard := fun h0 => absurd h0 (Nat.succ_ne_zero _) }

theorem so_step (o : VOpts) (fuel : Nat) (hL : SOL o fuel) : SB o (fuel + 1) .beginObj (consumeObject o) := by
  intro D tl st f frest pre ha hfuel
  have hns : ∀ st1 : TState, st1.nss = nsOpen o .beginObj st.nss → NsOK o st1 [] st.nss := by
    intro st1 h; unfold NsOK; rw [h]; cases h' : o.allowDup <;> simp [nsOpen, h']
  rw [consumeObject_succ]
  exact bracket_step Shape.obj ha _
    (fun st1 h _ _ => by rw [nsStep_endObj, h]; cases h' : o.allowDup <;> simp [nsOpen, h'])
    fun st1 lead r ha1 hns1 hlt => hL (D + 1) r [] st1 0 f.bump frest lead st.nss ⟨ha1, rfl, hns st1 hns1⟩ (by omega)

theorem sim_all (o : VOpts) (fuel : Nat) :
    SV o fuel ∧ SB o fuel .beginArr (consumeArray o) ∧ SL o fuel ∧ SB o fuel .beginObj (consumeObject o) ∧ SOL o fuel := by
  induction fuel with
  | zero =>
    refine ⟨?_, ?_, ?_, ?_, ?_⟩
    · intro D c tl st f frest pre _ h; simp at h
    · intro D tl st f frest pre _ h; simp at h
    · intro D r st k g grest lead _ h; omega
    · intro D tl st f frest pre _ h; simp at h
    · intro D r names st k g grest lead outer _ h; omega
  | succ fuel ih =>
    obtain ⟨h1, h2, h3, h4, h5⟩ := ih
    exact ⟨sv_step o fuel h2 h4, sa_step o fuel h3, sl_step o fuel h1 h3, so_step o fuel h5, sol_step o fuel h1 h5⟩

end JsonV.Lemmas.WireTokenSim
