/-
The value grammar of Spec/Grammar.lean in the shape a proof about a parser wants.  `JValue.arr` and `JValue.obj` list the
elements (members) of a container as tuples and join their texts with `joinSep`; a parser reads the first element and then the
rest.  `JElems` and `JMembers` are the inside of a non-empty container read that way; `JValue.of_elems` / `of_members` build a
value from them, `JValue.cons_induction` takes one apart.  Before them the small facts on blanks, digits, the parts of a number and
`joinSep` that the scanners' proofs share; after them `JValue.mono`, from one instance of the grammar to another.
-/
import JsonV.Spec.Grammar

namespace JsonV.Spec.Grammar
open JsonV

theorem JWs.nil : JWs [] := nofun

theorem JWs.append {a b : Bytes} (ha : JWs a) (hb : JWs b) : JWs (a ++ b) :=
  fun c hc => (List.mem_append.1 hc).elim (ha c) (hb c)

theorem Digit.zero : Digit 0x30 := ⟨by decide, by decide⟩

theorem Digit19.digit {c : UInt8} (h : Digit19 c) : Digit c := ⟨UInt8.le_trans (by decide) h.1, h.2⟩

theorem digit19_iff {c : UInt8} : Digit19 c ↔ Digit c ∧ c ≠ 0x30 := by
  simp only [Digit, Digit19, UInt8.le_iff_toNat_le, ne_eq, ← UInt8.toNat_inj, UInt8.toNat_ofNat]
  omega

theorem Digits0.nil : Digits0 [] := nofun

theorem Digits0.cons {c : UInt8} {ds : Bytes} (hc : Digit c) (h : Digits0 ds) : Digits0 (c :: ds) :=
  List.forall_mem_cons.mpr ⟨hc, h⟩

theorem Digits1.cons {c : UInt8} {ds : Bytes} (hc : Digit c) (h : Digits0 ds) : Digits1 (c :: ds) :=
  ⟨List.cons_ne_nil _ _, h.cons hc⟩

theorem JNumber.mk' {m i f ex : Bytes} (hm : m = [] ∨ m = [0x2D]) (hi : JInt i) (hf : JFrac f) (hx : JExp ex) :
    JNumber (m ++ (i ++ (f ++ ex))) := by
  simpa only [List.append_assoc] using JNumber.mk m i f ex hm hi hf hx

theorem JNumber.of_int {m i : Bytes} (hm : m = [] ∨ m = [0x2D]) (hi : JInt i) : JNumber (m ++ i) := by
  simpa only [List.append_nil] using JNumber.mk m i [] [] hm hi .none .none

theorem joinSep_cons_cons (x y : Bytes) (l : List Bytes) : joinSep (x :: y :: l) = x ++ 0x2C :: joinSep (y :: l) := by
  simp [joinSep]

theorem joinSep_split {α : Type} (f : α → Bytes) (pre : List α) (e : α) (post : List α) :
    ∃ y, joinSep ((pre ++ e :: post).map f) = (pre.map fun x => f x ++ [0x2C]).flatten ++ (f e ++ y) := by
  induction pre with
  | nil =>
    cases post with
    | nil => exact ⟨[], by simp [joinSep]⟩
    | cons e2 post => exact ⟨0x2C :: joinSep ((e2 :: post).map f), by simp [joinSep]⟩
  | cons a pre ih =>
    obtain ⟨y, hy⟩ := ih
    refine ⟨y, ?_⟩
    obtain ⟨b, l, hl⟩ : ∃ b l, (pre ++ e :: post).map f = b :: l := by cases pre <;> exact ⟨_, _, rfl⟩
    rw [List.cons_append, List.map_cons, hl, joinSep_cons_cons, ← hl, hy]
    simp [List.append_assoc]

theorem JNumber.head {v : Bytes} (h : JNumber v) : ∃ c t, v = c :: t ∧ (c = 0x2D ∨ Digit c) := by
  cases h with
  | mk minus int frac exp hm hi _ _ =>
    rcases hm with rfl | rfl
    · cases hi with
      | zero => exact ⟨0x30, _, rfl, .inr .zero⟩
      | nonzero d ds h19 _ => exact ⟨d, _, rfl, .inr h19.digit⟩
    · exact ⟨0x2D, _, rfl, .inl rfl⟩

/-- What follows `[` in a non-empty array: `ws value ws`, then `]`, or `,` and more of the same. -/
inductive JElems (V : Bytes → Prop) : Bytes → Prop
  | last (w1 v w2 : Bytes) : JWs w1 → V v → JWs w2 → JElems V (w1 ++ (v ++ (w2 ++ [0x5D])))
  | cons (w1 v w2 t : Bytes) : JWs w1 → V v → JWs w2 → JElems V t → JElems V (w1 ++ (v ++ (w2 ++ 0x2C :: t)))

/-- What follows `{` in a non-empty object: `ws name ws : ws value ws`, then `}`, or `,` and more of the same.  `seen` holds
the keys of the names read before; unless `dup`, the next key must not be among them. -/
inductive JMembers (S V : Bytes → Prop) (K : Bytes → Bytes) (dup : Bool) : List Bytes → Bytes → Prop
  | last (seen : List Bytes) (w1 name w2 w3 v w4 : Bytes) : JWs w1 → S name → JWs w2 → JWs w3 → V v → JWs w4 →
      (dup = true ∨ K name ∉ seen) →
      JMembers S V K dup seen (w1 ++ (name ++ (w2 ++ 0x3A :: (w3 ++ (v ++ (w4 ++ [0x7D]))))))
  | cons (seen : List Bytes) (w1 name w2 w3 v w4 t : Bytes) : JWs w1 → S name → JWs w2 → JWs w3 → V v → JWs w4 →
      (dup = true ∨ K name ∉ seen) → JMembers S V K dup (K name :: seen) t →
      JMembers S V K dup seen (w1 ++ (name ++ (w2 ++ 0x3A :: (w3 ++ (v ++ (w4 ++ 0x2C :: t))))))

theorem JElems.imp {V V' : Bytes → Prop} (h : ∀ v, V v → V' v) {t : Bytes} (ht : JElems V t) : JElems V' t := by
  induction ht with
  | last w1 v w2 h1 hv h2 => exact .last w1 v w2 h1 (h v hv) h2
  | cons w1 v w2 t h1 hv h2 _ ih => exact .cons w1 v w2 t h1 (h v hv) h2 ih

theorem JElems.ws_append {V : Bytes → Prop} {w t : Bytes} (hw : JWs w) (ht : JElems V t) : JElems V (w ++ t) := by
  cases ht with
  | last w1 v w2 h1 hv h2 => rw [← List.append_assoc]; exact .last _ v w2 (hw.append h1) hv h2
  | cons w1 v w2 t h1 hv h2 ht => rw [← List.append_assoc]; exact .cons _ v w2 t (hw.append h1) hv h2 ht

theorem JMembers.imp {S S' V V' : Bytes → Prop} {K : Bytes → Bytes} {dup : Bool} (hS : ∀ n, S n → S' n) (hV : ∀ v, V v → V' v)
    {seen : List Bytes} {t : Bytes} (ht : JMembers S V K dup seen t) : JMembers S' V' K dup seen t := by
  induction ht with
  | last seen w1 n w2 w3 v w4 h1 hn h2 h3 hv h4 hk => exact .last seen w1 n w2 w3 v w4 h1 (hS n hn) h2 h3 (hV v hv) h4 hk
  | cons seen w1 n w2 w3 v w4 t h1 hn h2 h3 hv h4 hk _ ih =>
    exact .cons seen w1 n w2 w3 v w4 t h1 (hS n hn) h2 h3 (hV v hv) h4 hk ih

theorem JMembers.ws_append {S V : Bytes → Prop} {K : Bytes → Bytes} {dup : Bool} {seen : List Bytes} {w t : Bytes}
    (hw : JWs w) (ht : JMembers S V K dup seen t) : JMembers S V K dup seen (w ++ t) := by
  cases ht with
  | last _ w1 n w2 w3 v w4 h1 hn h2 h3 hv h4 hk =>
    rw [← List.append_assoc]; exact .last seen _ n w2 w3 v w4 (hw.append h1) hn h2 h3 hv h4 hk
  | cons _ w1 n w2 w3 v w4 t h1 hn h2 h3 hv h4 hk ht =>
    rw [← List.append_assoc]; exact .cons seen _ n w2 w3 v w4 t (hw.append h1) hn h2 h3 hv h4 hk ht

theorem JElems.exists_ws {V : Bytes → Prop} {t : Bytes} (ht : JElems V t) :
    ∃ w t', JWs w ∧ t = w ++ t' ∧ JElems V t' ∧ ∃ v x, V v ∧ t' = v ++ x := by
  cases ht with
  | last w1 v w2 h1 hv h2 => exact ⟨w1, _, h1, rfl, .last [] v w2 .nil hv h2, v, _, hv, rfl⟩
  | cons w1 v w2 t h1 hv h2 ht => exact ⟨w1, _, h1, rfl, .cons [] v w2 t .nil hv h2 ht, v, _, hv, rfl⟩

theorem JMembers.exists_ws {S V : Bytes → Prop} {K : Bytes → Bytes} {dup : Bool} {seen : List Bytes} {t : Bytes}
    (ht : JMembers S V K dup seen t) :
    ∃ w t', JWs w ∧ t = w ++ t' ∧ JMembers S V K dup seen t' ∧ ∃ n x, S n ∧ t' = n ++ x := by
  cases ht with
  | last _ w1 n w2 w3 v w4 h1 hn h2 h3 hv h4 hk =>
    exact ⟨w1, _, h1, rfl, .last seen [] n w2 w3 v w4 .nil hn h2 h3 hv h4 hk, n, _, hn, rfl⟩
  | cons _ w1 n w2 w3 v w4 t h1 hn h2 h3 hv h4 hk ht =>
    exact ⟨w1, _, h1, rfl, .cons seen [] n w2 w3 v w4 t .nil hn h2 h3 hv h4 hk ht, n, _, hn, rfl⟩

/-- a parser may keep the names it has read in any order (`objectLoop` appends them), or not at all when duplicates are allowed -/
theorem JMembers.seen_anti {S V : Bytes → Prop} {K : Bytes → Bytes} {dup : Bool} {seen seen' : List Bytes} {t : Bytes}
    (ht : JMembers S V K dup seen t) (h : dup = true ∨ ∀ k, k ∈ seen' → k ∈ seen) : JMembers S V K dup seen' t := by
  induction ht generalizing seen' with
  | last seen w1 n w2 w3 v w4 h1 hn h2 h3 hv h4 hk =>
    exact .last seen' w1 n w2 w3 v w4 h1 hn h2 h3 hv h4 (hk.elim .inl fun hk => h.imp_right fun h hm => hk (h _ hm))
  | cons seen w1 n w2 w3 v w4 t h1 hn h2 h3 hv h4 hk _ ih =>
    refine .cons seen' w1 n w2 w3 v w4 t h1 hn h2 h3 hv h4 (hk.elim .inl fun hk => h.imp_right fun h hm => hk (h _ hm))
      (ih (h.imp_right fun h k hm => ?_))
    rcases List.mem_cons.1 hm with rfl | hm
    · exact List.mem_cons_self
    · exact List.mem_cons_of_mem _ (h k hm)

/-- the text of an element as `JValue.arr` writes it -/
abbrev JElems.text (e : Bytes × Bytes × Bytes) : Bytes := e.1 ++ e.2.1 ++ e.2.2
/-- the text of a member as `JValue.obj` writes it -/
abbrev JMembers.text (m : Bytes × Bytes × Bytes × Bytes × Bytes × Bytes) : Bytes :=
  m.1 ++ m.2.1 ++ m.2.2.1 ++ [0x3A] ++ m.2.2.2.1 ++ m.2.2.2.2.1 ++ m.2.2.2.2.2

theorem JElems.of_list {V : Bytes → Prop} : ∀ {elems : List (Bytes × Bytes × Bytes)}, elems ≠ [] → (∀ e ∈ elems, JWs e.1 ∧ JWs e.2.2) →
    (∀ e ∈ elems, V e.2.1) → JElems V (joinSep (elems.map JElems.text) ++ [0x5D])
  | [], h, _, _ => absurd rfl h
  | [e], _, hw, hv => by
    have := JElems.last e.1 e.2.1 e.2.2 (hw e (.head _)).1 (hv e (.head _)) (hw e (.head _)).2
    simpa [joinSep, List.append_assoc] using this
  | e :: e' :: es, _, hw, hv => by
    have ih := JElems.of_list (elems := e' :: es) (List.cons_ne_nil _ _) (fun x hx => hw x (.tail _ hx)) (fun x hx => hv x (.tail _ hx))
    have := JElems.cons e.1 e.2.1 e.2.2 _ (hw e (.head _)).1 (hv e (.head _)) (hw e (.head _)).2 ih
    simpa [joinSep_cons_cons, List.append_assoc] using this

theorem JElems.to_list {V : Bytes → Prop} {t : Bytes} (ht : JElems V t) :
    ∃ elems : List (Bytes × Bytes × Bytes), elems ≠ [] ∧ (∀ e ∈ elems, JWs e.1 ∧ JWs e.2.2) ∧ (∀ e ∈ elems, V e.2.1) ∧
      t = joinSep (elems.map JElems.text) ++ [0x5D] := by
  induction ht with
  | last w1 v w2 h1 hv h2 =>
    exact ⟨[(w1, v, w2)], List.cons_ne_nil _ _, List.forall_mem_singleton.2 ⟨h1, h2⟩, List.forall_mem_singleton.2 hv,
      by simp [joinSep, List.append_assoc]⟩
  | cons w1 v w2 t h1 hv h2 _ ih =>
    obtain ⟨elems, hne, hw, hvs, rfl⟩ := ih
    obtain ⟨e, es, rfl⟩ := List.exists_cons_of_ne_nil hne
    exact ⟨(w1, v, w2) :: e :: es, List.cons_ne_nil _ _, List.forall_mem_cons.2 ⟨⟨h1, h2⟩, hw⟩, List.forall_mem_cons.2 ⟨hv, hvs⟩,
      by simp [joinSep_cons_cons, List.append_assoc]⟩

theorem JMembers.of_list {S V : Bytes → Prop} {K : Bytes → Bytes} {dup : Bool} : ∀ {mems : List (Bytes × Bytes × Bytes × Bytes × Bytes × Bytes)} {seen : List Bytes},
    mems ≠ [] → (∀ m ∈ mems, JWs m.1 ∧ S m.2.1 ∧ JWs m.2.2.1 ∧ JWs m.2.2.2.1 ∧ JWs m.2.2.2.2.2) → (∀ m ∈ mems, V m.2.2.2.2.1) →
    (dup = true ∨ (mems.map fun m => K m.2.1).Nodup ∧ ∀ m ∈ mems, K m.2.1 ∉ seen) →
    JMembers S V K dup seen (joinSep (mems.map JMembers.text) ++ [0x7D])
  | [], _, h, _, _, _ => absurd rfl h
  | [m], seen, _, hw, hv, hk => by
    obtain ⟨h1, hn, h2, h3, h4⟩ := hw m (.head _)
    have := JMembers.last (K := K) seen m.1 m.2.1 m.2.2.1 m.2.2.2.1 m.2.2.2.2.1 m.2.2.2.2.2 h1 hn h2 h3 (hv m (.head _)) h4
      (hk.imp_right fun hk => hk.2 m (.head _))
    simpa [joinSep, List.append_assoc] using this
  | m :: m' :: ms, seen, _, hw, hv, hk => by
    obtain ⟨h1, hn, h2, h3, h4⟩ := hw m (.head _)
    have ih := JMembers.of_list (K := K) (mems := m' :: ms) (seen := K m.2.1 :: seen) (List.cons_ne_nil _ _)
      (fun x hx => hw x (.tail _ hx)) (fun x hx => hv x (.tail _ hx)) (hk.imp_right fun ⟨hnd, hs⟩ => by
        rw [List.map_cons, List.nodup_cons] at hnd
        refine ⟨hnd.2, fun x hx hm => ?_⟩
        rcases List.mem_cons.1 hm with he | hm
        · exact hnd.1 (he ▸ List.mem_map_of_mem (f := fun m : Bytes × Bytes × Bytes × Bytes × Bytes × Bytes => K m.2.1) hx)
        · exact hs x (.tail _ hx) hm)
    have := JMembers.cons seen m.1 m.2.1 m.2.2.1 m.2.2.2.1 m.2.2.2.2.1 m.2.2.2.2.2 _ h1 hn h2 h3 (hv m (.head _)) h4
      (hk.imp_right fun hk => hk.2 m (.head _)) ih
    simpa [joinSep_cons_cons, List.append_assoc] using this

theorem JMembers.to_list {S V : Bytes → Prop} {K : Bytes → Bytes} {dup : Bool} {seen : List Bytes} {t : Bytes}
    (ht : JMembers S V K dup seen t) :
    ∃ mems : List (Bytes × Bytes × Bytes × Bytes × Bytes × Bytes), mems ≠ [] ∧ (∀ m ∈ mems, JWs m.1 ∧ S m.2.1 ∧ JWs m.2.2.1 ∧ JWs m.2.2.2.1 ∧ JWs m.2.2.2.2.2) ∧
      (∀ m ∈ mems, V m.2.2.2.2.1) ∧ (dup = true ∨ (mems.map fun m => K m.2.1).Nodup ∧ ∀ m ∈ mems, K m.2.1 ∉ seen) ∧
      t = joinSep (mems.map JMembers.text) ++ [0x7D] := by
  induction ht with
  | last seen w1 n w2 w3 v w4 h1 hn h2 h3 hv h4 hk =>
    exact ⟨[(w1, n, w2, w3, v, w4)], List.cons_ne_nil _ _, List.forall_mem_singleton.2 ⟨h1, hn, h2, h3, h4⟩,
      List.forall_mem_singleton.2 hv, hk.imp_right fun hk => ⟨List.nodup_cons.2 ⟨List.not_mem_nil, .nil⟩, List.forall_mem_singleton.2 hk⟩,
      by simp [joinSep, List.append_assoc]⟩
  | cons seen w1 n w2 w3 v w4 t h1 hn h2 h3 hv h4 hk _ ih =>
    obtain ⟨mems, hne, hw, hvs, hks, rfl⟩ := ih
    obtain ⟨m, ms, rfl⟩ := List.exists_cons_of_ne_nil hne
    refine ⟨(w1, n, w2, w3, v, w4) :: m :: ms, List.cons_ne_nil _ _, List.forall_mem_cons.2 ⟨⟨h1, hn, h2, h3, h4⟩, hw⟩,
      List.forall_mem_cons.2 ⟨hv, hvs⟩, ?_, by simp [joinSep_cons_cons, List.append_assoc]⟩
    rcases hk with hd | hk
    · exact .inl hd
    rcases hks with hd | ⟨hnd, hs⟩
    · exact .inl hd
    refine .inr ⟨List.nodup_cons.2 ⟨fun hm => ?_, hnd⟩, List.forall_mem_cons.2 ⟨hk, fun x hx hm => hs x hx (.tail _ hm)⟩⟩
    obtain ⟨x, hx, he⟩ := List.mem_map.1 hm
    exact hs x hx (he ▸ .head _)

section
variable {o : GOpts} {M : Nat} {key : Bytes → Bytes}

theorem JValue.of_elems {d : Nat} {t : Bytes} (hd : d < M) (ht : JElems (JValue o M key (d + 1)) t) :
    JValue o M key d (0x5B :: t) := by
  obtain ⟨elems, hne, hw, hv, rfl⟩ := ht.to_list
  exact .arr d elems hd hne hw hv

theorem JValue.of_members {d : Nat} {t : Bytes} (hd : d < M)
    (ht : JMembers (JString o.strict) (JValue o M key (d + 1)) key o.allowDup [] t) : JValue o M key d (0x7B :: t) := by
  obtain ⟨mems, hne, hw, hv, hk, rfl⟩ := ht.to_list
  exact .obj d mems hd hne hw hv (hk.imp_right (·.1))

/-- Induction on a value, with the containers taken apart first element first: `arr` and `obj` get the inside of the
container with the induction hypothesis at every element value. -/
theorem JValue.cons_induction {P : Nat → Bytes → Prop}
    (null : ∀ d, P d nullLit) (true : ∀ d, P d trueLit) (false : ∀ d, P d falseLit)
    (num : ∀ d p, JNumber p → P d p) (str : ∀ d p, JString o.strict p → P d p)
    (emptyArr : ∀ d w, d < M → JWs w → P d (0x5B :: (w ++ [0x5D])))
    (arr : ∀ d t, d < M → JElems (fun v => JValue o M key (d + 1) v ∧ P (d + 1) v) t → P d (0x5B :: t))
    (emptyObj : ∀ d w, d < M → JWs w → P d (0x7B :: (w ++ [0x7D])))
    (obj : ∀ d t, d < M →
      JMembers (JString o.strict) (fun v => JValue o M key (d + 1) v ∧ P (d + 1) v) key o.allowDup [] t → P d (0x7B :: t))
    {d : Nat} {v : Bytes} (h : JValue o M key d v) : P d v := by
  induction h with
  | null d => exact null d
  | true d => exact true d
  | false d => exact false d
  | num d p hp => exact num d p hp
  | str d p hp => exact str d p hp
  | emptyArr d w hd hw => exact emptyArr d w hd hw
  | emptyObj d w hd hw => exact emptyObj d w hd hw
  | arr d elems hd hne hw hv ih => exact arr d _ hd (.of_list hne hw fun e he => ⟨hv e he, ih e he⟩)
  | obj d mems hd hne hw hv hk ih =>
    exact obj d _ hd (.of_list hne hw (fun m hm => ⟨hv m hm, ih m hm⟩) (hk.imp_right fun hk => ⟨hk, fun _ _ => List.not_mem_nil⟩))

theorem JValue.ne_nil {d : Nat} {v : Bytes} (h : JValue o M key d v) : v ≠ [] := by
  cases h with
  | num d p hp => obtain ⟨c, t, rfl, -⟩ := hp.head; exact List.cons_ne_nil _ _
  | str d p hp => obtain ⟨body, -, rfl⟩ := hp; exact List.cons_ne_nil _ _
  | _ => exact List.cons_ne_nil _ _

end

theorem infix_joinSep {x : Bytes} : ∀ {l : List Bytes}, x ∈ l → x <:+: joinSep l
  | [y], h => by rw [List.mem_singleton.1 h]; exact List.infix_refl _
  | y :: z :: r, h => by
    rw [joinSep_cons_cons]
    rcases List.mem_cons.1 h with rfl | h'
    · exact ⟨[], 0x2C :: joinSep (z :: r), by simp⟩
    · obtain ⟨s, t, e⟩ := infix_joinSep (l := z :: r) h'
      exact ⟨y ++ 0x2C :: s, t, by rw [← e]; simp [List.append_assoc]⟩

/-- Instances: raising the nesting limit, changing the key function where it does not matter, passing between the strict and
the lenient string grammar.  `hs` and `hk` speak of infixes of `v` only, so a caller owes facts about the strings that occur in `v`. -/
theorem JValue.mono {o o' : GOpts} {M M' : Nat} {k k' : Bytes → Bytes} (hM : M ≤ M') {d : Nat} {v : Bytes} (h : JValue o M k d v)
    (hs : ∀ q, q <:+: v → JString o.strict q → JString o'.strict q)
    (hk : o'.allowDup = Bool.true ∨ o.allowDup = o'.allowDup ∧ ∀ q, q <:+: v → JString o.strict q → k q = k' q) :
    JValue o' M' k' d v := by
  induction h with
  | null d => exact .null d
  | true d => exact .true d
  | false d => exact .false d
  | num d p hp => exact .num d p hp
  | str d p hp => exact .str d p (hs p (List.infix_refl _) hp)
  | emptyArr d w hd hw => exact .emptyArr d w (Nat.lt_of_lt_of_le hd hM) hw
  | emptyObj d w hd hw => exact .emptyObj d w (Nat.lt_of_lt_of_le hd hM) hw
  | arr d elems hd hne hws _ ih =>
    have hin : ∀ e ∈ elems, ∀ q, q <:+: e.2.1 → q <:+: 0x5B :: (joinSep (elems.map JElems.text) ++ [0x5D]) := fun e he q hq =>
      hq.trans (List.IsInfix.trans (l₂ := JElems.text e) ⟨e.1, e.2.2, rfl⟩
        ((infix_joinSep (List.mem_map_of_mem he)).trans ⟨[0x5B], [0x5D], by simp⟩))
    exact .arr d elems (Nat.lt_of_lt_of_le hd hM) hne hws fun e he =>
      ih e he (fun q hq => hs q (hin e he q hq)) (hk.imp_right fun hk => ⟨hk.1, fun q hq => hk.2 q (hin e he q hq)⟩)
  | obj d mems hd hne hws _ hnd ih =>
    have hmem : ∀ m ∈ mems, JMembers.text m <:+: 0x7B :: (joinSep (mems.map JMembers.text) ++ [0x7D]) := fun m hm =>
      (infix_joinSep (List.mem_map_of_mem hm)).trans ⟨[0x7B], [0x7D], by simp⟩
    have hname : ∀ m ∈ mems, m.2.1 <:+: 0x7B :: (joinSep (mems.map JMembers.text) ++ [0x7D]) := fun m hm =>
      List.IsInfix.trans (l₂ := JMembers.text m)
        ⟨m.1, m.2.2.1 ++ [0x3A] ++ m.2.2.2.1 ++ m.2.2.2.2.1 ++ m.2.2.2.2.2, by simp [List.append_assoc]⟩ (hmem m hm)
    have hval : ∀ m ∈ mems, ∀ q, q <:+: m.2.2.2.2.1 → q <:+: 0x7B :: (joinSep (mems.map JMembers.text) ++ [0x7D]) := fun m hm q hq =>
      hq.trans (List.IsInfix.trans (l₂ := JMembers.text m)
        ⟨m.1 ++ m.2.1 ++ m.2.2.1 ++ [0x3A] ++ m.2.2.2.1, m.2.2.2.2.2, by simp [List.append_assoc]⟩ (hmem m hm))
    refine .obj d mems (Nat.lt_of_lt_of_le hd hM) hne (fun m hm => ?_) (fun m hm => ?_) ?_
    · obtain ⟨h1, h2, h3, h4, h5⟩ := hws m hm
      exact ⟨h1, hs _ (hname m hm) h2, h3, h4, h5⟩
    · exact ih m hm (fun q hq => hs q (hval m hm q hq)) (hk.imp_right fun hk => ⟨hk.1, fun q hq => hk.2 q (hval m hm q hq)⟩)
    · rcases hk with hk | ⟨hd', hk⟩
      · exact .inl hk
      · rw [← hd']
        refine hnd.imp_right fun hnd => ?_
        rwa [← List.map_congr_left (fun m hm => hk _ (hname m hm) (hws m hm).2.1)]

theorem JElems.exists_last {V : Bytes → Prop} {t : Bytes} (ht : JElems V t) :
    ∃ p v w, V v ∧ JWs w ∧ t = p ++ (v ++ (w ++ [0x5D])) := by
  induction ht with
  | last w1 v w2 _ hv h2 => exact ⟨w1, v, w2, hv, h2, rfl⟩
  | cons w1 v w2 t _ _ _ _ ih =>
    obtain ⟨p, v', w, hv, hw, rfl⟩ := ih
    exact ⟨w1 ++ (v ++ (w2 ++ 0x2C :: p)), v', w, hv, hw, by simp only [List.append_assoc, List.cons_append]⟩

theorem JMembers.exists_last {S V : Bytes → Prop} {K : Bytes → Bytes} {dup : Bool} {seen : List Bytes} {t : Bytes}
    (ht : JMembers S V K dup seen t) : ∃ p v w, V v ∧ JWs w ∧ t = p ++ (v ++ (w ++ [0x7D])) := by
  induction ht with
  | last _ w1 n w2 w3 v w4 _ _ _ _ hv h4 _ => exact ⟨w1 ++ (n ++ (w2 ++ 0x3A :: w3)), v, w4, hv, h4, by simp⟩
  | cons _ w1 n w2 w3 v w4 t _ _ _ _ _ _ _ _ ih =>
    obtain ⟨p, v', w, hv, hw, rfl⟩ := ih
    exact ⟨w1 ++ (n ++ (w2 ++ 0x3A :: (w3 ++ (v ++ (w4 ++ 0x2C :: p))))), v', w, hv, hw, by
      simp only [List.append_assoc, List.cons_append]⟩

end JsonV.Spec.Grammar
