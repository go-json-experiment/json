/-
`Utf8.valid s` gives `WellFormed s` (`validAux_iff` is the equivalence, for any sufficient fuel); the step of AppendUnquote's loop on each production of RFC 8259 §7
(`Spec.StringSpec.Unescapes`, one constructor per grammar production).  That a valid literal unquotes to its meaning
(`unqLoop_meaning`, `appendUnquote_meaning`) is concluded in Lemmas/QuoteRaw.lean.
-/
import JsonV.Lemmas.QuoteSpec

namespace JsonV.Lemmas.QuoteMeaning
open JsonV JsonV.Model.Utf8 JsonV.Model.Quote JsonV.Lemmas.QuoteL JsonV.Spec.StringSpec JsonV.Lemmas.QuoteSpec JsonV.Lemmas.QuoteHead

theorem validAux_iff (fuel : Nat) (p : Bytes) (h : p.length ≤ fuel) : validAux fuel p = true ↔ illFormedCount p = 0 := by
  induction fuel generalizing p with
  | zero =>
    have : p = [] := List.eq_nil_of_length_eq_zero (by omega)
    subst this; simp [validAux, illFormedCount]
  | succ n ih =>
    match p with
    | [] => simp [validAux, illFormedCount]
    | c :: t =>
      have hp := decodeRune_pos c t
      have hlen : ((c :: t).drop (decodeRune (c :: t)).2).length ≤ n := by
        simp only [List.length_drop, List.length_cons] at h ⊢; omega
      rw [illFormedCount]
      simp only [validAux]
      by_cases hi : illFormedHead (c :: t) = true
      · have := hi
        simp only [illFormedHead, Bool.and_eq_true, decide_eq_true_eq] at this
        simp [hi, this]
      · have hn : ¬ ((decodeRune (c :: t)).1 = runeError ∧ (decodeRune (c :: t)).2 = 1) := by
          simpa [illFormedHead] using hi
        simp only [hn, hi, ↓reduceIte, Bool.false_eq_true, Nat.zero_add]
        exact ih _ hlen

theorem valid_wellFormed (s : Bytes) (h : valid s = true) : WellFormed s :=
  (validAux_iff s.length s (Nat.le_refl _)).mp h

theorem lossy_valid (s : Bytes) (h : valid s = true) : lossy s = s :=
  lossy_of_wellFormed s (valid_wellFormed s h)

/-- The two functions test the three digit ranges in a different order. -/
theorem hexVal_eq (x : UInt8) : hexVal x.toNat = hexDigitVal x := by
  simp only [hexVal, hexDigitVal]
  by_cases h1 : 0x30 ≤ x.toNat ∧ x.toNat ≤ 0x39
  · rw [if_pos h1, if_pos h1]
  rw [if_neg h1, if_neg h1]
  by_cases h2 : 0x61 ≤ x.toNat ∧ x.toNat ≤ 0x66
  · rw [if_pos h2, if_neg (by omega), if_pos h2]; congr 1; omega
  rw [if_neg h2]
  by_cases h3 : 0x41 ≤ x.toNat ∧ x.toNat ≤ 0x46
  · rw [if_pos h3, if_pos h3]; congr 1; omega
  · rw [if_neg h3, if_neg h3, if_neg h2]

theorem parseHex_eq_hex4 (a b c d : UInt8) : parseHexUint16 [a, b, c, d] = hex4 a b c d := by
  simp only [parseHexUint16, hex4, hexVal_eq]
  cases hexDigitVal a <;> cases hexDigitVal b <;> cases hexDigitVal c <;> cases hexDigitVal d <;> simp
  omega

theorem unqStep_simple (e v : UInt8) (h : (e, v) ∈ simpleEscapes) (tail : Bytes) :
    unqStep (0x5c :: e :: tail) = .cont [v] 2 none := by
  rw [unqStep_eq, headOf_simple tail h]; rfl

theorem unqStep_unicode (a b c d : UInt8) (v : Nat) (h : hex4 a b c d = some v) (hs : isSurrogate v = false) (tail : Bytes) :
    unqStep (0x5c :: 0x75 :: a :: b :: c :: d :: tail) = .cont (encodeRune v) 6 none := by
  rw [unqStep_eq, headOf_uni tail ((parseHex_eq_hex4 a b c d).trans h) hs]; rfl

theorem unqStep_pair (a b c d a' b' c' d' : UInt8) (hi lo : Nat) (h1 : hex4 a b c d = some hi) (h2 : hex4 a' b' c' d' = some lo)
    (hh : isHighSurrogate hi = true) (hl : isLowSurrogate lo = true) (tail : Bytes) :
    unqStep (0x5c :: 0x75 :: a :: b :: c :: d :: 0x5c :: 0x75 :: a' :: b' :: c' :: d' :: tail) =
      .cont (encodeRune (0x10000 + (hi - 0xD800) * 0x400 + (lo - 0xDC00))) 12 none := by
  have hs : isSurrogate hi = true := by
    simp only [isHighSurrogate, isSurrogate, Bool.and_eq_true, decide_eq_true_eq] at hh ⊢; omega
  have hr : utf16DecodeRune hi lo = 0x10000 + (hi - 0xD800) * 0x400 + (lo - 0xDC00) := by
    simp only [utf16DecodeRune, hh, hl, Bool.and_self, ↓reduceIte]; omega
  rw [unqStep_eq, headOf_pair tail ((parseHex_eq_hex4 a b c d).trans h1) ((parseHex_eq_hex4 a' b' c' d').trans h2) hs
    (by rw [hr]; simp only [runeError]; omega), ← hr]
  rfl

theorem hex4_u16 (x : Nat) (hx : x < 65536) :
    hex4 (hexLower ((x >>> 12) % 16)) (hexLower ((x >>> 8) % 16)) (hexLower ((x >>> 4) % 16)) (hexLower (x % 16)) = some x := by
  rw [← parseHex_eq_hex4]; exact parseHex_u16 x hx

theorem unescapes_u16 (x : Nat) (hx : x < 65536) (hs : isSurrogate x = false) {rest m : Bytes} (h : Unescapes rest m) :
    Unescapes (appendEscapedUTF16 x ++ rest) (encodeRune x ++ m) := by
  simp only [appendEscapedUTF16, List.cons_append, List.nil_append]
  exact Unescapes.unicode (hex4_u16 x hx) hs h

theorem unescaped_cases {p : Bytes} {r : Nat} (hd : decodeRune p = (r, p.length)) (hp : p ≠ [])
    (hi : illFormedHead p = false) :
    (∃ c, p = [c] ∧ c.toNat < runeSelf ∧ r = c.toNat) ∨
    (∃ c p', p = c :: p' ∧ ¬ c.toNat < runeSelf ∧ 1 < (decodeRune (c :: p')).2) := by
  match p, hp with
  | c :: p', _ =>
    by_cases h0 : c.toNat < runeSelf
    · rw [decodeRune_ascii c p' h0] at hd
      have hlen : p' = [] := by
        have : (c :: p').length = 1 := by injection hd with _ h2; exact h2.symm
        simpa using this
      have hr : r = c.toNat := by injection hd with h1 _; exact h1.symm
      exact .inl ⟨c, by rw [hlen], h0, hr⟩
    · refine .inr ⟨c, p', rfl, h0, ?_⟩
      rcases decodeRune_high c p' h0 with h1 | h1
      · exact h1
      · simp [illFormedHead, h1] at hi

theorem unqStep_unescaped (p : Bytes) (r : Nat) (hd : decodeRune p = (r, p.length)) (hp : p ≠ [])
    (hi : illFormedHead p = false) (h20 : 0x20 ≤ r) (hq : r ≠ 0x22) (hb : r ≠ 0x5c) (tail : Bytes) :
    unqStep (p ++ tail) = .cont p p.length none := by
  rw [unqStep_eq]
  rcases unescaped_cases hd hp hi with ⟨c, rfl, h0, rfl⟩ | ⟨c, t, rfl, h0, h1⟩
  · rw [List.cons_append, List.nil_append, headOf_plain tail (noEscape_of h0 h20 hb hq)]; rfl
  · have h2 : (decodeRune (c :: t)).2 = (c :: t).length := by rw [hd]
    have := headOf_take c t tail h1
    rw [h2, List.take_length] at this
    rw [this]; rfl

end JsonV.Lemmas.QuoteMeaning
