/-
Lemmas for C19 "noninterf": a projection that reads only the flag values in a mask is unchanged by setting flags
outside the mask.
-/
import JsonV.Model.OptProj
import JsonV.Lemmas.FlagsL

namespace JsonV.Lemmas.ReadsL
open JsonV.Model JsonV.Model.OptProj JsonV.Gen JsonV.Lemmas.FlagsL

theorem get_agree (m f : BitVec 64) (hf : f &&& m = f) (a b : Flags) (h : a.values &&& m = b.values &&& m) :
    a.get f = b.get f := by
  have : a.values &&& f = b.values &&& f := by
    rw [← hf, ← BitVec.and_assoc, ← BitVec.and_assoc, BitVec.and_comm _ f, BitVec.and_comm _ f,
      BitVec.and_assoc, BitVec.and_assoc, h]
  simp only [Flags.get, this]

theorem agree_set (m w : BitVec 64) (s : Struct) (h : w &&& m = 0#64) :
    AgreeOn m s { s with flags := s.flags.set w } := by
  refine ⟨and_congr_bits _ _ m fun i hm => ?_, fun _ => rfl, fun _ => rfl⟩
  have hw : (w.getLsbD i && m.getLsbD i) = false := by rw [← BitVec.getLsbD_and, h, BitVec.getLsbD_zero]
  rw [hm, Bool.and_true] at hw
  exact (set_bits_of_not_named s.flags w i (by rw [hw]; rfl)).2.symm

theorem disj_of_subset (w a m : BitVec 64) (hw : w &&& ~~~(a ||| 1#64) = 0#64) (ham : (a ||| 1#64) &&& m = 0#64) :
    w &&& m = 0#64 := by
  apply BitVec.eq_of_getLsbD_eq; intro i _
  have h1 : (w.getLsbD i && !(a ||| 1#64).getLsbD i) = false := by rw [← and_not_bit, hw, BitVec.getLsbD_zero]
  have h2 : ((a ||| 1#64).getLsbD i && m.getLsbD i) = false := by rw [← BitVec.getLsbD_and, ham, BitVec.getLsbD_zero]
  rw [BitVec.getLsbD_and, BitVec.getLsbD_zero]
  cases ha : (a ||| 1#64).getLsbD i
  · rw [ha, Bool.not_false, Bool.and_true] at h1; rw [h1, Bool.false_and]
  · rw [ha, Bool.true_and] at h2; rw [h2, Bool.and_false]

theorem encoder_agree {s s' : Struct} (h : AgreeOn encoderMask s s') : encoder s = encoder s' := by
  obtain ⟨hv, hi, hp⟩ := h
  have g := fun f hf => get_agree encoderMask f hf s.flags s'.flags hv
  simp only [encoder, g B.allowDup (by decide), g B.allowInvalidUTF8 (by decide), g B.multiline (by decide),
    g B.spColon (by decide), g B.spComma (by decide), g B.html (by decide), g B.js (by decide),
    hi (by decide), hp (by decide)]

theorem decoder_agree {s s' : Struct} (h : AgreeOn decoderMask s s') : decoder s = decoder s' := by
  have g := fun f hf => get_agree decoderMask f hf s.flags s'.flags h.1
  simp only [decoder, g B.allowDup (by decide), g B.allowInvalidUTF8 (by decide)]

theorem quote_agree {s s' : Struct} (h : AgreeOn quoteMask s s') : quote s = quote s' := by
  have g := fun f hf => get_agree quoteMask f hf s.flags s'.flags h.1
  simp only [quote, g B.html (by decide), g B.js (by decide), g B.allowInvalidUTF8 (by decide), g B.preserve (by decide)]

theorem format_agree {s s' : Struct} (h : AgreeOn formatMask s s') : format s = format s' := by
  obtain ⟨hv, hi, hp⟩ := h
  have g := fun f hf => get_agree formatMask f hf s.flags s'.flags hv
  simp only [format, ws, g B.allowDup (by decide), g B.allowInvalidUTF8 (by decide), g B.multiline (by decide),
    g B.spColon (by decide), g B.spComma (by decide), g B.html (by decide), g B.js (by decide), g B.preserve (by decide),
    hi (by decide), hp (by decide)]

theorem marshal_agree {s s' : Struct} (h : AgreeOn marshalMask s s') : OptProj.marshal s = OptProj.marshal s' := by
  have g := fun f hf => get_agree marshalMask f hf s.flags s'.flags h.1
  simp only [OptProj.marshal, g B.nilSlice (by decide), g B.nilMap (by decide)]

theorem unmarshal_agree {s s' : Struct} (h : AgreeOn unmarshalMask s s') : OptProj.unmarshal s = OptProj.unmarshal s' := by
  have g := fun f hf => get_agree unmarshalMask f hf s.flags s'.flags h.1
  simp only [OptProj.unmarshal, g B.arrayAnyLen (by decide), g B.allowDup (by decide)]

theorem matching_agree {s s' : Struct} (h : AgreeOn matchingMask s s') : matching s = matching s' := by
  have g := fun f hf => get_agree matchingMask f hf s.flags s'.flags h.1
  simp only [matching, g B.caseInsensitive (by decide), g B.caseSensitiveDelim (by decide), g B.legacyErrors (by decide)]

end JsonV.Lemmas.ReadsL
