/-
Lemmas for C16: escaping.  `replace2` (strings.ReplaceAll with a two-byte pattern),
bytes of `utf8.AppendRune`, `unescape ∘ escapeTok = id`, `escape = escapeTok ∘ sanitize`.
-/
import JsonV.Model.Pointer
import JsonV.Spec.PointerSpec
import JsonV.Lemmas.Utf8L
import JsonV.Lemmas.Basics

namespace JsonV.Lemmas.Pointer
open JsonV JsonV.Model JsonV.Model.Pointer JsonV.Spec.Pointer

theorem encodeRune_ne (r : Nat) (c : UInt8) (hc : c.toNat < 0x80) (hr : r ≠ c.toNat) :
    ∀ b ∈ Utf8.encodeRune r, b ≠ c := by
  intro b hb h
  subst h
  by_cases h1 : r < 0x80
  · rw [Utf8.encodeRune_ascii h1, List.mem_singleton] at hb
    exact hr (by rw [hb, UInt8.toNat_ofNat_lt (by omega)])
  · exact absurd (Utf8.encodeRune_high r (by omega) b hb) (by omega)

theorem replace2_cons_ne {x y z a : UInt8} (l : Bytes) (h : a ≠ x) :
    replace2 x y z (a :: l) = a :: replace2 x y z l := by
  cases l with
  | nil => simp [replace2]
  | cons b rest => simp [replace2, h]

theorem replace2_append_notin (x y z : UInt8) (l X : Bytes) (h : ∀ b ∈ l, b ≠ x) :
    replace2 x y z (l ++ X) = l ++ replace2 x y z X := by
  induction l with
  | nil => rfl
  | cons a l ih =>
    rw [List.cons_append, replace2_cons_ne _ (h a (by simp)), ih (fun b hb => h b (by simp [hb]))]
    rfl

theorem replace2_notin (x y z : UInt8) (l : Bytes) (h : ∀ b ∈ l, b ≠ x) : replace2 x y z l = l := by
  have := replace2_append_notin x y z l [] h
  simpa [replace2] using this

theorem replace2_match (x y z : UInt8) (X : Bytes) : replace2 x y z (x :: y :: X) = z :: replace2 x y z X := by
  simp [replace2]

theorem replace2_nomatch (x y z b : UInt8) (X : Bytes) (h : b ≠ y) :
    replace2 x y z (x :: b :: X) = x :: replace2 x y z (b :: X) := by
  simp [replace2, h]

/-- The two `strings.ReplaceAll` passes of `unescape`: `~1` to `/`, then `~0` to `~`. -/
def pass1 (t : Bytes) : Bytes := replace2 cTilde c1 cSlash t
def pass2 (t : Bytes) : Bytes := replace2 cTilde c0 cTilde t

/-- The `strings.Contains(token, "~")` test is only a shortcut. -/
theorem unescape_eq (t : Bytes) : unescape t = pass2 (pass1 t) := by
  unfold unescape
  split
  · rfl
  · rename_i h
    have hn : ∀ b ∈ t, b ≠ cTilde := by
      intro b hb hbc; subst hbc; exact h (by simpa using hb)
    unfold pass1 pass2
    rw [replace2_notin _ _ _ t hn, replace2_notin _ _ _ t hn]

/-- The text after the first pass over an escaped token. -/
def midTok : Bytes → Bytes
  | [] => []
  | b :: rest => if b = 0x7e then 0x7e :: 0x30 :: midTok rest else b :: midTok rest

theorem pass1_escapeTok (t : Bytes) : pass1 (escapeTok t) = midTok t := by
  induction t with
  | nil => rfl
  | cons b rest ih =>
    unfold pass1 at *
    simp only [escapeTok, midTok]
    split
    · rw [show (0x7e : UInt8) = cTilde from rfl, replace2_nomatch _ _ _ _ _ (by decide),
        replace2_cons_ne _ (by decide), ih]
    · split
      · rename_i h2; subst h2
        rw [show (0x7e : UInt8) = cTilde from rfl, show (0x31 : UInt8) = c1 from rfl, replace2_match, ih]; rfl
      · rename_i h1 h2
        rw [replace2_cons_ne _ (by simpa [cTilde] using h1), ih]

theorem pass2_midTok (t : Bytes) : pass2 (midTok t) = t := by
  induction t with
  | nil => rfl
  | cons b rest ih =>
    unfold pass2 at *
    simp only [midTok]
    split
    · rename_i h; subst h
      rw [show (0x7e : UInt8) = cTilde from rfl, show (0x30 : UInt8) = c0 from rfl, replace2_match, ih]
    · rename_i h1
      rw [replace2_cons_ne _ (by simpa [cTilde] using h1), ih]

theorem unescape_escapeTok (t : Bytes) : unescape (escapeTok t) = t := by
  rw [unescape_eq, pass1_escapeTok, pass2_midTok]

theorem escapeTok_no_slash (t : Bytes) : ∀ b ∈ escapeTok t, b ≠ cSlash := by
  induction t with
  | nil => simp [escapeTok]
  | cons a rest ih =>
    intro b hb
    simp only [escapeTok] at hb
    split at hb
    · simp only [List.mem_cons] at hb
      rcases hb with h | h | h
      · subst h; decide
      · subst h; decide
      · exact ih b h
    · split at hb
      · simp only [List.mem_cons] at hb
        rcases hb with h | h | h
        · subst h; decide
        · subst h; decide
        · exact ih b h
      · rename_i h1 h2
        simp only [List.mem_cons] at hb
        rcases hb with h | h
        · subst h; simpa [cSlash] using h2
        · exact ih b h

theorem escapeTok_append (a b : Bytes) : escapeTok (a ++ b) = escapeTok a ++ escapeTok b := by
  induction a with
  | nil => rfl
  | cons x rest ih =>
    simp only [List.cons_append, escapeTok, ih]
    by_cases h1 : x = 126 <;> by_cases h2 : x = 47 <;> simp [h1, h2]

theorem escapeTok_id (a : Bytes) (h1 : ∀ b ∈ a, b ≠ cTilde) (h2 : ∀ b ∈ a, b ≠ cSlash) : escapeTok a = a := by
  induction a with
  | nil => rfl
  | cons x rest ih =>
    have hx1 : x ≠ 0x7e := h1 x (by simp)
    have hx2 : x ≠ 0x2f := h2 x (by simp)
    simp only [escapeTok, hx1, hx2, if_false]
    rw [ih (fun b hb => h1 b (by simp [hb])) (fun b hb => h2 b (by simp [hb]))]

theorem escRune_eq (r : Nat) : escRune r = escapeTok (Utf8.encodeRune r) := by
  unfold escRune
  split
  · rename_i h; subst h; decide
  · split
    · rename_i h; subst h; decide
    · rename_i h1 h2
      rw [escapeTok_id]
      · exact encodeRune_ne r cTilde (by decide) (by simpa [cTilde] using h1)
      · exact encodeRune_ne r cSlash (by decide) (by simpa [cSlash] using h2)

theorem escapeTok_flatMap (rs : List Nat) :
    rs.flatMap escRune = escapeTok (rs.flatMap Utf8.encodeRune) := by
  induction rs with
  | nil => rfl
  | cons r rest ih => simp only [List.flatMap_cons, escapeTok_append, ih, escRune_eq]

theorem appendEscape_eq (b t : Bytes) : appendEscapePointerName b t = b ++ escapeTok (sanitize t) := by
  unfold appendEscapePointerName sanitize
  rw [escapeTok_flatMap]

theorem escape_eq (t : Bytes) : escape t = escapeTok (sanitize t) :=
  (appendEscape_eq [] t).trans (List.nil_append _)

/-- What `AppendToken`, `wrapWithObjectName` and the object arm of `appendStackPointer` all do: "/" and the escaped name. -/
theorem appendName_eq (b nm : Bytes) : appendEscapePointerName (b ++ [cSlash]) nm = b ++ cSlash :: escapeTok (sanitize nm) := by
  rw [appendEscape_eq, List.append_assoc, List.singleton_append]

end JsonV.Lemmas.Pointer
