/-
C02: the recogniser of Spec/ValidJson.lean is sound for the grammar of slice C01 (Spec/Grammar.lean: RFC 8259 with the
RFC 7493 options): whatever `parse` accepts is a `JValue`.  For numbers also the converse, `pNumber_complete`.
(Strings: `strBody_sound` of Lemmas/JStringLDet.lean; numbers: `pNumber_eq` of Lemmas/EncInvL.lean.)
-/
import JsonV.Spec.ValidJson
import JsonV.Lemmas.GrammarL
import JsonV.Lemmas.EncInvL

namespace JsonV.Lemmas.EncInvSound
open JsonV JsonV.Spec.ValidJson JsonV.Spec.Grammar JsonV.Model JsonV.Lemmas.EncInvL

theorem pNumber_sound {s t : Bytes} (h : pNumber s = some t) : ∃ p, s = p ++ t ∧ JNumber p := by
  rw [pNumber_eq, WireNumber.rest_eq_some] at h
  obtain ⟨p, h⟩ := h
  exact ⟨p, (WireNumber.scan_start.mp h).1, (WireNumber.scan_start.mp h).2.1⟩

theorem pNumber_complete (lit : Bytes) (h : JNumber lit) : pNumber lit = some [] := by
  rw [pNumber_eq, WireNumber.rest_eq_some]
  exact ⟨lit, WireNumber.scan_start.mpr ⟨(List.append_nil _).symm, h, nofun⟩⟩

/-- the grammar options selected by the recogniser's options -/
def gopts (o : Opt) : GOpts := ⟨o.strict, !o.noDup⟩

/-- The values of the grammar under the options, depth limit and name key of the recogniser's options `o`. -/
abbrev JV (o : Opt) (d : Nat) (v : Bytes) : Prop := JValue (gopts o) o.maxDepth o.key d v

/-- what a successful `parse` in each mode has recognised, in front of what it returns: a value; the elements of an array
up to its `]`; the members of an object up to its `}`, with keys that are new to `seen` when duplicates are refused -/
def Sound (o : Opt) (m : Mode) (d : Nat) (s t : Bytes) : Prop :=
  ∃ x, s = x ++ t ∧
    match m with
    | .value => JV o d x
    | .elems => JElems (JV o d) x
    | .members seen => JMembers (JString o.strict) (JV o d) o.key (!o.noDup) seen x

theorem lit_sound {w r t : Bytes} (h : lit w r = some t) : r = w ++ t := by
  unfold lit at h
  split at h
  · rename_i hp; simp at h; subst h
    have := List.isPrefixOf_iff_prefix.mp hp
    obtain ⟨x, hx⟩ := this
    subst hx; simp
  · simp at h

theorem member_sound (o : Opt) (seen : List Bytes) (d : Nat) (r0 r1 r2 : Bytes) (c : UInt8)
    (hn : strBody o.strict r0 = some (0x3a :: r1)) (hv : Sound o .value d r1 (c :: r2))
    (hk : ¬ (o.noDup && seen.contains (o.key (List.take (r0.length - r1.length) (0x22 :: r0)))) = true) :
    ∃ name v, JString o.strict name ∧ JV o d v ∧ 0x22 :: r0 = name ++ 0x3A :: (v ++ c :: r2) ∧
      List.take (r0.length - r1.length) (0x22 :: r0) = name ∧ ((!o.noDup) = true ∨ o.key name ∉ seen) := by
  obtain ⟨body, hb, hc⟩ := strBody_sound o.strict r0 _ hn
  obtain ⟨v, hv, hjv⟩ := hv
  have htake : List.take (r0.length - r1.length) (0x22 :: r0) = 0x22 :: (body ++ [0x22]) := by
    have l : r0.length - r1.length = (0x22 :: (body ++ [0x22])).length := by simp [hb]; omega
    have e : 0x22 :: r0 = (0x22 :: (body ++ [0x22])) ++ 0x3a :: r1 := by simp [hb]
    rw [l, e, List.take_left']
    rfl
  rw [htake] at hk
  refine ⟨_, v, ⟨body, hc, rfl⟩, hjv, by simp [hb, hv], htake, ?_⟩
  cases hnd : o.noDup with
  | false => exact .inl rfl
  | true => exact .inr (by simpa [hnd] using hk)

/-- The cases are the succeeding branches of `parse`, numbered as listed at `EncInvL.parse_string`. -/
theorem parse_sound (o : Opt) (m : Mode) (d : Nat) (s : Bytes) : ∀ t, parse o m d s = some t → Sound o m d s t := by
  fun_induction parse o m d s <;> intro t h
  all_goals try (simp at h; done)
  case case2 d r =>
    obtain ⟨body, hb, hc⟩ := strBody_sound o.strict r t h
    exact ⟨0x22 :: (body ++ [0x22]), by simp [hb], .str d _ ⟨body, hc, rfl⟩⟩
  case case4 d hd r1 _ =>
    simp at h; subst h
    exact ⟨[0x5B, 0x5D], rfl, JValue.emptyArr d [] hd .nil⟩
  case case5 d hd c1 r1 _ _ ih =>
    obtain ⟨x, hs, hx⟩ := ih t h
    exact ⟨0x5B :: x, by rw [hs]; rfl, .of_elems hd hx⟩
  case case8 d hd r1 _ _ =>
    simp at h; subst h
    exact ⟨[0x7B, 0x7D], rfl, JValue.emptyObj d [] hd .nil⟩
  case case9 d hd c1 r1 _ _ _ ih =>
    obtain ⟨x, hs, hx⟩ := ih t h
    exact ⟨0x7B :: x, by rw [hs]; rfl, .of_members hd hx⟩
  case case11 d r _ _ _ => exact ⟨nullLit, by simp [nullLit, lit_sound h], .null d⟩
  case case12 d r _ _ _ _ => exact ⟨trueLit, by simp [trueLit, lit_sound h], .true d⟩
  case case13 d r _ _ _ _ _ => exact ⟨falseLit, by simp [falseLit, lit_sound h], .false d⟩
  case case14 d c r _ _ _ _ _ _ =>
    obtain ⟨p, hp, hn⟩ := pNumber_sound h
    exact ⟨p, hp, .num d p hn⟩
  case case15 d s0 r0 hlen hx ihv ihe =>
    obtain ⟨v, rfl, hjv⟩ := ihv _ hx
    obtain ⟨x, rfl, hxs⟩ := ihe t h
    exact ⟨v ++ 0x2C :: x, by simp, .cons [] v [] x .nil hjv .nil hxs⟩
  case case16 d s0 r0 hlen hx _ ihv =>
    simp at h; subst h
    obtain ⟨v, rfl, hjv⟩ := ihv _ hx
    exact ⟨v ++ [0x5D], by simp, .last [] v [] .nil hjv .nil⟩
  case case22 seen d r0 c r1 hx1 hc r2 hlen2 k hk hx2 ihv ihm =>
    obtain ⟨rfl, _⟩ := hc
    obtain ⟨name, v, hname, hjv, hs0, htake, hfresh⟩ := member_sound o seen d r0 r1 r2 _ hx1 (ihv _ hx2) hk
    obtain ⟨x, rfl, hxs⟩ := ihm t h
    rw [show k = o.key name from congrArg o.key htake] at hxs
    exact ⟨name ++ 0x3A :: (v ++ 0x2C :: x), by rw [hs0]; simp,
      .cons seen [] name [] [] v [] x .nil hname .nil .nil hjv .nil hfresh hxs⟩
  case case23 seen d r0 c r1 hx1 hc r2 hlen2 k hk hx2 _ ihv =>
    obtain rfl := Option.some.inj h
    obtain ⟨rfl, _⟩ := hc
    obtain ⟨name, v, hname, hjv, hs0, _, hfresh⟩ := member_sound o seen d r0 r1 r2 _ hx1 (ihv _ hx2) hk
    exact ⟨name ++ 0x3A :: (v ++ [0x7D]), by rw [hs0]; simp,
      .last seen [] name [] [] v [] .nil hname .nil .nil hjv .nil hfresh⟩

/-- What `validAt` accepts at depth `d` is a value of the RFC 8259 grammar
(slice C01's `JValue`), with strings in the selected UTF-8 mode, member names pairwise different under `o.key`
unless duplicates are allowed, nested at most `o.maxDepth` deep. -/
theorem validAt_sound (o : Opt) (d : Nat) (b : Bytes) (h : validAt o d b = true) : JV o d b := by
  have h' : parse o .value d b = some [] := by simpa [validAt] using h
  obtain ⟨v, rfl, hj⟩ := parse_sound o .value d b [] h'
  rwa [List.append_nil]

theorem validValue_sound (o : Opt) (b : Bytes) (h : validValue o b = true) :
    JText (gopts o) o.maxDepth o.key b :=
  ⟨[], b, [], .nil, validAt_sound o 0 b (by simpa [validAt, validValue] using h), .nil, by simp⟩

end JsonV.Lemmas.EncInvSound
