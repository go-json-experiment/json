/-
Respelling all strings of an accepted token list (ReformatString, for every option set but PreserveRawStrings together with
an escape option and AllowInvalidUTF8: `FOpts.respellable`) gives a token list that is again accepted under the same
validation options, has the same texts, and is a fixed point of respelling (`respell_tokens`).  The duplicate-name test of the
respelled list needs `nameKey` = the unquoted text (`NameKeyUnquote`, a fact about slice C01's `unescapedName`/`valueString`,
proved in Lemmas/GlueNameKey.lean); with AllowDuplicateNames nothing is needed.
-/
import JsonV.Lemmas.FormatRespellStr
import JsonV.Lemmas.GlueStrict

namespace JsonV.Fmt
open JsonV.Canon JsonV.Lemmas.CanonNest JsonV.Spec.Grammar JsonV.Model

/-- the name key of a literal of the selected mode is its unquoted text (`insertQuoted` stores the inner bytes of a
verbatim literal, which are its unquoted text) -/
def NameKeyUnquote : Prop :=
  ∀ (o : FOpts) (raw : Bytes), JString (!o.allowInvalidUTF8) raw → nameKey o raw = (Wire.unquote raw).1

theorem wire_unquote_unqS (raw : Bytes) : (Wire.unquote raw).1 = unqS raw := by
  rw [JsonV.Props.C11.glue_unquote]; rfl

theorem step_respell (o : FOpts) (st : Stack) (k : Tok) : step st (respellTok o k) = step st k := by
  cases k <;> first | rfl | (cases st <;> rfl)

theorem accepts_respell (o : FOpts) : ∀ (ts : List Tok) (st : Stack),
    accepts st (ts.map (respellTok o)) = accepts st ts := by
  intro ts
  induction ts with
  | nil => intro st; rfl
  | cons k ks ih =>
    intro st
    simp only [List.map_cons, accepts, step_respell]
    cases step st k with
    | none => rfl
    | some p => exact ih p.2

mutual
/-- Respelling every string of a tree: the tree map of `Canon.respell`, over `respellTok o` instead of `canonAtom`. -/
def mapT (o : FOpts) : JV → JV
  | .atom k => .atom (respellTok o k)
  | .arr es => .arr (mapL o es)
  | .obj ms => .obj (mapM o ms)
def mapL (o : FOpts) : List JV → List JV
  | [] => []
  | e :: es => mapT o e :: mapL o es
def mapM (o : FOpts) : List (Bytes × JV) → List (Bytes × JV)
  | [] => []
  | (n, v) :: ms => (respellStr o n, mapT o v) :: mapM o ms
end

mutual
theorem toks_mapT (o : FOpts) : ∀ t : JV, (mapT o t).toks = t.toks.map (respellTok o)
  | .atom k => by simp [mapT, JV.toks]
  | .arr es => by simp [mapT, JV.toks, toks_mapL o es, respellTok]
  | .obj ms => by simp [mapT, JV.toks, toks_mapM o ms, respellTok]
theorem toks_mapL (o : FOpts) : ∀ es : List JV, toksL (mapL o es) = (toksL es).map (respellTok o)
  | [] => by simp [mapL, toksL]
  | e :: es => by simp [mapL, toksL, toks_mapT o e, toks_mapL o es]
theorem toks_mapM (o : FOpts) : ∀ ms : List (Bytes × JV), toksM (mapM o ms) = (toksM ms).map (respellTok o)
  | [] => by simp [mapM, toksM]
  | (n, v) :: ms => by simp [mapM, toksM, toks_mapT o v, toks_mapM o ms, respellTok]
end

theorem atomOK_respell (o : FOpts) (k : Tok) : atomOK (respellTok o k) = atomOK k := by cases k <;> rfl

mutual
theorem atomsOK_mapT (o : FOpts) : ∀ t : JV, AtomsOK (mapT o t) = AtomsOK t
  | .atom k => by simp [mapT, AtomsOK, atomOK_respell]
  | .arr es => by simp [mapT, AtomsOK, atomsOK_mapL o es]
  | .obj ms => by simp [mapT, AtomsOK, atomsOK_mapM o ms]
theorem atomsOK_mapL (o : FOpts) : ∀ es : List JV, AtomsOKL (mapL o es) = AtomsOKL es
  | [] => rfl
  | e :: es => by simp [mapL, AtomsOKL, atomsOK_mapT o e, atomsOK_mapL o es]
theorem atomsOK_mapM (o : FOpts) : ∀ ms : List (Bytes × JV), AtomsOKM (mapM o ms) = AtomsOKM ms
  | [] => rfl
  | (n, v) :: ms => by simp [mapM, AtomsOKM, atomsOK_mapT o v, atomsOK_mapM o ms]
end

theorem mapM_keys (o : FOpts) (key : Bytes → Bytes) : ∀ ms : List (Bytes × JV),
    (∀ raw, Tok.str raw ∈ toksM ms → key (respellStr o raw) = key raw) →
    ((mapM o ms).map fun p => key p.1) = ms.map fun p => key p.1
  | [], _ => rfl
  | (n, v) :: ms, hk => by
    simp only [mapM, List.map_cons]
    rw [hk n (by simp [toksM]), mapM_keys o key ms (fun raw hm => hk raw (by simp [toksM, hm]))]

mutual
theorem dupT_mapT (o : FOpts) (key : Bytes → Bytes) : ∀ t : JV,
    (∀ raw, Tok.str raw ∈ t.toks → key (respellStr o raw) = key raw) → dupT key (mapT o t) = dupT key t
  | .atom k, _ => by simp [mapT, dupT]
  | .arr es, hk => by
    simp only [mapT, dupT]
    exact dupL_mapL o key es (fun raw hm => hk raw (by simp [JV.toks, hm]))
  | .obj ms, hk => by
    simp only [mapT, dupT]
    rw [mapM_keys o key ms (fun raw hm => hk raw (by simp [JV.toks, hm])),
      dupM_mapM o key ms (fun raw hm => hk raw (by simp [JV.toks, hm]))]
theorem dupL_mapL (o : FOpts) (key : Bytes → Bytes) : ∀ es : List JV,
    (∀ raw, Tok.str raw ∈ toksL es → key (respellStr o raw) = key raw) → dupL key (mapL o es) = dupL key es
  | [], _ => rfl
  | e :: es, hk => by
    simp only [mapL, dupL]
    rw [dupT_mapT o key e (fun raw hm => hk raw (by simp [toksL, hm])),
      dupL_mapL o key es (fun raw hm => hk raw (by simp [toksL, hm]))]
theorem dupM_mapM (o : FOpts) (key : Bytes → Bytes) : ∀ ms : List (Bytes × JV),
    (∀ raw, Tok.str raw ∈ toksM ms → key (respellStr o raw) = key raw) → dupM key (mapM o ms) = dupM key ms
  | [], _ => rfl
  | (n, v) :: ms, hk => by
    simp only [mapM, dupM]
    rw [dupT_mapT o key v (fun raw hm => hk raw (by simp [toksM, hm])),
      dupM_mapM o key ms (fun raw hm => hk raw (by simp [toksM, hm]))]
end

theorem respell_tokens (o : FOpts) (hR : o.respellable) (hd : o.allowDup = true ∨ NameKeyUnquote)
    (b : Bytes) (ts : List Tok) (h : tokenizeV o b = some ts) :
    WellNested (ts.map (respellTok o)) ∧ tokensOK o (ts.map (respellTok o)) = true ∧
    (ts.map (respellTok o)).map (respellTok o) = ts.map (respellTok o) ∧
    ∀ raw, Tok.str raw ∈ ts → unqS (respellStr o raw) = unqS raw := by
  obtain ⟨ht, hk⟩ := (tokenizeV_eq_some o b ts).mp h
  have hw := wellNested_of_tokenize b ts ht
  have hstr := strs_of_tokenizeV o b ts h
  have hspec := fun raw hm => respellStr_spec o hR raw (hstr raw hm)
  refine ⟨⟨?_, by rw [accepts_respell]; exact hw.2⟩, ?_, ?_, fun raw hm => (hspec raw hm).2.2.1⟩
  · intro k hk'
    obtain ⟨k0, hk0, rfl⟩ := List.mem_map.mp hk'
    cases k0 with
    | str raw => exact (hspec raw hk0).1
    | _ => exact hw.1 _ hk0
  · rw [tokensOK_iff] at hk ⊢
    constructor
    · intro k hk'
      obtain ⟨k0, hk0, rfl⟩ := List.mem_map.mp hk'
      cases k0 with
      | str raw => exact (strOKV_iff o _ (hspec raw hk0).1).mpr (hspec raw hk0).2.1
      | _ => rfl
    · rcases hk.2 with hdup | hnames
      · exact Or.inl hdup
      · rcases hd with hd | hkey
        · exact Or.inl hd
        · right
          obtain ⟨t, rfl, hat, _⟩ := accepts_is_tree ts hw.2
          rw [← toks_mapT, namesOK_toks _ _ (by rw [atomsOK_mapT]; exact hat)]
          rw [namesOK_toks _ t hat] at hnames
          rw [dupT_mapT o (nameKey o) t ?_]; exact hnames
          intro raw hm
          have s := hspec raw hm
          rw [hkey o _ s.2.1, hkey o raw (hstr raw hm), wire_unquote_unqS, wire_unquote_unqS, s.2.2.1]
  · rw [List.map_map]
    apply List.map_congr_left
    intro k hk'
    cases k with
    | str raw => simp only [Function.comp, respellTok]; rw [(hspec raw hk').2.2.2]
    | _ => rfl

end JsonV.Fmt
