/-
Completeness of the spec's string lexer against the C01 grammar (strict UTF-8).
-/
import JsonV.Lemmas.GlueMeaningStr

namespace JsonV.Lemmas.GlueMeaningStrC
open JsonV JsonV.Spec.Meaning JsonV.Spec.Grammar JsonV.Model
open JsonV.Lemmas.GlueMeaningStr JsonV.Lemmas.MeaningStr

theorem hex4_complete (a b c d : UInt8) (t : Bytes) (ha : HexDigit a) (hb : HexDigit b) (hc : HexDigit c) (hd : HexDigit d) :
    hex4 (a :: b :: c :: d :: t) = some (hex4Value a b c d, t) := by
  rw [hex4_eq, hex4Spec_of ha hb hc hd]; rfl

theorem strBody_char_step (c : Bytes) (hc : JChar true c) :
    0 < c.length ∧ ∃ u, ∀ (t : Bytes) (f : Nat), strBody (f+1) (c ++ t) = prepend u (strBody f t) := by
  cases hc with
  | plain x h20 h80 h22 h5c =>
    exact ⟨by simp, [x], fun t f => strBody_char f h22 h5c (UInt8.not_lt.mpr h20) (if_pos h80)⟩
  | utf8 _ hm =>
    obtain ⟨-, -, b0, p, rfl, -⟩ := decodeRune_of_multi _ [] hm
    have h80 : (0x80 : UInt8) ≤ b0 := hm.high b0 (.head _)
    exact ⟨by simp, b0 :: p, fun t f => strBody_char f (by rintro rfl; exact absurd h80 (by decide))
      (by rintro rfl; exact absurd h80 (by decide)) (UInt8.not_lt.mpr (UInt8.le_trans (by decide) h80)) (utf8Char_multi hm t)⟩
  | raw x hs _ => cases hs
  | esc x hx =>
    have : ∃ out : UInt8, ∀ t, escape (x :: t) = some ([out], t) := by
      rcases hx with rfl | rfl | rfl | rfl | rfl | rfl | rfl | rfl <;> exact ⟨_, fun _ => rfl⟩
    obtain ⟨out, ho⟩ := this
    exact ⟨by simp, [out], fun t f => strBody_escape f (ho t)⟩
  | uni a b c d ha hb hc hd hns =>
    refine ⟨by simp, utf8Encode (hex4Value a b c d), fun t f => strBody_escape f ?_⟩
    have h1 : ¬ (0xD800 ≤ hex4Value a b c d ∧ hex4Value a b c d < 0xDC00) := fun h => hns rfl (surrogate_split.mpr (.inl h))
    have h2 : ¬ (0xDC00 ≤ hex4Value a b c d ∧ hex4Value a b c d < 0xE000) := fun h => hns rfl (surrogate_split.mpr (.inr h))
    simp [escape, hex4_complete a b c d t ha hb hc hd, h1, h2]
  | pair a b c d e f' g h ha hb hc hd he hf hg hh hhi hlo =>
    refine ⟨by simp, utf8Encode (0x10000 + (hex4Value a b c d - 0xD800) * 1024 + (hex4Value e f' g h - 0xDC00)),
      fun t f => strBody_escape f ?_⟩
    simp [escape, hex4_complete a b c d _ ha hb hc hd, hex4_complete e f' g h t he hf hg hh, hhi.1, hhi.2, hlo.1, hlo.2]

theorem strBody_complete (body : Bytes) (h : JChars true body) :
    ∃ s, ∀ (rest : Bytes) (fuel : Nat), body.length < fuel → strBody fuel (body ++ 0x22 :: rest) = some (s, rest) := by
  induction h with
  | nil =>
    refine ⟨[], ?_⟩
    intro rest fuel hf
    cases fuel with
    | zero => omega
    | succ n => simp [strBody]
  | cons c r hc _ ih =>
    obtain ⟨hpos, u, hstep⟩ := strBody_char_step c hc
    obtain ⟨s, hs⟩ := ih
    refine ⟨u ++ s, ?_⟩
    intro rest fuel hf
    cases fuel with
    | zero => omega
    | succ n =>
      simp only [List.length_append] at hf
      rw [List.append_assoc, hstep, hs rest n (by omega)]; rfl

theorem lexStr_complete (lit : Bytes) (h : JString true lit) :
    ∃ s q, lit = 0x22 :: q ∧ ∀ rest, lexStr (q ++ rest) = some (s, rest) := by
  obtain ⟨body, hb, rfl⟩ := h
  obtain ⟨s, hs⟩ := strBody_complete body hb
  refine ⟨s, body ++ [0x22], rfl, fun rest => ?_⟩
  rw [List.append_assoc]
  exact hs rest _ (by simp only [List.length_append, List.length_cons]; omega)

end JsonV.Lemmas.GlueMeaningStrC
