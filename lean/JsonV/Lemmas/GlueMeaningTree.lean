/-
Glue between the C03 meaning spec and the C01 grammar: values.  A text the spec parser accepts is a value
of the grammar (strict UTF-8, duplicate names allowed, nesting bounded by the depth of the tree).  The member and element
loops yield the inside of a container as `JMembers` / `JElems` of Lemmas/GrammarL.lean, first item first as they read it.
-/
import JsonV.Lemmas.GlueMeaningLex
import JsonV.Lemmas.GlueMeaningStr
import JsonV.Lemmas.MeaningParse
import JsonV.Lemmas.GrammarL

namespace JsonV.Lemmas.GlueMeaningTree
open JsonV JsonV.Spec.Meaning JsonV.Spec.Grammar
open JsonV.Lemmas.GlueMeaningLex JsonV.Lemmas.GlueMeaningStr JsonV.Lemmas.MeaningParse

/-- The instance of the grammar that the spec parser meets: strict UTF-8, duplicate names allowed. -/
def go : GOpts := ⟨true, true⟩

theorem skipWs_cons_split {b : Bytes} {c : UInt8} {r : Bytes} (h : skipWs b = c :: r) : ∃ w, JWs w ∧ b = w ++ c :: r := by
  obtain ⟨w, hw, hb⟩ := skipWs_split b
  exact ⟨w, hw, by rw [h] at hb; exact hb⟩

theorem scalar_grammar (md d : Nat) (b : Bytes) (t : MTree) (rest : Bytes) (h : lexScalar b = some (t, rest)) :
    ∃ v, b = v ++ rest ∧ JValue go md id d v := by
  rcases lexScalar_some h with ⟨r, s, rfl, hl, -⟩ | ⟨hs, -⟩ | ⟨hs, -⟩ | ⟨hs, -⟩ | ⟨l, hn, -⟩
  · obtain ⟨lit, hj, hb⟩ := lexStr_spec hl
    exact ⟨lit, hb, .str d lit hj⟩
  · exact ⟨nullLit, stripPrefix_eq hs, .null d⟩
  · exact ⟨trueLit, stripPrefix_eq hs, .true d⟩
  · exact ⟨falseLit, stripPrefix_eq hs, .false d⟩
  · obtain ⟨hb, hj⟩ := lexNum_spec hn
    exact ⟨l, hb, .num d l hj⟩

/-- With `fuel` units, what the three parsers accept is a value, the inside of an object, the inside of an array of the
grammar, nested no deeper than the bound `md` allows below the offset `d`. -/
def GrammarOK (md fuel : Nat) : Prop :=
  (∀ (d : Nat) (b : Bytes) (t : MTree) (rest : Bytes), parseValue fuel b = some (t, rest) → d + t.depth ≤ md →
    ∃ v, b = v ++ rest ∧ JValue go md id d v) ∧
  (∀ (d : Nat) (b : Bytes) (ms : List (Bytes × MTree)) (rest : Bytes), parseMembers fuel b = some (ms, rest) →
    d + depthMembers ms ≤ md → ∃ p, b = p ++ rest ∧ JMembers (JString true) (JValue go md id d) id true [] p) ∧
  (∀ (d : Nat) (b : Bytes) (xs : List MTree) (rest : Bytes), parseElems fuel b = some (xs, rest) →
    d + depthList xs ≤ md → ∃ p, b = p ++ rest ∧ JElems (JValue go md id d) p)

theorem members_grammar_step (md fuel : Nat) (ih : GrammarOK md fuel)
    (d : Nat) (b : Bytes) (ms : List (Bytes × MTree)) (rest : Bytes) (h : parseMembers (fuel+1) b = some (ms, rest))
    (hd : d + depthMembers ms ≤ md) : ∃ p, b = p ++ rest ∧ JMembers (JString true) (JValue go md id d) id true [] p := by
  obtain ⟨r, name, r1, r2, v, r3, k4, r4, rfl, hl, hs1, hv, hs3, hk⟩ := parseMembers_succ_some h
  obtain ⟨lit, hlit, hb⟩ := lexStr_spec hl
  obtain ⟨w2, hw2, rfl⟩ := skipWs_cons_split hs1
  obtain ⟨w3, hw3, hr2⟩ := skipWs_split r2
  obtain ⟨w4, hw4, rfl⟩ := skipWs_cons_split hs3
  have hdv : d + v.depth ≤ md := by
    rcases hk with ⟨-, ms', -, rfl⟩ | ⟨-, rfl, -⟩ <;> exact (depthMembers_cons_le hd).1
  obtain ⟨vb, hvb, hjv⟩ := ih.1 d (skipWs r2) v _ hv hdv
  rw [hb, hr2, hvb]
  rcases hk with ⟨rfl, ms', hm, rfl⟩ | ⟨rfl, rfl, rfl⟩
  · obtain ⟨w5, hw5, hr4⟩ := skipWs_split r4
    obtain ⟨p, hp, hjp⟩ := ih.2.1 d (skipWs r4) ms' _ hm (depthMembers_cons_le hd).2
    exact ⟨_, by rw [hr4, hp]; simp, .cons [] [] lit w2 w3 vb w4 _ .nil hlit hw2 hw3 hjv hw4 (.inl rfl)
      ((hjp.ws_append hw5).seen_anti (.inl rfl))⟩
  · exact ⟨_, by simp, .last [] [] lit w2 w3 vb w4 .nil hlit hw2 hw3 hjv hw4 (.inl rfl)⟩

theorem elems_grammar_step (md fuel : Nat) (ih : GrammarOK md fuel)
    (d : Nat) (b : Bytes) (xs : List MTree) (rest : Bytes) (h : parseElems (fuel+1) b = some (xs, rest))
    (hd : d + depthList xs ≤ md) : ∃ p, b = p ++ rest ∧ JElems (JValue go md id d) p := by
  obtain ⟨v, r3, k4, r4, hv, hs3, hk⟩ := parseElems_succ_some h
  obtain ⟨w4, hw4, rfl⟩ := skipWs_cons_split hs3
  have hdv : d + v.depth ≤ md := by
    rcases hk with ⟨-, xs', -, rfl⟩ | ⟨-, rfl, -⟩ <;> exact (depthList_cons_le hd).1
  obtain ⟨vb, rfl, hjv⟩ := ih.1 d b v _ hv hdv
  rcases hk with ⟨rfl, xs', hm, rfl⟩ | ⟨rfl, rfl, rfl⟩
  · obtain ⟨w5, hw5, hr4⟩ := skipWs_split r4
    obtain ⟨p, hp, hjp⟩ := ih.2.2 d (skipWs r4) xs' _ hm (depthList_cons_le hd).2
    exact ⟨_, by rw [hr4, hp]; simp, .cons [] vb w4 _ .nil hjv hw4 (hjp.ws_append hw5)⟩
  · exact ⟨_, by simp, .last [] vb w4 .nil hjv hw4⟩

theorem value_grammar_step (md fuel : Nat) (ih : GrammarOK md fuel)
    (d : Nat) (b : Bytes) (t : MTree) (rest : Bytes) (h : parseValue (fuel+1) b = some (t, rest)) (hd : d + t.depth ≤ md) :
    ∃ v, b = v ++ rest ∧ JValue go md id d v := by
  rcases parseValue_succ_some h with ⟨r, rfl, hs, rfl⟩ | ⟨r, k', r', ms, rfl, hs, -, hm, rfl⟩ | ⟨r, rfl, hs, rfl⟩ |
    ⟨r, k', r', xs, rfl, hs, -, hm, rfl⟩ | ⟨k, r, rfl, -, -, hl⟩
  · obtain ⟨w, hw, rfl⟩ := skipWs_cons_split hs
    exact ⟨0x7B :: (w ++ [0x7D]), by simp, .emptyObj d w (depth_obj_le hd).1 hw⟩
  · obtain ⟨w, hw, rfl⟩ := skipWs_cons_split hs
    obtain ⟨p, hp, hjp⟩ := ih.2.1 (d+1) (k' :: r') ms _ hm (depth_obj_le hd).2
    exact ⟨0x7B :: (w ++ p), by rw [hp]; simp, .of_members (depth_obj_le hd).1 (hjp.ws_append hw)⟩
  · obtain ⟨w, hw, rfl⟩ := skipWs_cons_split hs
    exact ⟨0x5B :: (w ++ [0x5D]), by simp, .emptyArr d w (depth_arr_le hd).1 hw⟩
  · obtain ⟨w, hw, rfl⟩ := skipWs_cons_split hs
    obtain ⟨p, hp, hjp⟩ := ih.2.2 (d+1) (k' :: r') xs _ hm (depth_arr_le hd).2
    exact ⟨0x5B :: (w ++ p), by rw [hp]; simp, .of_elems (depth_arr_le hd).1 (hjp.ws_append hw)⟩
  · exact scalar_grammar md d (k :: r) t rest hl

theorem grammar_core (md fuel : Nat) : GrammarOK md fuel := by
  induction fuel with
  | zero => exact ⟨fun _ _ _ _ h => (by cases h), fun _ _ _ _ h => (by cases h), fun _ _ _ _ h => (by cases h)⟩
  | succ n ih => exact ⟨value_grammar_step md n ih, members_grammar_step md n ih, elems_grammar_step md n ih⟩

theorem skipWs_nil_JWs {r : Bytes} (h : (skipWs r).isEmpty = true) : JWs r := by
  obtain ⟨w, hw, hr⟩ := skipWs_split r
  have : skipWs r = [] := by simpa using h
  rw [this, List.append_nil] at hr
  rw [hr]; exact hw

theorem parseTreeF_grammar (fuel : Nat) (b : Bytes) (t : MTree) (md : Nat) (h : parseTreeF fuel b = some t) (hd : t.depth ≤ md) :
    JText go md id b := by
  obtain ⟨r, hv, hws⟩ := parseTreeF_iff.mp h
  obtain ⟨v, hb, hj⟩ := (grammar_core md fuel).1 0 (skipWs b) t r hv (by rwa [Nat.zero_add])
  obtain ⟨w1, hw1, hb1⟩ := skipWs_split b
  exact ⟨w1, v, r, hw1, hj, skipWs_nil_JWs hws, by rw [List.append_assoc, ← hb]; exact hb1⟩

end JsonV.Lemmas.GlueMeaningTree
