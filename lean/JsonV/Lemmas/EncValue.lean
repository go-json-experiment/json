/-
`WriteValue` of the Encoder model succeeds exactly when the raw text is accepted by `reformatValue`
(one value, only whitespace around it), the PDA admits a value of that kind here, and a raw string in
name position is a fresh name.
-/
import JsonV.Lemmas.EncIff
import JsonV.Lemmas.EncReformat

namespace JsonV.Lemmas.EncValue
open JsonV JsonV.Model JsonV.Model.Encoder JsonV.Spec JsonV.Spec.PDA JsonV.Spec.Render JsonV.Spec.Names
open JsonV.Lemmas.StateRefine JsonV.Lemmas.StateRun JsonV.Lemmas.EncRender JsonV.Lemmas.EncIff JsonV.Lemmas.EncReformat

/-- The kind of the first token of a raw value whose `Value.Kind()` byte is `k`. -/
def firstKind (k : UInt8) : Kind :=
  if k = 0x22 then .str else if k = 0x30 then .num else if k = 0x7b then .beginObj
  else if k = 0x5b then .beginArr else .lit

/-- The state-machine part of `WriteValue` (encode.go:555-595) for a value of kind `k` whose reformatted
text is `lit`. -/
def valueSM (e : Enc) (k : UInt8) (lit : Bytes) : Except EncErr (Machine × List (List Bytes)) :=
  if k = 0x6e ∨ k = 0x66 ∨ k = 0x74 then (liftSM e.m.appendLiteral).map fun m => (m, e.ns)
  else if k = 0x22 then
    match checkName e lit with
    | .error err => .error err
    | .ok ns => (liftSM e.m.appendString).map fun m => (m, ns)
  else if k = 0x30 then (liftSM e.m.appendNumber).map fun m => (m, e.ns)
  else if k = 0x7b then
    match e.m.pushObject e.o.maxDepth with
    | .error err => .error (.sm err)
    | .ok m1 => match m1.popObject with
      | .ok m2 => .ok (m2, e.ns)
      | .error _ => .error .bug
  else if k = 0x5b then
    match e.m.pushArray e.o.maxDepth with
    | .error err => .error (.sm err)
    | .ok m1 => match m1.popArray with
      | .ok m2 => .ok (m2, e.ns)
      | .error _ => .error .bug
  else .ok (e.m, e.ns)

theorem writeValue_nf (e : Enc) (v : Bytes) :
    writeValue e v =
      match reformatValue e.o (3 * v.length + 4) (beforeToken e (valueKind v)) (skipWS v) e.m.depth with
      | .error err => (e, some err)
      | .ok (b', rest) =>
        match skipWS rest with
        | _ :: _ => (e, some .invalidChar)
        | [] =>
          match valueSM e (valueKind v) (b'.drop (beforeToken e (valueKind v)).length) with
          | .ok (m, ns) => (commit e b' m ns, none)
          | .error err => (e, some err) := by
  unfold writeValue valueSM
  rfl

theorem writeValue_ok_iff (e e' : Enc) (v : Bytes) :
    writeValue e v = (e', none) ↔
      ∃ b' rest m ns,
        reformatValue e.o (3 * v.length + 4) (beforeToken e (valueKind v)) (skipWS v) e.m.depth = .ok (b', rest) ∧
        skipWS rest = [] ∧ valueSM e (valueKind v) (b'.drop (beforeToken e (valueKind v)).length) = .ok (m, ns) ∧
        e' = commit e b' m ns := by
  rw [writeValue_nf]
  constructor
  · intro h
    split at h
    · cases h
    · rename_i b' rest hr
      split at h
      · cases h
      · rename_i hw
        split at h
        · rename_i m ns hv
          exact ⟨b', rest, m, ns, hr, hw, hv, (Prod.mk.inj h).1.symm⟩
        · cases h
  · rintro ⟨b', rest, m, ns, hr, hw, hv, rfl⟩
    simp only [hr, hw, hv]

theorem inv_mono {max b b' : Nat} {m : Machine} (h : Inv max b m) (hb : b ≤ b') : Inv max b' m :=
  ⟨clean_mono h.last hb, fun e he => clean_mono (h.stack e he) hb, h.depth⟩

/-! In the PDA a whole value takes `f :: r0` to `f.bump :: r0`: a scalar in one step, a container by its opening and
its closing delimiter.  `popObject`/`popArray` therefore cannot fail right after the push (the `panic("BUG: …")`
of encode.go:580,591 is dead). -/

theorem step_scalar {max : Nat} {f : Frame} {r0 : List Frame} {fs' : Frames} {K : Kind}
    (hK : K = .lit ∨ K = .str ∨ K = .num) (h : step max (f :: r0) K = some fs') : fs' = f.bump :: r0 := by
  rcases hK with rfl | rfl | rfl <;> cases JsonV.Lemmas.StateStep.step_iff.mp h <;> rfl

theorem step_open_close {max : Nat} {f : Frame} {r0 : List Frame} {fs1 : Frames} {K1 K2 : Kind}
    (hK : K1 = .beginObj ∧ K2 = .endObj ∨ K1 = .beginArr ∧ K2 = .endArr)
    (h : step max (f :: r0) K1 = some fs1) : step max fs1 K2 = some (f.bump :: r0) := by
  rcases hK with ⟨rfl, rfl⟩ | ⟨rfl, rfl⟩ <;> cases JsonV.Lemmas.StateStep.step_iff.mp h
  · exact step_endObj rfl
  · exact step_endArr

/-- `x` is the right outcome of the state-machine part of `WriteValue` for a value whose first token has
kind `K`: it succeeds iff the PDA admits `K`, and then the innermost frame counts one more element, the depth
is unchanged, and the names are `nsx`. -/
def ValueOutcome (o : Opts) (b : Nat) (f : Frame) (r0 : List Frame) (K : Kind) (nsx : List (List Bytes))
    (x : Except EncErr (Machine × List (List Bytes))) : Prop :=
  ((∃ r, x = .ok r) ↔ (step o.maxDepth (f :: r0) K).isSome = true) ∧
    ∀ m ns2, x = .ok (m, ns2) → abs m = f.bump :: r0 ∧ Inv o.maxDepth (b + 2) m ∧ ns2 = nsx

variable {o : Opts} {b : Nat} {f : Frame} {r0 : List Frame} {ns : List (List Bytes)} {e : Enc}

theorem scalar_outcome (hI : EncInv o b (f :: r0) ns e) (hb : b + 2 < 2^61) {K : Kind}
    (hK : K = .lit ∨ K = .str ∨ K = .num) (nsx : List (List Bytes)) :
    ValueOutcome o b f r0 K nsx ((liftSM (smStep o.maxDepth e.m K)).map fun m => (m, nsx)) := by
  rcases step_cases hI.inv (by omega : b + 1 < 2^61) K with ⟨m1, hs, hst, hinv⟩ | ⟨x, hs, hst⟩ <;> rw [hI.abs_eq] at hst <;>
    rw [hs]
  · refine ⟨by simp [liftSM, Except.map, hst], fun m ns2 h => ?_⟩
    simp only [liftSM, Except.map, Except.ok.injEq, Prod.mk.injEq] at h
    obtain ⟨rfl, rfl⟩ := h
    exact ⟨step_scalar hK hst, inv_mono hinv (by omega), rfl⟩
  · simp [ValueOutcome, liftSM, Except.map, hst]

theorem container_outcome (hI : EncInv o b (f :: r0) ns e) (hb : b + 2 < 2^61) {K1 K2 : Kind}
    (hK : K1 = .beginObj ∧ K2 = .endObj ∨ K1 = .beginArr ∧ K2 = .endArr) :
    ValueOutcome o b f r0 K1 e.ns
      (match smStep o.maxDepth e.m K1 with
        | .error err => .error (.sm err)
        | .ok m1 => match smStep o.maxDepth m1 K2 with
          | .ok m2 => .ok (m2, e.ns)
          | .error _ => .error .bug) := by
  rcases step_cases hI.inv (by omega : b + 1 < 2^61) K1 with ⟨m1, h1, hst, hinv⟩ | ⟨x, h1, hst⟩ <;> rw [hI.abs_eq] at hst <;>
    simp only [h1]
  · have h2st := step_open_close hK hst
    rcases step_cases hinv (by omega : b + 1 + 1 < 2^61) K2 with ⟨m2, h2, hst2, hinv2⟩ | ⟨_, -, hst2⟩
    · simp only [h2]
      refine ⟨by simp [hst], fun m ns2 h => ?_⟩
      simp only [Except.ok.injEq, Prod.mk.injEq] at h
      obtain ⟨rfl, rfl⟩ := h
      exact ⟨Option.some.inj (hst2.symm.trans h2st), hinv2, rfl⟩
    · cases hst2.symm.trans h2st
  · simp [ValueOutcome, hst]

theorem valueSM_spec (hI : EncInv o b (f :: r0) ns e) (hb : b + 2 < 2^61) (k : UInt8) (lit : Bytes)
    (hk : IsValueKind k) :
    ((∃ r, valueSM e k lit = .ok r) ↔
      ((step o.maxDepth (f :: r0) (firstKind k)).isSome = true ∧
        (k = 0x22 → o.allowDup = false → isNamePos (f :: r0) = true → unquote lit ∉ ns.headD []))) ∧
    ∀ m ns2, valueSM e k lit = .ok (m, ns2) → abs m = f.bump :: r0 ∧ Inv o.maxDepth (b + 2) m ∧
      (o.allowDup = false → ns2 = if k = 0x22 then namesAfterName (f :: r0) ns (unquote lit) else ns) := by
  unfold valueSM
  rw [hI.opts]
  by_cases hq : k = 0x22
  · subst hq
    rw [if_neg (by decide), if_pos rfl]
    have hc := nameCheckSpec_ok_iff (o := o) (fs := f :: r0) (ns := ns) (cur := e.ns) (unquote lit)
      (fun hd hn => ns_nonempty hI hd hn)
    rw [← checkName_spec hI lit] at hc
    cases hn : checkName e lit with
    | error x =>
      rw [hn] at hc
      exact ⟨⟨nofun, fun h => nomatch hc.mpr (h.2 rfl)⟩, nofun⟩
    | ok ns' =>
      rw [hn] at hc
      have hx := scalar_outcome hI hb (K := .str) (Or.inr (Or.inl rfl)) ns'
      refine ⟨hx.1.trans ⟨fun h => ⟨h, fun _ => hc.mp ⟨_, rfl⟩⟩, (·.1)⟩, fun m ns2 h => ?_⟩
      obtain ⟨h1, h2, rfl⟩ := hx.2 m ns2 h
      refine ⟨h1, h2, fun hd => ?_⟩
      rw [checkName_spec hI lit, (hI.names hd).1] at hn
      rw [if_pos rfl]; exact nameCheckSpec_ok hn hd
  -- every other kind: the outcome for its first token, names unchanged
  simp only [hq, false_implies, and_true, if_false]
  have fin : ∀ x, ValueOutcome o b f r0 (firstKind k) e.ns x →
      ((∃ r, x = .ok r) ↔ (step o.maxDepth (f :: r0) (firstKind k)).isSome = true) ∧
      ∀ m ns2, x = .ok (m, ns2) → abs m = f.bump :: r0 ∧ Inv o.maxDepth (b + 2) m ∧ (o.allowDup = false → ns2 = ns) :=
    fun x hx => ⟨hx.1, fun m ns2 h => by
      obtain ⟨h1, h2, rfl⟩ := hx.2 m ns2 h
      exact ⟨h1, h2, fun hd => (hI.names hd).1⟩⟩
  apply fin
  rcases hk with h | h | h | h | h | h | h <;> subst h
  · exact scalar_outcome hI hb (Or.inl rfl) e.ns
  · exact scalar_outcome hI hb (Or.inl rfl) e.ns
  · exact scalar_outcome hI hb (Or.inl rfl) e.ns
  · exact absurd rfl hq
  · exact scalar_outcome hI hb (Or.inr (Or.inr rfl)) e.ns
  · exact container_outcome hI hb (Or.inl ⟨rfl, rfl⟩)
  · exact container_outcome hI hb (Or.inr ⟨rfl, rfl⟩)

theorem writeValue_iff {o : Opts} {b : Nat} {fs : Frames} {ns : List (List Bytes)} {e : Enc}
    (hI : EncInv o b fs ns e) (hb : b + 2 < 2^61) (v : Bytes) :
    (writeValue e v).2 = none ↔
      ∃ b' rest, reformatValue o (3 * v.length + 4) (beforeToken e (valueKind v)) (skipWS v) e.m.depth = .ok (b', rest) ∧
        skipWS rest = [] ∧ (step o.maxDepth fs (firstKind (valueKind v))).isSome = true ∧
        (valueKind v = 0x22 → o.allowDup = false → isNamePos fs = true →
          unquote (b'.drop (beforeToken e (valueKind v)).length) ∉ ns.headD []) := by
  obtain ⟨f, r0, rfl⟩ : ∃ f r0, fs = f :: r0 := by rw [← hI.abs_eq, abs_cons]; exact ⟨_, _, rfl⟩
  have hk : ∀ {b' rest}, reformatValue o (3 * v.length + 4) (beforeToken e (valueKind v)) (skipWS v) e.m.depth =
      .ok (b', rest) → IsValueKind (valueKind v) := fun hr => by
    obtain ⟨c, r, hs, hk⟩ := reformat_ok_kind hr
    simp only [valueKind, hs]; exact hk
  constructor
  · intro h
    obtain ⟨b', rest, m, ns2, hr, hw, hv, -⟩ := (writeValue_ok_iff e _ v).mp (Prod.ext rfl h)
    rw [hI.opts] at hr
    exact ⟨b', rest, hr, hw, (valueSM_spec hI hb _ _ (hk hr)).1.mp ⟨_, hv⟩⟩
  · rintro ⟨b', rest, hr, hw, hsm⟩
    obtain ⟨⟨m, ns2⟩, hv⟩ := (valueSM_spec hI hb _ _ (hk hr)).1.mpr hsm
    rw [(writeValue_ok_iff e _ v).mpr ⟨b', rest, m, ns2, hI.opts ▸ hr, hw, hv, rfl⟩]

end JsonV.Lemmas.EncValue
