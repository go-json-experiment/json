/-
C02: locality of the recogniser of Spec/ValidJson.lean.  A successful parse is not disturbed by a suffix, provided that a
parse which consumed everything (and may therefore have ended inside a number, numbers being scanned greedily) is followed
by a delimiter (`parse_append`).  Numbers: `pNumber` is the longest match of the number automaton of Lemmas/WireNumber.lean
(`pNumber_eq`, one walk along its scanners).  Strings: `strBody_append` of Lemmas/JStringLDet.lean.
-/
import JsonV.Lemmas.JStringLDet
import JsonV.Lemmas.WireNumber

namespace JsonV.Lemmas.EncInvL
open JsonV JsonV.Spec.ValidJson JsonV.Spec.Grammar JsonV.Model JsonV.Lemmas.WireNumber

/-- `r` is empty or starts with one of `,` `]` `}` `:` (what the encoder writes after a value). -/
def okFollow (r : Bytes) : Prop := ∀ c, r.head? = some c → (c = 0x2c ∨ c = 0x5d ∨ c = 0x7d ∨ c = 0x3a)

theorem okFollow_nil : okFollow [] := by intro c h; simp at h
theorem okFollow_cons {c : UInt8} (r : Bytes) (hc : c = 0x2c ∨ c = 0x5d ∨ c = 0x7d ∨ c = 0x3a) : okFollow (c :: r) :=
  fun _ h => Option.some.inj h ▸ hc

private theorem head_not (r : Bytes) (hr : okFollow r) (x : UInt8)
    (hx : x ≠ 0x2c ∧ x ≠ 0x5d ∧ x ≠ 0x7d ∧ x ≠ 0x3a) : ∀ r', r ≠ x :: r' := by
  intro r' h
  have := hr x (by simp [h])
  rcases this with h | h | h | h <;> simp_all

theorem isDigit19_iff (c : UInt8) : Model.Wire.isDigit19 c = true ↔ isDigit c = true ∧ c ≠ 0x30 :=
  (WireNumber.digit19_iff c).symm.trans (Spec.Grammar.digit19_iff.trans (and_congr_left fun _ => WireNumber.digit_iff c))

theorem dropDigits_head (b : Bytes) : ∀ c r, dropDigits b = c :: r → ¬ isDigit c = true := by
  induction b with
  | nil => exact nofun
  | cons d b ih =>
    rw [dropDigits]
    by_cases hd : isDigit d = true
    · rw [if_pos hd]; exact ih
    · rw [if_neg hd]; rintro c r ⟨⟩; exact hd

theorem rest_dropDigits {s : St} (hs : s = .int ∨ s = .frac ∨ s = .exp) (b : Bytes) : rest s b = rest s (dropDigits b) := by
  induction b with
  | nil => rfl
  | cons d b ih =>
    rw [dropDigits]
    by_cases hd : isDigit d = true
    · rw [if_pos hd, rest_cons (δ_digit_loop hs hd) (by rcases hs with rfl | rfl | rfl <;> nofun), ih]
    · rw [if_neg hd]

theorem rest_exp (b : Bytes) : rest .exp b = some (dropDigits b) := by
  rw [rest_dropDigits (.inr (.inr rfl))]
  exact rest_stop rfl ((stops_iff _ _).mpr fun c r e => δ_nondigit (dropDigits_head b c r e) (.inr (.inr rfl)))

theorem pExpDigits_eq (b : Bytes) : pExpDigits b = rest .esign b := by
  cases b with
  | nil => rfl
  | cons c r =>
    rw [pExpDigits]
    by_cases hd : isDigit c = true
    · rw [if_pos hd, rest_cons (s' := .exp) (δ_digit hd rfl) (by nofun), rest_exp]
    · rw [if_neg hd, rest_dead_none rfl (δ_nondigit hd (.inr (.inl rfl)))]

theorem pExp_eq {s : St} (hs : s = .zero ∨ s = .int ∨ s = .frac) {t : Bytes}
    (h1 : s ≠ .zero → ∀ c r, t = c :: r → ¬ isDigit c = true) (h2 : s ≠ .frac → ∀ c r, t = c :: r → c ≠ 0x2e) :
    pExp t = rest s t := by
  have ha : acc s = true := by rcases hs with rfl | rfl | rfl <;> rfl
  cases t with
  | nil => exact (rest_nil ha).symm
  | cons c r =>
    by_cases he : c = 0x65 ∨ c = 0x45
    · have hδ : δ s c = .e := by rw [δ_e he]; rcases hs with rfl | rfl | rfl <;> rfl
      rw [rest_cons hδ (by nofun)]
      cases r with
      | nil => simp only [pExp, if_pos he]; rfl
      | cons c1 r1 =>
        simp only [pExp, if_pos he]
        by_cases hsg : c1 = 0x2b ∨ c1 = 0x2d
        · rw [if_pos hsg, rest_cons (s' := .esign) (by rcases hsg with rfl | rfl <;> rfl) (by nofun), pExpDigits_eq]
        · rw [if_neg hsg, pExpDigits_eq, rest, rest, scan_e_nosign (by simpa [or_comm] using hsg)]
    · simp only [pExp, if_neg he]
      refine (rest_dead ha (δ_mantissa_dead hs (by simpa using he) (fun h => ?_) (fun h => ?_)) r).symm
      · exact Bool.eq_false_iff.mpr (h1 h c r rfl)
      · exact beq_eq_false_iff_ne.mpr (h2 h c r rfl)

theorem pFrac_cons (c : UInt8) (r : Bytes) :
    pFrac (c :: r) = if c = 0x2e then pExpDigits r else some (c :: r) := by
  cases r <;> rfl

theorem pFracExp_eq {s : St} (hs : s = .zero ∨ s = .int) {t : Bytes} (h1 : s = .int → ∀ c r, t = c :: r → ¬ isDigit c = true) :
    (pFrac t).bind pExp = rest s t := by
  have hs3 : s = .zero ∨ s = .int ∨ s = .frac := hs.imp_right .inl
  have h1' : s ≠ .zero → ∀ c r, t = c :: r → ¬ isDigit c = true := fun h => h1 (hs.resolve_left h)
  cases t with
  | nil => exact pExp_eq hs3 h1' (fun _ => nofun)
  | cons c r =>
    rw [pFrac_cons]
    by_cases hc : c = 0x2e
    · subst hc
      rw [if_pos rfl, rest_cons (s' := .dot) (by rcases hs with rfl | rfl <;> rfl) (by nofun)]
      cases r with
      | nil => rfl
      | cons d r1 =>
        rw [pExpDigits]
        by_cases hd : isDigit d = true
        · rw [if_pos hd, rest_cons (s' := .frac) (δ_digit hd rfl) (by nofun), rest_dropDigits (.inr (.inl rfl))]
          exact pExp_eq (.inr (.inr rfl)) (fun _ => dropDigits_head r1) (fun h => absurd rfl h)
        · rw [if_neg hd, rest_dead_none rfl (δ_nondigit hd (.inl rfl))]; rfl
    · rw [if_neg hc]
      exact pExp_eq hs3 h1' (fun _ c' r' e => (List.cons.inj e).1 ▸ hc)

theorem pIntFracExp_eq {s : St} (hs : s = .start ∨ s = .minus) (t : Bytes) (hm : s = .start → ∀ c r, t = c :: r → c ≠ 0x2d) :
    ((pInt t).bind fun s2 => (pFrac s2).bind pExp) = rest s t := by
  cases t with
  | nil => rcases hs with rfl | rfl <;> rfl
  | cons c r =>
    rw [pInt]
    by_cases h0 : c = 0x30
    · subst h0
      rw [if_pos rfl, rest_cons (s' := .zero) (by rcases hs with rfl | rfl <;> rfl) (by nofun)]
      exact pFracExp_eq (.inl rfl) nofun
    · rw [if_neg h0]
      by_cases hd : isDigit c = true
      · have hδ : δ s c = .int := by
          rw [δ_of_test (cls_d19 c) ((isDigit19_iff c).mpr ⟨hd, h0⟩)]; rcases hs with rfl | rfl <;> rfl
        rw [if_pos hd, rest_cons hδ (by nofun), rest_dropDigits (.inl rfl)]
        exact pFracExp_eq (.inr rfl) (fun _ => dropDigits_head r)
      · rw [if_neg hd]
        refine (rest_dead_none (by rcases hs with rfl | rfl <;> rfl) (δ_sign_dead hs (by simpa using h0) ?_ ?_) r).symm
        · exact fun h19 => hd ((isDigit19_iff c).mp h19).1
        · exact fun h => beq_eq_false_iff_ne.mpr (hm h c r rfl)

theorem pNumber_eq (b : Bytes) : pNumber b = rest .start b := by
  cases b with
  | nil => rfl
  | cons c r =>
    show ((pInt (if c = 0x2d then r else c :: r)).bind fun s2 => (pFrac s2).bind pExp) = _
    by_cases hc : c = 0x2d
    · subst hc
      rw [if_pos rfl, rest_cons (s' := .minus) rfl (by nofun)]
      exact pIntFracExp_eq (.inr rfl) r nofun
    · rw [if_neg hc]
      exact pIntFracExp_eq (.inl rfl) (c :: r) (fun _ c' r' e => (List.cons.inj e).1 ▸ hc)

theorem pNumber_append {s t r : Bytes} (h : pNumber s = some t) (hr : t = [] → okFollow r) :
    pNumber (s ++ r) = some (t ++ r) := by
  rw [pNumber_eq, rest_eq_some] at h ⊢
  obtain ⟨p, h⟩ := h
  refine ⟨p, scan_append_other h fun ht c r' e => ?_⟩
  rcases hr ht c (by rw [e]; rfl) with rfl | rfl | rfl | rfl <;> rfl

theorem lit_append {w s t r : Bytes} (h : lit w s = some t) : lit w (s ++ r) = some (t ++ r) := by
  unfold lit at h ⊢
  split at h
  · rename_i hp
    simp at h; subst h
    have hp' : w <+: s := List.isPrefixOf_iff_prefix.mp hp
    have : w.isPrefixOf (s ++ r) = true :=
      List.isPrefixOf_iff_prefix.mpr (hp'.trans (List.prefix_append s r))
    simp only [this, if_true]
    rw [List.drop_append_of_le_length hp'.length_le]
  · simp at h

/-! The branches of `parse` that can succeed, one equation each.  `fun_induction parse` numbers them: 2 a string;
4 `[]`, 5 `[` and elements; 8 `{}`, 9 `{` and members; 11, 12, 13 `null`, `true`, `false`; 14 a number; 15, 16 an
element followed by `,` or `]`; 22, 23 a member followed by `,` or `}`.  Every other case is a branch that
returns `none`. -/

theorem parse_string (o : Opt) (d : Nat) (r : Bytes) : parse o .value d (0x22 :: r) = strBody o.strict r := by
  rw [parse.eq_def]; rfl

theorem parse_arr (o : Opt) {d : Nat} (hd : d < o.maxDepth) (c : UInt8) (r : Bytes) :
    parse o .value d (0x5b :: c :: r) = if c = 0x5d then some r else parse o .elems (d + 1) (c :: r) := by
  rw [parse, if_neg (by decide), if_pos rfl, if_pos hd]

theorem parse_obj (o : Opt) {d : Nat} (hd : d < o.maxDepth) (c : UInt8) (r : Bytes) :
    parse o .value d (0x7b :: c :: r) = if c = 0x7d then some r else parse o (.members []) (d + 1) (c :: r) := by
  rw [parse, if_neg (by decide), if_neg (by decide), if_pos rfl, if_pos hd]

theorem parse_null (o : Opt) (d : Nat) (r : Bytes) : parse o .value d (0x6e :: r) = lit [0x75, 0x6c, 0x6c] r := by
  rw [parse.eq_def]; rfl

theorem parse_true (o : Opt) (d : Nat) (r : Bytes) : parse o .value d (0x74 :: r) = lit [0x72, 0x75, 0x65] r := by
  rw [parse.eq_def]; rfl

theorem parse_false (o : Opt) (d : Nat) (r : Bytes) :
    parse o .value d (0x66 :: r) = lit [0x61, 0x6c, 0x73, 0x65] r := by
  rw [parse.eq_def]; rfl

theorem parse_number (o : Opt) (d : Nat) {c : UInt8} (r : Bytes) (h1 : ¬ c = 0x22) (h2 : ¬ c = 0x5b) (h3 : ¬ c = 0x7b)
    (h4 : ¬ c = 0x6e) (h5 : ¬ c = 0x74) (h6 : ¬ c = 0x66) : parse o .value d (c :: r) = pNumber (c :: r) := by
  rw [parse.eq_def]; dsimp only; rw [if_neg h1, if_neg h2, if_neg h3, if_neg h4, if_neg h5, if_neg h6]

theorem parse_elems (o : Opt) (d : Nat) {s r : Bytes} {c : UInt8} (h : parse o .value d s = some (c :: r))
    (hlen : r.length < s.length) :
    parse o .elems d s = if c = 0x2c then parse o .elems d r else if c = 0x5d then some r else none := by
  rw [parse, h]; simp only [hlen, if_true]

theorem parse_members (o : Opt) (d : Nat) {seen : List Bytes} {r0 r1 r2 : Bytes} {c : UInt8}
    (hn : strBody o.strict r0 = some (0x3a :: r1)) (hlen1 : r1.length < r0.length)
    (hk : ¬ (o.noDup && seen.contains (o.key ((0x22 :: r0).take (r0.length - r1.length)))) = true)
    (hv : parse o .value d r1 = some (c :: r2)) (hlen2 : r2.length < r1.length) :
    parse o (.members seen) d (0x22 :: r0) =
      if c = 0x2c then parse o (.members (o.key ((0x22 :: r0).take (r0.length - r1.length)) :: seen)) d r2
      else if c = 0x7d then some r2 else none := by
  rw [parse, if_pos rfl, hn]; dsimp only
  rw [if_pos ⟨rfl, hlen1⟩, if_neg hk, hv]; dsimp only
  rw [if_pos hlen2]

/-- The spelling of a member name is cut out of the input by lengths; a common suffix does not move it. -/
theorem take_name (q : UInt8) (a b x : Bytes) :
    (q :: (a ++ x)).take ((a ++ x).length - (b ++ x).length) = (q :: a).take (a.length - b.length) := by
  rw [← List.cons_append, List.length_append, List.length_append, Nat.add_sub_add_right,
    List.take_append_of_le_length (by simp; omega)]

theorem parse_append (o : Opt) (m : Mode) (d : Nat) (s r : Bytes) :
    ∀ t, parse o m d s = some t → (t = [] → okFollow r) → parse o m d (s ++ r) = some (t ++ r) := by
  -- the cases are numbered as listed above `parse_string`
  fun_induction parse o m d s <;> intro t h hr
  all_goals try (simp at h; done)
  case case2 d s => rw [List.cons_append, parse_string]; exact strBody_append _ _ r _ h
  case case4 d hd s _ =>
    obtain rfl := Option.some.inj h
    rw [List.cons_append, List.cons_append, parse_arr o hd, if_pos rfl]
  case case5 d hd c s hc _ ih =>
    rw [List.cons_append, List.cons_append, parse_arr o hd, if_neg hc]; exact ih t h hr
  case case8 d hd s _ _ =>
    obtain rfl := Option.some.inj h
    rw [List.cons_append, List.cons_append, parse_obj o hd, if_pos rfl]
  case case9 d hd c s hc _ _ ih =>
    rw [List.cons_append, List.cons_append, parse_obj o hd, if_neg hc]; exact ih t h hr
  case case11 => rw [List.cons_append, parse_null]; exact lit_append h
  case case12 => rw [List.cons_append, parse_true]; exact lit_append h
  case case13 => rw [List.cons_append, parse_false]; exact lit_append h
  case case14 d c s h1 h2 h3 h4 h5 h6 =>
    rw [List.cons_append, parse_number o d _ h1 h2 h3 h4 h5 h6]; exact pNumber_append h hr
  case case15 d s s' hlen hx ihv ihe =>
    rw [parse_elems o d (r := s' ++ r) (ihv _ hx (by simp)) (by simp; omega), if_pos rfl]; exact ihe t h hr
  case case16 d s s' hlen hx _ ihv =>
    obtain rfl := Option.some.inj h
    rw [parse_elems o d (r := s' ++ r) (ihv _ hx (by simp)) (by simp; omega), if_neg (by decide), if_pos rfl]
  case case22 seen d r0 c r1 hx1 hc r2 hlen2 k hk hx2 ihv ihm =>
    obtain ⟨rfl, hlen1⟩ := hc
    rw [List.cons_append, parse_members o d (r1 := r1 ++ r) (r2 := r2 ++ r) (strBody_append _ _ r _ hx1)
      (by simp; omega) (by rw [take_name]; exact hk) (ihv _ hx2 (by simp)) (by simp; omega), if_pos rfl, take_name]
    exact ihm t h hr
  case case23 seen d r0 c r1 hx1 hc r2 hlen2 k hk hx2 _ ihv =>
    obtain ⟨rfl, hlen1⟩ := hc
    obtain rfl := Option.some.inj h
    rw [List.cons_append, parse_members o d (r1 := r1 ++ r) (r2 := r2 ++ r) (strBody_append _ _ r _ hx1)
      (by simp; omega) (by rw [take_name]; exact hk) (ihv _ hx2 (by simp)) (by simp; omega),
      if_neg (by decide), if_pos rfl]

end JsonV.Lemmas.EncInvL
