/-
The byte classes of the C12 model (digits, number characters, whitespace) against each other, and which bytes `NSt.next` accepts.
-/
import JsonV.Model.Format

namespace JsonV.Fmt

theorem isDigit_of_isDigit19 {c : UInt8} (h : isDigit19 c = true) : isDigit c = true := by
  simp only [isDigit19, isDigit, Bool.and_eq_true, decide_eq_true_eq] at h ⊢
  exact ⟨UInt8.le_trans (by decide) h.1, h.2⟩

theorem numChar_of_next (st : NSt) (c : UInt8) (h : isNumChar c = false) : st.next c = none := by
  simp only [isNumChar, Bool.or_eq_false_iff, beq_eq_false_iff_ne] at h
  obtain ⟨⟨⟨⟨⟨hd, hplus⟩, hminus⟩, hdot⟩, he⟩, hE⟩ := h
  have h0 : c ≠ 0x30 := by
    rintro rfl
    exact absurd hd (by decide)
  have h19 : isDigit19 c = false := by
    cases h : isDigit19 c
    · rfl
    · rw [isDigit_of_isDigit19 h] at hd
      cases hd
  cases st <;> simp [NSt.next, hd, hplus, hminus, hdot, he, hE, h0, h19]

theorem ws_cases {c : UInt8} (h : isWs c = true) : c = 0x20 ∨ c = 0x09 ∨ c = 0x0a ∨ c = 0x0d := by
  simpa [isWs, or_assoc] using h

theorem ws_not_numChar (c : UInt8) (h : isWs c = true) : isNumChar c = false := by
  rcases ws_cases h with rfl | rfl | rfl | rfl <;> decide

theorem numChar_not_ws (c : UInt8) (h : isNumChar c = true) : isWs c = false := by
  cases hw : isWs c with
  | false => rfl
  | true =>
    rw [ws_not_numChar c hw] at h
    cases h

theorem start_next_first (c : UInt8) (h : (NSt.start.next c).isSome = true) : c = 0x2d ∨ isDigit c = true := by
  by_cases hm : c = 0x2d
  · exact .inl hm
  by_cases h0 : c = 0x30
  · exact .inr (by rw [h0]; decide)
  cases h19 : isDigit19 c
  · simp [NSt.next, hm, h0, h19] at h
  · exact .inr (isDigit_of_isDigit19 h19)

end JsonV.Fmt
