/-
The decision of `processField` agrees with the documented classification `kindOf` whenever it raises no error;
the action never depends on the per-struct locals.
-/
import JsonV.Lemmas.FieldsStep
import JsonV.Spec.FieldRule

namespace JsonV.Lemmas.Fields
open JsonV JsonV.Model JsonV.Model.Fields JsonV.Spec.FieldRule

/-- The model's action is the documented kind. -/
def Action.Matches : Action → Kind → Prop
  | .skip, .ignored => True
  | .enqueue t, .embedStruct t' => t = t'
  | .fallback _, .fallback => True
  | .field o, .member o' => o = o'
  | _, _ => False

theorem orE_some_ne_none (e : Option Err) (x : Err) : orE e (some x) ≠ none := by
  cases e <;> simp [orE]

theorem orE_eq_none {e n : Option Err} (h : orE e n = none) : e = none ∧ n = none := by
  cases e <;> simp_all [orE]

theorem decHandleField_err (d o e lc) (h : (decHandleField d o e lc).2.1 = none) :
    e = none ∧ fieldBlocked d o = none ∧ (decHandleField d o e lc).1 = .field o := by
  rw [decHandleField_blocked] at h ⊢
  cases hb : fieldBlocked d o with
  | some b => rw [hb] at h; exact absurd h (orE_some_ne_none _ _)
  | none =>
    rw [hb] at h
    dsimp only at h ⊢
    by_cases hc : lc.names.contains o.name = true
    · rw [if_pos hc] at h; exact absurd h (orE_some_ne_none _ _)
    · rw [if_neg hc] at h; exact ⟨h, rfl, rfl⟩

/-- The error accumulated by `handleEmbed` before it looks at the type. -/
def embedPreErr (d : FieldDecl) (o : FieldOpts) (e : Option Err) : Option Err :=
  if d.methods then orE (if hasOtherOptions o then orE e (some .embedOtherOptions) else e) (some .embedMethods)
  else (if hasOtherOptions o then orE e (some .embedOtherOptions) else e)

/-- The options `handleEmbed` continues with. -/
def embedOpts (o : FieldOpts) : FieldOpts := if hasOtherOptions o then { name := o.name, embed := o.embed } else o

theorem decHandleEmbed_unfold (d o e lc) (hc : ¬ (hasOtherOptions o && o.hasName) = true) :
    decHandleEmbed d o e lc =
      match d.ty.structId? with
      | some t => (.enqueue t, embedPreErr d o e, lc)
      | none =>
        if !d.exported then (.skip, orE (embedPreErr d o e) (some .embedUnexported), lc)
        else
          match d.ty with
          | .fbValue | .fbMap =>
            (.fallback (embedOpts o), (if lc.hasFallback then orE (embedPreErr d o e) (some .multipleFallbacks) else embedPreErr d o e),
              { lc with hasFallback := true })
          | .fbMapBadKey => decHandleField d (embedOpts o) (orE (embedPreErr d o e) (some .embedBadMapKey)) lc
          | _ => decHandleField d (embedOpts o) (orE (embedPreErr d o e) (some .embedBadType)) lc := by
  unfold decHandleEmbed
  rw [if_neg hc]
  rfl

theorem embedPreErr_none {d o e} (h : embedPreErr d o e = none) : e = none := by
  unfold embedPreErr at h
  have h1 : (if hasOtherOptions o then orE e (some .embedOtherOptions) else e) = none := by
    split at h
    · exact (orE_eq_none h).1
    · exact h
  split at h1
  · exact (orE_eq_none h1).1
  · exact h1

theorem decHandleEmbed_err (d o e lc) (h : (decHandleEmbed d o e lc).2.1 = none) :
    e = none ∧
      ((∃ t, d.ty.structId? = some t ∧ (decHandleEmbed d o e lc).1 = .enqueue t) ∨
       ((d.ty = .fbValue ∨ d.ty = .fbMap) ∧ ∃ o', (decHandleEmbed d o e lc).1 = .fallback o')) := by
  by_cases hc : (hasOtherOptions o && o.hasName) = true
  · simp only [decHandleEmbed, hc, if_true] at h
    exact absurd (decHandleField_err d o _ lc h).1 (orE_some_ne_none _ _)
  · rw [decHandleEmbed_unfold d o e lc hc] at h ⊢
    cases hty : d.ty with
    | struct t => exact ⟨embedPreErr_none (hty ▸ h), Or.inl ⟨t, rfl, rfl⟩⟩
    | ptr t => exact ⟨embedPreErr_none (hty ▸ h), Or.inl ⟨t, rfl, rfl⟩⟩
    | fbValue | fbMap =>
      rw [hty] at h
      dsimp only [TypeRef.structId?] at h ⊢
      by_cases hx : (!d.exported) = true
      · rw [if_pos hx] at h
        exact absurd h (orE_some_ne_none _ _)
      · rw [if_neg hx] at h ⊢
        refine ⟨embedPreErr_none (d := d) (o := o) ?_, Or.inr ⟨by decide, _, rfl⟩⟩
        split at h
        · exact absurd h (orE_some_ne_none _ _)
        · exact h
    | fbMapBadKey | other =>
      rw [hty] at h
      dsimp only [TypeRef.structId?] at h
      split at h
      · exact absurd h (orE_some_ne_none _ _)
      · exact absurd (decHandleField_err _ _ _ _ h).1 (orE_some_ne_none _ _)

/-- The options `parseFieldOptions` yields for a field that is not ignored. -/
def declOpts (d : FieldDecl) : FieldOpts :=
  { name := d.name.getD d.goName, hasName := d.name.isSome, nameNeedEscape := needEscape (d.name.getD d.goName), casing := d.casing,
    embed := d.embedOpt, omitzero := d.omitzero, omitempty := d.omitempty, string := d.string, format := d.format }

/-- `parseFieldOptions` ignores the field: tag `-`, or unexported and not embedded. -/
def declIgnored (d : FieldDecl) : Bool := d.tagDash || (!d.exported && !d.anonymous)

theorem parseOpts_ignored (d : FieldDecl) : (parseOpts d).2.1 = declIgnored d := by
  unfold parseOpts declIgnored
  cases d.tagDash <;> cases d.exported <;> cases d.anonymous <;> simp

theorem parseOpts_opts (d : FieldDecl) (h : declIgnored d = false) : (parseOpts d).1 = declOpts d := by
  unfold parseOpts declOpts
  unfold declIgnored at h
  cases h1 : d.tagDash <;> cases h2 : d.exported <;> cases h3 : d.anonymous <;> simp_all

theorem decideField_unfold (d : FieldDecl) (lc : Local) :
    decideField d lc =
      if declIgnored d then (.skip, (parseOpts d).2.2, { lc with anyTag := lc.anyTag || d.hasTag })
      else
        let lc' : Local := { lc with anyTag := lc.anyTag || d.hasTag, anyField := true }
        let o := declOpts d
        let e := (parseOpts d).2.2
        if d.anonymous && !o.hasName then
          if d.ty.structId?.isSome then decHandleEmbed d { o with embed := true } e lc'
          else if o.embed then decHandleEmbed d o (orE e (some .embeddedNeedsName)) lc'
          else decHandleField d o (orE e (some .embeddedNeedsName)) lc'
        else if o.embed then decHandleEmbed d o e lc'
        else decHandleField d o e lc' := by
  unfold decideField
  dsimp only
  rw [parseOpts_ignored]
  cases hi : declIgnored d
  · simp only [Bool.false_eq_true, if_false, parseOpts_opts d hi]
  · simp

/-- The action of `decHandleField` (`decHandleField_act`). -/
def fieldAct (d : FieldDecl) (o : FieldOpts) : Action :=
  match fieldBlocked d o with
  | some _ => .skip
  | none => .field o

/-- The action of `decHandleEmbed` (`decHandleEmbed_act`). -/
def embedAct (d : FieldDecl) (o : FieldOpts) : Action :=
  if hasOtherOptions o && o.hasName then fieldAct d o
  else
    match d.ty.structId? with
    | some t => .enqueue t
    | none =>
      if !d.exported then .skip
      else
        match d.ty with
        | .fbValue | .fbMap => .fallback (embedOpts o)
        | _ => fieldAct d (embedOpts o)

/-- The action `processField` takes for a declaration. -/
def actOf (d : FieldDecl) : Action :=
  if declIgnored d then .skip
  else
    let o := declOpts d
    if d.anonymous && !o.hasName then
      if d.ty.structId?.isSome then embedAct d { o with embed := true }
      else if o.embed then embedAct d o else fieldAct d o
    else if o.embed then embedAct d o
    else fieldAct d o

theorem decHandleField_act (d o e lc) : (decHandleField d o e lc).1 = fieldAct d o := by
  rw [decHandleField_blocked]
  unfold fieldAct
  cases fieldBlocked d o <;> rfl

theorem decHandleEmbed_act (d o e lc) : (decHandleEmbed d o e lc).1 = embedAct d o := by
  unfold embedAct
  by_cases hc : (hasOtherOptions o && o.hasName) = true
  · simp only [decHandleEmbed, hc, if_true]; exact decHandleField_act ..
  · rw [decHandleEmbed_unfold d o e lc hc, if_neg hc]
    cases hst : d.ty.structId? with
    | some t => rfl
    | none =>
      dsimp only
      cases hx : d.exported with
      | false => simp
      | true =>
        simp only [Bool.not_true, Bool.false_eq_true, if_false]
        cases hty : d.ty <;> simp [decHandleField_act]

theorem decideField_act (d : FieldDecl) (lc : Local) : (decideField d lc).1 = actOf d := by
  rw [decideField_unfold]
  unfold actOf
  simp only [apply_ite Prod.fst, decHandleEmbed_act, decHandleField_act]

theorem kindOf_of_not_ignored {d : FieldDecl} (hi : declIgnored d = false) :
    kindOf d =
      if d.embedOpt || (d.anonymous && !(declOpts d).hasName && d.ty.structId?.isSome) then
        match d.ty with
        | .struct t => .embedStruct t
        | .ptr t => .embedStruct t
        | .fbValue => .fallback
        | .fbMap => .fallback
        | _ => .ignored
      else .member { declOpts d with embed := false } := by
  have hi' : ¬ (d.tagDash || (!d.exported && !d.anonymous)) = true := by
    rw [Bool.not_eq_true]; exact hi
  unfold kindOf
  rw [if_neg hi']
  have : d.name.isNone = !(declOpts d).hasName := by
    show d.name.isNone = !d.name.isSome
    cases d.name <;> rfl
  rw [this]
  rfl

/-- No error ⇒ the model's action is the documented kind of the declaration. -/
theorem decide_spec (d : FieldDecl) (lc : Local) (h : (decideField d lc).2.1 = none) :
    (decideField d lc).1.Matches (kindOf d) := by
  -- down the tree of `actOf`: in each leaf the absence of an error leaves one action (`decHandleEmbed_err`,
  -- `decHandleField_err`), and the tests that led there select the matching arm of `kindOf`
  rw [decideField_act]
  rw [decideField_unfold] at h
  unfold actOf
  cases hi : declIgnored d with
  | true =>
    have hk : kindOf d = .ignored := if_pos hi
    rw [hk]
    trivial
  | false =>
    rw [hi] at h
    rw [kindOf_of_not_ignored hi]
    simp only [Bool.false_eq_true, if_false] at h ⊢
    by_cases hA : (d.anonymous && !(declOpts d).hasName) = true
    · rw [if_pos hA] at h ⊢
      by_cases hS : d.ty.structId?.isSome = true
      · rw [if_pos hS] at h ⊢
        obtain ⟨_, hr⟩ := decHandleEmbed_err _ _ _ _ h
        rw [decHandleEmbed_act] at hr
        rw [if_pos (by rw [hA, hS]; simp)]
        rcases hr with ⟨t, ht, ha⟩ | ⟨hty, _⟩
        · rw [ha]
          cases hty : d.ty <;> rw [hty] at ht <;> cases ht <;> rfl
        · rcases hty with hty | hty <;> rw [hty] at hS <;> cases hS
      · rw [if_neg hS] at h
        exfalso
        by_cases hE : (declOpts d).embed = true
        · rw [if_pos hE] at h
          exact absurd (decHandleEmbed_err _ _ _ _ h).1 (orE_some_ne_none _ _)
        · rw [if_neg hE] at h
          exact absurd (decHandleField_err _ _ _ _ h).1 (orE_some_ne_none _ _)
    · rw [if_neg hA] at h ⊢
      by_cases hE : (declOpts d).embed = true
      · rw [if_pos hE] at h ⊢
        obtain ⟨_, hr⟩ := decHandleEmbed_err _ _ _ _ h
        rw [decHandleEmbed_act] at hr
        have hE' : d.embedOpt = true := hE
        rw [if_pos (by rw [hE']; rfl)]
        rcases hr with ⟨t, ht, ha⟩ | ⟨hty, o', ha⟩
        · rw [ha]
          cases hty : d.ty <;> rw [hty] at ht <;> cases ht <;> rfl
        · rw [ha]
          rcases hty with hty | hty <;> rw [hty] <;> trivial
      · rw [if_neg hE] at h ⊢
        obtain ⟨_, _, ha⟩ := decHandleField_err _ _ _ _ h
        rw [decHandleField_act] at ha
        rw [ha]
        have hE' : d.embedOpt = false := Bool.eq_false_iff.mpr hE
        have hcond : ¬ (d.embedOpt || (d.anonymous && !(declOpts d).hasName && d.ty.structId?.isSome)) = true := by
          rw [hE', Bool.false_or, Bool.and_eq_true]
          exact fun h => hA h.1
        rw [if_neg hcond]
        show declOpts d = { declOpts d with embed := false }
        unfold declOpts
        rw [hE']

/-- A declaration whose model action is its documented kind (true for every declaration that raises no error). -/
def GoodDecl (d : FieldDecl) : Prop := (actOf d).Matches (kindOf d)

theorem goodDecl_of_no_error (d : FieldDecl) (lc : Local) (h : (decideField d lc).2.1 = none) : GoodDecl d := by
  unfold GoodDecl
  rw [← decideField_act d lc]
  exact decide_spec d lc h

theorem GoodDecl.kind {d : FieldDecl} (h : GoodDecl d) :
    (∀ t, actOf d = .enqueue t ↔ kindOf d = .embedStruct t) ∧ (∀ o, actOf d = .field o ↔ kindOf d = .member o) ∧
    ((∃ o, actOf d = .fallback o) ↔ kindOf d = .fallback) := by
  unfold GoodDecl at h
  cases ha : actOf d <;> cases hk : kindOf d <;> rw [ha, hk] at h
  -- twelve mismatches, where `Matches` is `False`, and the four matching pairs
  all_goals first | exact h.elim | simp [Action.Matches] at h ⊢ <;> simp [h]

end JsonV.Lemmas.Fields
