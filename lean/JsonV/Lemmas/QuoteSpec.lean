/-
The quote loop against the specification functions of Spec/StringSpec (C11): it maps `quoteChar` over the scalar values of its
input (`quoteLoop_fst`) and sets hasInvalidUTF8 exactly on an ill-formed byte; without escape flags `quoteChar` is `canonChar`
(RFC 8785).
-/
import JsonV.Lemmas.QuoteL

namespace JsonV.Lemmas.QuoteSpec
open JsonV JsonV.Model.Utf8 JsonV.Model.Quote JsonV.Lemmas.QuoteL JsonV.Spec.StringSpec

theorem lossy_length (s : Bytes) : (lossy s).length = s.length + 2 * illFormedCount s := by
  fun_induction lossy s with
  | case1 => simp [illFormedCount]
  | case2 c t ih =>
    rw [illFormedCount]
    have hle := decodeRune_le (c :: t)
    by_cases h : illFormedHead (c :: t) = true
    · have h1 : (decodeRune (c :: t)).2 = 1 := by
        simp only [illFormedHead, Bool.and_eq_true, decide_eq_true_eq] at h; exact h.2
      rw [h1] at ih hle ⊢
      simp only [h, ↓reduceIte, List.length_append, ih, replacement, List.length_drop, List.length_cons, List.length_nil]
      omega
    · simp only [h, Bool.false_eq_true, ↓reduceIte, List.length_append, ih, List.length_take, List.length_drop]
      omega

theorem lossy_of_wellFormed (s : Bytes) (h : WellFormed s) : lossy s = s := by
  unfold WellFormed at h
  fun_induction lossy s with
  | case1 => rfl
  | case2 c t ih =>
    rw [illFormedCount] at h
    have h1 : illFormedHead (c :: t) = false := by
      cases hh : illFormedHead (c :: t) <;> simp_all
    have h2 : illFormedCount (List.drop (decodeRune (c :: t)).2 (c :: t)) = 0 := by omega
    simp only [h1, Bool.false_eq_true, ↓reduceIte, ih h2, List.take_append_drop]

theorem canonChar_ascii_table : ∀ n : Fin 128,
    (if escapeASCII n.val ≠ 0 ∧ (!isHTMLChar n.val || false) = true then appendEscapedASCII n.val
     else [UInt8.ofNat n.val]) = canonChar n.val := by
  decide +kernel

/-- The three spellings of RFC 8785 §3.2.2.2. -/
theorem canonChar_cases (r : Nat) :
    (∃ e v, (e, v) ∈ simpleEscapes ∧ e ≠ 0x2f ∧ r = v.toNat ∧ canonChar r = [0x5c, e]) ∨
    (r < 0x20 ∧ ¬ (r = 8 ∨ r = 12 ∨ r = 10 ∨ r = 13 ∨ r = 9) ∧
      canonChar r = [0x5c, 0x75, 0x30, 0x30, hexDigitLower (r / 16), hexDigitLower (r % 16)]) ∨
    (0x20 ≤ r ∧ r ≠ 0x22 ∧ r ≠ 0x5c ∧ canonChar r = encodeRune r) := by
  unfold canonChar
  by_cases h1 : r = 0x22
  · rw [if_pos h1]; exact .inl ⟨0x22, 0x22, by decide, by decide, h1, rfl⟩
  rw [if_neg h1]
  by_cases h2 : r = 0x5c
  · rw [if_pos h2]; exact .inl ⟨0x5c, 0x5c, by decide, by decide, h2, rfl⟩
  rw [if_neg h2]
  by_cases h3 : r = 0x08
  · rw [if_pos h3]; exact .inl ⟨0x62, 0x08, by decide, by decide, h3, rfl⟩
  rw [if_neg h3]
  by_cases h4 : r = 0x09
  · rw [if_pos h4]; exact .inl ⟨0x74, 0x09, by decide, by decide, h4, rfl⟩
  rw [if_neg h4]
  by_cases h5 : r = 0x0a
  · rw [if_pos h5]; exact .inl ⟨0x6e, 0x0a, by decide, by decide, h5, rfl⟩
  rw [if_neg h5]
  by_cases h6 : r = 0x0c
  · rw [if_pos h6]; exact .inl ⟨0x66, 0x0c, by decide, by decide, h6, rfl⟩
  rw [if_neg h6]
  by_cases h7 : r = 0x0d
  · rw [if_pos h7]; exact .inl ⟨0x72, 0x0d, by decide, by decide, h7, rfl⟩
  rw [if_neg h7]
  by_cases h8 : r < 0x20
  · rw [if_pos h8]; exact .inr (.inl ⟨h8, by omega, rfl⟩)
  · rw [if_neg h8]; exact .inr (.inr ⟨by omega, h1, h2, rfl⟩)

theorem canonChar_high (r : Nat) (h : 0x80 ≤ r) : canonChar r = encodeRune r := by
  rcases canonChar_cases r with ⟨e, v, hm, _, hr, _⟩ | ⟨hlt, _⟩ | ⟨_, _, _, he⟩
  · have : v.toNat < 0x80 := QuoteHead.simpleEscapes_lt _ hm
    omega
  · omega
  · exact he

/-- A Unicode scalar value. -/
def IsScalar (r : Nat) : Prop := r ≤ maxRune ∧ ¬ (0xD800 ≤ r ∧ r ≤ 0xDFFF)

theorem scalars_isScalar (s : Bytes) : ∀ r ∈ scalars s, IsScalar r := by
  fun_induction scalars s with
  | case1 => exact fun _ h => nomatch h
  | case2 c t ih =>
    intro r hr
    rcases List.mem_cons.mp hr with rfl | hr
    · by_cases h : (decodeRune (c :: t)).1 = runeError ∧ (decodeRune (c :: t)).2 = 1
      · rw [h.1]; exact ⟨by decide, by decide⟩
      · exact decodeRune_scalar c t h
    · exact ih r hr

/-- What AppendQuote writes for one scalar value.  An ill-formed byte and a real U+FFFD are written alike, so the
output of an iteration depends on the scalar only (`quoteStep_eq`). -/
def quoteChar (html js : Bool) (r : Nat) : Bytes :=
  if r < runeSelf then
    if escapeASCII r ≠ 0 ∧ (!isHTMLChar r || html) = true then appendEscapedASCII r else [UInt8.ofNat r]
  else if (r = 0x2028 ∨ r = 0x2029) ∧ js = true then appendEscapedUnicode r
  else encodeRune r

theorem quoteStep_eq (html js : Bool) (c : UInt8) (t : Bytes) :
    quoteStep html js c t =
      (quoteChar html js (decodeRune (c :: t)).1, (decodeRune (c :: t)).2, illFormedHead (c :: t)) := by
  unfold illFormedHead
  by_cases h0 : c.toNat < runeSelf
  · have : ¬ c.toNat = runeError := fun h => absurd (h ▸ h0) (by decide)
    rw [quoteStep_ascii html js t h0, decodeRune_ascii c t h0, quoteChar, if_pos h0, UInt8.ofNat_toNat]
    simp [this]
  · rcases decodeRune_high c t h0 with h1 | h1
    · have hge : ¬ (decodeRune (c :: t)).1 < runeSelf := Nat.not_lt.mpr (decodeRune_multi_ge (c :: t) h1)
      have : ¬ (decodeRune (c :: t)).2 = 1 := by omega
      rw [quoteStep_multi html js h0 h1, quoteChar, if_neg hge, encodeRune_decodeRune c t (by omega)]
      simp [this]
    · rw [quoteStep_bad html js h0 h1, h1, quoteChar, if_neg (by decide),
        if_neg (fun h => by have := h.1; simp only [runeError] at this; omega)]
      decide

theorem quoteLoop_inv (html js : Bool) (s : Bytes) : (quoteLoop html js s).2 = decide (0 < illFormedCount s) := by
  fun_induction quoteLoop html js s with
  | case1 => simp [illFormedCount]
  | case2 c t st r ih =>
    rw [illFormedCount]
    show (st.2.2 || (quoteLoop html js (List.drop st.2.1 (c :: t))).2) = _
    rw [ih, show st = _ from quoteStep_eq html js c t]
    cases illFormedHead (c :: t) <;> simp <;> omega

theorem quoteLoop_fst (html js : Bool) (s : Bytes) : (quoteLoop html js s).1 = (scalars s).flatMap (quoteChar html js) := by
  fun_induction quoteLoop html js s with
  | case1 => simp [scalars]
  | case2 c t st r ih =>
    show st.1 ++ (quoteLoop html js (List.drop st.2.1 (c :: t))).1 = _
    rw [ih, show st = _ from quoteStep_eq html js c t, scalars, List.flatMap_cons]

theorem lossy_eq (s : Bytes) : lossy s = (scalars s).flatMap encodeRune := by
  fun_induction lossy s with
  | case1 => simp [scalars]
  | case2 c t ih =>
    rw [scalars, List.flatMap_cons, ← ih]
    congr 1
    by_cases h : (decodeRune (c :: t)).1 = runeError ∧ (decodeRune (c :: t)).2 = 1
    · simp only [illFormedHead, h.1, h.2, decide_true, Bool.and_self, if_true]; decide
    · rw [encodeRune_decodeRune c t h, if_neg]
      simpa [illFormedHead] using h

theorem quoteChar_canon (r : Nat) : quoteChar false false r = canonChar r := by
  unfold quoteChar
  by_cases h0 : r < runeSelf
  · rw [if_pos h0]; exact canonChar_ascii_table ⟨r, h0⟩
  · rw [if_neg h0, if_neg (fun h => Bool.false_ne_true h.2), canonChar_high r (Nat.le_of_not_lt h0)]

theorem quoteLoop_canon (s : Bytes) : (quoteLoop false false s).1 = (scalars s).flatMap canonChar := by
  rw [quoteLoop_fst]; congr 1; exact funext quoteChar_canon

end JsonV.Lemmas.QuoteSpec
