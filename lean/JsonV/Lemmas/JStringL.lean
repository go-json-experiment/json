/-
Lemmas of the string layer of Spec/Grammar.lean (`HexDigit`, `Surrogate`, `Utf8Multi`, `JChar`, `JChars`, `JString`) that every
slice with a string scanner needs: the Props of the grammar against the tests programs make.  `hexSpec` and `hex4Spec` are what
every `hexVal`, `hex4`, `parseHexUint16` of the models and specifications computes.  That the grammar is deterministic is in
JStringLDet.lean.
-/
import JsonV.Spec.Grammar
import JsonV.Lemmas.Utf8L

namespace JsonV.Spec.Grammar
open JsonV JsonV.Model

instance : DecidablePred HexDigit := fun c => by unfold HexDigit; infer_instance

/-- What every `hexVal` of the development computes. -/
def hexSpec (c : UInt8) : Option Nat := if HexDigit c then some (hexValue c) else none

theorem hexSpec_eq_some {c : UInt8} {v : Nat} : hexSpec c = some v ↔ HexDigit c ∧ v = hexValue c := by
  unfold hexSpec
  by_cases h : HexDigit c
  · rw [if_pos h]; exact ⟨fun e => ⟨h, (Option.some.inj e).symm⟩, fun e => e.2 ▸ rfl⟩
  · rw [if_neg h]; exact ⟨nofun, fun e => absurd e.1 h⟩

theorem hexSpec_of {c : UInt8} (h : HexDigit c) : hexSpec c = some (hexValue c) := if_pos h

/-- `hexSpec` by the three ranges, in the order and with the arithmetic most definitions use: such a definition is `hexSpec`
by `simp only` with this. -/
theorem hexSpec_ranges (c : UInt8) : hexSpec c =
    if 0x30 ≤ c.toNat ∧ c.toNat ≤ 0x39 then some (c.toNat - 0x30)
    else if 0x61 ≤ c.toNat ∧ c.toNat ≤ 0x66 then some (c.toNat - 0x61 + 10)
    else if 0x41 ≤ c.toNat ∧ c.toNat ≤ 0x46 then some (c.toNat - 0x41 + 10) else none := by
  simp only [hexSpec, HexDigit, hexValue, UInt8.le_iff_toNat_le, UInt8.toNat_ofNat]
  by_cases h1 : 48 ≤ c.toNat ∧ c.toNat ≤ 57
  · rw [if_pos h1, if_pos (.inl h1), if_pos h1.2]
  rw [if_neg h1]
  by_cases h2 : 97 ≤ c.toNat ∧ c.toNat ≤ 102
  · rw [if_pos h2, if_pos (.inr (.inl h2)), if_neg (Nat.not_le.2 (Nat.lt_of_lt_of_le (by decide) h2.1)),
      if_neg (Nat.not_le.2 (Nat.lt_of_lt_of_le (by decide) h2.1))]
  rw [if_neg h2]
  by_cases h3 : 65 ≤ c.toNat ∧ c.toNat ≤ 70
  · rw [if_pos h3, if_pos (.inr (.inr h3)), if_neg (Nat.not_le.2 (Nat.lt_of_lt_of_le (by decide) h3.1)), if_pos h3.2]
  · rw [if_neg h3, if_neg (fun h => h.elim h1 fun h => h.elim h2 h3)]

theorem hexValue_lt {c : UInt8} (h : HexDigit c) : hexValue c < 16 := by
  have e := hexSpec_ranges c
  rw [hexSpec_of h] at e
  by_cases h1 : 0x30 ≤ c.toNat ∧ c.toNat ≤ 0x39
  · rw [if_pos h1] at e; rw [Option.some.inj e]; omega
  rw [if_neg h1] at e
  by_cases h2 : 0x61 ≤ c.toNat ∧ c.toNat ≤ 0x66
  · rw [if_pos h2] at e; rw [Option.some.inj e]; omega
  rw [if_neg h2] at e
  by_cases h3 : 0x41 ≤ c.toNat ∧ c.toNat ≤ 0x46
  · rw [if_pos h3] at e; rw [Option.some.inj e]; omega
  · rw [if_neg h3] at e; cases e

/-- What every `hex4` / `parseHexUint16` computes on four bytes.  Written as they write it, so that each is shown equal
to it by `cases` on the four digits and `rfl`. -/
def hex4Spec (a b c d : UInt8) : Option Nat :=
  match hexSpec a, hexSpec b, hexSpec c, hexSpec d with
  | some w, some x, some y, some z => some (((w * 16 + x) * 16 + y) * 16 + z)
  | _, _, _, _ => none

theorem hex4Spec_of {a b c d : UInt8} (ha : HexDigit a) (hb : HexDigit b) (hc : HexDigit c) (hd : HexDigit d) :
    hex4Spec a b c d = some (hex4Value a b c d) := by
  simp only [hex4Spec, hexSpec_of ha, hexSpec_of hb, hexSpec_of hc, hexSpec_of hd, hex4Value]

theorem hex4Spec_eq_some {a b c d : UInt8} {v : Nat} :
    hex4Spec a b c d = some v ↔ HexDigit a ∧ HexDigit b ∧ HexDigit c ∧ HexDigit d ∧ v = hex4Value a b c d := by
  constructor
  · intro h
    unfold hex4Spec at h
    split at h
    · next w x y z ea eb ec ed =>
      obtain ⟨ha, rfl⟩ := hexSpec_eq_some.mp ea
      obtain ⟨hb, rfl⟩ := hexSpec_eq_some.mp eb
      obtain ⟨hc, rfl⟩ := hexSpec_eq_some.mp ec
      obtain ⟨hd, rfl⟩ := hexSpec_eq_some.mp ed
      exact ⟨ha, hb, hc, hd, (Option.some.inj h).symm⟩
    · cases h
  · rintro ⟨ha, hb, hc, hd, rfl⟩
    exact hex4Spec_of ha hb hc hd

/-- The two ways the development writes the value of four digits. -/
theorem hex_horner (w x y z : Nat) : w * 4096 + x * 256 + y * 16 + z = ((w * 16 + x) * 16 + y) * 16 + z := by omega

theorem hex4Value_lt {a b c d : UInt8} (ha : HexDigit a) (hb : HexDigit b) (hc : HexDigit c) (hd : HexDigit d) :
    hex4Value a b c d < 65536 := by
  have := hexValue_lt ha; have := hexValue_lt hb; have := hexValue_lt hc; have := hexValue_lt hd
  unfold hex4Value; omega

theorem isHighSurrogate_iff {v : Nat} : Utf8.isHighSurrogate v = true ↔ HighSurrogate v := by
  simp [Utf8.isHighSurrogate, HighSurrogate]

theorem isLowSurrogate_iff {v : Nat} : Utf8.isLowSurrogate v = true ↔ LowSurrogate v := by
  simp [Utf8.isLowSurrogate, LowSurrogate]

theorem isSurrogate_iff {v : Nat} : Utf8.isSurrogate v = true ↔ Surrogate v := by
  simp [Utf8.isSurrogate, Surrogate]

theorem surrogate_split {v : Nat} : Surrogate v ↔ HighSurrogate v ∨ LowSurrogate v := by
  simp only [Surrogate, HighSurrogate, LowSurrogate]; omega

theorem utf16DecodeRune_ok_iff {v1 v2 : Nat} :
    (Utf8.utf16DecodeRune v1 v2 == Utf8.runeError) = false ↔ HighSurrogate v1 ∧ LowSurrogate v2 := by
  rw [← isHighSurrogate_iff, ← isLowSurrogate_iff, ← Bool.and_eq_true]
  unfold Utf8.utf16DecodeRune
  by_cases h : (Utf8.isHighSurrogate v1 && Utf8.isLowSurrogate v2) = true
  · rw [if_pos h]
    have := h
    simp only [Utf8.isHighSurrogate, Utf8.isLowSurrogate, Bool.and_eq_true, decide_eq_true_eq] at this
    simp only [h, iff_true, beq_eq_false_iff_ne, Utf8.runeError, ne_eq]
    omega
  · rw [if_neg h]; simp [h]

theorem decodeRune_lead (c : UInt8) (r : Bytes) (h : ¬ c.toNat < 0x80) :
    Utf8.decodeRune (c :: r) = (Utf8.runeError, 1) ∨
      (1 < (Utf8.decodeRune (c :: r)).2 ∧ (Utf8.decodeRune (c :: r)).2 ≤ r.length + 1 ∧
        Utf8Multi ((c :: r).take (Utf8.decodeRune (c :: r)).2)) := by
  have hd := Utf8.dec_sound (c :: r)
  generalize Utf8.decodeRune (c :: r) = d at hd
  cases hd with
  | ascii h0 => exact absurd h0 h
  | short | illformed => exact .inl rfl
  | two hl h1 h2 => exact .inr ⟨by simp, by simp, _, _, [], 2, _, _, rfl, hl, rfl, h1, h2, by simp⟩
  | three hl h1 h2 hc2 => exact .inr ⟨by simp, by simp, _, _, [_], 3, _, _, rfl, hl, rfl, h1, h2, by simpa using hc2⟩
  | four hl h1 h2 hc2 hc3 =>
    exact .inr ⟨by simp, by simp, _, _, [_, _], 4, _, _, rfl, hl, rfl, h1, h2, by simp [hc2, hc3]⟩

theorem decodeRune_of_multi (p t : Bytes) (h : Utf8Multi p) :
    (Utf8.decodeRune (p ++ t)).2 = p.length ∧ 1 < p.length ∧ ∃ b0 p', p = b0 :: p' ∧ ¬ b0.toNat < 0x80 := by
  obtain ⟨b0, b1, rest, sz, lo, hi, rfl, hli, hlen, hlo, hhi, hcont⟩ := h
  obtain ⟨f1, -, f2, f3, f4⟩ := Utf8.leadInfo_bounds hli
  refine ⟨?_, by simp, b0, _, rfl, by omega⟩
  simp only [List.length_cons] at hlen
  rcases f4 with rfl | rfl | rfl
  · obtain rfl : rest = [] := List.eq_nil_of_length_eq_zero (by omega)
    exact congrArg Prod.snd (Utf8.decodeRune_two t hli hlo hhi)
  · match rest, hlen, hcont with
    | [b2], _, hcont => exact congrArg Prod.snd (Utf8.decodeRune_three t hli hlo hhi (hcont b2 (by simp)))
  · match rest, hlen, hcont with
    | [b2, b3], _, hcont =>
      exact congrArg Prod.snd (Utf8.decodeRune_four t hli hlo hhi (hcont b2 (by simp)) (hcont b3 (by simp)))

theorem Utf8Multi.high {p : Bytes} (h : Utf8Multi p) : ∀ c ∈ p, 0x80 ≤ c := by
  obtain ⟨b0, b1, rest, sz, lo, hi, rfl, hl, _, h1, _, hr⟩ := h
  have hb := Utf8.leadInfo_bounds hl
  intro c hc
  rw [UInt8.le_iff_toNat_le]
  show 0x80 ≤ c.toNat
  simp only [List.mem_cons] at hc
  rcases hc with rfl | rfl | hc
  · omega
  · omega
  · exact (Utf8.isCont_iff.mp (hr c hc)).1

theorem JChar.mono {s : Bool} {c : Bytes} (h : JChar s c) : JChar false c := by
  cases h with
  | plain c h1 h2 h3 h4 => exact .plain c h1 h2 h3 h4
  | utf8 p hp => exact .utf8 _ hp
  | raw c _ hc => exact .raw c rfl hc
  | esc c hc => exact .esc c hc
  | uni a b c d ha hb hc hd _ => exact .uni a b c d ha hb hc hd nofun
  | pair a b c d e f g k ha hb hc hd he hf hg hk h1 h2 => exact .pair a b c d e f g k ha hb hc hd he hf hg hk h1 h2

theorem JChars.mono {s : Bool} {p : Bytes} (h : JChars s p) : JChars false p := by
  induction h with
  | nil => exact .nil
  | cons c r hc _ ih => exact .cons c r hc.mono ih

theorem JString.mono {s : Bool} {p : Bytes} (h : JString s p) : JString false p :=
  let ⟨body, hb, e⟩ := h; ⟨body, hb.mono, e⟩

theorem JString.of_take {v : Bool} {b : Bytes} {n : Nat} (hn : n ≤ b.length) (h : JString v (b.take n)) :
    ∃ body, JChars v body ∧ b.take n = 0x22 :: (body ++ [0x22]) ∧ b = 0x22 :: (body ++ 0x22 :: b.drop n) ∧
      n = body.length + 2 := by
  obtain ⟨body, hj, htake⟩ := h
  have hb := List.take_append_drop n b
  have hlen := congrArg List.length htake
  rw [htake] at hb
  simp only [List.length_take, List.length_cons, List.length_append, List.length_nil] at hlen
  exact ⟨body, hj, htake, by simpa using hb.symm, by omega⟩

end JsonV.Spec.Grammar
