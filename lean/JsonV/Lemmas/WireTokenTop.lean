/-
The token path and the value path agree on a whole input, from the simulation of Lemmas/WireTokenSim.lean: one ReadValue at the top
level against the token path (`top_sim`), the two loops over a stream (`stream_sim`), and the verdict on one complete value as a
corollary of the latter, through `WireFuel.isValid_stream`.
-/
import JsonV.Lemmas.WireTokenSim

namespace JsonV.Lemmas.WireTokenTop
open JsonV JsonV.Model JsonV.Model.Wire JsonV.Model.Validate JsonV.Model.TokenLoop JsonV.Spec.Grammar
open JsonV.Spec JsonV.Spec.PDA
open JsonV.Lemmas.WireBasic JsonV.Lemmas.WireValue JsonV.Lemmas.WireFuel JsonV.Lemmas.WireComplete
open JsonV.Lemmas.WireTokenStep JsonV.Lemmas.WireTokens JsonV.Lemmas.WireTokenSim

theorem top_sim (o : VOpts) (vfuel : Nat) {r : Bytes} {st : TState} {k : Nat} (hg : Good st [.arr k] r)
    (hvf : 3 * r.length + 1 ≤ vfuel) :
    (JWs r ∧ readValueTop o vfuel r = (consumeWhitespace r, .ioEOF)) ∨
    ((readValueTop o vfuel r).2 ≠ .ioEOF ∧ Concl o st [] r [.arr (k + 1)] st.nss (readValueTop o vfuel r)) := by
  rcases readValueTop_cases o vfuel r with ⟨hd, h⟩ | ⟨c, rest, hd, ⟨hdb, h⟩ | h⟩ <;> rw [h]
  · exact .inl ⟨jws_of_drop_nil r hd, rfl⟩
  · obtain ⟨hcw, hsplit⟩ := ws_head hd
    refine .inr ⟨nofun, Concl.rej nofun ?_⟩
    rw [List.nil_append, hsplit]
    exact rej_after hg (ws_take r) hcw (fun _ => by rw [ncDelim_bottom]; exact (delim_not_ws hdb).2)
      fun k' n fl _ hs => by rw [(scan_start hs).2] at hdb; cases hdb
  · obtain ⟨hcw, -⟩ := ws_head hd
    have hl := len_of_drop r _ c rest hd
    have hav : AtValue 1 st (.arr k) [] ([] ++ r.take (consumeWhitespace r)) c rest :=
      { good := hg.mono (by simp; omega)
        depth := rfl
        vpos := rfl
        pre := .inl ⟨ncDelim_bottom _, ws_take r⟩
        cws := hcw
        guard := fun _ h => absurd rfl h }
    have hnb := (no_fuel_all o vfuel).1 1 (c :: rest) (by simp; omega)
    exact .inr ⟨not_bad_ioeof hnb, ((sim_all o vfuel).1 1 c rest st (.arr k) [] _ hav (by simp; omega)).skip hd (ws_le r)⟩

theorem stream_sim (o : VOpts) (vfuel : Nat) : ∀ (fuel : Nat) (r : Bytes) (cnt base : Nat) (st : TState) (k F : Nat),
    Good st [.arr k] r → 3 * r.length + 1 ≤ vfuel → r.length + 1 ≤ fuel → r.length + 1 ≤ F →
    (tokenLoop o F st r cnt base).1 = (streamLoop o vfuel fuel r cnt base).1 ∧
    ((tokenLoop o F st r cnt base).2.2 = .ioEOF ↔ (streamLoop o vfuel fuel r cnt base).2.2 = .ioEOF) := by
  intro fuel
  induction fuel with
  | zero => intro r cnt base st k F _ _ h; omega
  | succ fuel ih =>
    intro r cnt base st k F hg hvf hfu hF
    rcases top_sim o vfuel hg hvf with ⟨hw, hrv⟩ | ⟨hne, hc⟩
    · obtain ⟨F', rfl⟩ : ∃ F', F = F' + 1 := ⟨F - 1, by omega⟩
      have hrt := read_end o st hw
      rw [hg.depth] at hrt
      rw [streamLoop_err hrv nofun, tokenLoop_err o F' st r cnt base _ _ hrt]
      simp
    · rcases hrv : readValueTop o vfuel r with ⟨n, e⟩
      rw [hrv] at hne hc
      by_cases he : e ≠ .ok
      · obtain ⟨h1, h2⟩ := hc.2 he cnt base F
        rw [streamLoop_err hrv he]
        exact ⟨h1, iff_of_false h2 hne⟩
      obtain rfl : e = .ok := by simpa using he
      obtain ⟨hn1, hn2, st', hrun, -, hg'⟩ := hc.1 rfl
      obtain ⟨F', hF', hloop⟩ := hrun.loop cnt base F (by simp; omega)
      simp only [List.nil_append, List.length_nil, Nat.zero_add, List.length_singleton, beq_self_eq_true, if_true] at hloop hF'
      rw [hloop, streamLoop_ok hrv]
      have hlen : (r.drop n).length + n = r.length := by rw [List.length_drop]; omega
      exact ih (r.drop n) (cnt + 1) (base + n) st' (k + 1) F' hg' (by omega) (by omega) (by omega)

theorem token_stream_eq (o : VOpts) (b : Bytes) (hlen : b.length + 2 < 2^61) :
    (tokens o b).1 = (stream o b).1 ∧ ((tokens o b).2.2 = .ioEOF ↔ (stream o b).2.2 = .ioEOF) :=
  stream_sim o (fuelFor b) (b.length + 1) b 0 0 {} 0 (b.length + 1) (good_init b hlen) (by simp [fuelFor])
    (Nat.le_refl _) (Nat.le_refl _)

/-- **"read by tokens or by values"**: on every input (shorter than 2^61 bytes) the ReadToken loop accepts the
input as exactly one complete top-level value iff the value path (`Value.IsValid`) accepts it. -/
theorem token_valid_eq (o : VOpts) (b : Bytes) (hlen : b.length + 2 < 2^61) : isValidByTokens o b = isValid o b := by
  obtain ⟨h1, h2⟩ := token_stream_eq o b hlen
  rw [isValid_stream, ← h1, show isValidByTokens o b = ((tokens o b).1 == 1 && (tokens o b).2.2 == .ioEOF) by
    unfold isValidByTokens; rcases tokens o b with ⟨c, off, e⟩; rfl]
  congr 1
  rw [Bool.eq_iff_iff, beq_iff_eq, beq_iff_eq]
  exact h2

end JsonV.Lemmas.WireTokenTop
