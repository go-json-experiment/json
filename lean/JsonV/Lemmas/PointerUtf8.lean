/-
Lemmas for C16: UTF-8 round trip through `range`/`AppendRune`:
`sanitize t = t` for well-formed UTF-8, and `AppendToken` preserves `IsValid`.
-/
import JsonV.Lemmas.PointerValid
import JsonV.Lemmas.QuoteMeaning

namespace JsonV.Lemmas.Pointer
open JsonV JsonV.Model JsonV.Model.Pointer JsonV.Spec.Pointer JsonV.Model.Utf8

theorem runes_cons (c : UInt8) (rest : Bytes) :
    runes (c :: rest) = (decodeRune (c :: rest)).1 :: runes (rest.drop ((decodeRune (c :: rest)).2 - 1)) := by
  unfold runes; rw [rangeStr_cons]; rfl

theorem runes_eq_scalars (p : Bytes) : runes p = Spec.StringSpec.scalars p := by
  induction p using range_induction with
  | nil => rw [Spec.StringSpec.scalars]; rfl
  | cons c rest ih =>
    rw [runes_cons, Spec.StringSpec.scalars, ih, ← Nat.sub_add_cancel (decodeRune_snd_pos c rest), List.drop_succ_cons,
      Nat.add_sub_cancel]

/-- `sanitize` is C11's `lossy`, which is the identity on well-formed UTF-8. -/
theorem sanitize_valid (t : Bytes) (h : Utf8.valid t = true) : sanitize t = t := by
  rw [sanitize, runes_eq_scalars, ← QuoteSpec.lossy_eq, QuoteMeaning.lossy_valid t h]

/-- What `appendEscapePointerName` writes for one rune read by `range` passes the `IsValid` loop: "~0", "~1",
the bytes of a well-formed sequence as they stand, or the encoding of U+FFFD for an ill-formed byte. -/
theorem allStep_escRune (c : UInt8) (rest : Bytes) : allStep (escRune (decodeRune (c :: rest)).1) = true := by
  by_cases hbad : decodeRune (c :: rest) = (runeError, 1)
  · rw [hbad]; decide
  have henc := encodeRune_decodeRune c rest fun h => hbad (Prod.ext h.1 h.2)
  rw [escRune]
  by_cases h7 : (decodeRune (c :: rest)).1 = 0x7e
  · rw [if_pos h7]; decide
  rw [if_neg h7]
  by_cases h2 : (decodeRune (c :: rest)).1 = 0x2f
  · rw [if_pos h2]; decide
  -- the bytes of the rune are copied; read again they give the same rune and nothing is left over
  obtain ⟨hsplit, _⟩ := range_split c rest
  rw [if_neg h2, henc, hsplit, allStep_cons, ← hsplit, decodeRune_take, List.drop_take_self, allStep_nil,
    Bool.and_true, validStep_iff]
  refine ⟨fun h => absurd h h7, fun hf => (hasPrefix_iff _ _).2 ⟨[], ?_⟩⟩
  rw [← henc, hf]
  rfl

theorem allStep_escape (t : Bytes) : allStep ((runes t).flatMap escRune) = true := by
  induction t using range_induction with
  | nil => rfl
  | cons c rest ih =>
    rw [runes_cons, List.flatMap_cons]
    exact allStep_append _ _ (allStep_escRune c rest) ih

theorem isValid_appendToken (p t : Bytes) (hp : isValid p = true) : isValid (appendToken p t) = true := by
  have happ : appendToken p t = p ++ (cSlash :: (runes t).flatMap escRune) := by
    simp [appendToken, appendEscapePointerName]
  rw [happ]
  refine isValid_append p _ hp ?_
  rw [isValid_eq, Bool.and_eq_true]
  exact ⟨allStep_append [cSlash] _ (by decide) (allStep_escape t), beq_self_eq_true _⟩

end JsonV.Lemmas.Pointer
