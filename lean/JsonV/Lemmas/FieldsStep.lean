/-
Factorisation of the per-field body of `makeStructFields` (`processField`) into a decision that depends only on the
declaration and the per-struct locals (`decideField d lc : Action × first error × new locals`) and its effect on the search
state (`applyAction qe i act`, four simple cases).  `processField_eq`: the model's `processField` (which mirrors the Go
closures `handleEmbed`/`handleField`) is `applyAction` of the decision.  The invariants of the search are then proved over
`applyAction`, and the link to the documented classification `Spec.FieldRule.kindOf` is a statement about `decideField` alone.
-/
import JsonV.Model.Fields
import JsonV.Lemmas.Basics

namespace JsonV.Lemmas.Fields
open JsonV JsonV.Model JsonV.Model.Fields

/-- What one field does to the search. -/
inductive Action
  | skip
  | enqueue (t : StructId)
  | fallback (o : FieldOpts)
  | field (o : FieldOpts)
deriving Repr, DecidableEq

/-- `cmp.Or(serr, e)` on the error alone. -/
def orE (e n : Option Err) : Option Err :=
  match e with
  | some x => some x
  | none => n

theorem orErr_eq (s : St) (e : Option Err) : s.orErr e = { s with err := orE s.err e } := by
  cases s with
  | mk q sn a f err ef => cases err <;> rfl

theorem orE_assoc (a b c : Option Err) : orE (orE a b) c = orE a (orE b c) := by
  cases a <;> rfl

theorem orErr_orErr (s : St) (a b : Option Err) : (s.orErr a).orErr b = s.orErr (orE a b) := by
  rw [orErr_eq, orErr_eq, orErr_eq, ← orE_assoc]

theorem orErr_none (s : St) : s.orErr none = s := by
  cases s with
  | mk q sn a f err ef => cases err <;> rfl

theorem ite_orErr (c : Prop) [Decidable c] (s : St) (e x : Option Err) :
    (if c then (s.orErr e).orErr x else s.orErr e) = s.orErr (if c then orE e x else e) := by
  split
  · exact orErr_orErr s e x
  · rfl

/-- The effect on the search state of the action `a` decided for field `i` of the entry `qe`. -/
def applyAction (qe : QE) (i : Nat) (a : Action) (s : St) : St :=
  match a with
  | .skip => s
  | .enqueue t =>
    let s1 := if qe.visit then { s with queue := s.queue ++ [{ sid := t, index := qe.index ++ [i], visit := !s.seen.contains t }] } else s
    { s1 with seen := if s1.seen.contains t then s1.seen else t :: s1.seen }
  | .fallback o => { s with fbs := s.fbs ++ [{ id := 0, index := qe.index ++ [i], opts := o }] }
  | .field o =>
    { s with all := s.all ++ [{ id := s.all.length, index := qe.index ++ [i], opts := o }], errFormat := s.errFormat || o.format }

theorem enqueue_queue (qe : QE) (i : Nat) (t : StructId) (s : St) :
    (applyAction qe i (.enqueue t) s).queue =
      if qe.visit then s.queue ++ [{ sid := t, index := qe.index ++ [i], visit := !s.seen.contains t }] else s.queue := by
  simp only [applyAction]
  split <;> rfl

theorem enqueue_seen (qe : QE) (i : Nat) (t : StructId) (s : St) :
    (applyAction qe i (.enqueue t) s).seen = if s.seen.contains t then s.seen else t :: s.seen := by
  simp only [applyAction]
  split <;> rfl

theorem enqueue_all (qe : QE) (i : Nat) (t : StructId) (s : St) : (applyAction qe i (.enqueue t) s).all = s.all := by
  simp only [applyAction]
  split <;> rfl

theorem enqueue_fbs (qe : QE) (i : Nat) (t : StructId) (s : St) : (applyAction qe i (.enqueue t) s).fbs = s.fbs := by
  simp only [applyAction]
  split <;> rfl

theorem err_applyAction (qe : QE) (i : Nat) (a : Action) (s : St) : (applyAction qe i a s).err = s.err := by
  cases a <;> simp [applyAction]
  split <;> rfl

theorem applyAction_shape (qe : QE) (i : Nat) (a : Action) (s : St) :
    ∃ Q A F, Q.length ≤ 1 ∧ A.length ≤ 1 ∧ F.length ≤ 1 ∧
      (applyAction qe i a s).queue = s.queue ++ Q ∧ (applyAction qe i a s).all = s.all ++ A ∧
      (applyAction qe i a s).fbs = s.fbs ++ F ∧
      (∀ e, e ∈ Q ↔ qe.visit = true ∧ ∃ t, a = .enqueue t ∧ e = ⟨t, qe.index ++ [i], !s.seen.contains t⟩) ∧
      (∀ f, f ∈ A ↔ ∃ o, a = .field o ∧ f = ⟨s.all.length, qe.index ++ [i], o⟩) ∧
      (∀ f, f ∈ F ↔ ∃ o, a = .fallback o ∧ f = ⟨0, qe.index ++ [i], o⟩) ∧
      (∀ t, t ∈ (applyAction qe i a s).seen ↔ t ∈ s.seen ∨ a = .enqueue t) := by
  cases a with
  | skip => exact ⟨[], [], [], by simp [applyAction]⟩
  | fallback o => exact ⟨[], [], [⟨0, qe.index ++ [i], o⟩], by simp [applyAction]⟩
  | field o => exact ⟨[], [⟨s.all.length, qe.index ++ [i], o⟩], [], by simp [applyAction]⟩
  | enqueue t =>
    have hs : ∀ t', t' ∈ (applyAction qe i (.enqueue t) s).seen ↔ t' ∈ s.seen ∨ Action.enqueue t = .enqueue t' := by
      intro t'
      rw [enqueue_seen]
      split
      · rename_i hc
        have := List.contains_iff_mem.mp hc
        simp only [Action.enqueue.injEq]
        exact ⟨Or.inl, fun h => h.elim id (fun e => e ▸ this)⟩
      · simp [eq_comm, or_comm]
    cases hv : qe.visit with
    | false => exact ⟨[], [], [], by simp [enqueue_queue, enqueue_all, enqueue_fbs, hv, hs]⟩
    | true => exact ⟨[⟨t, qe.index ++ [i], !s.seen.contains t⟩], [], [], by simp [enqueue_queue, enqueue_all, enqueue_fbs, hv, hs]⟩

/-- The `blocked` test of the model's `handleField` (which mirrors the Go closure); `decHandleField` carries the same term
inline. -/
def fieldBlocked (d : FieldDecl) (o : FieldOpts) : Option Err :=
  if !d.exported then
    if !(d.anonymous && d.ty.structId?.isSome) then some .unexportedField
    else if d.methods || (o.omitzero && d.isZeroer) then some .unexportedMethods
    else none
  else none

/-- What `handleField` decides, given the options `o` and the error `e` so far: the action, the error, the new locals. -/
def decHandleField (d : FieldDecl) (o : FieldOpts) (e : Option Err) (lc : Local) : Action × Option Err × Local :=
  let blocked : Option Err :=
    if !d.exported then
      if !(d.anonymous && d.ty.structId?.isSome) then some .unexportedField
      else if d.methods || (o.omitzero && d.isZeroer) then some .unexportedMethods
      else none
    else none
  match blocked with
  | some b => (.skip, orE e (some b), lc)
  | none =>
    (.field o, (if lc.names.contains o.name then orE e (some .nameConflict) else e), { lc with names := o.name :: lc.names })

theorem decHandleField_blocked (d : FieldDecl) (o : FieldOpts) (e : Option Err) (lc : Local) :
    decHandleField d o e lc =
      match fieldBlocked d o with
      | some b => (.skip, orE e (some b), lc)
      | none => (.field o, (if lc.names.contains o.name then orE e (some .nameConflict) else e),
          { lc with names := o.name :: lc.names }) := rfl

/-- The same for `handleEmbed`. -/
def decHandleEmbed (d : FieldDecl) (o : FieldOpts) (e : Option Err) (lc : Local) : Action × Option Err × Local :=
  if hasOtherOptions o && o.hasName then
    decHandleField d o (orE e (some .embedOtherOptions)) lc
  else
    let e := if hasOtherOptions o then orE e (some .embedOtherOptions) else e
    let o : FieldOpts := if hasOtherOptions o then { name := o.name, embed := o.embed } else o
    let e := if d.methods then orE e (some .embedMethods) else e
    match d.ty.structId? with
    | some t => (.enqueue t, e, lc)
    | none =>
      if !d.exported then (.skip, orE e (some .embedUnexported), lc)
      else
        match d.ty with
        | .fbValue | .fbMap =>
          (.fallback o, (if lc.hasFallback then orE e (some .multipleFallbacks) else e), { lc with hasFallback := true })
        | .fbMapBadKey => decHandleField d o (orE e (some .embedBadMapKey)) lc
        | _ => decHandleField d o (orE e (some .embedBadType)) lc

/-- What `processField` decides for a declaration from the per-struct locals: the action, the first error, the new locals. -/
def decideField (d : FieldDecl) (lc : Local) : Action × Option Err × Local :=
  let lc := { lc with anyTag := lc.anyTag || d.hasTag }
  let po := parseOpts d
  let e := po.2.2
  if po.2.1 then (.skip, e, lc) else
  let lc := { lc with anyField := true }
  let o := po.1
  if d.anonymous && !o.hasName then
    if d.ty.structId?.isSome then decHandleEmbed d { o with embed := true } e lc
    else
      let e := orE e (some .embeddedNeedsName)
      if o.embed then decHandleEmbed d o e lc else decHandleField d o e lc
  else if o.embed then decHandleEmbed d o e lc
  else decHandleField d o e lc

theorem handleField_blocked (d : FieldDecl) (ix : List Nat) (o : FieldOpts) (s : St) (lc : Local) :
    handleField d ix o s lc =
      match fieldBlocked d o with
      | some b => (s.orErr (some b), lc)
      | none =>
        let s1 := if lc.names.contains o.name then s.orErr (some .nameConflict) else s
        ({ s1 with all := s1.all ++ [{ id := s1.all.length, index := ix, opts := o }],
                   errFormat := s1.errFormat || o.format }, { lc with names := o.name :: lc.names }) := rfl

theorem handleField_eq (qe : QE) (i : Nat) (d : FieldDecl) (o : FieldOpts) (e : Option Err) (s : St) (lc : Local) :
    handleField d (qe.index ++ [i]) o (s.orErr e) lc =
      (applyAction qe i (decHandleField d o e lc).1 (s.orErr (decHandleField d o e lc).2.1), (decHandleField d o e lc).2.2) := by
  rw [handleField_blocked, decHandleField_blocked]
  cases fieldBlocked d o with
  | some b => exact congrArg (·, lc) (orErr_orErr s e _)
  | none =>
    dsimp only
    rw [ite_orErr]
    rfl

theorem handleEmbed_eq (qe : QE) (i : Nat) (d : FieldDecl) (o : FieldOpts) (e : Option Err) (s : St) (lc : Local) :
    handleEmbed qe d (qe.index ++ [i]) o (s.orErr e) lc =
      (applyAction qe i (decHandleEmbed d o e lc).1 (s.orErr (decHandleEmbed d o e lc).2.1), (decHandleEmbed d o e lc).2.2) := by
  unfold handleEmbed decHandleEmbed
  by_cases hc : (hasOtherOptions o && o.hasName) = true
  · rw [if_pos hc, if_pos hc, orErr_orErr]
    exact handleField_eq qe i d _ _ s lc
  · rw [if_neg hc, if_neg hc]
    dsimp only
    rw [ite_orErr, ite_orErr]
    by_cases hx : (!d.exported) = true
    · cases hty : d.ty with
      | struct t => rfl
      | ptr t => rfl
      | _ =>
        dsimp only [TypeRef.structId?]
        rw [if_pos hx, if_pos hx, orErr_orErr]
        rfl
    · cases hty : d.ty with
      | struct t => rfl
      | ptr t => rfl
      | fbValue | fbMap =>
        dsimp only [TypeRef.structId?]
        rw [if_neg hx, if_neg hx, ite_orErr]
        rfl
      | fbMapBadKey | other =>
        dsimp only [TypeRef.structId?]
        rw [if_neg hx, if_neg hx, orErr_orErr]
        exact handleField_eq qe i d _ _ s lc

theorem processField_eq (qe : QE) (i : Nat) (d : FieldDecl) (s : St) (lc : Local) :
    processField qe i d s lc =
      (applyAction qe i (decideField d lc).1 (s.orErr (decideField d lc).2.1), (decideField d lc).2.2) := by
  unfold processField decideField
  dsimp only
  by_cases h1 : (parseOpts d).2.1 = true
  · rw [if_pos h1, if_pos h1]
    rfl
  · rw [if_neg h1, if_neg h1]
    by_cases h2 : (d.anonymous && !(parseOpts d).1.hasName) = true
    · rw [if_pos h2, if_pos h2]
      by_cases h3 : d.ty.structId?.isSome = true
      · rw [if_pos h3, if_pos h3]
        exact handleEmbed_eq qe i d _ _ s _
      · rw [if_neg h3, if_neg h3, orErr_orErr]
        by_cases h4 : (parseOpts d).1.embed = true
        · rw [if_pos h4, if_pos h4]
          exact handleEmbed_eq qe i d _ _ s _
        · rw [if_neg h4, if_neg h4]
          exact handleField_eq qe i d _ _ s _
    · rw [if_neg h2, if_neg h2]
      by_cases h4 : (parseOpts d).1.embed = true
      · rw [if_pos h4, if_pos h4]
        exact handleEmbed_eq qe i d _ _ s _
      · rw [if_neg h4, if_neg h4]
        exact handleField_eq qe i d _ _ s _

theorem processFields_preserves {I : St → Prop} (qe : QE) (herr : ∀ s e, I s → I (s.orErr e))
    (hact : ∀ i a s, I s → I (applyAction qe i a s)) :
    ∀ (ds : List FieldDecl) (i : Nat) (s : St) (lc : Local), I s → I (processFields qe i ds s lc).1
  | [], _, _, _, h => h
  | d :: ds, i, s, lc, h => by
    rw [processFields, processField_eq]
    exact processFields_preserves qe herr hact ds _ _ _ (hact _ _ _ (herr _ _ h))

/-- One struct is its field loop, then possibly `errNoExportedFields`. -/
theorem processStruct_eq (g : Graph) (qe : QE) (s : St) :
    ∃ e, processStruct g qe s = (processFields qe 0 (g.fieldsOf qe.sid) s {}).1.orErr e := by
  unfold processStruct
  dsimp only
  split
  · exact ⟨_, rfl⟩
  · exact ⟨none, (orErr_none _).symm⟩

theorem processStruct_preserves {I : St → Prop} (g : Graph) (qe : QE) (herr : ∀ s e, I s → I (s.orErr e))
    (hact : ∀ i a s, I s → I (applyAction qe i a s)) {s : St} (h : I s) : I (processStruct g qe s) := by
  obtain ⟨e, he⟩ := processStruct_eq g qe s
  rw [he]
  exact herr _ e (processFields_preserves qe herr hact (g.fieldsOf qe.sid) 0 s {} h)

theorem processLevel_preserves {I : St → Prop} (g : Graph) (herr : ∀ s e, I s → I (s.orErr e)) :
    ∀ (F : List QE) (s : St), (∀ qe ∈ F, ∀ i a s, I s → I (applyAction qe i a s)) → I s → I (processLevel g F s)
  | [], _, _, h => h
  | qe :: rest, s, hact, h => by
    rw [processLevel]
    exact processLevel_preserves g herr rest _ (fun qe' hq => hact qe' (List.mem_cons_of_mem _ hq))
      (processStruct_preserves g qe herr (hact qe (List.mem_cons_self ..)) h)

theorem bfs_preserves {I : St → Prop} (g : Graph) (herr : ∀ s e, I s → I (s.orErr e))
    (hact : ∀ qe i a s, I s → I (applyAction qe i a s)) (hq : ∀ s : St, I s → I { s with queue := [] }) :
    ∀ (fuel : Nat) (F : List QE) (s : St), I s → I (bfs g fuel F s)
  | 0, _, _, h => h
  | _ + 1, [], _, h => h
  | fuel + 1, _ :: _, s, h =>
    bfs_preserves g herr hact hq fuel _ _ (processLevel_preserves g herr _ _ (fun qe _ => hact qe) (hq s h))

end JsonV.Lemmas.Fields
