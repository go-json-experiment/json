/-
Glue C12 ↔ C01 for the strict model: the tokenizer under the validation options (`tokenizeV`) accepts exactly the
texts of `JText` with the selected string mode and duplicate policy, names compared by C01's `nameKey`
(`tokenizeV_text`, `text_tokenizeV`).  Props/C12 `formatV_ok_iff_text` puts the two together for `formatV`.
-/
import JsonV.Lemmas.GlueTreeConverse
import JsonV.Lemmas.FormatStrictL
import JsonV.Lemmas.CanonRound

namespace JsonV.Fmt
open JsonV.Canon JsonV.Lemmas.CanonNest JsonV.Spec.Grammar

/-- the grammar options selected by the validation options -/
def FOpts.gopts (o : FOpts) : GOpts := ⟨!o.allowInvalidUTF8, o.allowDup⟩

theorem namesOK_toks (key : Bytes → Bytes) (t : JV) (ht : AtomsOK t = true) : namesOK key t.toks = dupT key t := by
  simp [namesOK, JsonV.Lemmas.CanonRound.parse_toks_self t ht]

theorem tokenizeV_text (o : FOpts) (b : Bytes) (ts : List Tok) (h : tokenizeV o b = some ts) :
    JText o.gopts maxDepth (nameKey o) b := by
  obtain ⟨ht, hk⟩ := (tokenizeV_eq_some o b ts).mp h
  rw [tokensOK_iff] at hk
  refine tokenize_text_gen o.gopts (nameKey o) b ts ht (strs_of_tokenizeV o b ts h) ?_
  intro t hts hat
  rw [hts, namesOK_toks _ t hat] at hk
  exact hk.2

theorem text_tokenizeV (o : FOpts) (b : Bytes) (h : JText o.gopts maxDepth (nameKey o) b) :
    ∃ ts, tokenizeV o b = some ts := by
  obtain ⟨t, ht, hat, hs, hd⟩ := text_tokenize_gen o.gopts (nameKey o) b h
  refine ⟨t.toks, (tokenizeV_eq_some o b _).mpr ⟨ht, ?_⟩⟩
  rw [tokensOK_iff]
  constructor
  · intro k hk
    cases k with
    | str raw => exact (strOKV_iff o raw ((wellNested_of_tokenize b _ ht).1 _ hk)).mpr (hs raw hk)
    | _ => rfl
  · rw [namesOK_toks _ t hat]; exact hd

end JsonV.Fmt
