/-
The token path (Model/TokenLoop.lean) against the token grammar.  Runs of the ReadToken loop: `Steps`, `Reads`, `Rejects`.  One
ReadToken in a state whose machine stands for PDA frames `fs` (`Good`, through the refinement of Lemmas/StateRefine.lean): the
token is read iff the PDA admits it behind the delimiter it asks for (`read_ok`), and the loop rejects otherwise (`read_rej`);
`rej_after`, `rej_behind`, `rej_pre`, `rej_end` are `read_rej` at the four places where the value path can stand.
-/
import JsonV.Model.TokenLoop
import JsonV.Lemmas.WireComplete
import JsonV.Lemmas.StateRun
import JsonV.Lemmas.WireTokenStep

namespace JsonV.Lemmas.WireTokens
open JsonV JsonV.Model JsonV.Model.Wire JsonV.Model.Validate JsonV.Model.TokenLoop JsonV.Spec.Grammar
open JsonV.Spec JsonV.Spec.PDA
open JsonV.Lemmas.WireBasic JsonV.Lemmas.WireComplete JsonV.Lemmas.WireFuel JsonV.Lemmas.WireValue
open JsonV.Lemmas.StateRefine JsonV.Lemmas.StateRun JsonV.Lemmas.StateStep JsonV.Lemmas.WireTokenStep

/-- of an answer `x` of the loop started at count `cnt`: no further top-level value is completed (the count is still `cnt`) and the class is
not io.EOF -/
def Rej (cnt : Nat) (x : Nat × Nat × Err) : Prop := x.1 = cnt ∧ x.2.2 ≠ .ioEOF

theorem tokenLoop_err (o : VOpts) (F : Nat) (st : TState) (r : Bytes) (cnt base off : Nat) (e : Err)
    (h : readToken o st r = .err off e) : tokenLoop o (F + 1) st r cnt base = (cnt, base + off, e) := by
  simp [tokenLoop, h]

theorem tokenLoop_tok (o : VOpts) (F : Nat) (st st' : TState) (r : Bytes) (cnt base n : Nat)
    (h : readToken o st r = .tok n st') (hn : n ≠ 0) :
    tokenLoop o (F + 1) st r cnt base =
      tokenLoop o F st' (r.drop n) (if st'.m.depth == 1 then cnt + 1 else cnt) (base + n) := by
  simp [tokenLoop, h, hn]

/-- `T` tokens are read from `(st, r)` and lead to `(st', r')`: with fuel `F ≥ T` the loop goes on from there with `F - T`, with less it
answers `.fuel` and the count is unchanged -/
def Steps (o : VOpts) (T : Nat) (st : TState) (r : Bytes) (cnt base : Nat) (st' : TState) (r' : Bytes) (cnt' base' : Nat) : Prop :=
  (∀ F, T ≤ F → tokenLoop o F st r cnt base = tokenLoop o (F - T) st' r' cnt' base') ∧
  (∀ F, F < T → (tokenLoop o F st r cnt base).2.2 = .fuel ∧ (tokenLoop o F st r cnt base).1 = cnt)

theorem steps_refl (o : VOpts) (st : TState) (r : Bytes) (cnt base : Nat) : Steps o 0 st r cnt base st r cnt base :=
  ⟨by intro F _; simp, by intro F h; omega⟩

theorem steps_one (o : VOpts) (st st' : TState) (r : Bytes) (cnt base n : Nat)
    (h : readToken o st r = .tok n st') (hn : n ≠ 0) :
    Steps o 1 st r cnt base st' (r.drop n) (if st'.m.depth == 1 then cnt + 1 else cnt) (base + n) := by
  refine ⟨?_, ?_⟩
  · intro F hF
    cases F with
    | zero => omega
    | succ F => rw [tokenLoop_tok o F st st' r cnt base n h hn]; simp
  · intro F hF
    have : F = 0 := by omega
    subst this; simp [tokenLoop]

theorem steps_trans (o : VOpts) {T1 T2 : Nat} {s1 s2 s3 : TState} {r1 r2 r3 : Bytes} {c1 c2 c3 b1 b2 b3 : Nat}
    (h1 : Steps o T1 s1 r1 c1 b1 s2 r2 c2 b2) (h2 : Steps o T2 s2 r2 c2 b2 s3 r3 c3 b3) (hc : c2 = c1 := by rfl) :
    Steps o (T1 + T2) s1 r1 c1 b1 s3 r3 c3 b3 := by
  refine ⟨?_, ?_⟩
  · intro F hF
    rw [h1.1 F (by omega), h2.1 (F - T1) (by omega)]
    congr 1; omega
  · intro F hF
    by_cases h : F < T1
    · exact h1.2 F h
    · rw [h1.1 F (by omega), ← hc]; exact h2.2 (F - T1) (by omega)

theorem rej_of_steps (o : VOpts) {T : Nat} {s1 s2 : TState} {r1 r2 : Bytes} {c1 c2 b1 b2 : Nat}
    (h : Steps o T s1 r1 c1 b1 s2 r2 c2 b2) (hr : ∀ F, Rej c2 (tokenLoop o F s2 r2 c2 b2)) (hc : c2 = c1 := by rfl) :
    ∀ F, Rej c1 (tokenLoop o F s1 r1 c1 b1) := by
  intro F
  by_cases hF : F < T
  · unfold Rej; obtain ⟨h1, h2⟩ := h.2 F hF; rw [h1, h2]; simp
  · rw [h.1 F (by omega), ← hc]; exact hr _

/-- every answer of the loop from `(st, inp)` is `Rej`, whatever the count, the offset and the fuel -/
def Rejects (o : VOpts) (st : TState) (inp : Bytes) : Prop := ∀ cnt base F, Rej cnt (tokenLoop o F st inp cnt base)

theorem rejects_of_err {o : VOpts} {st : TState} {inp : Bytes} {off : Nat} {e : Err}
    (h : readToken o st inp = .err off e) (he : e ≠ .ioEOF) : Rejects o st inp := by
  intro cnt base F
  cases F with
  | zero => simp [tokenLoop, Rej]
  | succ F => rw [tokenLoop_err o F st inp cnt base off e h]; exact ⟨rfl, he⟩

/-- from `(st, inp)` the loop reads some tokens, `n` bytes in all (so at most `n` tokens), and is then in `st'`; only the last of
them may complete a top-level value, and does so iff `top`.  Progress is counted from the one input `inp`, so runs compose by
adding lengths. -/
def Reads (o : VOpts) (st : TState) (inp : Bytes) (n : Nat) (st' : TState) (top : Bool) : Prop :=
  ∃ T, T ≤ n ∧ ∀ cnt base, Steps o T st inp cnt base st' (inp.drop n) (if top then cnt + 1 else cnt) (base + n)

theorem Reads.one {o : VOpts} {st st' : TState} {inp : Bytes} {n : Nat} (h : readToken o st inp = .tok n st') (hn : 1 ≤ n) :
    Reads o st inp n st' (st'.m.depth == 1) :=
  ⟨1, hn, fun cnt base => steps_one o st st' inp cnt base n h (by omega)⟩

theorem Reads.trans {o : VOpts} {n1 n2 : Nat} {st st1 st2 : TState} {inp : Bytes} {top : Bool}
    (h1 : Reads o st inp n1 st1 false) (h2 : Reads o st1 (inp.drop n1) n2 st2 top) : Reads o st inp (n1 + n2) st2 top := by
  obtain ⟨T1, hT1, h1⟩ := h1
  obtain ⟨T2, hT2, h2⟩ := h2
  refine ⟨T1 + T2, by omega, fun cnt base => ?_⟩
  have h1' := h1 cnt base
  simp only [Bool.false_eq_true, if_false] at h1'
  have h := steps_trans o h1' (h2 cnt (base + n1))
  rwa [List.drop_drop, Nat.add_assoc] at h

theorem Reads.rejects {o : VOpts} {n : Nat} {st st1 : TState} {inp : Bytes}
    (h1 : Reads o st inp n st1 false) (h2 : Rejects o st1 (inp.drop n)) : Rejects o st inp := by
  obtain ⟨T, -, h1⟩ := h1
  intro cnt base
  have h1' := h1 cnt base
  simp only [Bool.false_eq_true, if_false] at h1'
  exact rej_of_steps o h1' (h2 cnt (base + n))

theorem Reads.loop {o : VOpts} {n : Nat} {st st' : TState} {inp : Bytes} {top : Bool} (h : Reads o st inp n st' top)
    (cnt base F : Nat) (hF : n ≤ F) :
    ∃ F', F - n ≤ F' ∧ tokenLoop o F st inp cnt base =
      tokenLoop o F' st' (inp.drop n) (if top then cnt + 1 else cnt) (base + n) := by
  obtain ⟨T, hT, h⟩ := h
  exact ⟨F - T, by omega, (h cnt base).1 F (by omega)⟩

theorem ws_head {r : Bytes} {c : UInt8} {rest : Bytes} (hd : r.drop (consumeWhitespace r) = c :: rest) :
    isWs c = false ∧ r = r.take (consumeWhitespace r) ++ c :: rest :=
  ⟨by have := ws_stop r c rest hd; rw [← isWs_iff] at this; simpa using this,
   by rw [← hd]; exact (List.take_append_drop _ _).symm⟩

theorem take_ws_len (r : Bytes) : (r.take (consumeWhitespace r)).length = consumeWhitespace r := by
  rw [List.length_take]; exact Nat.min_eq_left (ws_le r)

/-- the machine of `st` stands for the PDA frames `fs` (innermost first; the last one is the top level) and satisfies the invariant
`Inv` of Lemmas/StateRefine.lean with a counter bound `b` that leaves room for reading `x`: a token is at least one byte, so with
`b + |x| + 1 < 2^61` the element counters cannot wrap while `x` is read -/
def Good (st : TState) (fs : Frames) (x : Bytes) : Prop :=
  ∃ b, Inv maxNestingDepth b st.m ∧ b + x.length + 1 < 2^61 ∧ StateRefine.abs st.m = fs ∧ BottomArr fs

theorem Good.mono {st : TState} {fs : Frames} {x y : Bytes} (h : Good st fs x) (hy : y.length ≤ x.length) : Good st fs y := by
  obtain ⟨b, hi, hb, ha, hbot⟩ := h
  exact ⟨b, hi, by omega, ha, hbot⟩

theorem Good.depth {st : TState} {fs : Frames} {x : Bytes} (h : Good st fs x) : st.m.depth = fs.length := by
  obtain ⟨b, -, -, ha, -⟩ := h
  rw [depth_abs, ha]

theorem Good.open_le {st : TState} {f : Frame} {frest : Frames} {x : Bytes} (h : Good st (f :: frest) x) :
    frest.length ≤ maxNestingDepth := by
  obtain ⟨b, hi, -, ha, -⟩ := h
  have hlen : (StateRefine.abs st.m).length = st.m.stack.length + 1 := by simp [StateRefine.abs]
  rw [ha, List.length_cons] at hlen
  have := hi.depth
  omega

theorem Good.needName {st : TState} {f : Frame} {frest : Frames} {x : Bytes} (h : Good st (f :: frest) x) :
    st.m.last.needObjectName = f.needName := by
  obtain ⟨b, -, -, ha, -⟩ := h
  rw [abs_cons] at ha
  rw [← needName_abs, (List.cons.inj ha).1]

theorem Good.ns_flags {st : TState} {fs : Frames} {x : Bytes} (h : Good st fs x) :
    st.m.last.isValidNamespace = true ∧ st.m.last.isActiveNamespace = true := by
  obtain ⟨b, hi, -⟩ := h
  exact ⟨valid_of_clean hi.last, active_of_clean hi.last⟩

theorem good_init (b : Bytes) (hlen : b.length + 2 < 2^61) : Good ({} : TState) [.arr 0] b :=
  ⟨0, inv_init maxNestingDepth, by omega, abs_init, bottomArr_init⟩

def isClosing (x : UInt8) : Bool := x == 0x7d || x == 0x5d

theorem normKind_closing (c : UInt8) : isClosing (normKind c) = isClosing c := by
  cases h : isClosing c
  · rcases WireValue.normKind_cases c with hk | hk | ⟨hk, -⟩
    · rw [hk]; rfl
    · rw [hk]; rfl
    · rw [hk, h]
  · simp only [isClosing, Bool.or_eq_true, beq_iff_eq] at h
    rcases h with h | h <;> subst h <;> rfl

theorem Good.needDelim {st : TState} {fs : Frames} {y : Bytes} (h : Good st fs y) (x : UInt8) (k : Kind)
    (hx : isClosing x = k.closing) : st.m.needDelim x = delimByte (delim fs k) := by
  obtain ⟨b, -, -, ha, hbot⟩ := h
  have h1 := needDelim_abs (m := st.m) (by rw [ha]; exact hbot) k
  rw [ha] at h1
  refine (needDelim_congr st.m x k.byte ?_).trans h1
  rw [byte_not_closing, ← hx, isClosing, Bool.not_or]; rfl

/-- the delimiter a non-closing token must be preceded by, as a byte (0 = none) -/
def ncDelim (fs : Frames) : UInt8 := delimByte (delim fs .str)

/-- the bytes between the previous token and a non-closing token: blanks, the required delimiter if any, blanks -/
def PreOK (dl : UInt8) (pre : Bytes) : Prop :=
  (dl = 0 ∧ JWs pre) ∨ ((dl == 0x3A || dl == 0x2C) = true ∧ ∃ w w', JWs w ∧ JWs w' ∧ pre = w ++ dl :: w')

theorem scan_closing {o : VOpts} {c : UInt8} {tl : Bytes} {k : Kind} {n : Nat} {fl : ValueFlags}
    (h : scan o (c :: tl) = .tok k n fl) : isClosing c = k.closing := by
  rcases scan_kind h with rfl | ⟨hk, hne⟩
  · exact byte_closing k
  · have h1 := hne .endObj nofun nofun
    have h2 := hne .endArr nofun nofun
    have : k.closing = false := by rcases hk with rfl | rfl <;> rfl
    rw [this]
    simp only [isClosing, Bool.or_eq_false_iff, beq_eq_false_iff_ne]
    exact ⟨h1, h2⟩

section
variable {o : VOpts} {st : TState} {fs : Frames} {x inp : Bytes}

theorem read_ok {c : UInt8} {tl : Bytes} {k : Kind} {n : Nat} {fl : ValueFlags} {fs' : Frames} {nss' : List (List Bytes)}
    (hg : Good st fs x) (hd : inp.drop (gap inp).pos = c :: tl) (hs : scan o (c :: tl) = .tok k n fl)
    (hdl : delimByte (delim fs k) = (gap inp).dl) (hst : PDA.step maxNestingDepth fs k = some fs')
    (hns : nsStep o st k ((c :: tl).take n) fl = .ok nss') {y : Bytes} (hy : y.length < x.length) :
    ∃ st', readToken o st inp = .tok ((gap inp).pos + n) st' ∧ st'.nss = nss' ∧ Good st' fs' y := by
  have hnd := hg.needDelim (normKind c) k (by rw [normKind_closing, scan_closing hs])
  obtain ⟨b, hi, hb, ha, hbot⟩ := hg
  rcases step_cases hi (by omega) k with ⟨m', hm', hst', hi'⟩ | ⟨_, -, hst'⟩ <;> cases hst'.symm.trans (ha ▸ hst)
  refine ⟨{ m := m', nss := nss' }, ?_, rfl, b + 1, hi', by omega, rfl, step_bottomArr hst hbot⟩
  rw [readToken_eq, hd]
  simp only [hnd, hdl, bne_self_eq_false, Bool.false_eq_true, if_false, hs, deliver, offer, hns, hm']

/-- The ways the loop rejects: the end of the input inside a container or behind a delimiter, a token refused by its scanner, by
the delimiter check, by the state machine, or a duplicate name. -/
theorem read_rej (hg : Good st fs x) (hend : inp.drop (gap inp).pos = [] → (gap inp).dl ≠ 0 ∨ 2 ≤ fs.length)
    (h : ∀ c tl k n fl fs', inp.drop (gap inp).pos = c :: tl → scan o (c :: tl) = .tok k n fl →
      delimByte (delim fs k) = (gap inp).dl → Step maxNestingDepth fs k fs' →
      ∃ e, nsStep o st k ((c :: tl).take n) fl = .error e) : Rejects o st inp := by
  suffices ∃ off e, readToken o st inp = .err off e ∧ e ≠ .ioEOF by
    obtain ⟨off, e, h1, h2⟩ := this; exact rejects_of_err h1 h2
  rw [readToken_eq]
  cases hd : inp.drop (gap inp).pos with
  | nil =>
    simp only
    by_cases h0 : (gap inp).dl = 0
    · have : (st.m.depth == 1) = false := by
        rw [hg.depth]; have := (hend hd).resolve_left (fun h => h h0); simp; omega
      rw [if_pos h0, this]; exact ⟨_, _, rfl, nofun⟩
    · rw [if_neg h0]; split <;> exact ⟨_, _, rfl, nofun⟩
  | cons c tl =>
    simp only
    split
    · exact ⟨_, _, rfl, nofun⟩
    · rename_i hnd
      cases hs : scan o (c :: tl) with
      | bad n e => exact ⟨_, _, rfl, not_bad_ioeof (scan_bad hs).2⟩
      | tok k n fl =>
        simp only [deliver]
        cases ho : offer o st k ((c :: tl).take n) fl with
        | error e => exact ⟨_, _, rfl, not_bad_ioeof (offer_err ho)⟩
        | ok st' =>
          -- the machine accepted, so the PDA admits the token, and then the namespace refuses it
          exfalso
          obtain ⟨hsm, hns⟩ := offer_ok ho
          have hdl : delimByte (delim fs k) = (gap inp).dl := by
            rw [← hg.needDelim (normKind c) k (by rw [normKind_closing, scan_closing hs])]
            simpa using hnd
          obtain ⟨b, hi, hb, ha, -⟩ := hg
          rcases step_cases hi (by omega) k with ⟨_, hsm', hst, -⟩ | ⟨_, hsm', -⟩ <;> rw [hsm] at hsm' <;> cases hsm'
          rw [ha] at hst
          obtain ⟨e, he⟩ := h c tl k n fl _ hd hs hdl (step_iff.1 hst)
          rw [he] at hns; cases hns

end

theorem ws_exact' {w : Bytes} {c : UInt8} {tl : Bytes} (hw : JWs w) (hc : isWs c = false) :
    consumeWhitespace (w ++ c :: tl) = w.length :=
  ws_exact _ _ hw fun c' t' h => by cases h; exact hc

theorem delim_not_ws {dl : UInt8} (hdl : (dl == 0x3A || dl == 0x2C) = true) : isWs dl = false ∧ dl ≠ 0 := by
  simp only [Bool.or_eq_true, beq_iff_eq] at hdl
  rcases hdl with rfl | rfl <;> exact ⟨by decide, by decide⟩

theorem gap_ws {w : Bytes} (hw : JWs w) : gap w = ⟨w.length, 0, w.length⟩ := by
  have h : consumeWhitespace w = w.length := by simpa using ws_exact w [] hw (fun _ _ h => by cases h)
  rw [gap_nil (by rw [h, List.drop_length]), h]

theorem gap_blank {w : Bytes} {c : UInt8} {tl : Bytes} (hw : JWs w) (hc : isWs c = false)
    (hcd : (c == 0x3A || c == 0x2C) = false) : gap (w ++ c :: tl) = ⟨w.length, 0, w.length⟩ := by
  have h := ws_exact' (tl := tl) hw hc
  rw [gap_plain (by rw [h, List.drop_left]) hcd, h]

theorem gap_delimited {w w' tl : Bytes} {dl : UInt8} (hdl : (dl == 0x3A || dl == 0x2C) = true) (hw : JWs w) (hw' : JWs w')
    (ht : ∀ c t, tl = c :: t → isWs c = false) : gap (w ++ dl :: (w' ++ tl)) = ⟨w.length, dl, w.length + 1 + w'.length⟩ := by
  have h := ws_exact' (tl := w' ++ tl) hw (delim_not_ws hdl).1
  rw [gap_delim (by rw [h, List.drop_left]) hdl, h, ws_exact _ _ hw' ht]

theorem gap_pre {dl : UInt8} {pre : Bytes} {c : UInt8} {tl : Bytes} (hpre : PreOK dl pre) (hc : isWs c = false)
    (hcd : dl = 0 → (c == 0x3A || c == 0x2C) = false) :
    (gap (pre ++ c :: tl)).dl = dl ∧ (gap (pre ++ c :: tl)).pos = pre.length := by
  rcases hpre with ⟨h0, hw⟩ | ⟨hdl, w, w', hw, hw', rfl⟩
  · rw [gap_blank hw hc (hcd h0)]; exact ⟨h0.symm, rfl⟩
  · rw [List.append_assoc, List.cons_append, gap_delimited hdl hw hw' (fun _ _ h => by cases h; exact hc)]
    exact ⟨rfl, by simp; omega⟩

theorem read_end (o : VOpts) (st : TState) {w : Bytes} (hw : JWs w) :
    readToken o st w = .err w.length (if st.m.depth == 1 then .ioEOF else .eof) := by
  rw [readToken_eq, gap_ws hw]
  simp only [List.drop_length, if_true]

theorem delim_inner (f g : Frame) (gs : Frames) (k : Kind) :
    delimByte (delim (f :: g :: gs) k) =
      if f.needValue = true then 0x3A else if 0 < f.count ∧ k.closing = false then 0x2C else 0 := by
  simp only [delim]
  by_cases hv : f.needValue = true
  · rw [if_pos hv, if_pos hv]; rfl
  · rw [if_neg hv, if_neg hv]
    by_cases hc : 0 < f.count ∧ k.closing = false
    · rw [if_pos hc, if_pos (by simp [hc.1, hc.2])]; rfl
    · rw [if_neg hc, if_neg (by simpa using hc)]; rfl

theorem ncDelim_bottom (f : Frame) : ncDelim [f] = 0 := rfl

theorem ncDelim_colon {f : Frame} (hv : f.needValue = true) (g : Frame) (gs : Frames) : ncDelim (f :: g :: gs) = 0x3A := by
  rw [ncDelim, delim_inner, if_pos hv]

theorem ncDelim_comma {f : Frame} (hv : f.needValue = false) (hc : 0 < f.count) (g : Frame) (gs : Frames) :
    ncDelim (f :: g :: gs) = 0x2C := by
  rw [ncDelim, delim_inner, if_neg (by simp [hv]), if_pos ⟨hc, rfl⟩]

theorem ncDelim_zero {f : Frame} (hv : f.needValue = false) (hc : f.count = 0) (g : Frame) (gs : Frames) :
    ncDelim (f :: g :: gs) = 0 := by
  rw [ncDelim, delim_inner, if_neg (by simp [hv]), if_neg (by omega)]

theorem nc0_nested (f g : Frame) (gs : Frames) (h : ncDelim (f :: g :: gs) = 0) : f.count = 0 ∧ f.needValue = false := by
  cases hv : f.needValue
  · refine ⟨Nat.eq_zero_of_not_pos fun hc => ?_, rfl⟩
    rw [ncDelim_comma hv hc] at h; cases h
  · rw [ncDelim_colon hv] at h; cases h

theorem closeDelim_zero {f : Frame} (hv : f.needValue = false) (frest : Frames) {k : Kind} (hk : k.closing = true) :
    delimByte (delim (f :: frest) k) = 0 := by
  cases frest with
  | nil => rfl
  | cons g gs => rw [delim_inner, if_neg (by simp [hv]), if_neg (by simp [hk])]

theorem closeDelim_colon {f : Frame} (hv : f.needValue = true) (g : Frame) (gs : Frames) (k : Kind) :
    delimByte (delim (f :: g :: gs) k) = 0x3A := by
  rw [delim_inner, if_pos hv]

theorem delim_nc (fs : Frames) {k : Kind} (hk : k.closing = false) : delimByte (delim fs k) = ncDelim fs := by
  match fs with
  | [] | [_] => rfl
  | f :: g :: gs => rw [ncDelim, delim_inner, delim_inner, hk]; rfl

theorem delim_two (fs : Frames) (k : Kind) : delimByte (delim fs k) = ncDelim fs ∨ delimByte (delim fs k) = 0 := by
  cases hk : k.closing
  · exact .inl (delim_nc fs hk)
  · match fs with
    | [] | [_] => exact .inr rfl
    | f :: g :: gs =>
      cases hv : f.needValue
      · exact .inr (closeDelim_zero hv _ hk)
      · exact .inl ((closeDelim_colon hv g gs k).trans (ncDelim_colon hv g gs).symm)

section
variable {o : VOpts} {st : TState} {fs : Frames} {x : Bytes}

/-- behind blanks: a byte that is not the delimiter due, and starts no token that may stand there without one -/
theorem rej_after {w : Bytes} {c : UInt8} {tl : Bytes} (hg : Good st fs x) (hw : JWs w) (hc : isWs c = false)
    (hne : (c == 0x3A || c == 0x2C) = true → c ≠ ncDelim fs)
    (h : ∀ k n fl fs', scan o (c :: tl) = .tok k n fl → delimByte (delim fs k) = 0 →
      Step maxNestingDepth fs k fs' → ∃ e, nsStep o st k ((c :: tl).take n) fl = .error e) :
    Rejects o st (w ++ c :: tl) := by
  by_cases hcd : (c == 0x3A || c == 0x2C) = true
  · -- taken for a delimiter that nothing asks for
    have hgap := gap_delim (r := w ++ c :: tl) (by rw [ws_exact' hw hc, List.drop_left]) hcd
    refine read_rej hg (fun _ => .inl (by rw [hgap]; exact (delim_not_ws hcd).2)) fun c' tl' k n fl _ _ _ hdl _ => ?_
    rw [hgap] at hdl
    rcases delim_two fs k with h' | h' <;> rw [h'] at hdl
    · exact absurd hdl.symm (hne hcd)
    · exact absurd hdl.symm (delim_not_ws hcd).2
  · have hgap := gap_blank (tl := tl) hw hc (by simpa using hcd)
    refine read_rej hg (fun hd => ?_) fun c' tl' k n fl fs' hd hs hdl hst => ?_
    · rw [hgap, List.drop_left] at hd; cases hd
    · rw [hgap] at hd hdl
      rw [List.drop_left] at hd
      cases hd
      exact h k n fl fs' hs hdl hst

theorem rej_behind {w w' : Bytes} {dl c : UInt8} {tl : Bytes} (hg : Good st fs x) (hdl : (dl == 0x3A || dl == 0x2C) = true)
    (hw : JWs w) (hw' : JWs w') (hc : isWs c = false)
    (h : ∀ k n fl fs', scan o (c :: tl) = .tok k n fl → delimByte (delim fs k) = dl →
      Step maxNestingDepth fs k fs' → ∃ e, nsStep o st k ((c :: tl).take n) fl = .error e) :
    Rejects o st (w ++ dl :: (w' ++ c :: tl)) := by
  have hgap := gap_delimited (tl := c :: tl) hdl hw hw' (fun _ _ h => by cases h; exact hc)
  have hdrop : (w ++ dl :: (w' ++ c :: tl)).drop (w.length + 1 + w'.length) = c :: tl := by
    rw [Nat.add_assoc, ← List.drop_drop, List.drop_left, Nat.add_comm, List.drop_succ_cons, List.drop_left]
  refine read_rej hg (fun hd => ?_) fun c' tl' k n fl fs' hd hs hdl' hst => ?_
  · rw [hgap, hdrop] at hd; cases hd
  · rw [hgap] at hd hdl'
    rw [hdrop] at hd
    cases hd
    exact h k n fl fs' hs hdl' hst

theorem rej_pre {pre : Bytes} {c : UInt8} {tl : Bytes} (hg : Good st fs x) (hpre : PreOK (ncDelim fs) pre) (hc : isWs c = false)
    (h : ∀ k n fl fs', scan o (c :: tl) = .tok k n fl → delimByte (delim fs k) = ncDelim fs →
      Step maxNestingDepth fs k fs' → ∃ e, nsStep o st k ((c :: tl).take n) fl = .error e) :
    Rejects o st (pre ++ c :: tl) := by
  rcases hpre with ⟨h0, hw⟩ | ⟨hdl, w, w', hw, hw', rfl⟩
  · exact rej_after hg hw hc (fun hcd => by rw [h0]; exact (delim_not_ws hcd).2) fun k n fl fs' hs hd => h k n fl fs' hs (by rw [hd, h0])
  · rw [List.append_assoc, List.cons_append]
    exact rej_behind hg hdl hw hw' hc h

theorem rej_end {dl : UInt8} {pre : Bytes} (hg : Good st fs x) (hpre : PreOK dl pre) (h : dl ≠ 0 ∨ 2 ≤ fs.length) :
    Rejects o st pre := by
  have hgap : (gap pre).dl = dl ∧ (gap pre).pos = pre.length := by
    rcases hpre with ⟨h0, hw⟩ | ⟨hdl, w, w', hw, hw', rfl⟩
    · rw [gap_ws hw]; exact ⟨h0.symm, rfl⟩
    · have := gap_delimited (tl := []) hdl hw hw' (fun _ _ h => by cases h)
      rw [List.append_nil] at this
      rw [this]; exact ⟨rfl, by simp; omega⟩
  refine read_rej hg (fun _ => by rw [hgap.1]; exact h) fun c tl k n fl _ hd => ?_
  rw [hgap.2, List.drop_length] at hd; cases hd

end

end JsonV.Lemmas.WireTokens
