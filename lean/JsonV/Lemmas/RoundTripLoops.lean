/-
Lemmas for the L3 round trip (C04L3): one value (`Back`), and the three loops — elements of a slice or array, entries of a
map, fields of a struct — given the round trip of every element.  The lists are zipped as in the rules of `Mar`.
-/
import JsonV.Lemmas.RoundTripMar

namespace JsonV.Lemmas.RoundTrip
open JsonV JsonV.Spec JsonV.Model JsonV.Lemmas.Merge

/-- `v'` is what comes back for `v`, which was written as `j`: the decoder, started from the zero value, accepts `j` and
yields `v'`, which is again of the type and marshals to the same tree; if `v` is `safe`, `v'` is related to it by `veq`. -/
def Back (o : MOpts) (uo : UOpts) (t : GoType) (v : GoVal) (j : JTree) (v' : GoVal) : Prop :=
  unm uo t j t.zero = .ok v' ∧ (safe o v = true → veq v v') ∧ Mar o t v' j ∧ hasType t v' = true

variable {o : MOpts} {uo : UOpts}

theorem rt_list {t : GoType} (es : List (GoVal × JTree)) (H : ∀ e ∈ es, ∃ v', Back o uo t e.1 e.2 v') :
    ∃ es' : List (GoVal × JTree), es'.map (·.2) = es.map (·.2) ∧
      elemsFresh (unm uo t) t.zero (es.map (·.2)) = .ok (es'.map (·.1)) ∧
      (∀ e ∈ es', Mar o t e.1 e.2 ∧ hasType t e.1 = true) ∧
      (safeL o (es.map (·.1)) = true → veqL (es.map (·.1)) (es'.map (·.1))) := by
  induction es with
  | nil => exact ⟨[], rfl, rfl, nofun, fun _ => by simp only [List.map_nil, veqL]⟩
  | cons e es ih =>
    rw [List.forall_mem_cons] at H
    obtain ⟨v', h1, h2, h3, h4⟩ := H.1
    obtain ⟨es', e2, hd, hm, hq⟩ := ih H.2
    refine ⟨(v', e.2) :: es', by rw [List.map_cons, e2]; rfl, by simp only [List.map_cons, elemsFresh, h1, hd],
      List.forall_mem_cons.2 ⟨⟨h3, h4⟩, hm⟩, fun hs => ?_⟩
    simp only [List.map_cons, safeL, Bool.and_eq_true] at hs
    simp only [List.map_cons, veqL]
    exact ⟨h2 hs.1, hq hs.2⟩

theorem arrayElems_eq (o : UOpts) (f : Dec) (z : GoVal) (js : List JTree) : arrayElems o f z js.length js = elemsFresh f z js := by
  induction js with
  | nil => rfl
  | cons j r ih => simp only [List.length_cons, arrayElems, elemsFresh, ih]

theorem objFold_fresh {f : Dec} {z : GoVal} (es : List (Bytes × GoVal × JTree)) (hnd : (es.map (·.1)).Nodup)
    (h : ∀ e ∈ es, f e.2.2 z = .ok e.2.1) :
    objFold uo (fun _ => some f) (fun _ => z) (es.map fun e => (e.1, e.2.2)) [] [] = .ok (es.map fun e => (e.1, e.2.1)) := by
  have hndL : (akeys (es.map fun e => (e.1, e.2.2))).Nodup := by rwa [akeys_map]
  refine objFold_of_facts hndL (fun _ _ h => nomatch h) List.nodup_nil ⟨?_, fun _ _ _ h => (nomatch h), fun n hn => ?_, ?_⟩
  · rintro n j g hm ⟨⟩
    obtain ⟨e, he, ⟨⟩⟩ := List.mem_map.1 hm
    exact ⟨_, h e he, alookup_of_mem (by rwa [akeys_map]) (List.mem_map_of_mem (f := fun e => (e.1, e.2.1)) he)⟩
  · rw [(alookup_none_iff n _).2 (by rw [akeys_map]; rw [akeys_map] at hn; exact hn.resolve_right (Option.some_ne_none f))]; rfl
  · rw [keysAfter_new _ _ (akeys []) hndL fun _ _ => List.not_mem_nil, akeys_map, akeys_map]
    exact (List.filter_eq_self.2 fun _ _ => rfl).symm

theorem sortMembers_map {α β : Type} (g : α → β) (l : List (Bytes × α)) :
    (sortMembers l).map (fun e => (e.1, g e.2)) = sortMembers (l.map fun e => (e.1, g e.2)) :=
  List.map_mergeSort fun _ _ _ _ => rfl

theorem rt_map {t : GoType} (es : List (Bytes × GoVal × JTree)) (hnd : (es.map (·.1)).Nodup)
    (hk : ∀ e ∈ es, Utf8.valid e.1 = true) (H : ∀ e ∈ es, ∃ v', Back o uo t e.2.1 e.2.2 v') :
    ∃ es' : List (Bytes × GoVal × JTree),
      es'.map (fun e => (e.1, e.2.2)) = sortMembers (es.map fun e => (e.1, e.2.2)) ∧ (es'.map (·.1)).Perm (es.map (·.1)) ∧
      objFold uo (fun _ => some (unm uo t)) (fun _ => t.zero) (es'.map fun e => (e.1, e.2.2)) [] [] =
        .ok (es'.map fun e => (e.1, e.2.1)) ∧
      (∀ e ∈ es', Utf8.valid e.1 = true ∧ Mar o t e.2.1 e.2.2 ∧ hasType t e.2.1 = true) ∧
      (safeM o (es.map fun e => (e.1, e.2.1)) = true →
        veqM (es.map fun e => (e.1, e.2.1)) (es'.map fun e => (e.1, e.2.1))) := by
  -- take what comes back for every entry, and sort the entries with these values by name
  obtain ⟨zs, rfl, hzs⟩ := exists_zipped es H
  have hp := sortMembers_perm (zs.map fun z => (z.1.1, z.2, z.1.2.2))
  have hpk : ((sortMembers (zs.map fun z => (z.1.1, z.2, z.1.2.2))).map (·.1)).Perm ((zs.map (·.1)).map (·.1)) := by
    rw [List.map_map]; exact (hp.map _).trans (by rw [List.map_map]; rfl)
  have hmem : ∀ e ∈ sortMembers (zs.map fun z => (z.1.1, z.2, z.1.2.2)), ∃ z ∈ zs, e = (z.1.1, z.2, z.1.2.2) :=
    fun e he => by obtain ⟨z, hz, rfl⟩ := List.mem_map.1 (hp.mem_iff.1 he); exact ⟨z, hz, rfl⟩
  refine ⟨_, ?_, hpk, objFold_fresh _ (hpk.nodup_iff.2 hnd) fun e he => ?_, fun e he => ?_, fun hs => (veqM_iff _ _).2 ?_⟩
  · rw [sortMembers_map (fun p : GoVal × JTree => p.2), List.map_map, List.map_map]; rfl
  · obtain ⟨z, hz, rfl⟩ := hmem e he
    exact (hzs z hz).1
  · obtain ⟨z, hz, rfl⟩ := hmem e he
    exact ⟨hk z.1 (List.mem_map_of_mem hz), (hzs z hz).2.2⟩
  · rintro k v hm
    obtain ⟨e, he, ⟨⟩⟩ := List.mem_map.1 hm
    obtain ⟨z, hz, rfl⟩ := List.mem_map.1 he
    refine ⟨z.2, alookup_of_mem (by rw [akeys_map]; exact hpk.nodup_iff.2 hnd) ?_, (hzs z hz).2.1 ?_⟩
    · exact List.mem_map.2 ⟨_, hp.mem_iff.2 (List.mem_map_of_mem hz), rfl⟩
    · exact (safeM_iff _ _).1 hs _ _ hm

theorem rt_fields (es : List (Bytes × GoType × GoVal × JTree)) (H : ∀ e ∈ es, ∃ v', Back o uo e.2.1 e.2.2.1 e.2.2.2 v') :
    ∃ es' : List (Bytes × GoType × GoVal × JTree),
      es'.map (fun e => (e.1, e.2.1)) = es.map (fun e => (e.1, e.2.1)) ∧
      es'.map (fun e => (e.1, e.2.2.2)) = es.map (fun e => (e.1, e.2.2.2)) ∧
      (∀ e ∈ es', unm uo e.2.1 e.2.2.2 e.2.1.zero = .ok e.2.2.1 ∧ Mar o e.2.1 e.2.2.1 e.2.2.2 ∧ hasType e.2.1 e.2.2.1 = true) ∧
      (safeM o (es.map fun e => (e.1, e.2.2.1)) = true →
        veqF (es.map fun e => (e.1, e.2.2.1)) (es'.map fun e => (e.1, e.2.2.1))) := by
  induction es with
  | nil => exact ⟨[], rfl, rfl, nofun, fun _ => by simp only [List.map_nil, veqF]⟩
  | cons e es ih =>
    rw [List.forall_mem_cons] at H
    obtain ⟨v', h1, h2, h3, h4⟩ := H.1
    obtain ⟨es', e1, e2, h5, h6⟩ := ih H.2
    refine ⟨(e.1, e.2.1, v', e.2.2.2) :: es', by rw [List.map_cons, e1]; rfl, by rw [List.map_cons, e2]; rfl,
      List.forall_mem_cons.2 ⟨⟨h1, h3, h4⟩, h5⟩, fun hs => ?_⟩
    simp only [List.map_cons, safeM, Bool.and_eq_true] at hs
    simp only [List.map_cons, veqF]
    exact ⟨trivial, h2 hs.1, h6 hs.2⟩

end JsonV.Lemmas.RoundTrip
