/-
`allFields` is ordered by depth in EVERY run of the search (also when an error is recorded):
at level `k` every processed entry has an index path of length `k`, every field appended has depth `k + 1`.
-/
import JsonV.Lemmas.FieldsStep

namespace JsonV.Lemmas.Fields
open JsonV JsonV.Model JsonV.Model.Fields

/-- The depth invariant at level `k`: queued entries have paths of length `k + 1` (`hq`), fields have depth at most `k + 1`
(`ha`), and `all` is ascending in depth (`hs`). -/
structure DInv (k : Nat) (s : St) : Prop where
  hq : ∀ e ∈ s.queue, e.index.length = k + 1
  ha : ∀ f ∈ s.all, f.depth ≤ k + 1
  hs : s.all.Pairwise (fun a b => a.depth ≤ b.depth)

theorem DInv.orErr {k : Nat} {s : St} (h : DInv k s) (e : Option Err) : DInv k (s.orErr e) := by
  rw [orErr_eq]
  exact ⟨h.hq, h.ha, h.hs⟩

theorem DInv.applyAction {k : Nat} {s : St} (h : DInv k s) (qe : QE) (hk : qe.index.length = k) (i : Nat) (a : Action) :
    DInv k (applyAction qe i a s) := by
  have hnew : (qe.index ++ [i]).length = k + 1 := by rw [List.length_append, hk]; rfl
  cases a with
  | skip => exact h
  | fallback o => exact ⟨h.hq, h.ha, h.hs⟩
  | enqueue t =>
    refine ⟨fun e he => ?_, by rw [enqueue_all]; exact h.ha, by rw [enqueue_all]; exact h.hs⟩
    rw [enqueue_queue] at he
    split at he
    · rcases List.mem_append.mp he with he | he
      · exact h.hq e he
      · rw [List.mem_singleton.mp he]; exact hnew
    · exact h.hq e he
  | field o =>
    refine ⟨h.hq, fun f hf => ?_, List.pairwise_append_short h.hs (Nat.le_refl 1)
      (fun a ha b hb => List.mem_singleton.mp hb ▸ Nat.le_trans (h.ha a ha) (Nat.le_of_eq hnew.symm))⟩
    rcases List.mem_append.mp hf with hf | hf
    · exact h.ha f hf
    · rw [List.mem_singleton.mp hf]; exact Nat.le_of_eq hnew

theorem sorted_bfs (g : Graph) : ∀ (fuel : Nat) (F : List QE) (s : St) (k : Nat), (∀ e ∈ F, e.index.length = k) →
    (∀ f ∈ s.all, f.depth ≤ k) → s.all.Pairwise (fun a b => a.depth ≤ b.depth) →
    (bfs g fuel F s).all.Pairwise (fun a b => a.depth ≤ b.depth)
  | 0, _, _, _, _, _, hs => hs
  | fuel + 1, [], _, _, _, _, hs => hs
  | fuel + 1, qe :: rest, s, k, hF, ha, hs => by
    have h0 : DInv k { s with queue := [] } :=
      ⟨(by intro e he; cases he), fun f hf => Nat.le_succ_of_le (ha f hf), hs⟩
    have h1 := processLevel_preserves (I := DInv k) g (fun _ e h => h.orErr e) (qe :: rest) _
      (fun qe hqe i a _ h => h.applyAction qe (hF qe hqe) i a) h0
    exact sorted_bfs g fuel _ _ (k + 1) h1.hq h1.ha h1.hs

theorem search_all_sorted (g : Graph) (root : StructId) : (search g root).all.Pairwise (fun a b => a.depth ≤ b.depth) := by
  unfold search
  apply sorted_bfs g _ _ _ 0
  · intro e he; rw [List.mem_singleton.mp he]; rfl
  · intro f hf; cases hf
  · exact List.Pairwise.nil

end JsonV.Lemmas.Fields
