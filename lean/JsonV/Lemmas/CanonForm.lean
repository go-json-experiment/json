/-
Tree-level lemmas about Model/Canon.lean: the canonical tree is sorted at every depth, re-spelling and
reordering are idempotent on it, and trees that agree up to member order are reordered identically.
-/
import JsonV.Lemmas.CanonTree
import JsonV.Lemmas.CanonSort
import JsonV.Lemmas.CanonAtom

namespace JsonV.Lemmas.CanonForm
open JsonV JsonV.Canon JsonV.Model JsonV.Model.Utf8
open JsonV.Fmt
open JsonV.Lemmas.CanonTree JsonV.Lemmas.CanonAtom JsonV.Lemmas.CanonSort

mutual
/-- Every object of the tree has well-formed, pairwise different names. -/
def NamesOK : JV → Prop
  | .atom _ => True
  | .arr es => NamesOKL es
  | .obj ms => NamesOK1 ms ∧ NamesOKM ms
def NamesOKL : List JV → Prop
  | [] => True
  | e :: es => NamesOK e ∧ NamesOKL es
def NamesOKM : List (Bytes × JV) → Prop
  | [] => True
  | (_, v) :: ms => NamesOK v ∧ NamesOKM ms
end

mutual
/-- The members of every object, at every depth, are strictly increasing in the UTF-16 order of their
unescaped names (RFC 8785 §3.2.3). -/
def SortedT : JV → Prop
  | .atom _ => True
  | .arr es => SortedL es
  | .obj ms => ms.Pairwise NameLt ∧ SortedM ms
def SortedL : List JV → Prop
  | [] => True
  | e :: es => SortedT e ∧ SortedL es
def SortedM : List (Bytes × JV) → Prop
  | [] => True
  | (_, v) :: ms => SortedT v ∧ SortedM ms
end

theorem sortedM_iff (ms : List (Bytes × JV)) : SortedM ms ↔ ∀ p ∈ ms, SortedT p.2 := by
  induction ms with
  | nil => simp [SortedM]
  | cons p ms ih => obtain ⟨n, v⟩ := p; simp [SortedM, ih]

theorem namesOKM_iff (ms : List (Bytes × JV)) : NamesOKM ms ↔ ∀ p ∈ ms, NamesOK p.2 := by
  induction ms with
  | nil => simp [NamesOKM]
  | cons p ms ih => obtain ⟨n, v⟩ := p; simp [NamesOKM, ih]

theorem namesOK1_iff (ms : List (Bytes × JV)) :
    NamesOK1 ms ↔ (∀ x ∈ names ms, valid x = true) ∧ (names ms).Nodup := by
  unfold NamesOK1 names
  rw [List.forall_mem_map]

theorem namesOK1_congr {ms ms' : List (Bytes × JV)} (e : names ms' = names ms) (h : NamesOK1 ms) : NamesOK1 ms' := by
  rw [namesOK1_iff] at h ⊢; rw [e]; exact h

theorem sortM_eq_map (ms : List (Bytes × JV)) : sortM ms = ms.map (fun p => (p.1, sortTree p.2)) := by
  induction ms with
  | nil => simp [sortM]
  | cons p ms ih => obtain ⟨n, v⟩ := p; simp [sortM, ih]

theorem names_sortM (ms : List (Bytes × JV)) : names (sortM ms) = names ms := by
  rw [sortM_eq_map]; simp [names, List.map_map, Function.comp_def]

theorem names_respellM (fp : FloatCodec) : ∀ ms : List (Bytes × JV), strictM ms = true → names (respellM fp ms) = names ms
  | [], _ => by simp [respellM, names]
  | (n, v) :: ms, h => by
    simp only [strictM, Bool.and_eq_true] at h
    have ih := names_respellM fp ms h.2
    simp only [names, respellM, List.map_cons] at ih ⊢
    rw [ih, unq_canonStr n h.1.1]

theorem strictM_valid (ms : List (Bytes × JV)) (h : strictM ms = true) : ∀ x ∈ names ms, valid x = true := by
  intro x hx
  obtain ⟨p, hp, rfl⟩ := List.mem_map.mp hx
  have hm : Tok.str p.1 ∈ toksM ms := toksM_flatMap ms ▸ List.mem_flatMap.mpr ⟨p, hp, List.mem_cons_self⟩
  exact ((strOK_iff p.1).mp (strictM_toks ms h p.1 hm)).2

mutual
theorem namesOK_respell (fp : FloatCodec) : ∀ t : JV, strict t = true → NamesOK (respell fp t)
  | .atom _, _ => by simp [respell, NamesOK]
  | .arr es, h => by
    simp only [respell, NamesOK]; exact namesOKL_respell fp es (by simpa [strict] using h)
  | .obj ms, h => by
    simp only [strict, Bool.and_eq_true, decide_eq_true_eq] at h
    simp only [respell, NamesOK]
    refine ⟨?_, namesOKM_respell fp ms h.1⟩
    rw [namesOK1_iff, names_respellM fp ms h.1]
    exact ⟨strictM_valid ms h.1, h.2⟩
theorem namesOKL_respell (fp : FloatCodec) : ∀ es : List JV, strictL es = true → NamesOKL (respellL fp es)
  | [], _ => by simp [respellL, NamesOKL]
  | e :: es, h => by
    simp only [strictL, Bool.and_eq_true] at h
    simp only [respellL, NamesOKL]
    exact ⟨namesOK_respell fp e h.1, namesOKL_respell fp es h.2⟩
theorem namesOKM_respell (fp : FloatCodec) : ∀ ms : List (Bytes × JV), strictM ms = true → NamesOKM (respellM fp ms)
  | [], _ => by simp [respellM, NamesOKM]
  | (n, v) :: ms, h => by
    simp only [strictM, Bool.and_eq_true] at h
    simp only [respellM, NamesOKM]
    exact ⟨namesOK_respell fp v h.1.2, namesOKM_respell fp ms h.2⟩
end

mutual
/-- `sortTree` of a tree whose objects have good names (`NamesOK`) is sorted at every depth and still has good names. -/
theorem good_sortTree : ∀ t : JV, NamesOK t → SortedT (sortTree t) ∧ NamesOK (sortTree t)
  | .atom _, _ => by simp [sortTree, SortedT, NamesOK]
  | .arr es, h => by
    simp only [sortTree, SortedT, NamesOK]; exact good_sortL es (by simpa [NamesOK] using h)
  | .obj ms, h => by
    simp only [NamesOK] at h
    have ih := good_sortM ms h.2
    have h1 : NamesOK1 (sortM ms) := namesOK1_congr (names_sortM ms) h.1
    have perm := sortObj_perm (sortM ms)
    simp only [sortTree, SortedT, NamesOK]
    refine ⟨⟨sortObj_strict h1, ?_⟩, h1.perm perm, ?_⟩
    · rw [sortedM_iff]; intro p hp
      exact (sortedM_iff _).mp ih.1 p (perm.mem_iff.mp hp)
    · rw [namesOKM_iff]; intro p hp
      exact (namesOKM_iff _).mp ih.2 p (perm.mem_iff.mp hp)
theorem good_sortL : ∀ es : List JV, NamesOKL es → SortedL (sortL es) ∧ NamesOKL (sortL es)
  | [], _ => by simp [sortL, SortedL, NamesOKL]
  | e :: es, h => by
    simp only [NamesOKL] at h
    simp only [sortL, SortedL, NamesOKL]
    exact ⟨⟨(good_sortTree e h.1).1, (good_sortL es h.2).1⟩, (good_sortTree e h.1).2, (good_sortL es h.2).2⟩
theorem good_sortM : ∀ ms : List (Bytes × JV), NamesOKM ms → SortedM (sortM ms) ∧ NamesOKM (sortM ms)
  | [], _ => by simp [sortM, SortedM, NamesOKM]
  | (n, v) :: ms, h => by
    simp only [NamesOKM] at h
    simp only [sortM, SortedM, NamesOKM]
    exact ⟨⟨(good_sortTree v h.1).1, (good_sortM ms h.2).1⟩, (good_sortTree v h.1).2, (good_sortM ms h.2).2⟩
end

mutual
theorem respell_fixed (fp : FloatCodec) : ∀ t : JV, (∀ k ∈ t.toks, canonAtom fp k = k) → respell fp t = t
  | .atom k, h => by simp [respell, h k (by simp [JV.toks])]
  | .arr es, h => by
    simp only [respell]
    rw [respellL_fixed fp es (fun k hk => h k (by simp [JV.toks, hk]))]
  | .obj ms, h => by
    simp only [respell]
    rw [respellM_fixed fp ms (fun k hk => h k (by simp [JV.toks, hk]))]
theorem respellL_fixed (fp : FloatCodec) : ∀ es : List JV, (∀ k ∈ toksL es, canonAtom fp k = k) → respellL fp es = es
  | [], _ => by simp [respellL]
  | e :: es, h => by
    simp only [respellL]
    rw [respell_fixed fp e (fun k hk => h k (by simp [toksL, hk])),
      respellL_fixed fp es (fun k hk => h k (by simp [toksL, hk]))]
theorem respellM_fixed (fp : FloatCodec) :
    ∀ ms : List (Bytes × JV), (∀ k ∈ toksM ms, canonAtom fp k = k) → respellM fp ms = ms
  | [], _ => by simp [respellM]
  | (n, v) :: ms, h => by
    simp only [respellM]
    have hn : canonStr n = n := by
      have := h (.str n) (by simp [toksM])
      simpa [canonAtom] using this
    rw [hn, respell_fixed fp v (fun k hk => h k (by simp [toksM, hk])),
      respellM_fixed fp ms (fun k hk => h k (by simp [toksM, hk]))]
end

mutual
theorem sortTree_fixed : ∀ t : JV, NamesOK t → SortedT t → sortTree t = t
  | .atom _, _, _ => by simp [sortTree]
  | .arr es, h, s => by
    simp only [sortTree]; rw [sortL_fixed es (by simpa [NamesOK] using h) (by simpa [SortedT] using s)]
  | .obj ms, h, s => by
    simp only [NamesOK] at h
    simp only [SortedT] at s
    simp only [sortTree]
    rw [sortM_fixed ms h.2 s.2, sortObj_fixed h.1 s.1]
theorem sortL_fixed : ∀ es : List JV, NamesOKL es → SortedL es → sortL es = es
  | [], _, _ => by simp [sortL]
  | e :: es, h, s => by
    simp only [NamesOKL] at h
    simp only [SortedL] at s
    simp only [sortL]
    rw [sortTree_fixed e h.1 s.1, sortL_fixed es h.2 s.2]
theorem sortM_fixed : ∀ ms : List (Bytes × JV), NamesOKM ms → SortedM ms → sortM ms = ms
  | [], _, _ => by simp [sortM]
  | (n, v) :: ms, h, s => by
    simp only [NamesOKM] at h
    simp only [SortedM] at s
    simp only [sortM]
    rw [sortTree_fixed v h.1 s.1, sortM_fixed ms h.2 s.2]
end

mutual
/-- The converse of `strict_toks`: a tree whose string tokens are `strOK` and whose objects have good names is `strict`. -/
theorem strict_of : ∀ t : JV, (∀ r, Tok.str r ∈ t.toks → strOK r = true) → NamesOK t → strict t = true
  | .atom k, h, _ => by
    cases k with
    | str r => simpa [strict] using h r (by simp [JV.toks])
    | _ => rfl
  | .arr es, h, n => by
    simp only [strict]
    exact strictL_of es (fun r hr => h r (by simp [JV.toks, hr])) (by simpa [NamesOK] using n)
  | .obj ms, h, n => by
    simp only [NamesOK] at n
    simp only [strict, Bool.and_eq_true, decide_eq_true_eq]
    exact ⟨strictM_of ms (fun r hr => h r (by simp [JV.toks, hr])) n.2, n.1.2⟩
theorem strictL_of : ∀ es : List JV, (∀ r, Tok.str r ∈ toksL es → strOK r = true) → NamesOKL es → strictL es = true
  | [], _, _ => rfl
  | e :: es, h, n => by
    simp only [NamesOKL] at n
    simp only [strictL, Bool.and_eq_true]
    exact ⟨strict_of e (fun r hr => h r (by simp [toksL, hr])) n.1,
      strictL_of es (fun r hr => h r (by simp [toksL, hr])) n.2⟩
theorem strictM_of :
    ∀ ms : List (Bytes × JV), (∀ r, Tok.str r ∈ toksM ms → strOK r = true) → NamesOKM ms → strictM ms = true
  | [], _, _ => rfl
  | (nm, v) :: ms, h, n => by
    simp only [NamesOKM] at n
    simp only [strictM, Bool.and_eq_true]
    exact ⟨⟨h nm (by simp [toksM]), strict_of v (fun r hr => h r (by simp [toksM, hr])) n.1⟩,
      strictM_of ms (fun r hr => h r (by simp [toksM, hr])) n.2⟩
end

mutual
/-- `t₂` is `t₁` with the members of some objects (at any depth) permuted. -/
def PermEq : JV → JV → Prop
  | .atom a, .atom b => a = b
  | .arr es, .arr fs => PermEqL es fs
  | .obj ms, .obj ns => ∃ ns', ns'.Perm ns ∧ PermEqM ms ns'
  | _, _ => False
def PermEqL : List JV → List JV → Prop
  | [], [] => True
  | e :: es, f :: fs => PermEq e f ∧ PermEqL es fs
  | _, _ => False
def PermEqM : List (Bytes × JV) → List (Bytes × JV) → Prop
  | [], [] => True
  | (n, v) :: ms, (n', v') :: ns => n = n' ∧ PermEq v v' ∧ PermEqM ms ns
  | _, _ => False
end

mutual
theorem sortTree_permEq : ∀ (t u : JV), NamesOK t → PermEq t u → sortTree t = sortTree u
  | .atom a, .atom b, _, h => by simp only [PermEq] at h; rw [h]
  | .atom _, .arr _, _, h | .atom _, .obj _, _, h | .arr _, .atom _, _, h | .arr _, .obj _, _, h
  | .obj _, .atom _, _, h | .obj _, .arr _, _, h => by simp [PermEq] at h
  | .arr es, .arr fs, n, h => by
    simp only [PermEq] at h
    simp only [sortTree]
    rw [sortL_permEq es fs (by simpa [NamesOK] using n) h]
  | .obj ms, .obj ns, n, h => by
    simp only [NamesOK] at n
    simp only [PermEq] at h
    obtain ⟨ns', hp, hm⟩ := h
    have e := sortM_permEq ms ns' n.2 hm
    have h1 : NamesOK1 (sortM ns') := by
      refine namesOK1_congr ?_ n.1
      rw [← e, names_sortM]
    have hp' : (sortM ns).Perm (sortM ns') := by
      rw [sortM_eq_map, sortM_eq_map]; exact (hp.map _).symm
    simp only [sortTree]
    rw [e, sortObj_unique h1 hp']
theorem sortL_permEq : ∀ (es fs : List JV), NamesOKL es → PermEqL es fs → sortL es = sortL fs
  | [], [], _, _ => rfl
  | [], _ :: _, _, h | _ :: _, [], _, h => by simp [PermEqL] at h
  | e :: es, f :: fs, n, h => by
    simp only [NamesOKL] at n
    simp only [PermEqL] at h
    simp only [sortL]
    rw [sortTree_permEq e f n.1 h.1, sortL_permEq es fs n.2 h.2]
theorem sortM_permEq : ∀ (ms ns : List (Bytes × JV)), NamesOKM ms → PermEqM ms ns → sortM ms = sortM ns
  | [], [], _, _ => rfl
  | [], _ :: _, _, h | _ :: _, [], _, h => by simp [PermEqM] at h
  | (a, v) :: ms, (b, w) :: ns, n, h => by
    simp only [NamesOKM] at n
    simp only [PermEqM] at h
    simp only [sortM]
    rw [h.1, sortTree_permEq v w n.1 h.2.1, sortM_permEq ms ns n.2 h.2.2]
end

/-- Two trees are *canonically equivalent* when, after re-spelling every literal, they agree up to the order of the
members of their objects (at every depth).  Whitespace never reaches the tree (`tokenize` drops it); `respell` only
looks at the text of a string literal and at the float value of a number literal (`respell_congr_*` in Props/C13); `PermEq`
allows any permutation of the members of any object. -/
def CanonEquiv (fp : FloatCodec) (t u : JV) : Prop := PermEq (respell fp t) (respell fp u)

end JsonV.Lemmas.CanonForm
