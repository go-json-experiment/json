/-
C02: every tree built from the fragments renders to a valid value
(structural induction over `OutTree`, mutual with its lists: `render_valid_aux`).
-/
import JsonV.Lemmas.EncInvCompose

namespace JsonV.Lemmas.EncInvTree
open JsonV JsonV.Spec.ValidJson JsonV.Lemmas.EncInvL JsonV.Lemmas.EncInvCompose JsonV.Model.EncInv

theorem frag_valid (o : Opt) (q : Quoter o) (f : Frag) (d : Nat) (hd : d + f.depth ≤ o.maxDepth) :
    validAt o d (f.bytes q.quote) = true := by
  cases f with
  | null => exact validAt_null o d
  | bool b => cases b
              · exact validAt_false o d
              · exact validAt_true o d
  | int i => exact validAt_intDigits o d i
  | uint n => exact validAt_natDigits o d n
  | str s => exact validAt_string o d _ (q.valid s)
  | num lit h => exact validAt_of_pNumber o d lit h
  | emptyObj => exact validAt_emptyObj o d (by simp [Frag.depth] at hd; omega)
  | emptyArr => exact validAt_emptyArr o d (by simp [Frag.depth] at hd; omega)

mutual
theorem render_valid_aux (o : Opt) (q : Quoter o) : ∀ (t : OutTree) (d : Nat), t.WellFormed o q.quote →
    d + t.depth ≤ o.maxDepth → validAt o d (t.render q.quote) = true
  | .atom f, d, _, hd => frag_valid o q f d hd
  | .arr ts, d, hw, hd => by
    simp only [OutTree.depth] at hd
    exact array_compose' o d _ (by omega) (renderList_valid o q ts (d + 1) hw (by omega))
  | .obj ms, d, hw, hd => by
    simp only [OutTree.depth] at hd
    exact object_compose' o d _ (by omega) (renderMembers_valid o q ms (d + 1) hw.1 (by omega)) hw.2
theorem renderList_valid (o : Opt) (q : Quoter o) : ∀ (ts : List OutTree) (d : Nat), wfList o q.quote ts →
    d + depthList ts ≤ o.maxDepth → ∀ x ∈ renderList q.quote ts, validAt o d x = true
  | [], _, _, _ => fun _ hx => nomatch hx
  | t :: ts, d, hw, hd => by
    simp only [depthList] at hd
    intro x hx
    rcases List.mem_cons.mp hx with rfl | hx
    · exact render_valid_aux o q t d hw.1 (by omega)
    · exact renderList_valid o q ts d hw.2 (by omega) x hx
theorem renderMembers_valid (o : Opt) (q : Quoter o) : ∀ (ms : List (Bytes × OutTree)) (d : Nat), wfMembers o q.quote ms →
    d + depthMembers ms ≤ o.maxDepth →
    ∀ m ∈ renderMembers q.quote ms, validString o m.1 = true ∧ validAt o d m.2 = true
  | [], _, _, _ => fun _ hm => nomatch hm
  | (n, t) :: ms, d, hw, hd => by
    simp only [depthMembers] at hd
    intro m hm
    rcases List.mem_cons.mp hm with rfl | hm
    · exact ⟨q.valid n, render_valid_aux o q t d hw.1 (by omega)⟩
    · exact renderMembers_valid o q ms d hw.2 (by omega) m hm
end

end JsonV.Lemmas.EncInvTree
