/-
What AppendQuote writes is a string literal whose meaning, in the sense of Spec/StringSpec (`Unescapes`), is the input with one
U+FFFD per ill-formed byte, for every flag set (`appendQuote_literal`); proved per scalar value over `QuoteSpec.quoteLoop_fst`.
Every statement about reading AppendQuote's output back (AppendUnquote, the grammar, ConsumeString, name keys, the Encoder
model's unquote) is this composed with what the reader does on an arbitrary `Unescapes` body.
-/
import JsonV.Lemmas.QuoteRaw

namespace JsonV.Lemmas.QuoteLiteral
open JsonV JsonV.Model.Utf8 JsonV.Model.Quote JsonV.Spec.StringSpec
open JsonV.Lemmas.QuoteL JsonV.Lemmas.QuoteSpec JsonV.Lemmas.QuoteWf JsonV.Lemmas.QuoteMeaning

theorem unescapes_seq {p rest m : Bytes} {r : Nat} (hs : IsSeq p r) (h20 : 0x20 ≤ r) (hq : r ≠ 0x22) (hb : r ≠ 0x5c)
    (h : Unescapes rest m) : Unescapes (p ++ rest) (p ++ m) := by
  have := hs.2 []
  rw [List.append_nil] at this
  exact .unescaped this.1 hs.1 this.2 h20 hq hb h

theorem simpleEscapes_of_ascii {r : Nat} {e : UInt8}
    (h : (r = 0x22 ∨ r = 0x5c) ∧ e = UInt8.ofNat r ∨ r = 0x08 ∧ e = 0x62 ∨ r = 0x0c ∧ e = 0x66 ∨ r = 0x0a ∧ e = 0x6e ∨
      r = 0x0d ∧ e = 0x72 ∨ r = 0x09 ∧ e = 0x74) : (e, UInt8.ofNat r) ∈ simpleEscapes := by
  rcases h with ⟨rfl | rfl, rfl⟩ | ⟨rfl, rfl⟩ | ⟨rfl, rfl⟩ | ⟨rfl, rfl⟩ | ⟨rfl, rfl⟩ | ⟨rfl, rfl⟩ <;> decide

theorem unescapes_quoteChar (html js : Bool) {r : Nat} (hr : IsScalar r) {rest m : Bytes} (h : Unescapes rest m) :
    Unescapes (quoteChar html js r ++ rest) (encodeRune r ++ m) := by
  have hseq := isSeq_encode_valid r hr.1 hr.2
  have hns : isSurrogate r = false := by
    have := hr.2
    simp only [isSurrogate, Bool.and_eq_false_iff, decide_eq_false_iff_not]; omega
  unfold quoteChar
  by_cases h0 : r < runeSelf
  · rw [if_pos h0]
    by_cases he : escapeASCII r ≠ 0 ∧ (!isHTMLChar r || html) = true
    · rw [if_pos he]
      rcases appendEscapedASCII_cases r with ⟨e, hx, hc⟩ | ⟨hx, -⟩
      · rw [hx, encodeRune_ascii h0]
        exact .simple (simpleEscapes_of_ascii hc) h
      · rw [hx]
        exact unescapes_u16 r (Nat.lt_trans h0 (by decide)) hns h
    · rw [if_neg he, ← encodeRune_ascii h0]
      -- left as it is: the table does not mark it, or it is `<` `>` `&` without EscapeForHTML
      have hne : noEscape r = true := by
        by_cases hz : escapeASCII r = 0
        · exact ((escapeASCII_eq_zero ⟨r, h0⟩).mp hz).1
        · exact html_noEscape (by simpa [hz] using he : isHTMLChar r = true ∧ html = false).1
      simp only [noEscape, Bool.and_eq_true, decide_eq_true_eq, ne_eq] at hne
      exact unescapes_seq hseq hne.1.1.2 hne.2 hne.1.2 h
  · rw [if_neg h0]
    simp only [runeSelf] at h0
    by_cases hj : (r = 0x2028 ∨ r = 0x2029) ∧ js = true
    · have hr16 : r < 0x10000 := by omega
      rw [if_pos hj, appendEscapedUnicode_bmp _ hr16]
      exact unescapes_u16 r hr16 hns h
    · rw [if_neg hj]
      exact unescapes_seq hseq (by omega) (by omega) (by omega) h

theorem unescapes_flatMap {α : Type} (f g : α → Bytes) (l : List α)
    (h : ∀ x ∈ l, ∀ rest m, Unescapes rest m → Unescapes (f x ++ rest) (g x ++ m)) :
    Unescapes (l.flatMap f) (l.flatMap g) := by
  induction l with
  | nil => exact .nil
  | cons x l ih =>
    rw [List.flatMap_cons, List.flatMap_cons]
    exact h x (by simp) _ _ (ih fun y hy => h y (by simp [hy]))

theorem quoteLoop_unescapes (html js : Bool) (s : Bytes) : Unescapes (quoteLoop html js s).1 (lossy s) := by
  rw [quoteLoop_fst, lossy_eq]
  exact unescapes_flatMap _ _ _ fun r hr _ _ h => unescapes_quoteChar html js (scalars_isScalar s r hr) h

theorem appendQuote_literal (f : QFlags) (s : Bytes) : StringLiteral (appendQuote f s).1 (lossy s) :=
  ⟨_, rfl, quoteLoop_unescapes f.html f.js s⟩

theorem unqLoop_quoteLoop (html js : Bool) (s : Bytes) (e : Err) :
    unqLoop ((quoteLoop html js s).1 ++ [0x22]) e = (lossy s, e) :=
  unqLoop_meaning (quoteLoop_unescapes html js s) e

end JsonV.Lemmas.QuoteLiteral
