/-
Lemmas for C20, marshal traversal of heap graphs (Model/Cycle.lean).
-/
import JsonV.Model.Cycle
import JsonV.Lemmas.FieldsCount

namespace JsonV.Lemmas.DepthCycleL
open JsonV.Model.Cycle
open JsonV.Lemmas.Fields (U U_le U_cons_le U_cons_new)

theorem seqRes_ne_outOfFuel (f : Nat → Res) (cs : List Nat) (h : ∀ c ∈ cs, f c ≠ .outOfFuel) :
    seqRes f cs ≠ .outOfFuel := by
  induction cs with
  | nil => nofun
  | cons c cs ih =>
    rw [seqRes]
    split
    · exact ih fun x hx => h x (List.mem_cons_of_mem c hx)
    · exact h c List.mem_cons_self

/-- the last summand of the fuel bound of `marshal_terminates`, for the steps at one depth that add no node to the visited set: 2 for an interface,
1 for a pointer, 0 otherwise (also for a missing node) -/
def flag (g : Heap) (n : Nat) : Nat :=
  match kindOf g n with
  | some .iface => 2
  | some .ptr => 1
  | _ => 0

theorem flag_le (g : Heap) (n : Nat) : flag g n ≤ 2 := by
  unfold flag; split <;> omega

theorem flag_of_not_ptrLike {g : Heap} {c : Nat} (h : isPtrLike g c = false) : flag g c = 0 := by
  unfold isPtrLike at h
  unfold flag
  split <;> simp_all

theorem flag_of_not_iface {g : Heap} {c : Nat} (h : isIface g c = false) : flag g c ≤ 1 := by
  unfold isIface at h
  unfold flag
  split <;> simp_all

theorem flag_of_get {g : Heap} {n : Nat} {nd : Node} (h : g[n]? = some nd) :
    flag g n = if nd.kind = .iface then 2 else if nd.kind = .ptr then 1 else 0 := by
  unfold flag kindOf
  rw [h, Option.map_some]
  cases nd.kind <;> rfl

theorem lt_length_of_get {g : Heap} {n : Nat} {nd : Node} (h : g[n]? = some nd) : n < g.length :=
  (List.getElem?_eq_some_iff.1 h).1

/-- the kinds whose arshaler hands on to one successor without writing a token -/
theorem kind_ptr_or_iface {k : Kind} (hs : k ≠ .scalar) (hd : ¬ k.deepens = true) : k = .ptr ∨ k = .iface := by
  revert hs hd
  cases k <;> decide

theorem ite_ne {α : Type} {c : Prop} [Decidable c] {a b x : α} (ha : c → a ≠ x) (hb : ¬ c → b ≠ x) :
    (if c then a else b) ≠ x := by
  split
  · exact ha ‹_›
  · exact hb ‹_›

/-- The traversal with the `pointsToPointerLike` clause ends on EVERY heap:
fuel (max+1-depth)·(3·|g|+3) + 3·(nodes not yet visited) + flag + 1 is enough. -/
theorem marshal_terminates (cfg : Cfg) (g : Heap) (ht : cfg.trackPtrLike = true) :
    ∀ (fuel depth : Nat) (seen : List Nat) (n : Nat), depth ≤ cfg.max + 1 →
      (cfg.max + 1 - depth) * (3 * g.length + 3) + 3 * U g.length seen + flag g n < fuel →
      marshal cfg g fuel depth seen n ≠ .outOfFuel := by
  intro fuel
  induction fuel with
  | zero => intro depth seen n _ h; omega
  | succ fuel ih =>
    intro depth seen n hd hf
    unfold marshal
    cases hg : g[n]? with
    | none => nofun
    | some nd =>
      have hn := lt_length_of_get hg
      -- the visited set handed to the children
      have hseen : U g.length (if consults cfg g nd depth = true then n :: seen else seen) ≤ U g.length seen := by
        split
        · exact U_cons_le _ n seen
        · exact Nat.le_refl _
      refine ite_ne nofun fun hcyc => ite_ne nofun fun hsc => ite_ne (fun _ => ?_) fun hdeep =>
        ite_ne nofun fun hiface => ?_
      · -- slice / map / array / struct: the children are one level deeper
        refine ite_ne nofun fun _ => ite_ne nofun fun hlim =>
          seqRes_ne_outOfFuel _ _ fun c _ => ih _ _ _ (by omega) ?_
        have hu := U_le g.length (if consults cfg g nd depth = true then n :: seen else seen)
        have hfl := flag_le g c
        have e : cfg.max + 1 - depth = (cfg.max + 1 - (depth + 1)) + 1 := by omega
        rw [e, Nat.succ_mul] at hf
        generalize (cfg.max + 1 - (depth + 1)) * (3 * g.length + 3) = A at hf ⊢
        omega
      · -- pointer / interface: the child is at the same depth
        refine seqRes_ne_outOfFuel _ _ fun c hc => ih _ _ _ hd ?_
        have hfn := flag_of_get hg
        generalize (cfg.max + 1 - depth) * (3 * g.length + 3) = A at hf ⊢
        rcases kind_ptr_or_iface hsc hdeep with hk | hk
        · rw [hk, if_neg (by decide), if_pos rfl] at hfn
          by_cases hpl : isPtrLike g c = true
          · -- a pointer to something pointer-like is tracked, so it enters the visited set
            have hcons : consults cfg g nd depth = true := by
              have : nd.succ.any (isPtrLike g) = true := List.any_eq_true.2 ⟨c, hc, hpl⟩
              simp [consults, pointsToPtrLike, hk, Kind.tracked, ht, this]
            have hlt := U_cons_new g.length n seen hn (by simpa using fun hmem => hcyc ⟨hcons, hmem⟩)
            have hfl := flag_le g c
            rw [if_pos hcons]
            omega
          · have hfl := flag_of_not_ptrLike (Bool.eq_false_iff.2 hpl)
            omega
        · -- the value held by an interface is not an interface
          rw [hk, if_pos rfl] at hfn
          have hfl := flag_of_not_iface (c := c) (Bool.eq_false_iff.2 fun hci =>
            hiface ⟨hk, List.any_eq_true.2 ⟨c, hc, hci⟩⟩)
          omega

/-! ### `trackPtrLike = false` (makePointerArshaler before 407e50b, no `pointsToPointerLike` clause): pointer-only cycles never end -/

theorem selfPtr_diverges_old (cfg : Cfg) (ht : cfg.trackPtrLike = false) :
    ∀ (fuel depth : Nat) (seen : List Nat), depth ≤ cfg.after →
      marshal cfg selfPtr fuel depth seen 0 = .outOfFuel := by
  intro fuel
  induction fuel with
  | zero => intro depth seen _; rfl
  | succ fuel ih =>
    intro depth seen hd
    have hlt : ¬ cfg.after < depth := by omega
    have := ih depth seen hd
    unfold marshal
    simp [selfPtr, consults, Kind.tracked, Kind.deepens, hlt, ht, seqRes]
    simp [selfPtr] at this
    rw [this]

theorem selfIface_diverges_old (cfg : Cfg) (ht : cfg.trackPtrLike = false) :
    ∀ (fuel depth : Nat) (seen : List Nat), depth ≤ cfg.after →
      marshal cfg selfIface fuel depth seen 0 = .outOfFuel ∧
      marshal cfg selfIface fuel depth seen 1 = .outOfFuel := by
  intro fuel
  induction fuel with
  | zero => intro depth seen _; exact ⟨rfl, rfl⟩
  | succ fuel ih =>
    intro depth seen hd
    have hlt : ¬ cfg.after < depth := by omega
    obtain ⟨h0, h1⟩ := ih depth seen hd
    simp [selfIface] at h0 h1
    constructor
    · unfold marshal
      simp [selfIface, consults, Kind.tracked, Kind.deepens, hlt, ht, seqRes, isIface, kindOf]
      rw [h1]
    · unfold marshal
      simp [selfIface, consults, Kind.tracked, Kind.deepens, hlt, ht, seqRes, isIface, kindOf]
      rw [h0]

theorem selfPtr_cycle (cfg : Cfg) (ht : cfg.trackPtrLike = true) (fuel depth : Nat) :
    marshal cfg selfPtr (fuel + 2) depth [] 0 = .cycle := by
  unfold marshal
  simp [selfPtr, consults, pointsToPtrLike, isPtrLike, kindOf, Kind.tracked, Kind.deepens, ht, seqRes]
  unfold marshal
  simp [consults, pointsToPtrLike, isPtrLike, kindOf, Kind.tracked, ht]

theorem selfIface_cycle (cfg : Cfg) (ht : cfg.trackPtrLike = true) (fuel depth : Nat) :
    marshal cfg selfIface (fuel + 4) depth [] 0 = .cycle := by
  unfold marshal
  simp [selfIface, consults, pointsToPtrLike, isPtrLike, isIface, kindOf, Kind.tracked, Kind.deepens, seqRes]
  unfold marshal
  simp [consults, pointsToPtrLike, isPtrLike, isIface, kindOf, Kind.tracked, Kind.deepens, ht, seqRes]
  unfold marshal
  simp [consults, pointsToPtrLike, isPtrLike, isIface, kindOf, Kind.tracked, Kind.deepens, seqRes]
  unfold marshal
  simp [consults, pointsToPtrLike, isPtrLike, kindOf, Kind.tracked, ht]

/-- If every shortcut that applies to the kind carries the `AtMaxDepth` guard, a container met at
`Depth() = max+1` is never written: the result is the cycle error (if the visited set already holds it)
or errMaxDepth — also when it is empty. -/
theorem container_at_limit_refused (cfg : Cfg) (g : Heap)
    (fuel : Nat) (seen : List Nat) (n : Nat) (nd : Node) (hn : g[n]? = some nd) (hk : nd.kind.deepens = true)
    (hg : cfg.shortcut nd.kind = true → cfg.guarded nd.kind = true) :
    marshal cfg g (fuel + 1) (cfg.max + 1) seen n =
      if consults cfg g nd (cfg.max + 1) = true ∧ n ∈ seen then .cycle else .maxDepth := by
  unfold marshal
  have hs : nd.kind ≠ .scalar := by intro h; simp [h, Kind.deepens] at hk
  cases hsc : cfg.shortcut nd.kind with
  | false => simp [hn, hk, hs, hsc]
  | true => simp [hn, hk, hs, hsc, hg hsc]

/-- A shortcut WITHOUT the guard writes an empty container at `Depth() = max+1`
(slices/maps before c2b1a73; a fast path for member-less structs that forgets the guard). -/
theorem unguarded_shortcut_accepts (cfg : Cfg) (g : Heap)
    (fuel : Nat) (seen : List Nat) (n : Nat) (nd : Node) (hn : g[n]? = some nd)
    (hk : nd.kind.deepens = true) (hsc : cfg.shortcut nd.kind = true) (hg : cfg.guarded nd.kind = false)
    (he : nd.succ = []) (hs : n ∉ seen) :
    marshal cfg g (fuel + 1) (cfg.max + 1) seen n = .ok := by
  unfold marshal
  have hsk : nd.kind ≠ .scalar := by intro h; simp [h, Kind.deepens] at hk
  simp [hn, hk, he, hsc, hg, hs, hsk]

end JsonV.Lemmas.DepthCycleL
