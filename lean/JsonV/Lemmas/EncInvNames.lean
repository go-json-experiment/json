/-
C02: `WellFormed` (distinct KEYS of the quoted names) follows from `NamesOK` (distinct Go-side names
after normalisation) whenever the key of a quoted name is the normalised name — which slices C11/quote proved for
the modelled AppendQuote and both notions of key (AppendUnquote: `unqLoop_quoteLoop`; the decoder's
`nameKey`: Lemmas/GlueNameKey.lean).
-/
import JsonV.Model.EncInv

namespace JsonV.Lemmas.EncInvNames
open JsonV JsonV.Spec.ValidJson JsonV.Model.EncInv

theorem keys_renderMembers (key quote norm : Bytes → Bytes) (hk : ∀ n, key (quote n) = norm n) :
    ∀ ms : List (Bytes × OutTree), ((renderMembers quote ms).map fun m => key m.1) = ms.map fun m => norm m.1
  | [] => rfl
  | (n, t) :: ms => by simp [renderMembers, hk, keys_renderMembers key quote norm hk ms]

mutual
theorem wf_of_namesOK (o : Opt) (quote norm : Bytes → Bytes) (hk : ∀ n, o.key (quote n) = norm n) :
    ∀ t : OutTree, t.NamesOK o.noDup norm → t.WellFormed o quote
  | .atom _, _ => trivial
  | .arr ts, h => by
    simp only [OutTree.NamesOK] at h; simp only [OutTree.WellFormed]
    exact wfList_of_namesOK o quote norm hk ts h
  | .obj ms, h => by
    simp only [OutTree.NamesOK] at h; simp only [OutTree.WellFormed]
    refine ⟨wfMembers_of_namesOK o quote norm hk ms h.1, fun hnd => ?_⟩
    rw [keys_renderMembers o.key quote norm hk]; exact h.2 hnd
theorem wfList_of_namesOK (o : Opt) (quote norm : Bytes → Bytes) (hk : ∀ n, o.key (quote n) = norm n) :
    ∀ ts : List OutTree, namesOKList o.noDup norm ts → wfList o quote ts
  | [], _ => trivial
  | t :: ts, h => by
    simp only [namesOKList] at h; simp only [wfList]
    exact ⟨wf_of_namesOK o quote norm hk t h.1, wfList_of_namesOK o quote norm hk ts h.2⟩
theorem wfMembers_of_namesOK (o : Opt) (quote norm : Bytes → Bytes) (hk : ∀ n, o.key (quote n) = norm n) :
    ∀ ms : List (Bytes × OutTree), namesOKMembers o.noDup norm ms → wfMembers o quote ms
  | [], _ => trivial
  | (_, t) :: ms, h => by
    simp only [namesOKMembers] at h; simp only [wfMembers]
    exact ⟨wf_of_namesOK o quote norm hk t h.1, wfMembers_of_namesOK o quote norm hk ms h.2⟩
end

end JsonV.Lemmas.EncInvNames
