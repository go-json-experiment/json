/-
The count behind a termination proof that rests on a visited set: the number of ids below a bound that are not yet in the
set.  Serves the breadth-first search of `makeStructFields` (FieldsFuel: struct types) and the marshal traversal of heap
graphs (DepthCycleL: nodes).
-/
import JsonV.Model.Fields

namespace JsonV.Lemmas.Fields
open JsonV JsonV.Model JsonV.Model.Fields

/-- Number of ids `< n` not in `seen`. -/
def U : Nat → List StructId → Nat
  | 0, _ => 0
  | n + 1, seen => U n seen + if seen.contains n then 0 else 1

theorem U_le : ∀ n seen, U n seen ≤ n
  | 0, _ => Nat.le_refl _
  | n + 1, seen => by
    have := U_le n seen
    simp only [U]; split <;> omega

theorem U_cons_eq : ∀ n t seen, n ≤ t ∨ seen.contains t = true → U n (t :: seen) = U n seen
  | 0, _, _, _ => rfl
  | n + 1, t, seen, h => by
    have ih := U_cons_eq n t seen (h.imp_left Nat.le_of_succ_le)
    by_cases htn : n = t
    · subst htn
      simp only [U, List.contains_cons, beq_self_eq_true, Bool.true_or, h.resolve_left (Nat.not_succ_le_self n), ih]
    · have hne : (n == t) = false := by simpa using htn
      simp only [U, List.contains_cons, hne, Bool.false_or, ih]

theorem U_cons_seen : ∀ n t seen, seen.contains t = true → U n (t :: seen) = U n seen :=
  fun n t seen h => U_cons_eq n t seen (.inr h)

theorem U_cons_new : ∀ n t seen, t < n → seen.contains t = false → U n (t :: seen) + 1 = U n seen
  | 0, _, _, h, _ => by omega
  | n + 1, t, seen, h, hc => by
    by_cases htn : n = t
    · subst htn
      have := U_cons_eq n n seen (.inl (Nat.le_refl _))
      simp only [U, List.contains_cons, beq_self_eq_true, Bool.true_or, hc, this]
      simp
    · have ih := U_cons_new n t seen (by omega) hc
      have hne : (n == t) = false := by simpa using htn
      simp only [U, List.contains_cons, hne, Bool.false_or]
      omega

theorem U_cons_le (n t : Nat) (seen : List StructId) : U n (t :: seen) ≤ U n seen := by
  by_cases h : n ≤ t ∨ seen.contains t = true
  · exact Nat.le_of_eq (U_cons_eq n t seen h)
  · have := U_cons_new n t seen (by omega) (by simpa using fun hc => h (.inr hc))
    omega

end JsonV.Lemmas.Fields
