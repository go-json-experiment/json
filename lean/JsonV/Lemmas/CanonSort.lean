/-
The reordering step of Model/Canon.lean: with duplicate-free, well-formed names the members of every object
come out strictly increasing in the RFC 8785 order, and the result does not depend on the input order.
`NamesOK1 ms` and `NameLt p q` unfold to CmpSort's `Distinct mem ms` and `Before mem p q`, so its lemmas about members with
distinct names apply with `m := mem`.
-/
import JsonV.Model.Canon
import JsonV.Lemmas.CmpSort
import JsonV.Lemmas.CanonTree

namespace JsonV.Lemmas.CanonSort
open JsonV JsonV.Fmt JsonV.Canon JsonV.Model JsonV.Model.Utf8 JsonV.Model.Compare JsonV.Model.Reorder
open JsonV.Spec.Utf16Order JsonV.Lemmas.CmpLex JsonV.Lemmas.CmpL JsonV.Lemmas.CmpSort JsonV.Lemmas.CmpUtf8
open JsonV.Lemmas.CanonTree

/-- The sort key of a member in spec terms: the UTF-16 code units of its unescaped name. -/
def keyU (p : Bytes × JV) : List Nat := utf16 (unq p.1)

/-- `p` sorts strictly before `q` (RFC 8785 §3.2.3). -/
def NameLt (p q : Bytes × JV) : Prop := lexCmp (keyU p) (keyU q) < 0

/-- The names of one object are well-formed texts and pairwise different. -/
def NamesOK1 (ms : List (Bytes × JV)) : Prop := (∀ p ∈ ms, valid (unq p.1) = true) ∧ (names ms).Nodup

theorem NamesOK1.perm {ms ms' : List (Bytes × JV)} (h : NamesOK1 ms) (hp : ms'.Perm ms) : NamesOK1 ms' :=
  Distinct.perm (m := mem) h hp

theorem memberCompare_mem {ms : List (Bytes × JV)} (h : NamesOK1 ms) {p q : Bytes × JV} (hp : p ∈ ms) (hq : q ∈ ms) :
    memberCompare (mem p) (mem q) = lexCmp (keyU p) (keyU q) :=
  memberCompare_distinct (m := mem) h hp hq

theorem sortObj_strict {ms : List (Bytes × JV)} (h : NamesOK1 ms) : (sortObj ms).Pairwise NameLt := by
  unfold sortObj
  split
  · next hs => exact isSorted_before (m := mem) ms h hs
  · exact mergeSort_before (m := mem) h

theorem sortObj_unique {ms ms' : List (Bytes × JV)} (h : NamesOK1 ms) (hp : ms'.Perm ms) : sortObj ms' = sortObj ms :=
  before_unique (m := mem) (sortObj_strict (h.perm hp)) (sortObj_strict h)
    (((sortObj_perm ms').trans hp).trans (sortObj_perm ms).symm)

theorem sortObj_fixed {ms : List (Bytes × JV)} (h : NamesOK1 ms) (hs : ms.Pairwise NameLt) : sortObj ms = ms :=
  before_unique (m := mem) (sortObj_strict h) hs (sortObj_perm ms)

end JsonV.Lemmas.CanonSort
