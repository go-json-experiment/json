/-
C02: the L3 model of `json.Marshal` (`mar` of Model/Marshal.lean) as a tree emitter for the fragment model: its output tree
translates (`toOut`) to a well-formed `OutTree`.  `mar_clean`: every number literal of the output is a JSON number and every
member name valid UTF-8, provided the float literals of the value are numbers (`floatsOK`; they are a parameter of the L3
model — C10: `appendFloat` output is one) and the struct field names of the type are valid UTF-8 (`namesUtf8`;
fields.go:454-457 guarantees it in the code).  The tie L3 model ↔ reflection code is CORRESPONDENCE ONLY (the `arsh` ops of
slices c04/c14 in the harness).
-/
import JsonV.Lemmas.EncInvNames
import JsonV.Lemmas.EncInvCompose
import JsonV.Lemmas.RoundTripAll
import JsonV.Lemmas.QuoteMeaning

namespace JsonV.Lemmas.EncInvL3
open JsonV JsonV.Spec JsonV.Model JsonV.Spec.ValidJson JsonV.Model.EncInv
open JsonV.Lemmas.RoundTrip JsonV.Lemmas.EncInvCompose JsonV.Lemmas.Merge

def numOK (l : Bytes) : Bool := pNumber l == some []

mutual
/-- every float literal held by the value is a JSON number -/
def floatsOK : GoVal → Bool
  | .float l => numOK l
  | .sliceOf vs => floatsOKL vs
  | .arrayOf vs => floatsOKL vs
  | .mapOf ms => floatsOKM ms
  | .structOf ms => floatsOKM ms
  | .ptrTo v => floatsOK v
  | .ifaceOf v => floatsOK v
  | .bool _ => true
  | .int _ => true
  | .uint _ => true
  | .str _ => true
  | .nilSlice => true
  | .nilMap => true
  | .nilPtr => true
  | .nilIface => true
def floatsOKL : List GoVal → Bool
  | [] => true
  | v :: r => floatsOK v && floatsOKL r
def floatsOKM : List (Bytes × GoVal) → Bool
  | [] => true
  | (_, v) :: r => floatsOK v && floatsOKM r
end

mutual
/-- every struct field name of the type is valid UTF-8 -/
def namesUtf8 : GoType → Bool
  | .slice t => namesUtf8 t
  | .array _ t => namesUtf8 t
  | .map t => namesUtf8 t
  | .ptr t => namesUtf8 t
  | .struct fs => namesUtf8F fs
  | .bool => true
  | .int _ => true
  | .uint _ => true
  | .float64 => true
  | .string => true
  | .any => true
def namesUtf8F : List (Bytes × GoType) → Bool
  | [] => true
  | (n, t) :: r => Utf8.valid n && namesUtf8 t && namesUtf8F r
end

mutual
/-- number literals are JSON numbers, member names valid UTF-8, everywhere in the tree -/
def clean : JTree → Bool
  | .num l => numOK l
  | .arr xs => cleanL xs
  | .obj ms => cleanM ms
  | .null => true
  | .bool _ => true
  | .str _ => true
def cleanL : List JTree → Bool
  | [] => true
  | x :: r => clean x && cleanL r
def cleanM : List (Bytes × JTree) → Bool
  | [] => true
  | (n, x) :: r => Utf8.valid n && clean x && cleanM r
end

theorem floatsOKL_iff (vs : List GoVal) : floatsOKL vs = true ↔ ∀ v ∈ vs, floatsOK v = true :=
  List.all_cons_iff rfl (fun _ _ => rfl) vs

theorem floatsOKM_iff (ms : List (Bytes × GoVal)) : floatsOKM ms = true ↔ ∀ k v, (k, v) ∈ ms → floatsOK v = true := by
  rw [List.all_cons_iff (p := fun a => floatsOK a.2) rfl (fun _ _ => rfl) ms, Prod.forall]

theorem namesUtf8F_iff (fs : List (Bytes × GoType)) :
    namesUtf8F fs = true ↔ ∀ n t, (n, t) ∈ fs → Utf8.valid n = true ∧ namesUtf8 t = true := by
  rw [List.all_cons_iff (p := fun a => Utf8.valid a.1 && namesUtf8 a.2) rfl (fun _ _ => rfl) fs]
  simp only [Prod.forall, Bool.and_eq_true]

theorem cleanL_iff (xs : List JTree) : cleanL xs = true ↔ ∀ x ∈ xs, clean x = true :=
  List.all_cons_iff rfl (fun _ _ => rfl) xs

theorem cleanM_iff (ms : List (Bytes × JTree)) :
    cleanM ms = true ↔ ∀ n x, (n, x) ∈ ms → Utf8.valid n = true ∧ clean x = true := by
  rw [List.all_cons_iff (p := fun a => Utf8.valid a.1 && clean a.2) rfl (fun _ _ => rfl) ms]
  simp only [Prod.forall, Bool.and_eq_true]

theorem time_intDigits_eq (i : Int) : Time.intDigits i = intDigits i := by
  unfold Time.intDigits intDigits
  split
  · rename_i h; rw [← natDigits_eq_time]
    have : (-i).toNat = i.natAbs := by omega
    rw [this]; rfl
  · exact (natDigits_eq_time _).symm

theorem numOK_nat (n : Nat) : numOK (Time.natDigits n) = true := by
  rw [← natDigits_eq_time]; simp [numOK, pNumber_natDigits]

theorem numOK_int (i : Int) : numOK (Time.intDigits i) = true := by
  rw [time_intDigits_eq]; simp [numOK, pNumber_intDigits]

theorem clean_nilSlice (o : MOpts) : clean (nilSliceTree o) = true := by unfold nilSliceTree; split <;> rfl
theorem clean_nilMap (o : MOpts) : clean (nilMapTree o) = true := by unfold nilMapTree; split <;> rfl

theorem clean_sorted {mem : List (Bytes × JTree)} (h : cleanM mem = true) : clean (.obj (sortMembers mem)) = true := by
  simp only [clean]
  rw [cleanM_iff] at h ⊢
  intro n x hm; exact h n x (mem_sortMembers.1 hm)

theorem clean_of_mar {o : MOpts} {T : GoType} {v : GoVal} {j : JTree} (h : Mar o T v j) (hn : namesUtf8 T = true)
    (hf : floatsOK v = true) : clean j = true := by
  induction h with
  | bool | str | nilPtr | nilIface => rfl
  | int w i => exact numOK_int i
  | uint w n => exact numOK_nat n
  | float l => exact hf
  | nilSlice => exact clean_nilSlice o
  | nilMap => exact clean_nilMap o
  | slice t es _ ih | array n t es _ ih =>
    simp only [floatsOK, floatsOKL_iff, List.forall_mem_map] at hf
    simp only [clean, cleanL_iff, List.forall_mem_map]
    exact fun e he => ih e he hn (hf e he)
  | map t es hk _ ih =>
    simp only [floatsOK, floatsOKM_iff] at hf
    refine clean_sorted ((cleanM_iff _).2 fun n x hm => ?_)
    obtain ⟨e, he, h⟩ := List.mem_map.1 hm
    cases h
    exact ⟨hk e he, ih e he hn (hf _ _ (List.mem_map_of_mem (f := fun e => (e.1, e.2.1)) he))⟩
  | ptr t w j _ ih => exact ih hn hf
  | iface T dv j hT _ ih => exact ih (by cases dv <;> cases hT <;> rfl) hf
  | struct es _ ih =>
    simp only [namesUtf8, namesUtf8F_iff] at hn
    simp only [floatsOK, floatsOKM_iff] at hf
    refine (cleanM_iff _).2 fun n x hm => ?_
    obtain ⟨e, he, h⟩ := List.mem_map.1 hm
    cases h
    have hn' := hn _ _ (List.mem_map_of_mem (f := fun e => (e.1, e.2.1)) he)
    exact ⟨hn'.1, ih e he hn'.2 (hf _ _ (List.mem_map_of_mem (f := fun e => (e.1, e.2.2.1)) he))⟩

theorem mar_clean (o : MOpts) : ∀ (T : GoType), namesUtf8 T = true → ∀ (v : GoVal) (j : JTree),
    floatsOK v = true → mar o T v = .ok j → clean j = true :=
  fun T hn v j hf h => clean_of_mar (Mar.of_ok o v T j h) hn hf

mutual
/-- The fragment tree of an L2 tree (the `else` branch is never taken for clean trees). -/
def toOut : JTree → OutTree
  | .null => .atom .null
  | .bool b => .atom (.bool b)
  | .num l => if h : pNumber l = some [] then .atom (.num l h) else .atom .null
  | .str s => .atom (.str s)
  | .arr xs => .arr (toOutL xs)
  | .obj ms => .obj (toOutM ms)
def toOutL : List JTree → List OutTree
  | [] => []
  | x :: r => toOut x :: toOutL r
def toOutM : List (Bytes × JTree) → List (Bytes × OutTree)
  | [] => []
  | (n, x) :: r => (n, toOut x) :: toOutM r
end

theorem names_toOutM : ∀ ms : List (Bytes × JTree), cleanM ms = true →
    ((toOutM ms).map fun m => JsonV.Spec.StringSpec.lossy m.1) = akeys ms
  | [], _ => rfl
  | (n, x) :: r, h => by
    simp only [cleanM, Bool.and_eq_true] at h
    simp only [toOutM, List.map_cons, akeys_cons, JsonV.Lemmas.QuoteMeaning.lossy_valid n h.1.1, names_toOutM r h.2]

mutual
theorem toOut_namesOK (noDup : Bool) : ∀ j : JTree, clean j = true → j.dupFree = true →
    (toOut j).NamesOK noDup JsonV.Spec.StringSpec.lossy
  | .null, _, _ => by simp [toOut, OutTree.NamesOK]
  | .bool _, _, _ => by simp [toOut, OutTree.NamesOK]
  | .num l, _, _ => by simp only [toOut]; split <;> simp [OutTree.NamesOK]
  | .str _, _, _ => by simp [toOut, OutTree.NamesOK]
  | .arr xs, hc, hd => by
    simp only [toOut, OutTree.NamesOK]
    exact toOutL_namesOK noDup xs (by simpa [clean] using hc) (by simpa [JTree.dupFree] using hd)
  | .obj ms, hc, hd => by
    simp only [clean] at hc
    simp only [JTree.dupFree, Bool.and_eq_true, nodupB_iff] at hd
    simp only [toOut, OutTree.NamesOK]
    refine ⟨toOutM_namesOK noDup ms hc hd.2, fun _ => ?_⟩
    rw [names_toOutM ms hc]; exact hd.1
theorem toOutL_namesOK (noDup : Bool) : ∀ xs : List JTree, cleanL xs = true → JTree.dupFreeL xs = true →
    namesOKList noDup JsonV.Spec.StringSpec.lossy (toOutL xs)
  | [], _, _ => by simp [toOutL, namesOKList]
  | x :: r, hc, hd => by
    simp only [cleanL, Bool.and_eq_true] at hc
    simp only [JTree.dupFreeL, Bool.and_eq_true] at hd
    simp only [toOutL, namesOKList]
    exact ⟨toOut_namesOK noDup x hc.1 hd.1, toOutL_namesOK noDup r hc.2 hd.2⟩
theorem toOutM_namesOK (noDup : Bool) : ∀ ms : List (Bytes × JTree), cleanM ms = true → JTree.dupFreeM ms = true →
    namesOKMembers noDup JsonV.Spec.StringSpec.lossy (toOutM ms)
  | [], _, _ => by simp [toOutM, namesOKMembers]
  | (n, x) :: r, hc, hd => by
    simp only [cleanM, Bool.and_eq_true] at hc
    simp only [JTree.dupFreeM, Bool.and_eq_true] at hd
    simp only [toOutM, namesOKMembers]
    exact ⟨toOut_namesOK noDup x hc.1.2 hd.1, toOutM_namesOK noDup r hc.2 hd.2⟩
end

/-- C02: the tree `mar` returns translates to a `WellFormed` fragment tree, for every option record whose key sends a quoted
name to the name with ill-formed bytes replaced (`hk`). -/
theorem l3_wellFormed (o : Opt) (quote : Bytes → Bytes) (hk : ∀ n, o.key (quote n) = JsonV.Spec.StringSpec.lossy n)
    (mo : MOpts) (T : GoType) (v : GoVal) (j : JTree) (hwf : T.wf = true) (hn : namesUtf8 T = true)
    (ht : hasType T v = true) (hf : floatsOK v = true) (h : mar mo T v = .ok j) :
    (toOut j).WellFormed o quote :=
  JsonV.Lemmas.EncInvNames.wf_of_namesOK o quote _ hk _
    (toOut_namesOK o.noDup j (mar_clean mo T hn v j hf h) (mar_dupFree_all mo T hwf v j ht h))

end JsonV.Lemmas.EncInvL3
