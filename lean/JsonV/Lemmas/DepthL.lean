/-
Lemmas for C20, token path: stack-length accounting of the state machine of Model/State.lean.
-/
import JsonV.Model.Depth
import JsonV.Lemmas.EncInvState

namespace JsonV.Lemmas.DepthL
open JsonV.Model JsonV.Model.Depth JsonV.Lemmas.EncInvState

theorem push_stack {max : Nat} {m m' : Machine} (h : m.pushArray max = .ok m' ∨ m.pushObject max = .ok m') :
    m.stack.length ≠ max ∧ m'.stack.length = m.stack.length + 1 := by
  rcases h with h | h
  · rw [pushArray_ok h]
    simp only [Machine.pushArray, guard_ok] at h
    exact ⟨h.2.2.1, List.length_append⟩
  · rw [pushObject_ok h]
    simp only [Machine.pushObject, guard_ok] at h
    exact ⟨h.2.2.1, List.length_append⟩

theorem pop_stack {m m' : Machine} (h : m.popArray = .ok m' ∨ m.popObject = .ok m') :
    m'.stack.length ≤ m.stack.length := by
  obtain ⟨x, -, rfl⟩ := h.elim (fun h => (popArray_ok h).2) fun h => (popObject_ok h).2
  exact List.length_dropLast ▸ Nat.sub_le _ _

theorem step_stack_le {max : Nat} {m m' : Machine} {op : Op} (h : step max m op = .ok m')
    (hm : m.stack.length ≤ max) : m'.stack.length ≤ max := by
  cases op <;> simp only [step] at h
  · rw [(scalar_step m m' (.inl h)).1]; exact hm
  · rw [(scalar_step m m' (.inr (.inl h))).1]; exact hm
  · rw [(scalar_step m m' (.inr (.inr h))).1]; exact hm
  · have := push_stack (.inr h); omega
  · exact Nat.le_trans (pop_stack (.inr h)) hm
  · have := push_stack (.inl h); omega
  · exact Nat.le_trans (pop_stack (.inl h)) hm
  · cases h; exact hm
  · cases h; simpa [Machine.invalidateDisabledNamespaces] using hm

theorem reach_stack_le {max : Nat} {m : Machine} (h : Reach max m) : m.stack.length ≤ max := by
  induction h with
  | init => simp [Machine.init]
  | step op _ hs ih => exact step_stack_le hs ih

theorem run_preserves {P : Machine → Prop} {max : Nat}
    (hstep : ∀ {m m' : Machine} (op : Op), step max m op = .ok m' → P m → P m') (ops : List Op) (m : Machine) (hm : P m) :
    P (run max ops m) := by
  induction ops generalizing m with
  | nil => exact hm
  | cons op ops ih =>
    simp only [run]
    split
    · next m' h => exact ih m' (hstep op h hm)
    · exact ih m hm

theorem run_stack_le (max : Nat) (ops : List Op) (m : Machine) (hm : m.stack.length ≤ max) :
    (run max ops m).stack.length ≤ max :=
  run_preserves (fun _ => step_stack_le) ops m hm

theorem run_reach (max : Nat) (ops : List Op) (m : Machine) (hm : Reach max m) : Reach max (run max ops m) :=
  run_preserves (fun op h hm => Reach.step op hm h) ops m hm

/-- `pushArray` and `pushObject` run the same three tests before they push -/
theorem push_verdict (n v : Bool) (l max : Nat) (x : Machine) :
    let r : Except SMErr Machine :=
      if n then .error .nonStringName else if !v then .error .invalidNamespace
      else if l = max then .error .maxDepth else .ok x
    (r = .error .maxDepth ↔ n = false ∧ v = true ∧ l = max) ∧
    ((∃ m', r = .ok m') ↔ n = false ∧ v = true ∧ l ≠ max) := by
  cases n <;> cases v <;> by_cases h : l = max <;> simp [h]

theorem pushArray_maxDepth_iff (max : Nat) (m : Machine) :
    m.pushArray max = .error .maxDepth ↔
      (m.last.needObjectName = false ∧ m.last.isValidNamespace = true ∧ m.stack.length = max) :=
  (push_verdict _ _ _ _ _).1

theorem pushObject_maxDepth_iff (max : Nat) (m : Machine) :
    m.pushObject max = .error .maxDepth ↔
      (m.last.needObjectName = false ∧ m.last.isValidNamespace = true ∧ m.stack.length = max) :=
  (push_verdict _ _ _ _ _).1

theorem pushArray_ok_iff (max : Nat) (m : Machine) :
    (∃ m', m.pushArray max = .ok m') ↔
      (m.last.needObjectName = false ∧ m.last.isValidNamespace = true ∧ m.stack.length ≠ max) :=
  (push_verdict _ _ _ _ _).2

theorem pushObject_ok_iff (max : Nat) (m : Machine) :
    (∃ m', m.pushObject max = .ok m') ↔
      (m.last.needObjectName = false ∧ m.last.isValidNamespace = true ∧ m.stack.length ≠ max) :=
  (push_verdict _ _ _ _ _).2

/-- the current container was just opened (or is the top level after reset) -/
def Fresh (m : Machine) : Prop := m.last = Entry.typeArray ∨ m.last = Entry.typeObject

theorem arr_needName : Entry.needObjectName Entry.typeArray = false := by decide
theorem arr_valid : Entry.isValidNamespace Entry.typeArray = true := by decide
theorem obj_needName : Entry.needObjectName Entry.typeObject = true := by decide
theorem obj_valid : Entry.isValidNamespace Entry.typeObject = true := by decide
theorem objInc_needName : Entry.needObjectName (Entry.increment Entry.typeObject) = false := by decide
theorem objInc_valid : Entry.isValidNamespace (Entry.increment Entry.typeObject) = true := by decide

theorem fresh_init : Fresh Machine.init := Or.inl rfl

theorem ready_of_fresh {m : Machine} (hf : Fresh m) :
    ∃ m1, (if m.last.needObjectName then m.appendString else .ok m) = .ok m1 ∧
      m1.stack = m.stack ∧ m1.last.needObjectName = false ∧ m1.last.isValidNamespace = true := by
  rcases hf with h | h
  · refine ⟨m, ?_, rfl, ?_, ?_⟩
    · simp [h, arr_needName]
    · simp [h, arr_needName]
    · simp [h, arr_valid]
  · refine ⟨{ m with last := m.last.increment }, ?_, rfl, ?_, ?_⟩
    · simp [h, obj_needName, Machine.appendString, obj_valid]
    · simp [h, objInc_needName]
    · simp [h, objInc_valid]

theorem pushKind_ok {max : Nat} {m : Machine} (k : Bool) (hf : Fresh m) (hl : m.stack.length ≠ max) :
    ∃ m', pushKind max k m = .ok m' ∧ m'.stack.length = m.stack.length + 1 ∧ Fresh m' := by
  obtain ⟨m1, h1, hs, hn, hv⟩ := ready_of_fresh hf
  unfold pushKind
  rw [h1]
  cases k
  · refine ⟨{ stack := m1.stack ++ [m1.last.increment], last := Entry.typeArray }, ?_, ?_, Or.inl rfl⟩
    · simp [Machine.pushArray, hn, hv, hs, hl]
    · simp [hs]
  · refine ⟨{ stack := m1.stack ++ [m1.last.increment], last := Entry.typeObject }, ?_, ?_, Or.inr rfl⟩
    · simp [Machine.pushObject, hn, hv, hs, hl]
    · simp [hs]

theorem pushKind_full {max : Nat} {m : Machine} (k : Bool) (hf : Fresh m) (hl : m.stack.length = max) :
    pushKind max k m = .error .maxDepth := by
  obtain ⟨m1, h1, hs, hn, hv⟩ := ready_of_fresh hf
  unfold pushKind
  rw [h1]
  cases k
  · simp [Machine.pushArray, hn, hv, hs, hl]
  · simp [Machine.pushObject, hn, hv, hs, hl]

theorem pushes_ok (max : Nat) (ks : List Bool) (m : Machine) (hf : Fresh m)
    (hl : m.stack.length + ks.length ≤ max) :
    ∃ m', pushes max ks m = .ok m' ∧ m'.stack.length = m.stack.length + ks.length ∧ Fresh m' := by
  induction ks generalizing m with
  | nil => exact ⟨m, rfl, by simp, hf⟩
  | cons k ks ih =>
    simp only [List.length_cons] at hl
    obtain ⟨m1, h1, hlen, hf1⟩ := pushKind_ok (max := max) k hf (by omega)
    obtain ⟨m2, h2, hlen2, hf2⟩ := ih m1 hf1 (by omega)
    refine ⟨m2, ?_, ?_, hf2⟩
    · simp [pushes, h1, h2]
    · simp only [List.length_cons]; omega

theorem pushes_refused (max : Nat) (ks : List Bool) (m : Machine) (hf : Fresh m)
    (hm : m.stack.length ≤ max) (hl : max < m.stack.length + ks.length) :
    pushes max ks m = .error .maxDepth := by
  induction ks generalizing m with
  | nil => simp at hl; omega
  | cons k ks ih =>
    simp only [List.length_cons] at hl
    by_cases hfull : m.stack.length = max
    · simp [pushes, pushKind_full k hf hfull]
    · obtain ⟨m1, h1, hlen, hf1⟩ := pushKind_ok (max := max) k hf hfull
      have := ih m1 hf1 (by omega) (by omega)
      simp [pushes, h1, this]

theorem pushes_ok_iff (max : Nat) (ks : List Bool) (m : Machine) (hf : Fresh m) (hm : m.stack.length ≤ max) :
    (∃ m', pushes max ks m = .ok m') ↔ m.stack.length + ks.length ≤ max := by
  refine ⟨fun ⟨m', h⟩ => Nat.le_of_not_lt fun hl => ?_, fun hl => (pushes_ok max ks m hf hl).imp fun _ h => h.1⟩
  rw [pushes_refused max ks m hf hm hl] at h; cases h

end JsonV.Lemmas.DepthL
