/-
"The fuel suffices": with `fuelFor b = 3 * |b| + 4` the validator of Model/Validate.lean never runs out of
fuel, so the artificial class `Err.fuel` is never observed (a component of completeness).  `Bad` collects the two
classes (`fuel`, `ioEOF`) that nothing below the top level returns; the token-path files use it too.  With that, from
`readValueTop_ioeof` on: the stream recogniser is sound (`stream_sound'`).
-/
import JsonV.Lemmas.WireValue

namespace JsonV.Lemmas.WireFuel
open JsonV JsonV.Model JsonV.Model.Wire JsonV.Model.Validate JsonV.Spec.Grammar
open JsonV.Lemmas.WireBasic JsonV.Lemmas.WireNumber JsonV.Lemmas.WireString JsonV.Lemmas.WireValue

/-- the two artificial / top-level-only classes no scanner and no recogniser below the top level ever returns -/
def Bad (e : Err) : Prop := e = .fuel ∨ e = .ioEOF

instance (e : Err) : Decidable (Bad e) := by unfold Bad; infer_instance

-- every `simp` below decides `Bad e` for a concrete class `e` through this
attribute [local simp] Bad

theorem stringLoop_no_fuel (v : Bool) (fuel : Nat) : ∀ r : Bytes, r.length + 1 ≤ fuel → ¬ Bad (stringLoop v fuel r).2.2 := by
  induction fuel with
  | zero => intro r h; omega
  | succ fuel ih =>
    intro r hf
    simp only [stringLoop]
    have hspec := stringStep_spec v r
    cases hs : stringStep v r with
    | stop k f e =>
      rw [hs] at hspec
      rcases hspec with ⟨-, rfl, -⟩ | ⟨-, rfl | rfl | rfl | rfl⟩ <;> simp
    | cont k f =>
      rw [hs] at hspec
      obtain ⟨hk1, hk2, -⟩ := hspec
      have := ih (r.drop k) (by simp; omega)
      rcases hl : stringLoop v fuel (r.drop k) with ⟨n, f', e⟩
      rw [hl] at this
      simp only [hl]
      simpa using this

theorem valueString_no_fuel (o : VOpts) (r : Bytes) : ¬ Bad (valueString o r).2.2 := by
  rw [valueString_eq_consumeString]
  cases r with
  | nil => simp [consumeString, consumeStringResumable]
  | cons c r1 =>
    rw [consumeString_cons]
    split
    · exact stringLoop_no_fuel (!o.allowInvalidUTF8) (r1.length + 1) r1 (Nat.le_refl _)
    · simp

theorem valueLiteral_no_fuel (lit r : Bytes) : ¬ Bad (valueLiteral lit r).2 := by
  unfold valueLiteral
  simp only
  split
  · simp
  · rcases literal_class r lit with h | h | h <;> rw [h] <;> simp

theorem valueNumber_no_fuel (r : Bytes) : ¬ Bad (valueNumber r).2 := by
  rcases valueNumber_eq r with ⟨h, -⟩ | ⟨-, h⟩ <;> rw [h]
  · rcases good_class _ _ _ _ (good_consumeNumber r) with h | h | h <;> rw [h] <;> simp
  · simp

/-- with `3·|r| + 1` fuel `consumeValue` returns no `Bad` class on `r`: the fuel suffices, and io.EOF is the top level's -/
def FV (o : VOpts) (fuel : Nat) : Prop := ∀ d (r : Bytes), 3 * r.length + 1 ≤ fuel → ¬ Bad (consumeValue o fuel d r).2
/-- `FV` for `consumeArray`, which its caller gives one unit less -/
def FA (o : VOpts) (fuel : Nat) : Prop := ∀ d (r : Bytes), r ≠ [] → 3 * r.length ≤ fuel → ¬ Bad (consumeArray o fuel d r).2
/-- `FV` for `arrayLoop`: one unit per round on top of what the value in it needs -/
def FL (o : VOpts) (fuel : Nat) : Prop := ∀ d (r : Bytes), 3 * r.length + 2 ≤ fuel → ¬ Bad (arrayLoop o fuel d r).2
/-- `FA` for `consumeObject` -/
def FO (o : VOpts) (fuel : Nat) : Prop := ∀ d (r : Bytes), r ≠ [] → 3 * r.length ≤ fuel → ¬ Bad (consumeObject o fuel d r).2
/-- `FL` for `objectLoop`, whatever names it has stored -/
def FOL (o : VOpts) (fuel : Nat) : Prop := ∀ d names (r : Bytes), 3 * r.length + 2 ≤ fuel → ¬ Bad (objectLoop o fuel d names r).2

theorem valueThen_no_fuel (o : VOpts) (fuel depth : Nat) (close : UInt8) (base : Nat) (r : Bytes) (next : Bytes → Nat × Err)
    (hv : FV o fuel) (hf : 3 * r.length + 1 ≤ fuel) (hn : ∀ rf : Bytes, rf.length < r.length → ¬ Bad (next rf).2) :
    ¬ Bad (valueThen o fuel depth close base r next).2 := by
  have h := valueThen_spec o fuel depth close base r next
  generalize valueThen o fuel depth close base r next = res at h ⊢
  cases h with
  | eof | eof2 | close | other => simp
  | bad c rd k e hd hcv =>
    have h1 := len_of_drop _ _ _ _ hd
    have := hv depth (c :: rd) (by simp; omega)
    rwa [hcv] at this
  | comma c rd k rf n' e' hd _ hd2 hnx =>
    have h1 := len_of_drop _ _ _ _ hd
    have h2 := len_of_drop _ _ _ _ hd2
    simp only [List.length_drop, List.length_cons] at h2
    have := hn rf (by omega)
    rwa [hnx] at this

theorem fl_step (o : VOpts) (fuel : Nat) (hv : FV o fuel) (hl : FL o fuel) : FL o (fuel + 1) := by
  intro d r hf
  rw [arrayLoop_succ]
  exact valueThen_no_fuel o fuel d _ _ r _ hv (by omega) fun rf hlt => hl d rf (by omega)

theorem bracketThen_no_fuel (depth : Nat) (close : UInt8) (r : Bytes) (loop : Bytes → Nat × Err) (hne : r ≠ [])
    (hl : ∀ q : Bytes, q.length < r.length → ¬ Bad (loop q).2) : ¬ Bad (bracketThen depth close r loop).2 := by
  cases r with
  | nil => exact absurd rfl hne
  | cons b r1 =>
    rcases bracketThen_cases depth close b r1 loop with ⟨-, h⟩ | ⟨-, ⟨-, h⟩ | ⟨c, rest, hd, ⟨-, h⟩ | ⟨-, h⟩⟩⟩ <;> rw [h]
    · simp
    · simp
    · simp
    · have := len_of_drop _ _ _ _ hd
      simpa [addOff] using hl (c :: rest) (by simp; omega)

theorem fa_step (o : VOpts) (fuel : Nat) (hl : FL o fuel) : FA o (fuel + 1) := by
  intro d r hne hf
  rw [consumeArray_succ]
  exact bracketThen_no_fuel _ _ r _ hne fun q hq => hl (d + 1) q (by omega)

theorem fol_step (o : VOpts) (fuel : Nat) (hv : FV o fuel) (hl : FOL o fuel) : FOL o (fuel + 1) := by
  intro d names r hf
  rw [objectLoop_nameThen]
  have h := nameThen_spec o names r fun base names' rc => valueThen o fuel d 0x7D base rc (objectLoop o fuel d names')
  generalize nameThen o names r _ = res at h ⊢
  cases h with
  | eof | dup | eof2 | noColon => simp
  | bad c0 ra0 n fl e _ hs => have := valueString_no_fuel o (c0 :: ra0); rwa [hs] at this
  | name c0 ra0 n fl rc res h hs _ h2 hk =>
    subst hk
    have h1 : rc.length < r.length := by
      have := congrArg List.length h2
      have := congrArg List.length h
      simp only [List.length_drop, List.length_cons] at *
      omega
    exact valueThen_no_fuel o fuel d _ _ rc _ hv (by omega) fun rf hlt => hl d _ rf (by omega)

theorem fo_step (o : VOpts) (fuel : Nat) (hl : FOL o fuel) : FO o (fuel + 1) := by
  intro d r hne hf
  rw [consumeObject_succ]
  exact bracketThen_no_fuel _ _ r _ hne fun q hq => hl (d + 1) [] q (by omega)

theorem fv_step (o : VOpts) (fuel : Nat) (ha : FA o fuel) (hob : FO o fuel) : FV o (fuel + 1) := by
  intro d r hf
  cases r with
  | nil => simp [consumeValue]
  | cons c rest =>
    rcases consumeValue_cases o fuel d c rest with he | he | he | he | he | ⟨-, he⟩ | ⟨-, he⟩ | he | he <;> rw [he]
    · exact valueLiteral_no_fuel _ _
    · exact valueLiteral_no_fuel _ _
    · exact valueLiteral_no_fuel _ _
    · exact valueString_no_fuel o (c :: rest)
    · exact valueNumber_no_fuel _
    · exact hob d (c :: rest) (by simp) (by simp at hf ⊢; omega)
    · exact ha d (c :: rest) (by simp) (by simp at hf ⊢; omega)
    · simp
    · simp

theorem no_fuel_all (o : VOpts) (fuel : Nat) : FV o fuel ∧ FA o fuel ∧ FL o fuel ∧ FO o fuel ∧ FOL o fuel := by
  induction fuel with
  | zero =>
    refine ⟨?_, ?_, ?_, ?_, ?_⟩
    · intro d r h; omega
    · intro d r hne h; cases r <;> simp_all
    · intro d r h; omega
    · intro d r hne h; cases r <;> simp_all
    · intro d names r h; omega
  | succ fuel ih =>
    obtain ⟨h1, h2, h3, h4, h5⟩ := ih
    exact ⟨fv_step o fuel h2 h4, fa_step o fuel h3, fl_step o fuel h1 h3, fo_step o fuel h5, fol_step o fuel h1 h5⟩

theorem not_bad_fuel {e : Err} (h : ¬ Bad e) : e ≠ .fuel := fun he => h (Or.inl he)
theorem not_bad_ioeof {e : Err} (h : ¬ Bad e) : e ≠ .ioEOF := fun he => h (Or.inr he)

theorem readValueTop_no_fuel (o : VOpts) (fuel : Nat) (b : Bytes) (hf : 3 * b.length + 1 ≤ fuel) :
    (readValueTop o fuel b).2 ≠ .fuel := by
  rcases readValueTop_cases o fuel b with ⟨-, h⟩ | ⟨c, rest, hdrop, ⟨-, h⟩ | h⟩ <;> rw [h]
  · simp
  · simp
  · have h1 := len_of_drop _ _ _ _ hdrop
    exact not_bad_fuel ((no_fuel_all o fuel).1 1 (c :: rest) (by simp; omega))

theorem validText_no_fuel (o : VOpts) (b : Bytes) : (validText o b).2 ≠ .fuel := by
  unfold validText
  have hr := readValueTop_no_fuel o (fuelFor b) b (by simp only [fuelFor]; omega)
  rcases hx : readValueTop o (fuelFor b) b with ⟨n, e⟩
  rw [hx] at hr
  simp only
  split
  · simpa using hr
  · split <;> simp

protected theorem jws_of_drop_nil (r : Bytes) (h : r.drop (consumeWhitespace r) = []) : JWs r :=
  WireBasic.jws_of_drop_nil r h

theorem readValueTop_ioeof (o : VOpts) (fuel : Nat) (r : Bytes) (n : Nat) (hf : 3 * r.length + 1 ≤ fuel)
    (h : readValueTop o fuel r = (n, .ioEOF)) : JWs r := by
  rcases readValueTop_cases o fuel r with ⟨hdrop, -⟩ | ⟨c, rest, hdrop, ⟨-, h'⟩ | h'⟩
  · exact jws_of_drop_nil r hdrop
  · rw [h'] at h; cases h
  · have h1 := len_of_drop _ _ _ _ hdrop
    refine absurd ?_ (not_bad_ioeof ((no_fuel_all o fuel).1 1 (c :: rest) (by simp; omega)))
    rw [h'] at h
    exact congrArg Prod.snd h

theorem streamLoop_sound (o : VOpts) (vfuel : Nat) (fuel : Nat) : ∀ (r : Bytes) (cnt base cnt' off : Nat),
    3 * r.length + 1 ≤ vfuel → streamLoop o vfuel fuel r cnt base = (cnt', off, .ioEOF) →
    JStream (G o) maxNestingDepth (nameKey o) r := by
  induction fuel with
  | zero => intro r cnt base cnt' off _ h; cases h
  | succ fuel ih =>
    intro r cnt base cnt' off hv h
    rcases hr : readValueTop o vfuel r with ⟨n, e⟩
    by_cases he : e = .ok
    · subst he
      rw [streamLoop_ok hr] at h
      obtain ⟨hn, w, v, hw, hjv, htake, hmax⟩ := readValueTop_ok_max o vfuel r n hr
      have := ih (r.drop n) _ _ _ _ (fuel_suffix (List.drop_suffix n r) hv) h
      rw [← List.take_append_drop n r, htake]
      exact JStream.next w v _ hw hjv hmax this
    · rw [streamLoop_err hr he] at h
      cases h
      exact JStream.done r (readValueTop_ioeof o vfuel r n hv hr)

theorem stream_sound' (o : VOpts) (b : Bytes) (cnt off : Nat) (h : stream o b = (cnt, off, .ioEOF)) :
    JStream (G o) maxNestingDepth (nameKey o) b :=
  streamLoop_sound o (fuelFor b) (b.length + 1) b 0 0 cnt off (by simp only [fuelFor]; omega) h

theorem streamLoop_mono (o : VOpts) (vfuel : Nat) : ∀ (fuel : Nat) (r : Bytes) (cnt base : Nat),
    cnt ≤ (streamLoop o vfuel fuel r cnt base).1 := by
  intro fuel
  induction fuel with
  | zero => intro r cnt base; exact Nat.le_refl _
  | succ fuel ih =>
    intro r cnt base
    rcases hr : readValueTop o vfuel r with ⟨n, e⟩
    by_cases he : e = .ok
    · subst he; rw [streamLoop_ok hr]; exact Nat.le_trans (Nat.le_succ _) (ih _ _ _)
    · rw [streamLoop_err hr he]; exact Nat.le_refl _

theorem isValid_stream (o : VOpts) (b : Bytes) :
    isValid o b = ((stream o b).1 == 1 && (stream o b).2.2 == .ioEOF) := by
  unfold isValid validText stream
  rcases hrv : readValueTop o (fuelFor b) b with ⟨n, e⟩
  by_cases he : e ≠ .ok
  · rw [streamLoop_err hrv he]
    simp [he]
  obtain rfl : e = .ok := Decidable.not_not.1 he
  obtain ⟨hn0, hn⟩ := readValueTop_pos hrv
  obtain ⟨f, hf⟩ : ∃ f, b.length = f + 1 := ⟨b.length - 1, by omega⟩
  rw [streamLoop_ok hrv, hf]
  simp only [bne_self_eq_false, Bool.false_eq_true, if_false]
  -- what is left after the value: blanks only, or something that `IsValid` refuses and the loop reads or refuses
  rcases hrv2 : readValueTop o (fuelFor b) (b.drop n) with ⟨n2, e2⟩
  by_cases he2 : e2 = .ok
  · subst he2
    obtain ⟨c, rest, k, hd, -, -⟩ := readValueTop_ok_inv hrv2
    have := streamLoop_mono o (fuelFor b) f ((b.drop n).drop n2) (0 + 1 + 1) (0 + n + n2)
    rw [streamLoop_ok hrv2, hd, (beq_eq_false_iff_ne (b := 1)).2 (by omega)]
    rfl
  · rw [streamLoop_err hrv2 he2]
    cases hd : (b.drop n).drop (consumeWhitespace (b.drop n)) with
    | nil =>
      rcases readValueTop_cases o (fuelFor b) (b.drop n) with ⟨-, h'⟩ | ⟨c, rest, hd', -⟩
      · rw [hrv2] at h'; cases h'; rfl
      · rw [hd] at hd'; cases hd'
    | cons c rest =>
      have : e2 ≠ .ioEOF := fun h => by
        subst h
        have := readValueTop_ioeof o (fuelFor b) (b.drop n) n2
          (fuel_suffix (List.drop_suffix n b) (Nat.le_add_right _ 3)) hrv2
        exact ws_stop _ c rest hd (this c (by rw [← List.take_append_drop (consumeWhitespace (b.drop n)) (b.drop n), hd]; simp))
      exact (beq_eq_false_iff_ne.2 this).symm

end JsonV.Lemmas.WireFuel
