/-
The invariant behind avoidFlush and the omitempty cycle
"write name, write an empty value, UnwriteEmptyObjectMember".
-/
import JsonV.Lemmas.FlushUnwrite
import JsonV.Lemmas.FlushRun

namespace JsonV.Model.Flush
open JsonV

/-- A byte at which the backwards scans of UnwriteEmptyObjectMember stop: not whitespace, not a comma, not a
backslash.  `{`, `[`, `}`, `]` are such bytes. -/
def OpenerLike (o : UInt8) : Prop := isWs o = false ∧ o ≠ 0x2c ∧ o ≠ 0x5c

theorem stack_ne_nil_of_obj {e : Enc} (hb : bottomIsObj e.last e.stack = false) (ho : e.last.isObj = true) :
    e.stack ≠ [] := by
  intro hs
  rw [hs, bottomIsObj, ho] at hb
  cases hb

/-- The invariant that avoidFlush's first case ("never flush after BeginObject or BeginArray") maintains:
directly after an opening token the opening byte is still in the buffer. -/
structure Inv (e : Enc) : Prop where
  bottom : bottomIsObj e.last e.stack = false
  opened : e.last.len = 0 → e.stack ≠ [] → ∃ b o, e.buf = b ++ [o] ∧ OpenerLike o

theorem inv_init (omitNL : Bool) : Inv { omitNL := omitNL } :=
  ⟨rfl, fun _ h => absurd rfl h⟩

theorem memberSep_of_inv {e : Enc} (h : Inv e) (hn : e.last.needName = true) {t : Tok} (hc : t.isClose = false) :
    MemberSep e.buf (delim e.last e.stack t) := by
  have hst := stack_ne_nil_of_obj h.bottom (needName_isObj hn).1
  rw [delim_of_needName hn hst hc]
  by_cases h0 : e.last.len = 0
  · obtain ⟨b, o, hb, ho⟩ := h.opened h0 hst
    rw [if_pos h0, hb]; exact .first b o ho.1 ho.2.1 ho.2.2
  · rw [if_neg h0]; exact .comma _

theorem avoidFlush_of_len0 {e : Enc} (h : e.last.len = 0) : avoidFlush e = true := by
  simp [avoidFlush, h]

theorem avoidFlush_of_needValue {e : Enc} (h : e.last.needValue = true) : avoidFlush e = true := by
  simp [avoidFlush, h]

theorem inv_flush {e : Enc} (h : Inv e) (a : WAct) : Inv (flush e a) := by
  cases hav : avoidFlush e
  · refine ⟨by simpa using h.bottom, ?_⟩
    intro hl
    rw [flush_last] at hl
    rw [avoidFlush_of_len0 hl] at hav; cases hav
  · rw [flush_of_avoid hav]; exact h

theorem inv_write {e e' : Enc} {t : Tok} {ws : Bytes} (h : Inv e) (hw : write e t ws = some e') : Inv e' := by
  obtain ⟨l, st, hf, rfl⟩ := write_some hw
  refine ⟨hf.bottom h.bottom, fun hl _ => ?_⟩
  have ends : ∀ c : UInt8, OpenerLike c → t.text = [c] →
      ∃ b o, e.buf ++ delim e.last e.stack t ++ ws ++ t.text = b ++ [o] ∧ OpenerLike o :=
    fun c hc ht => ⟨_, c, by rw [ht], hc⟩
  cases hf with
  | scalar | str => cases hl
  | openObj => exact ends 0x7b (by simp [OpenerLike, isWs]) rfl
  | openArr => exact ends 0x5b (by simp [OpenerLike, isWs]) rfl
  | closeObj => exact ends 0x7d (by simp [OpenerLike, isWs]) rfl
  | closeArr => exact ends 0x5d (by simp [OpenerLike, isWs]) rfl

theorem inv_step_tok {e : Enc} (h : Inv e) (t : Tok) (ws : Bytes) (s : Sched) : Inv (step e (.tok t ws) s) := by
  cases hw : write e t ws with
  | none => rw [step_tok_none hw]; exact h
  | some e' =>
    rcases step_tok_cases hw s with h' | ⟨_, h'⟩ <;> rw [h']
    · exact inv_flush (inv_write h hw) _
    · exact inv_write h hw

theorem step_tok_of_avoid {e e' : Enc} {t : Tok} {ws : Bytes} (hw : write e t ws = some e')
    (hav : avoidFlush e' = true) (s : Sched) : step e (.tok t ws) s = e' := by
  rcases step_tok_cases hw s with h | ⟨_, h⟩ <;> rw [h]
  exact flush_of_avoid hav _

theorem even_succ_succ {k : Nat} (h : k % 2 = 0) : (k + 1) % 2 = 1 ∧ (k + 2) % 2 = 0 := by omega

theorem step_name (dl bf : Bytes) (k : Nat) (st : List Frame) (nl : Bool) (hk : k % 2 = 0)
    (name ws1 : Bytes) (s : Sched) :
    step ⟨dl, bf, ⟨true, k⟩, st, nl⟩ (.tok (.str name) ws1) s =
      ⟨dl, bf ++ delim ⟨true, k⟩ st (.str name) ++ ws1 ++ (0x22 :: name ++ [0x22]), ⟨true, k + 1⟩, st, nl⟩ := by
  refine step_tok_of_avoid (write_of_fstep (.str name) ws1) ?_ s
  exact avoidFlush_of_needValue (by simp [Frame.needValue, Frame.inc, (even_succ_succ hk).1])

theorem endsEmptyR_of_emptyText {val : Bytes} (hv : EmptyText val) (r : List UInt8) :
    endsEmptyR (val.reverse ++ r) = true := by
  cases hv <;> simp [endsEmptyR]

theorem avoidFlush_of_endsEmptyR {e : Enc} (hn : e.last.needName = true) (hl : e.last.len ≠ 0)
    (he : endsEmptyR e.buf.reverse = true) : avoidFlush e = true := by
  obtain ⟨ho, hk⟩ := needName_isObj hn
  have h2 : 2 ≤ e.buf.length := by
    rw [← List.length_reverse]
    match e.buf.reverse, he with
    | _ :: _ :: _, _ => simp
  simp [avoidFlush, Frame.needValue, Frame.needName, ho, hk, hl, he, h2]

theorem avoid_after_empty (dl pre val : Bytes) (k : Nat) (st : List Frame) (nl : Bool) (hk : k % 2 = 0) (hk0 : k ≠ 0)
    (hv : EmptyText val) : avoidFlush ⟨dl, pre ++ val, ⟨true, k⟩, st, nl⟩ = true :=
  avoidFlush_of_endsEmptyR (by simp [Frame.needName, hk]) hk0
    (by rw [List.reverse_append]; exact endsEmptyR_of_emptyText hv _)

theorem step_scalar_value (dl bf : Bytes) (k : Nat) (st : List Frame) (nl : Bool) (hk : k % 2 = 0)
    (t : Tok) (ht : t = .scalar [0x6e, 0x75, 0x6c, 0x6c] ∨ t = .str []) (ws2 : Bytes) (s : Sched) :
    step ⟨dl, bf, ⟨true, k + 1⟩, st, nl⟩ (.tok t ws2) s =
      ⟨dl, bf ++ [0x3a] ++ ws2 ++ t.text, ⟨true, k + 2⟩, st, nl⟩ := by
  obtain ⟨h1, h2⟩ := even_succ_succ hk
  have hf : FStep ⟨true, k + 1⟩ st t ⟨true, k + 2⟩ st := by
    rcases ht with rfl | rfl
    · exact .scalar _ (by simp [Frame.needName, h1])
    · exact .str _
  have hv : EmptyText t.text := by rcases ht with rfl | rfl <;> constructor
  have hw := write_of_fstep (e := ⟨dl, bf, ⟨true, k + 1⟩, st, nl⟩) hf ws2
  rw [delim_of_needValue (l := ⟨true, k + 1⟩) (by simp [Frame.needValue, h1])] at hw
  exact step_tok_of_avoid hw (avoid_after_empty dl (bf ++ [0x3a] ++ ws2) t.text (k + 2) st nl h2 (by omega) hv) s

/-- Both flush opportunities are suppressed: by avoidFlush's first case after the opening token, by its third after the
closing one. -/
theorem step_compound_value (dl bf : Bytes) (k : Nat) (st : List Frame) (nl : Bool) (hk : k % 2 = 0)
    (isObj : Bool) (ws2 : Bytes) (s₁ s₂ : Sched) :
    let o : Tok := if isObj then .openObj else .openArr
    let c : Tok := if isObj then .closeObj else .closeArr
    step (step ⟨dl, bf, ⟨true, k + 1⟩, st, nl⟩ (.tok o ws2) s₁) (.tok c []) s₂ =
      ⟨dl, bf ++ [0x3a] ++ ws2 ++ (o.text ++ c.text), ⟨true, k + 2⟩, st, nl⟩ := by
  obtain ⟨h1, h2⟩ := even_succ_succ hk
  intro o c
  have hv : EmptyText (o.text ++ c.text) := by
    cases isObj
    · exact EmptyText.arr
    · exact EmptyText.obj
  have hf : FStep ⟨true, k + 1⟩ st o ⟨isObj, 0⟩ (⟨true, k + 2⟩ :: st) := by
    cases isObj
    · exact .openArr (by simp [Frame.needName, h1])
    · exact .openObj (by simp [Frame.needName, h1])
  have hf2 : FStep ⟨isObj, 0⟩ (⟨true, k + 2⟩ :: st) c ⟨true, k + 2⟩ st := by
    cases isObj
    · exact .closeArr rfl rfl
    · exact .closeObj rfl rfl rfl
  have hw := write_of_fstep (e := ⟨dl, bf, ⟨true, k + 1⟩, st, nl⟩) hf ws2
  rw [delim_of_needValue (l := ⟨true, k + 1⟩) (by simp [Frame.needValue, h1])] at hw
  rw [step_tok_of_avoid hw (avoidFlush_of_len0 rfl) s₁]
  have hw2 := write_of_fstep (e := ⟨dl, bf ++ [0x3a] ++ ws2 ++ o.text, ⟨isObj, 0⟩, ⟨true, k + 2⟩ :: st, nl⟩) hf2 []
  rw [delim_close (by cases isObj <;> rfl) (by cases isObj <;> rfl)] at hw2
  have hav := avoid_after_empty dl (bf ++ [0x3a] ++ ws2) (o.text ++ c.text) (k + 2) st nl h2 (by omega) hv
  refine step_tok_of_avoid (hw2.trans (congrArg some ?_)) hav s₂
  simp only [List.append_nil, List.append_assoc]

theorem unwrite_after_member (dl bf : Bytes) (k : Nat) (st : List Frame) (nl : Bool) (hk : k % 2 = 0)
    (sep ws1 name ws2 val : Bytes) (h2 : WsOnly ws2) (h1 : WsOnly ws1) (hn : QuotesEscaped name)
    (hs : MemberSep bf sep) (hv : EmptyText val) :
    unwriteEmpty ⟨dl, bf ++ sep ++ ws1 ++ (0x22 :: name ++ [0x22]) ++ [0x3a] ++ ws2 ++ val, ⟨true, k + 2⟩, st, nl⟩ =
      (⟨dl, bf, ⟨true, k⟩, st, nl⟩, true) := by
  have h2' := (even_succ_succ hk).2
  have hb := unwriteEmptyBytes_member bf sep ws1 name ws2 val h2 h1 hn hs hv
  simp at hb
  simp [unwriteEmpty, Frame.needName, h2', hb]

end JsonV.Model.Flush
