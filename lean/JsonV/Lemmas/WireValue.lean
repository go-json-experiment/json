/-
The value-path validator (Model/Validate.lean) in the form every proof about it uses, and its soundness w.r.t. the grammar `JValue`
(Spec/Grammar.lean).  The form: the fast paths never change an answer; the dispatch of `consumeValue` on the first byte; one round
of each loop as a phase function with every way it can end (see below); the cases of the top-level read; one round of `streamLoop`.
Soundness (`sound_all`, `readValueTop_ok_max`, `validText_sound`): whatever is accepted is a value of the grammar instance selected
by the options (nesting ≤ maxNestingDepth, and, unless duplicates are allowed, member names pairwise different after unescaping).
-/
import JsonV.Model.Validate
import JsonV.Spec.Grammar
import JsonV.Lemmas.WireBasic
import JsonV.Lemmas.WireNumberScan
import JsonV.Lemmas.WireString
import JsonV.Gen.Tables
import JsonV.Lemmas.GrammarL

namespace JsonV.Lemmas.WireValue
open JsonV JsonV.Model JsonV.Model.Wire JsonV.Model.Validate JsonV.Spec.Grammar
open JsonV.Lemmas.WireBasic JsonV.Lemmas.WireNumber JsonV.Lemmas.WireString

/-- the grammar options selected by the decoder options -/
def G (o : VOpts) : GOpts := ⟨!o.allowInvalidUTF8, o.allowDup⟩

/-- the text member names are compared by: the model of what `objectNamespace.insertQuoted` stores for the
quoted name `q` (unescaped by AppendUnquote, or the inner bytes when the scanner found it verbatim) -/
def nameKey (o : VOpts) (q : Bytes) : Bytes := unescapedName q (valueString o q).2.1

abbrev JV (o : VOpts) (d : Nat) (p : Bytes) : Prop := JValue (G o) maxNestingDepth (nameKey o) d p

theorem take_bracket (b : UInt8) {r : Bytes} {a : Nat} {c : UInt8} {rest : Bytes} (h : r.drop a = c :: rest) (m : Nat) :
    (b :: r).take (1 + a + m) = b :: (r.take a ++ (c :: rest).take m) := by
  rw [show 1 + a + m = a + m + 1 by omega, List.take_succ_cons, List.take_add, h]

theorem len_of_drop (r : Bytes) (a : Nat) (c : UInt8) (rest : Bytes) (h : r.drop a = c :: rest) :
    a + 1 + rest.length = r.length := by
  have := congrArg List.length h
  simp only [List.length_drop, List.length_cons] at this
  omega

theorem fuel_suffix {x y : Bytes} {c f : Nat} (hs : y <:+ x) (h : 3 * x.length + c ≤ f) : 3 * y.length + c ≤ f :=
  Nat.le_trans (Nat.add_le_add_right (Nat.mul_le_mul_left 3 hs.length_le) c) h

/-! `valueLiteral`, `valueString`, `valueNumber` of Model/Validate.lean are the scanners of jsonwire behind their inlinable
fast paths (and, for numbers, behind the refill of decoderState.consumeNumber): the fast paths never change an answer. -/

theorem valueLiteral_eq (lit r : Bytes) (hl : lit ≠ []) : valueLiteral lit r = consumeLiteral r lit := by
  unfold valueLiteral
  by_cases h : consumeExact lit r = 0
  · simp [h]
  · have hp := (exact_iff lit r hl).1 h
    have := (literal_ok_iff r lit lit.length).2 ⟨rfl, hp⟩
    simp [(exact_val lit r).resolve_left h, this]

theorem valueString_eq_consumeString (o : VOpts) (q : Bytes) :
    valueString o q = consumeString q (!o.allowInvalidUTF8) := by
  unfold valueString
  by_cases h : consumeSimpleString q = 0
  · simp [h, consumeString]
  · simp [h, simple_string_sound' q (!o.allowInvalidUTF8) h]

/-- `case '0'`: `ConsumeNumber`'s answer, which is then not the truncation error; or an error behind a failing fetch, reported as
io.ErrUnexpectedEOF at 0 -/
theorem valueNumber_eq (r : Bytes) :
    valueNumber r = consumeNumber r ∧ (consumeNumber r).2 ≠ .eof ∨ (consumeNumber r).2 ≠ .ok ∧ valueNumber r = (0, .eof) := by
  unfold valueNumber
  simp only
  split
  · unfold consumeNumberD consumeNumber
    rcases consumeNumberResumable r 0 stInit with ⟨n, st, e⟩
    simp only
    split
    · cases e <;> simp
    · rename_i h; exact .inl ⟨rfl, fun he => h (by simp [show e = .eof from he])⟩
  · rename_i hs
    have hne : consumeSimpleNumber r ≠ 0 := by intro h0; simp [h0] at hs
    have := simple_number_sound' r hne
    exact .inl ⟨this.symm, by rw [this]; nofun⟩

theorem valueNumber_ok_iff (r : Bytes) (n : Nat) : valueNumber r = (n, .ok) ↔ consumeNumber r = (n, .ok) := by
  rcases valueNumber_eq r with ⟨h, -⟩ | ⟨hne, h⟩ <;> rw [h]
  exact ⟨fun h' => (nomatch h'), fun h' => absurd (congrArg Prod.snd h') hne⟩

theorem valueLiteral_sound (lit r : Bytes) (n : Nat) (hl : lit ≠ []) (h : valueLiteral lit r = (n, .ok)) :
    n ≤ r.length ∧ r.take n = lit := by
  obtain ⟨rfl, hp⟩ := (literal_ok_iff r lit n).1 (valueLiteral_eq lit r hl ▸ h)
  exact ⟨hp.length_le, (List.prefix_iff_eq_take.1 hp).symm⟩

theorem valueString_sound (o : VOpts) (r : Bytes) (n : Nat) (fl : ValueFlags) (h : valueString o r = (n, fl, .ok)) :
    n ≤ r.length ∧ JString (!o.allowInvalidUTF8) (r.take n) :=
  consumeString_sound r _ n fl (valueString_eq_consumeString o r ▸ h)

theorem valueString_take (o : VOpts) (r : Bytes) (n : Nat) (fl : ValueFlags) (h : valueString o r = (n, fl, .ok)) :
    valueString o (r.take n) = (n, fl, .ok) := by
  obtain ⟨hn, hs⟩ := valueString_sound o r n fl h
  obtain ⟨body, hj, htake, hr, rfl⟩ := hs.of_take hn
  obtain ⟨f, hf⟩ := consumeString_of_body (!o.allowInvalidUTF8) body hj
  rw [valueString_eq_consumeString] at h ⊢
  -- the flags are those of the body, whatever follows the closing quote
  have e1 := hf (r.drop (body.length + 2))
  rw [← hr, h] at e1
  rw [htake, e1]
  exact hf []

theorem valueNumber_sound (r : Bytes) (n : Nat) (h : valueNumber r = (n, .ok)) : n ≤ r.length ∧ JNumber (r.take n) := by
  obtain ⟨h1, h2, -⟩ := (consumeNumber_ok_iff r n).1 ((valueNumber_ok_iff r n).1 h)
  exact ⟨h1, h2⟩

/-- `normKind` against the regenerated `normKind[256]` table of jsontext/token.go, compared as whole lists:
looking up each index with `List.getD` separately is several times slower to check. -/
theorem normKind_table :
    (List.range 256).map (fun n => (normKind (UInt8.ofNat n)).toNat) = Gen.jsontext_normKind := by
  decide +kernel

theorem normKind_cases (c : UInt8) :
    normKind c = 0x30 ∨ normKind c = 0 ∨
      normKind c = c ∧ (c = 0x6E ∨ c = 0x66 ∨ c = 0x74 ∨ c = 0x22 ∨ c = 0x7B ∨ c = 0x7D ∨ c = 0x5B ∨ c = 0x5D) := by
  unfold normKind
  by_cases h1 : (c == 0x2D || isDigit c) = true
  · exact Or.inl (if_pos h1)
  · rw [if_neg h1]
    by_cases h2 : (c == 0x6E || c == 0x66 || c == 0x74 || c == 0x22 || c == 0x7B || c == 0x7D || c == 0x5B || c == 0x5D) = true
    · rw [if_pos h2]
      exact Or.inr (Or.inr ⟨rfl, by simpa [or_assoc] using h2⟩)
    · exact Or.inr (Or.inl (if_neg h2))

theorem normKind_eq_self {c k : UInt8} (h : normKind c = k) (h30 : k ≠ 0x30) (h0 : k ≠ 0) : c = k := by
  rcases normKind_cases c with h' | h' | ⟨h', -⟩
  · exact absurd (h.symm.trans h') h30
  · exact absurd (h.symm.trans h') h0
  · exact h'.symm.trans h

/-! One round of each loop is written as a *phase function* with its continuation as an argument (`valueThen`, `nameThen`,
`bracketThen`); the model's loops are these with themselves as continuation.  Each phase has one statement of every way it can
end, with the reason (`valueThen_spec`, `nameThen_spec`, `bracketThen_cases`): what is shown of every run of a phase goes through
these; WireComplete and EncValid evaluate the phases on inputs of a known shape. -/

def elemBytes (e : Bytes × Bytes × Bytes) : Bytes := e.1 ++ e.2.1 ++ e.2.2

/-- soundness of `consumeValue` at this fuel; it counts depth from one (the decoder's `depth` is the number of open containers plus one),
`JValue` from zero -/
def PValue (o : VOpts) (fuel : Nat) : Prop :=
  ∀ d r n, d ≤ maxNestingDepth → consumeValue o fuel (d + 1) r = (n, .ok) → n ≤ r.length ∧ JV o d (r.take n)

/-- What `arrayLoop` and `objectLoop` share: blanks, a value, blanks, then a comma (go round again: `next`), the closer,
or anything else.  Offsets are counted from `base`. -/
def valueThen (o : VOpts) (fuel depth : Nat) (close : UInt8) (base : Nat) (r : Bytes) (next : Bytes → Nat × Err) :
    Nat × Err :=
  let w := consumeWhitespace r
  match r.drop w with
  | [] => (base + w, .eof)
  | c1 :: rd0 =>
    let rd := c1 :: rd0
    let (k, e) := consumeValue o fuel depth rd
    if e != .ok then (base + w + k, e) else
    let re := rd.drop k
    let w4 := consumeWhitespace re
    match re.drop w4 with
    | [] => (base + w + k + w4, .eof)
    | c2 :: rf =>
      if c2 == 0x2C then addOff (base + w + k + w4 + 1) (next rf)
      else if c2 == close then (base + w + k + w4 + 1, .ok)
      else (base + w + k + w4, .invalidChar)

theorem arrayLoop_succ (o : VOpts) (fuel depth : Nat) (r : Bytes) :
    arrayLoop o (fuel + 1) depth r = valueThen o fuel depth 0x5D 0 r (arrayLoop o fuel depth) := by
  simp only [arrayLoop, valueThen, Nat.zero_add]
  rfl

theorem valueThen_base (o : VOpts) (f depth : Nat) (close : UInt8) (base : Nat) (r : Bytes) (next : Bytes → Nat × Err) :
    valueThen o f depth close base r next = addOff base (valueThen o f depth close 0 r next) := by
  simp only [valueThen, addOff, Nat.zero_add]
  split
  · simp
  · split
    · simp [Nat.add_assoc]
    · split
      · simp [Nat.add_assoc]
      · split
        · simp [Nat.add_assoc]
        · split <;> simp [Nat.add_assoc]

/-- The name part of one round of `objectLoop`: blanks, a name, the duplicate test, blanks, the colon.  `k base names' rc` is
how the round goes on behind the colon: at offset `base`, with `names'` stored, on `rc`. -/
def nameThen (o : VOpts) (names : List Bytes) (r : Bytes) (k : Nat → List Bytes → Bytes → Nat × Err) : Nat × Err :=
  let w := consumeWhitespace r
  match r.drop w with
  | [] => (w, .eof)
  | c0 :: ra0 =>
    let ra := c0 :: ra0
    let (n, fl, e) := valueString o ra
    if e != .ok then (w + n, e) else
    let name := unescapedName (ra.take n) fl
    if !o.allowDup && names.contains name then (w, .dupName) else
    let w2 := consumeWhitespace (ra.drop n)
    match (ra.drop n).drop w2 with
    | [] => (w + n + w2, .eof)
    | c :: rc =>
      if c != 0x3A then (w + n + w2, .invalidChar) else
      k (w + n + w2 + 1) (if o.allowDup then names else names ++ [name]) rc

theorem objectLoop_nameThen (o : VOpts) (fuel depth : Nat) (names : List Bytes) (r : Bytes) :
    objectLoop o (fuel + 1) depth names r =
      nameThen o names r fun base names' rc => valueThen o fuel depth 0x7D base rc (objectLoop o fuel depth names') := by
  simp only [objectLoop, nameThen, valueThen]
  rfl

/-- What `consumeArray` and `consumeObject` share: refused at the depth limit; else, past the opening bracket and
blanks, the closer ends an empty container and anything else is left to the loop. -/
def bracketThen (depth : Nat) (close : UInt8) (r : Bytes) (loop : Bytes → Nat × Err) : Nat × Err :=
  if depth == maxNestingDepth + 1 then (0, .maxDepth) else
  let w := consumeWhitespace (r.drop 1)
  match (r.drop 1).drop w with
  | [] => (1 + w, .eof)
  | c :: rest => if c == close then (1 + w + 1, .ok) else addOff (1 + w) (loop (c :: rest))

theorem consumeArray_succ (o : VOpts) (fuel depth : Nat) (r : Bytes) :
    consumeArray o (fuel + 1) depth r = bracketThen depth 0x5D r (arrayLoop o fuel (depth + 1)) := by
  simp only [consumeArray, bracketThen]
  rfl

theorem consumeObject_succ (o : VOpts) (fuel depth : Nat) (r : Bytes) :
    consumeObject o (fuel + 1) depth r = bracketThen depth 0x7D r (objectLoop o fuel (depth + 1) []) := by
  simp only [consumeObject, bracketThen]
  rfl

theorem bracketThen_cases (depth : Nat) (close b : UInt8) (r1 : Bytes) (loop : Bytes → Nat × Err) :
    (depth = maxNestingDepth + 1 ∧ bracketThen depth close (b :: r1) loop = (0, .maxDepth)) ∨
    depth ≠ maxNestingDepth + 1 ∧
      (r1.drop (consumeWhitespace r1) = [] ∧ bracketThen depth close (b :: r1) loop = (1 + consumeWhitespace r1, .eof) ∨
       ∃ c rest, r1.drop (consumeWhitespace r1) = c :: rest ∧
        (c = close ∧ bracketThen depth close (b :: r1) loop = (1 + consumeWhitespace r1 + 1, .ok) ∨
         c ≠ close ∧ bracketThen depth close (b :: r1) loop = addOff (1 + consumeWhitespace r1) (loop (c :: rest)))) := by
  by_cases hd : depth = maxNestingDepth + 1
  · exact .inl ⟨hd, by simp [bracketThen, hd]⟩
  refine .inr ⟨hd, ?_⟩
  simp only [bracketThen, beq_iff_eq, hd, if_false, List.drop_succ_cons, List.drop_zero]
  cases hdrop : r1.drop (consumeWhitespace r1) with
  | nil => exact .inl ⟨rfl, rfl⟩
  | cons c rest =>
    by_cases hc : c = close
    · exact .inr ⟨c, rest, rfl, .inl ⟨hc, by simp [hc]⟩⟩
    · exact .inr ⟨c, rest, rfl, .inr ⟨hc, by simp [hc]⟩⟩

/-- every way `valueThen` can end -/
inductive ThenR (o : VOpts) (fuel depth : Nat) (close : UInt8) (base : Nat) (r : Bytes) (next : Bytes → Nat × Err) :
    Nat × Err → Prop
  | eof (h : r.drop (consumeWhitespace r) = []) : ThenR o fuel depth close base r next (base + consumeWhitespace r, .eof)
  /-- the value is refused -/
  | bad (c : UInt8) (rd : Bytes) (k : Nat) (e : Err) (h : r.drop (consumeWhitespace r) = c :: rd)
      (hv : consumeValue o fuel depth (c :: rd) = (k, e)) (he : e ≠ .ok) :
      ThenR o fuel depth close base r next (base + consumeWhitespace r + k, e)
  /-- the input ends behind the value -/
  | eof2 (c : UInt8) (rd : Bytes) (k : Nat) (h : r.drop (consumeWhitespace r) = c :: rd)
      (hv : consumeValue o fuel depth (c :: rd) = (k, .ok))
      (h2 : ((c :: rd).drop k).drop (consumeWhitespace ((c :: rd).drop k)) = []) :
      ThenR o fuel depth close base r next (base + consumeWhitespace r + k + consumeWhitespace ((c :: rd).drop k), .eof)
  | comma (c : UInt8) (rd : Bytes) (k : Nat) (rf : Bytes) (n' : Nat) (e' : Err) (h : r.drop (consumeWhitespace r) = c :: rd)
      (hv : consumeValue o fuel depth (c :: rd) = (k, .ok))
      (h2 : ((c :: rd).drop k).drop (consumeWhitespace ((c :: rd).drop k)) = 0x2C :: rf) (hn : next rf = (n', e')) :
      ThenR o fuel depth close base r next
        (base + consumeWhitespace r + k + consumeWhitespace ((c :: rd).drop k) + 1 + n', e')
  | close (c : UInt8) (rd : Bytes) (k : Nat) (rf : Bytes) (h : r.drop (consumeWhitespace r) = c :: rd)
      (hv : consumeValue o fuel depth (c :: rd) = (k, .ok))
      (h2 : ((c :: rd).drop k).drop (consumeWhitespace ((c :: rd).drop k)) = close :: rf) :
      ThenR o fuel depth close base r next
        (base + consumeWhitespace r + k + consumeWhitespace ((c :: rd).drop k) + 1, .ok)
  | other (c : UInt8) (rd : Bytes) (k : Nat) (c2 : UInt8) (rf : Bytes) (h : r.drop (consumeWhitespace r) = c :: rd)
      (hv : consumeValue o fuel depth (c :: rd) = (k, .ok))
      (h2 : ((c :: rd).drop k).drop (consumeWhitespace ((c :: rd).drop k)) = c2 :: rf) (h1 : c2 ≠ 0x2C) (hc : c2 ≠ close) :
      ThenR o fuel depth close base r next
        (base + consumeWhitespace r + k + consumeWhitespace ((c :: rd).drop k), .invalidChar)

theorem valueThen_spec (o : VOpts) (fuel depth : Nat) (close : UInt8) (base : Nat) (r : Bytes) (next : Bytes → Nat × Err) :
    ThenR o fuel depth close base r next (valueThen o fuel depth close base r next) := by
  cases hd : r.drop (consumeWhitespace r) with
  | nil => simp only [valueThen, hd]; exact .eof hd
  | cons c rd =>
    rcases hcv : consumeValue o fuel depth (c :: rd) with ⟨k, e⟩
    simp only [valueThen, hd, hcv]
    by_cases he : e = .ok
    · subst he
      rw [if_neg (by decide)]
      cases hd2 : ((c :: rd).drop k).drop (consumeWhitespace ((c :: rd).drop k)) with
      | nil => exact .eof2 c rd k hd hcv hd2
      | cons c2 rf =>
        dsimp only
        by_cases h1 : c2 = 0x2C
        · subst h1
          rw [if_pos (by decide)]
          exact .comma c rd k rf _ _ hd hcv hd2 rfl
        rw [if_neg (by simpa using h1)]
        by_cases h2 : c2 = close
        · subst h2
          rw [if_pos (by simp)]
          exact .close c rd k rf hd hcv hd2
        · rw [if_neg (by simpa using h2)]
          exact .other c rd k c2 rf hd hcv hd2 h1 h2
    · rw [if_pos (by simpa using he)]
      exact .bad c rd k e hd hcv he

/-- every way `nameThen` can end -/
inductive NameR (o : VOpts) (names : List Bytes) (r : Bytes) (k : Nat → List Bytes → Bytes → Nat × Err) : Nat × Err → Prop
  | eof (h : r.drop (consumeWhitespace r) = []) : NameR o names r k (consumeWhitespace r, .eof)
  /-- the name is refused by the string scanner -/
  | bad (c0 : UInt8) (ra0 : Bytes) (n : Nat) (fl : ValueFlags) (e : Err) (h : r.drop (consumeWhitespace r) = c0 :: ra0)
      (hs : valueString o (c0 :: ra0) = (n, fl, e)) (he : e ≠ .ok) : NameR o names r k (consumeWhitespace r + n, e)
  | dup (c0 : UInt8) (ra0 : Bytes) (n : Nat) (fl : ValueFlags) (h : r.drop (consumeWhitespace r) = c0 :: ra0)
      (hs : valueString o (c0 :: ra0) = (n, fl, .ok)) (ha : o.allowDup = false)
      (hm : unescapedName ((c0 :: ra0).take n) fl ∈ names) : NameR o names r k (consumeWhitespace r, .dupName)
  /-- the input ends behind the name -/
  | eof2 (c0 : UInt8) (ra0 : Bytes) (n : Nat) (fl : ValueFlags) (h : r.drop (consumeWhitespace r) = c0 :: ra0)
      (hs : valueString o (c0 :: ra0) = (n, fl, .ok)) (hd : o.allowDup = true ∨ unescapedName ((c0 :: ra0).take n) fl ∉ names)
      (h2 : ((c0 :: ra0).drop n).drop (consumeWhitespace ((c0 :: ra0).drop n)) = []) :
      NameR o names r k (consumeWhitespace r + n + consumeWhitespace ((c0 :: ra0).drop n), .eof)
  | noColon (c0 : UInt8) (ra0 : Bytes) (n : Nat) (fl : ValueFlags) (c : UInt8) (rc : Bytes)
      (h : r.drop (consumeWhitespace r) = c0 :: ra0) (hs : valueString o (c0 :: ra0) = (n, fl, .ok))
      (hd : o.allowDup = true ∨ unescapedName ((c0 :: ra0).take n) fl ∉ names)
      (h2 : ((c0 :: ra0).drop n).drop (consumeWhitespace ((c0 :: ra0).drop n)) = c :: rc) (hc : c ≠ 0x3A) :
      NameR o names r k (consumeWhitespace r + n + consumeWhitespace ((c0 :: ra0).drop n), .invalidChar)
  /-- a name and its colon: the round goes on with `k` -/
  | name (c0 : UInt8) (ra0 : Bytes) (n : Nat) (fl : ValueFlags) (rc : Bytes) (res : Nat × Err)
      (h : r.drop (consumeWhitespace r) = c0 :: ra0) (hs : valueString o (c0 :: ra0) = (n, fl, .ok))
      (hd : o.allowDup = true ∨ unescapedName ((c0 :: ra0).take n) fl ∉ names)
      (h2 : ((c0 :: ra0).drop n).drop (consumeWhitespace ((c0 :: ra0).drop n)) = 0x3A :: rc)
      (hk : k (consumeWhitespace r + n + consumeWhitespace ((c0 :: ra0).drop n) + 1)
        (if o.allowDup then names else names ++ [unescapedName ((c0 :: ra0).take n) fl]) rc = res) : NameR o names r k res

theorem nameThen_spec (o : VOpts) (names : List Bytes) (r : Bytes) (k : Nat → List Bytes → Bytes → Nat × Err) :
    NameR o names r k (nameThen o names r k) := by
  cases hd : r.drop (consumeWhitespace r) with
  | nil => simp only [nameThen, hd]; exact .eof hd
  | cons c0 ra0 =>
    rcases hs : valueString o (c0 :: ra0) with ⟨n, fl, e⟩
    simp only [nameThen, hd, hs]
    by_cases he : e = .ok
    · subst he
      rw [if_neg (by decide)]
      by_cases hdup : (!o.allowDup && names.contains (unescapedName ((c0 :: ra0).take n) fl)) = true
      · rw [if_pos hdup]
        simp only [Bool.and_eq_true, Bool.not_eq_true', List.contains_iff_mem] at hdup
        exact .dup c0 ra0 n fl hd hs hdup.1 hdup.2
      · rw [if_neg hdup]
        have hd' : o.allowDup = true ∨ unescapedName ((c0 :: ra0).take n) fl ∉ names := by
          cases ha : o.allowDup with
          | true => exact .inl rfl
          | false => exact .inr fun hm => hdup (by simp [ha, hm])
        cases h2 : ((c0 :: ra0).drop n).drop (consumeWhitespace ((c0 :: ra0).drop n)) with
        | nil => exact .eof2 c0 ra0 n fl hd hs hd' h2
        | cons c rc =>
          by_cases hc : c = 0x3A
          · subst hc
            exact .name c0 ra0 n fl rc _ hd hs hd' h2 rfl
          · simp only [bne_iff_ne, ne_eq, hc, not_false_eq_true, if_true]
            exact .noColon c0 ra0 n fl c rc hd hs hd' h2 hc
    · rw [if_pos (by simpa using he)]
      exact .bad c0 ra0 n fl e hd hs he

theorem valueThen_ok {o : VOpts} {fuel d : Nat} {close : UInt8} {base : Nat} {r : Bytes} {next : Bytes → Nat × Err} {n : Nat}
    (hv : PValue o fuel) (hd : d + 1 ≤ maxNestingDepth) (h : valueThen o fuel (d + 2) close base r next = (n, .ok)) :
    ∃ w1 val w2 c2 rf, JWs w1 ∧ JV o (d + 1) val ∧ JWs w2 ∧ r = w1 ++ val ++ w2 ++ c2 :: rf ∧
      ((c2 = 0x2C ∧ ∃ n', next rf = (n', .ok) ∧ n = base + (w1 ++ val ++ w2).length + 1 + n') ∨
       (c2 = close ∧ n = base + (w1 ++ val ++ w2).length + 1)) := by
  have hs := valueThen_spec o fuel (d + 2) close base r next
  rw [h] at hs
  -- what the two accepting ways have read
  have key {c : UInt8} {rd : Bytes} {k : Nat} {c2 : UInt8} {rf : Bytes} (hdr : r.drop (consumeWhitespace r) = c :: rd)
      (hcv : consumeValue o fuel (d + 2) (c :: rd) = (k, .ok))
      (hdr2 : ((c :: rd).drop k).drop (consumeWhitespace ((c :: rd).drop k)) = c2 :: rf) :
      JV o (d + 1) ((c :: rd).take k) ∧
      r = r.take (consumeWhitespace r) ++ (c :: rd).take k ++ ((c :: rd).drop k).take (consumeWhitespace ((c :: rd).drop k)) ++
        c2 :: rf ∧
      (r.take (consumeWhitespace r) ++ (c :: rd).take k ++
        ((c :: rd).drop k).take (consumeWhitespace ((c :: rd).drop k))).length =
        consumeWhitespace r + k + consumeWhitespace ((c :: rd).drop k) := by
    obtain ⟨hk, hjv⟩ := hv (d + 1) (c :: rd) k (by omega) hcv
    refine ⟨hjv, ?_, ?_⟩
    · rw [List.append_assoc, List.append_assoc, ← hdr2, List.take_append_drop, List.take_append_drop, ← hdr,
        List.take_append_drop]
    · have := ws_le r
      have := ws_le ((c :: rd).drop k)
      simp only [List.length_append, List.length_take]
      omega
  cases hs with
  | bad _ _ _ _ _ _ he => exact absurd rfl he
  | comma c rd k rf n' _ hdr hcv hdr2 hn =>
    obtain ⟨hjv, hr, hlen⟩ := key hdr hcv hdr2
    exact ⟨_, _, _, _, rf, ws_take r, hjv, ws_take _, hr, .inl ⟨rfl, n', hn, by rw [hlen]; simp only [Nat.add_assoc]⟩⟩
  | close c rd k rf hdr hcv hdr2 =>
    obtain ⟨hjv, hr, hlen⟩ := key hdr hcv hdr2
    exact ⟨_, _, _, _, rf, ws_take r, hjv, ws_take _, hr, .inr ⟨rfl, by rw [hlen]; simp only [Nat.add_assoc]⟩⟩

theorem objectLoop_name_ok {o : VOpts} {f D : Nat} {names : List Bytes} {r : Bytes} {n : Nat}
    (h : objectLoop o (f + 1) D names r = (n, .ok)) :
    ∃ w1 name w2 rc, JWs w1 ∧ JString (G o).strict name ∧ JWs w2 ∧ r = w1 ++ (name ++ (w2 ++ 0x3A :: rc)) ∧
      (o.allowDup = true ∨ nameKey o name ∉ names) ∧
      valueThen o f D 0x7D ((w1 ++ (name ++ w2)).length + 1) rc
        (objectLoop o f D (if o.allowDup then names else names ++ [nameKey o name])) = (n, .ok) := by
  rw [objectLoop_nameThen] at h
  have hs := nameThen_spec o names r fun base names' rc => valueThen o f D 0x7D base rc (objectLoop o f D names')
  rw [h] at hs
  cases hs with
  | bad _ _ _ _ _ _ _ he => exact absurd rfl he
  | name c0 ra0 nn fl rc _ hd hvs hdup h2 hk =>
    generalize c0 :: ra0 = ra at hd hvs hdup h2 hk
    obtain ⟨hnn, hstr⟩ := valueString_sound o _ nn fl hvs
    have hkey : nameKey o (ra.take nn) = unescapedName (ra.take nn) fl := by
      unfold nameKey; rw [valueString_take o _ nn fl hvs]
    refine ⟨r.take (consumeWhitespace r), ra.take nn, (ra.drop nn).take (consumeWhitespace (ra.drop nn)), rc, ws_take r, hstr,
      ws_take _, ?_, hkey ▸ hdup, ?_⟩
    · rw [← h2, List.take_append_drop, List.take_append_drop, ← hd, List.take_append_drop]
    · rw [hkey, ← hk]
      congr 1
      have := ws_le r
      have := ws_le (ra.drop nn)
      simp only [List.length_append, List.length_take]
      omega

abbrev Mem := Bytes × Bytes × Bytes × Bytes × Bytes × Bytes

def memBytes (m : Mem) : Bytes :=
  m.1 ++ m.2.1 ++ m.2.2.1 ++ [0x3A] ++ m.2.2.2.1 ++ m.2.2.2.2.1 ++ m.2.2.2.2.2

def MemOk (o : VOpts) (m : Mem) : Prop :=
  JWs m.1 ∧ JString (G o).strict m.2.1 ∧ JWs m.2.2.1 ∧ JWs m.2.2.2.1 ∧ JWs m.2.2.2.2.2

/-- the loop of `consumeArray` accepts the inside of an array -/
def SElems (o : VOpts) (fuel : Nat) : Prop :=
  ∀ d r n, d + 1 ≤ maxNestingDepth → arrayLoop o fuel (d + 2) r = (n, .ok) →
    ∃ t rest, r = t ++ rest ∧ n = t.length ∧ JElems (JV o (d + 1)) t

/-- the loop of `consumeObject`, having stored `names`, accepts the inside of an object none of whose names is among them -/
def SMembers (o : VOpts) (fuel : Nat) : Prop :=
  ∀ d names r n, d + 1 ≤ maxNestingDepth → objectLoop o fuel (d + 2) names r = (n, .ok) →
    ∃ t rest, r = t ++ rest ∧ n = t.length ∧
      JMembers (JString (G o).strict) (JV o (d + 1)) (nameKey o) o.allowDup names t

theorem elems_step (o : VOpts) (f : Nat) (hv : PValue o f) (hl : SElems o f) : SElems o (f + 1) := by
  intro d r n hd h
  rw [arrayLoop_succ] at h
  obtain ⟨w1, val, w2, c2, rf, hw1, hjv, hw2, rfl, hc⟩ := valueThen_ok hv hd h
  rcases hc with ⟨rfl, n', hal, rfl⟩ | ⟨rfl, rfl⟩
  · obtain ⟨t, rest, rfl, rfl, ht⟩ := hl d rf n' hd hal
    exact ⟨_, rest, by simp, by simp; omega, .cons w1 val w2 t hw1 hjv hw2 ht⟩
  · exact ⟨_, rf, by simp, by simp; omega, .last w1 val w2 hw1 hjv hw2⟩

theorem members_step (o : VOpts) (f : Nat) (hv : PValue o f) (hl : SMembers o f) : SMembers o (f + 1) := by
  intro d names r n hd h
  obtain ⟨w1, name, w2, rc, hw1, hn, hw2, rfl, hk, h⟩ := objectLoop_name_ok h
  obtain ⟨w3, val, w4, c2, rf, hw3, hjv, hw4, rfl, hc⟩ := valueThen_ok hv hd h
  rcases hc with ⟨rfl, n', hal, rfl⟩ | ⟨rfl, rfl⟩
  · obtain ⟨t, rest, rfl, rfl, ht⟩ := hl d _ rf n' hd hal
    refine ⟨_, rest, ?_, ?_, .cons names w1 name w2 w3 val w4 t hw1 hn hw2 hw3 hjv hw4 hk (ht.seen_anti ?_)⟩
    · simp
    · simp; omega
    · cases ha : o.allowDup with
      | true => exact .inl rfl
      | false => exact .inr fun k hm => by simpa [or_comm] using hm
  · exact ⟨_, rf, by simp, by simp; omega, .last names w1 name w2 w3 val w4 hw1 hn hw2 hw3 hjv hw4 hk⟩

/-- `T` is what the loop is known to accept; blanks in front of it are its own (`hT`). -/
theorem bracketThen_ok {d : Nat} {close b : UInt8} {r1 : Bytes} {loop : Bytes → Nat × Err} {n : Nat} {T : Bytes → Prop}
    (hd : d ≤ maxNestingDepth) (h : bracketThen (d + 1) close (b :: r1) loop = (n, .ok))
    (hl : d < maxNestingDepth → ∀ q n', loop q = (n', .ok) → ∃ t rest, q = t ++ rest ∧ n' = t.length ∧ T t)
    (hT : ∀ w t, JWs w → T t → T (w ++ t)) :
    d < maxNestingDepth ∧ n ≤ r1.length + 1 ∧
      ((∃ w, JWs w ∧ (b :: r1).take n = b :: (w ++ [close])) ∨ ∃ t, T t ∧ (b :: r1).take n = b :: t) := by
  rcases bracketThen_cases (d + 1) close b r1 loop with ⟨-, h'⟩ | ⟨hdepth, ⟨-, h'⟩ | ⟨c, rest, hdrop, h'⟩⟩
  · rw [h'] at h; cases h
  · rw [h'] at h; cases h
  · have hlen := len_of_drop _ _ _ _ hdrop
    have hlt : d < maxNestingDepth := by omega
    refine ⟨hlt, ?_⟩
    rcases h' with ⟨hc, h'⟩ | ⟨-, h'⟩ <;> rw [h'] at h
    · obtain rfl : 1 + consumeWhitespace r1 + 1 = n := (Prod.mk.inj h).1
      exact ⟨by omega, .inl ⟨_, ws_take r1, by rw [take_bracket _ hdrop 1, hc]; rfl⟩⟩
    · rcases hal : loop (c :: rest) with ⟨n', e'⟩
      simp only [addOff, hal, Prod.mk.injEq] at h
      obtain ⟨rfl, rfl⟩ := h
      obtain ⟨t, rest', ht, rfl, hj⟩ := hl hlt _ _ hal
      have hn' : t.length ≤ rest.length + 1 := by simpa using (ht ▸ List.prefix_append t rest').length_le
      refine ⟨by omega, .inr ⟨_, hT _ t (ws_take r1) hj, ?_⟩⟩
      rw [take_bracket _ hdrop, ht, List.take_left' rfl]

/-- the first byte `c` announces the literal `lit` -/
def LitKind (c : UInt8) (lit : Bytes) : Prop :=
  normKind c = 0x6E ∧ lit = litNull ∨ normKind c = 0x66 ∧ lit = litFalse ∨ normKind c = 0x74 ∧ lit = litTrue

theorem LitKind.ne_nil {c : UInt8} {lit : Bytes} (h : LitKind c lit) : lit ≠ [] := by
  rcases h with ⟨-, rfl⟩ | ⟨-, rfl⟩ | ⟨-, rfl⟩ <;> decide

theorem consumeValue_lit (o : VOpts) (fuel D : Nat) {c : UInt8} {lit : Bytes} (tl : Bytes) (h : LitKind c lit) :
    consumeValue o (fuel + 1) D (c :: tl) = valueLiteral lit (c :: tl) := by
  rcases h with ⟨hk, rfl⟩ | ⟨hk, rfl⟩ | ⟨hk, rfl⟩ <;> simp [consumeValue, hk]

theorem consumeValue_num (o : VOpts) (fuel D : Nat) {c : UInt8} (tl : Bytes) (hk : normKind c = 0x30) :
    consumeValue o (fuel + 1) D (c :: tl) = valueNumber (c :: tl) := by
  simp [consumeValue, hk]

theorem consumeValue_str (o : VOpts) (fuel D : Nat) {c : UInt8} (tl : Bytes) (hk : normKind c = 0x22) :
    consumeValue o (fuel + 1) D (c :: tl) = ((valueString o (c :: tl)).1, (valueString o (c :: tl)).2.2) := by
  simp [consumeValue, hk]

theorem consumeValue_obj (o : VOpts) (fuel D : Nat) {c : UInt8} (tl : Bytes) (hk : normKind c = 0x7B) :
    consumeValue o (fuel + 1) D (c :: tl) = consumeObject o fuel D (c :: tl) := by
  simp [consumeValue, hk]

theorem consumeValue_arr (o : VOpts) (fuel D : Nat) {c : UInt8} (tl : Bytes) (hk : normKind c = 0x5B) :
    consumeValue o (fuel + 1) D (c :: tl) = consumeArray o fuel D (c :: tl) := by
  simp [consumeValue, hk]

theorem closing_value (o : VOpts) (fuel D : Nat) {c : UInt8} (tl : Bytes) (hc : c = 0x5D ∨ c = 0x7D) :
    (consumeValue o (fuel + 1) D (c :: tl)).2 ≠ .ok := by
  rcases hc with rfl | rfl
  · have hk : normKind 0x5D = 0x5D := by decide
    simp [consumeValue, hk]
  · have hk : normKind 0x7D = 0x7D := by decide
    simp [consumeValue, hk]

theorem invalid_value (o : VOpts) (fuel D : Nat) {c : UInt8} (tl : Bytes) (hk : normKind c = 0) :
    (consumeValue o (fuel + 1) D (c :: tl)).2 ≠ .ok := by
  simp [consumeValue, hk]

/-- The `if`s are peeled one by one: `split` on the whole chain is far slower to check. -/
theorem consumeValue_cases (o : VOpts) (fuel d : Nat) (c : UInt8) (rest : Bytes) :
    consumeValue o (fuel + 1) d (c :: rest) = valueLiteral litNull (c :: rest) ∨
    consumeValue o (fuel + 1) d (c :: rest) = valueLiteral litFalse (c :: rest) ∨
    consumeValue o (fuel + 1) d (c :: rest) = valueLiteral litTrue (c :: rest) ∨
    consumeValue o (fuel + 1) d (c :: rest) = ((valueString o (c :: rest)).1, (valueString o (c :: rest)).2.2) ∨
    consumeValue o (fuel + 1) d (c :: rest) = valueNumber (c :: rest) ∨
    (c = 0x7B ∧ consumeValue o (fuel + 1) d (c :: rest) = consumeObject o fuel d (c :: rest)) ∨
    (c = 0x5B ∧ consumeValue o (fuel + 1) d (c :: rest) = consumeArray o fuel d (c :: rest)) ∨
    consumeValue o (fuel + 1) d (c :: rest) = (0, .mismatchDelim) ∨
    consumeValue o (fuel + 1) d (c :: rest) = (0, .invalidChar) := by
  simp only [consumeValue]
  by_cases h1 : (normKind c == 0x6E) = true
  · rw [if_pos h1]; exact .inl rfl
  rw [if_neg h1]
  by_cases h2 : (normKind c == 0x66) = true
  · rw [if_pos h2]; exact .inr (.inl rfl)
  rw [if_neg h2]
  by_cases h3 : (normKind c == 0x74) = true
  · rw [if_pos h3]; exact .inr (.inr (.inl rfl))
  rw [if_neg h3]
  by_cases h4 : (normKind c == 0x22) = true
  · rw [if_pos h4]; exact .inr (.inr (.inr (.inl rfl)))
  rw [if_neg h4]
  by_cases h5 : (normKind c == 0x30) = true
  · rw [if_pos h5]; exact .inr (.inr (.inr (.inr (.inl rfl))))
  rw [if_neg h5]
  by_cases h6 : (normKind c == 0x7B) = true
  · rw [if_pos h6]
    exact .inr (.inr (.inr (.inr (.inr (.inl ⟨normKind_eq_self (beq_iff_eq.1 h6) (by decide) (by decide), rfl⟩)))))
  rw [if_neg h6]
  by_cases h7 : (normKind c == 0x5B) = true
  · rw [if_pos h7]
    exact .inr (.inr (.inr (.inr (.inr (.inr (.inl ⟨normKind_eq_self (beq_iff_eq.1 h7) (by decide) (by decide), rfl⟩))))))
  rw [if_neg h7]
  by_cases h8 : (normKind c == 0x7D) = true
  · rw [if_pos h8]; exact .inr (.inr (.inr (.inr (.inr (.inr (.inr (.inl rfl)))))))
  · rw [if_neg h8]; exact .inr (.inr (.inr (.inr (.inr (.inr (.inr (.inr rfl)))))))

theorem value_step (o : VOpts) (f : Nat) (ha : ∀ f', f' < f → SElems o f') (hob : ∀ f', f' < f → SMembers o f') :
    PValue o (f + 1) := by
  intro d r n hd h
  cases r with
  | nil => simp [consumeValue] at h
  | cons c rest =>
  rcases consumeValue_cases o f (d + 1) c rest with he | he | he | he | he | ⟨rfl, he⟩ | ⟨rfl, he⟩ | he | he <;>
    rw [he] at h
  · obtain ⟨h1, h2⟩ := valueLiteral_sound litNull _ n (by decide) h
    exact ⟨h1, by rw [h2]; exact JValue.null d⟩
  · obtain ⟨h1, h2⟩ := valueLiteral_sound litFalse _ n (by decide) h
    exact ⟨h1, by rw [h2]; exact JValue.false d⟩
  · obtain ⟨h1, h2⟩ := valueLiteral_sound litTrue _ n (by decide) h
    exact ⟨h1, by rw [h2]; exact JValue.true d⟩
  · rcases hvs : valueString o (c :: rest) with ⟨nn, fl, e⟩
    rw [hvs] at h
    cases h
    obtain ⟨h1, h2⟩ := valueString_sound o _ nn fl hvs
    exact ⟨h1, JValue.str d _ h2⟩
  · obtain ⟨h1, h2⟩ := valueNumber_sound _ n h
    exact ⟨h1, JValue.num d _ h2⟩
  · cases f with
    | zero => simp [consumeObject] at h
    | succ f' =>
      rw [consumeObject_succ] at h
      obtain ⟨hlt, hn, ⟨w, hw, ht⟩ | ⟨t, hj, ht⟩⟩ := bracketThen_ok hd h
        (fun hlt q n' hq => hob f' (Nat.lt_succ_self _) d [] q n' hlt hq) (fun _ _ hw ht => ht.ws_append hw)
        <;> rw [ht]
      · exact ⟨hn, .emptyObj d w hlt hw⟩
      · exact ⟨hn, .of_members hlt hj⟩
  · cases f with
    | zero => simp [consumeArray] at h
    | succ f' =>
      rw [consumeArray_succ] at h
      obtain ⟨hlt, hn, ⟨w, hw, ht⟩ | ⟨t, hj, ht⟩⟩ := bracketThen_ok hd h
        (fun hlt q n' hq => ha f' (Nat.lt_succ_self _) d q n' hlt hq) (fun _ _ hw ht => ht.ws_append hw)
        <;> rw [ht]
      · exact ⟨hn, .emptyArr d w hlt hw⟩
      · exact ⟨hn, .of_elems hlt hj⟩
  · cases h
  · cases h

theorem sound_all (o : VOpts) (fuel : Nat) : PValue o fuel ∧ SElems o fuel ∧ SMembers o fuel := by
  induction fuel using Nat.strongRecOn with
  | _ fuel ih =>
    cases fuel with
    | zero =>
      refine ⟨?_, ?_, ?_⟩
      · intro d r n _ h; simp [consumeValue] at h
      · intro d r n _ h; simp [arrayLoop] at h
      · intro d names r n _ h; simp [objectLoop] at h
    | succ f =>
      have hf := ih f (Nat.lt_succ_self f)
      exact ⟨value_step o f (fun f' h => (ih f' (Nat.lt_succ_of_lt h)).2.1) (fun f' h => (ih f' (Nat.lt_succ_of_lt h)).2.2),
        elems_step o f hf.1 hf.2.1, members_step o f hf.1 hf.2.2⟩

theorem readValueTop_cases (o : VOpts) (fuel : Nat) (r : Bytes) :
    (r.drop (consumeWhitespace r) = [] ∧ readValueTop o fuel r = (consumeWhitespace r, .ioEOF)) ∨
    ∃ c rest, r.drop (consumeWhitespace r) = c :: rest ∧
      ((c == 0x3A || c == 0x2C) = true ∧ readValueTop o fuel r = (consumeWhitespace r, .invalidChar) ∨
       readValueTop o fuel r = addOff (consumeWhitespace r) (consumeValue o fuel 1 (c :: rest))) := by
  cases hd : r.drop (consumeWhitespace r) with
  | nil => exact .inl ⟨rfl, by simp only [readValueTop, hd]⟩
  | cons c rest =>
    refine .inr ⟨c, rest, rfl, ?_⟩
    by_cases hc : (c == 0x3A || c == 0x2C) = true
    · exact .inl ⟨hc, by simp only [readValueTop, hd, hc, if_true]⟩
    · exact .inr (by simp only [readValueTop, hd, hc]; rfl)

theorem readValueTop_ok_inv {o : VOpts} {fuel : Nat} {r : Bytes} {n : Nat} (h : readValueTop o fuel r = (n, .ok)) :
    ∃ c rest k, r.drop (consumeWhitespace r) = c :: rest ∧ consumeValue o fuel 1 (c :: rest) = (k, .ok) ∧
      n = consumeWhitespace r + k := by
  rcases readValueTop_cases o fuel r with ⟨-, h'⟩ | ⟨c, rest, hdrop, ⟨-, h'⟩ | h'⟩ <;> rw [h'] at h
  · cases h
  · cases h
  · rcases hcv : consumeValue o fuel 1 (c :: rest) with ⟨k, e⟩
    rw [hcv] at h
    cases h
    exact ⟨c, rest, k, hdrop, hcv, rfl⟩

theorem jnumber_head (v : Bytes) (h : JNumber v) : ∃ c t, v = c :: t ∧ normKind c = 0x30 := by
  obtain ⟨c, t, rfl, hc⟩ := h.head
  refine ⟨c, t, rfl, ?_⟩
  rcases hc with rfl | ⟨h1, h2⟩
  · decide
  · simp [normKind, isDigit, h1, h2]

theorem value_number_stop (o : VOpts) (fuel d : Nat) (r : Bytes) (n : Nat) (h : consumeValue o fuel d r = (n, .ok))
    (hnum : JNumber (r.take n)) : ∀ c t, r.drop n = c :: t → ¬ NumPrefix (r.take n ++ [c]) := by
  obtain ⟨c0, t0, htk, hk⟩ := jnumber_head _ hnum
  cases fuel with
  | zero => simp [consumeValue] at h
  | succ f =>
    cases r with
    | nil => simp at htk
    | cons c r1 =>
      have hc : c = c0 := by
        cases n with
        | zero => simp at htk
        | succ m => simp only [List.take_succ_cons, List.cons.injEq] at htk; exact htk.1
      subst hc
      have hcn : consumeNumber (c :: r1) = (n, .ok) :=
        (valueNumber_ok_iff _ _).1 (consumeValue_num o f d r1 hk ▸ h)
      intro c' t' hd
      rcases ((consumeNumber_ok_iff _ _).1 hcn).2.2 with rfl | hstop
      · rw [List.drop_length] at hd; cases hd
      · rwa [take_succ_of_drop _ n c' t' hd] at hstop

theorem readValueTop_ok_max (o : VOpts) (fuel : Nat) (r : Bytes) (n : Nat) (h : readValueTop o fuel r = (n, .ok)) :
    n ≤ r.length ∧ ∃ w v, JWs w ∧ JV o 0 v ∧ r.take n = w ++ v ∧
      (JNumber v → ∀ c t, r.drop n = c :: t → ¬ NumPrefix (v ++ [c])) := by
  obtain ⟨c, rest, k, hdrop, hcv, rfl⟩ := readValueTop_ok_inv h
  obtain ⟨hk, hjv⟩ := (sound_all o fuel).1 0 (c :: rest) k (by omega) hcv
  have hlen := len_of_drop _ _ _ _ hdrop
  have hk' : k ≤ rest.length + 1 := by simpa using hk
  refine ⟨by omega, r.take (consumeWhitespace r), (c :: rest).take k, ws_take r, hjv, ?_, ?_⟩
  · rw [List.take_add, hdrop]
  · intro hnum c' t' hd
    exact value_number_stop o fuel 1 (c :: rest) k hcv hnum c' t' (by rw [← hdrop, List.drop_drop]; exact hd)

theorem readValueTop_ok (o : VOpts) (fuel : Nat) (r : Bytes) (n : Nat) (h : readValueTop o fuel r = (n, .ok)) :
    n ≤ r.length ∧ ∃ w v, JWs w ∧ JV o 0 v ∧ r.take n = w ++ v := by
  obtain ⟨hn, w, v, hw, hv, ht, -⟩ := readValueTop_ok_max o fuel r n h
  exact ⟨hn, w, v, hw, hv, ht⟩

theorem readValueTop_pos {o : VOpts} {fuel : Nat} {r : Bytes} {n : Nat} (h : readValueTop o fuel r = (n, .ok)) :
    0 < n ∧ n ≤ r.length := by
  obtain ⟨hn, w, v, -, hv, ht⟩ := readValueTop_ok o fuel r n h
  refine ⟨Nat.pos_of_ne_zero ?_, hn⟩
  rintro rfl
  exact hv.ne_nil (List.append_eq_nil_iff.1 ht.symm).2

/-! One round of the ReadValue loop as two equations: the third arm of `streamLoop`, a value of no bytes, does not occur
(`readValueTop_pos`).  Nothing else opens the loop. -/

theorem streamLoop_err {o : VOpts} {vf : Nat} {r : Bytes} {n : Nat} {e : Err} (h : readValueTop o vf r = (n, e)) (he : e ≠ .ok)
    (f cnt base : Nat) : streamLoop o vf (f + 1) r cnt base = (cnt, base + n, e) := by
  rw [streamLoop, h]
  exact if_pos (by simpa using he)

theorem streamLoop_ok {o : VOpts} {vf : Nat} {r : Bytes} {n : Nat} (h : readValueTop o vf r = (n, .ok)) (f cnt base : Nat) :
    streamLoop o vf (f + 1) r cnt base = streamLoop o vf f (r.drop n) (cnt + 1) (base + n) := by
  rw [streamLoop, h]
  exact (if_neg (by decide)).trans (if_neg (by simpa using Nat.ne_of_gt (readValueTop_pos h).1))

theorem validText_sound (o : VOpts) (b : Bytes) (n : Nat) (h : validText o b = (n, .ok)) :
    JText (G o) maxNestingDepth (nameKey o) b := by
  unfold validText at h
  rcases hr : readValueTop o (fuelFor b) b with ⟨n0, e0⟩
  simp only [hr] at h
  split at h
  · rename_i hne
    simp only [Prod.mk.injEq] at h
    rw [h.2] at hne; simp at hne
  rename_i hne
  have he : e0 = .ok := by simpa using hne
  subst he
  obtain ⟨hn0, w, v, hw, hv, htake⟩ := readValueTop_ok o _ b n0 hr
  split at h
  · rename_i hdrop
    exact ⟨w, v, b.drop n0, hw, hv, jws_of_drop_nil _ hdrop, by rw [← htake, List.take_append_drop]⟩
  · simp at h

theorem valueLiteral_len {lit r : Bytes} {n : Nat} (hl : lit ≠ []) (h : valueLiteral lit r = (n, .ok)) :
    1 ≤ n ∧ n ≤ r.length := by
  obtain ⟨h1, h2⟩ := valueLiteral_sound lit r n hl h
  refine ⟨Nat.pos_of_ne_zero ?_, h1⟩
  rintro rfl
  exact hl h2.symm

theorem valueString_len {o : VOpts} {r : Bytes} {n : Nat} {fl : ValueFlags} (h : valueString o r = (n, fl, .ok)) :
    1 ≤ n ∧ n ≤ r.length := by
  obtain ⟨h1, hs⟩ := valueString_sound o r n fl h
  obtain ⟨body, -, -, -, rfl⟩ := hs.of_take h1
  exact ⟨Nat.le_add_left 1 _, h1⟩

theorem valueNumber_len {r : Bytes} {n : Nat} (h : valueNumber r = (n, .ok)) : 1 ≤ n ∧ n ≤ r.length := by
  obtain ⟨h1, hnum⟩ := valueNumber_sound r n h
  obtain ⟨c0, t0, htk, -⟩ := jnumber_head _ hnum
  have h2 := congrArg List.length htk
  simp only [List.length_take, List.length_cons] at h2
  exact ⟨by omega, h1⟩

end JsonV.Lemmas.WireValue
