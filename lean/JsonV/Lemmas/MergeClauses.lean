/-
The element loops (slice / array clauses), the tie between the structural `unmAny` and "unmarshal
by the dynamic type of the held value", duplicate-freeness of every accepted input (a successful
member loop saw no name twice), and chains.
-/
import JsonV.Lemmas.MergeLaw

namespace JsonV.Lemmas.Merge
open JsonV JsonV.Spec JsonV.Model

theorem elemsFresh_cons (f : Dec) (z : GoVal) (x : JTree) (r : List JTree) :
    elemsFresh f z (x :: r) = (f x z).bind fun v => (elemsFresh f z r).map (v :: ·) := by
  rw [elemsFresh]
  cases f x z with
  | error e => rfl
  | ok v => dsimp only; cases elemsFresh f z r <;> rfl

theorem arrayElems_succ_cons (o : UOpts) (f : Dec) (z : GoVal) (n : Nat) (x : JTree) (r : List JTree) :
    arrayElems o f z (n + 1) (x :: r) = (f x z).bind fun v => (arrayElems o f z n r).map (v :: ·) := by
  rw [arrayElems]
  cases f x z with
  | error e => rfl
  | ok v => dsimp only; cases arrayElems o f z n r <;> rfl

theorem elemsFresh_spec {f : Dec} {z : GoVal} {xs : List JTree} {vs : List GoVal}
    (h : elemsFresh f z xs = .ok vs) :
    vs.length = xs.length ∧ ∀ (i : Nat) (x : JTree), xs[i]? = some x → ∃ v, vs[i]? = some v ∧ f x z = .ok v := by
  induction xs generalizing vs with
  | nil => cases h; exact ⟨rfl, fun i x hx => nomatch hx⟩
  | cons x r ih =>
    rw [elemsFresh_cons] at h
    obtain ⟨v, hx, h⟩ := Except.bind_eq_ok.1 h
    obtain ⟨vr, hr, rfl⟩ := Except.map_eq_ok.1 h
    obtain ⟨hl, hi⟩ := ih hr
    refine ⟨congrArg (· + 1) hl, fun i y hy => ?_⟩
    cases i with
    | zero => cases hy; exact ⟨v, rfl, hx⟩
    | succ i => exact hi i y hy

theorem arrayElems_spec {o : UOpts} {f : Dec} {z : GoVal} {n : Nat} {xs : List JTree} {vs : List GoVal}
    (h : arrayElems o f z n xs = .ok vs) :
    vs.length = n ∧ ∀ i, i < n →
      (match xs[i]? with
       | some x => ∃ v, f x z = .ok v ∧ vs[i]? = some v
       | none => vs[i]? = some z) := by
  induction n generalizing xs vs with
  | zero =>
    refine ⟨?_, fun i hi => nomatch hi⟩
    induction xs with
    | nil => cases h; rfl
    | cons x r ih =>
      rw [arrayElems] at h
      split at h
      · exact ih h
      · cases h
  | succ n ih =>
    cases xs with
    | nil =>
      cases h
      exact ⟨List.length_replicate, fun i hi => List.getElem?_replicate_of_lt hi⟩
    | cons x r =>
      rw [arrayElems_succ_cons] at h
      obtain ⟨v, hx, h⟩ := Except.bind_eq_ok.1 h
      obtain ⟨vr, hr, rfl⟩ := Except.map_eq_ok.1 h
      obtain ⟨hl, hi⟩ := ih hr
      refine ⟨congrArg (· + 1) hl, fun i hlt => ?_⟩
      cases i with
      | zero => exact ⟨v, hx, rfl⟩
      | succ i => exact hi i (Nat.lt_of_succ_lt_succ hlt)

theorem objFold_nodup {o : UOpts} (ho : o.allowDup = false) {dec : Bytes → Option Dec} {z : Bytes → GoVal}
    {ms : List (Bytes × JTree)} {seen : List Bytes} {m m' : List (Bytes × GoVal)}
    (h : objFold o dec z ms seen m = .ok m') : (akeys ms).Nodup ∧ ∀ n, n ∈ akeys ms → n ∉ seen := by
  induction ms generalizing seen m with
  | nil => exact ⟨List.nodup_nil, fun n hn => nomatch hn⟩
  | cons p r ih =>
    obtain ⟨k, j⟩ := p
    have key : ∀ {m1}, (!o.allowDup && seen.contains k) = false → objFold o dec z r (k :: seen) m1 = .ok m' →
        (akeys ((k, j) :: r)).Nodup ∧ ∀ n, n ∈ akeys ((k, j) :: r) → n ∉ seen := by
      intro m1 hc h'
      have hks : k ∉ seen := by simpa [ho] using hc
      obtain ⟨h1, h2⟩ := ih h'
      refine ⟨List.nodup_cons.2 ⟨fun hk => h2 k hk List.mem_cons_self, h1⟩, fun n hn => ?_⟩
      cases List.mem_cons.1 hn with
      | inl e => exact e ▸ hks
      | inr e => exact fun hc => h2 n e (List.mem_cons_of_mem _ hc)
    cases hd : dec k with
    | none => obtain ⟨hc, _, h⟩ := (objFold_cons_none hd).1 h; exact key hc h
    | some f => obtain ⟨hc, v, _, h⟩ := (objFold_cons_some hd).1 h; exact key hc h

/-- arshal_default.go:1940-1957: the held value is copied into a fresh addressable value of its
dynamic type, unmarshaled into with that type's arshaler, and stored back. -/
theorem unmAny_dyn (o : UOpts) (dv : GoVal) (T : GoType) (hT : dv.dynType = some T) (j : JTree)
    (hj : j.isNull = false) : unmAny o j (.ifaceOf dv) = (unm o T j dv).map .ifaceOf := by
  -- every pair of a held kind and a JSON kind computes on both sides, except the two loops
  cases dv with
  | nilSlice | sliceOf =>
    cases hT
    cases j with
    | null => cases hj
    | arr xs => rw [unm_slice_arr]; exact (unmAny_arr o xs).trans (Except.map_map _).symm
    | _ => rfl
  | nilMap =>
    cases hT
    cases j with
    | null => cases hj
    | obj ms => rw [unm_map_obj_nil]; exact (unmAny_obj o ms []).trans (Except.map_map _).symm
    | _ => rfl
  | mapOf m0 =>
    cases hT
    cases j with
    | null => cases hj
    | obj ms => rw [unm_map_obj]; exact (unmAny_obj o ms m0).trans (Except.map_map _).symm
    | _ => rfl
  | bool | float | str =>
    cases hT
    cases j with
    | null => cases hj
    | _ => rfl
  | _ => cases hT

theorem elemsFresh_dupFree {f : Dec} {z : GoVal} {xs : List JTree} {vs : List GoVal}
    (h : elemsFresh f z xs = .ok vs) (hf : ∀ x, x ∈ xs → ∀ p v, f x p = .ok v → x.dupFree = true) :
    JTree.dupFreeL xs = true := by
  rw [dupFreeL_iff]
  intro x hx
  obtain ⟨i, hi⟩ := List.mem_iff_getElem?.1 hx
  obtain ⟨w, _, hw⟩ := (elemsFresh_spec h).2 i x hi
  exact hf x hx _ _ hw

theorem arrayElems_dupFree {o : UOpts} (ho : o.allowDup = false) {f : Dec} {z : GoVal} {n : Nat} {xs : List JTree}
    {vs : List GoVal} (h : arrayElems o f z n xs = .ok vs)
    (hf : ∀ x, x ∈ xs → ∀ p v, f x p = .ok v → x.dupFree = true) : JTree.dupFreeL xs = true := by
  induction xs generalizing n vs with
  | nil => rfl
  | cons x r ih =>
    have hx : x.dupFree = true ∧ ∃ n vs, arrayElems o f z n r = .ok vs := by
      cases n with
      | zero =>
        rw [arrayElems] at h
        split at h
        · rename_i hx
          rw [skipOK, ho, Bool.false_or] at hx
          exact ⟨hx, _, _, h⟩
        · cases h
      | succ n =>
        rw [arrayElems_succ_cons] at h
        obtain ⟨v, hx, h⟩ := Except.bind_eq_ok.1 h
        obtain ⟨vr, hr, _⟩ := Except.map_eq_ok.1 h
        exact ⟨hf x List.mem_cons_self _ _ hx, _, _, hr⟩
    obtain ⟨hx, _, _, hr⟩ := hx
    rw [JTree.dupFreeL, hx, ih hr fun y hy => hf y (List.mem_cons_of_mem _ hy)]
    rfl

theorem objFold_dupFree {o : UOpts} (ho : o.allowDup = false) {dec : Bytes → Option Dec} {z : Bytes → GoVal} {ms : List (Bytes × JTree)}
    {m m' : List (Bytes × GoVal)} (h : objFold o dec z ms [] m = .ok m')
    (hf : ∀ n j f, (n, j) ∈ ms → dec n = some f → ∀ p v, f j p = .ok v → j.dupFree = true) :
    (JTree.obj ms).dupFree = true := by
  have hnd := (objFold_nodup ho h).1
  have F := objFold_facts hnd h
  rw [dupFree_obj]
  refine ⟨hnd, ?_⟩
  intro n j hm
  cases hd : dec n with
  | none => simpa [skipOK, ho] using F.unknown n j hm hd
  | some f =>
    obtain ⟨v, hv, _⟩ := F.known n j f hm hd
    exact hf n j f hm hd _ _ hv

theorem unmAny_dupFree (o : UOpts) (ho : o.allowDup = false) :
    ∀ (j : JTree) (p v : GoVal), unmAny o j p = .ok v → j.dupFree = true := by
  intro j
  induction j using JTree.induct with
  | harr xs ih =>
    intro p v h
    rw [unmAny_nonobj o _ p rfl rfl] at h
    obtain ⟨_, _, h⟩ := Except.bind_eq_ok.1 h
    rw [unmAny_arr] at h
    obtain ⟨vs, he, _⟩ := Except.map_eq_ok.1 h
    exact elemsFresh_dupFree he fun x hx => ih x hx
  | hobj ms ih =>
    intro p v h
    rcases unmAny_obj_prior p with ⟨m0, e⟩ | ⟨dv, e⟩ | e <;> rw [e] at h
    · obtain ⟨m, hm, _⟩ := Except.map_eq_ok.1 h
      exact objFold_dupFree ho hm fun n j f hmem hd => Option.some.inj hd ▸ ih n j hmem
    · cases h
    · cases h
  | _ => intro p v _; rfl

theorem unm_dupFree (o : UOpts) (ho : o.allowDup = false) :
    ∀ (T : GoType) (j : JTree) (p v : GoVal), unm o T j p = .ok v → j.dupFree = true := by
  intro T
  induction T using GoType.induct with
  | hbool | hint | huint | hfloat | hstring => intro j p v h; cases j <;> first | rfl | cases h
  | hany => exact unmAny_dupFree o ho
  | hslice t ih =>
    intro j p v h
    cases j with
    | arr xs =>
      rw [unm_slice_arr] at h
      obtain ⟨vs, he, _⟩ := Except.map_eq_ok.1 h
      exact elemsFresh_dupFree he fun x _ => ih x
    | obj ms => cases h
    | _ => rfl
  | harray n t ih =>
    intro j p v h
    cases j with
    | arr xs =>
      rw [unm_array_arr] at h
      obtain ⟨vs, he, _⟩ := Except.bind_eq_ok.1 h
      exact arrayElems_dupFree ho he fun x _ => ih x
    | obj ms => cases h
    | _ => rfl
  | hmap t ih =>
    intro j p v h
    cases j with
    | obj ms =>
      rcases unm_map_obj_prior t p with ⟨m0, e⟩ | e <;> rw [e] at h
      · obtain ⟨m, hm, _⟩ := Except.map_eq_ok.1 h
        exact objFold_dupFree ho hm fun n j f _ hd => Option.some.inj hd ▸ ih j
      · cases h
    | arr xs => cases h
    | _ => rfl
  | hstruct fs ih =>
    intro j p v h
    cases j with
    | obj ms =>
      cases p with
      | structOf fvs =>
        rw [unm_struct_obj] at h
        obtain ⟨m, hm, _⟩ := Except.map_eq_ok.1 h
        refine objFold_dupFree ho hm fun n j f _ hd => ?_
        obtain ⟨t, hl, rfl⟩ := fieldDec_some hd
        exact ih n t (alookup_mem hl) j
      | _ => cases h
    | arr xs => cases h
    | _ => rfl
  | hptr t ih =>
    intro j p v h
    cases hn : j.isNull with
    | true => rw [eq_null_of_isNull hn]; rfl
    | false =>
      rcases unm_ptr_prior t p with ⟨v0, e⟩ | e <;> rw [e o j hn] at h
      · obtain ⟨w, hw, _⟩ := Except.map_eq_ok.1 h
        exact ih j _ _ hw
      · cases h

theorem merge_law_unm' (o : UOpts) (ho : o.allowDup = false) (T : GoType) (hwf : T.wf = true) (j1 j2 : JTree) (v1 v2 : GoVal)
    (h1 : unm o T j1 T.zero = .ok v1) (h2 : unm o T j2 v1 = .ok v2) :
    unm o T (JTree.merge j1 j2) T.zero = .ok v2 :=
  merge_law_unm o T hwf j1 j2 v1 v2 (unm_dupFree o ho T j1 _ _ h1) (unm_dupFree o ho T j2 _ _ h2) h1 h2

theorem unmChain_cons {o : UOpts} {T : GoType} {j : JTree} {js : List JTree} {v0 v : GoVal} :
    unmChain o T (j :: js) v0 = .ok v ↔ ∃ v1, unm o T j v0 = .ok v1 ∧ unmChain o T js v1 = .ok v := by
  rw [unmChain]
  cases unm o T j v0 with
  | error e => exact ⟨fun h => (nomatch h), fun ⟨_, h, _⟩ => (nomatch h)⟩
  | ok v1 => exact ⟨fun h => ⟨v1, rfl, h⟩, fun ⟨_, h1, h⟩ => Except.ok.inj h1 ▸ h⟩

theorem chain_fold (o : UOpts) (ho : o.allowDup = false) (T : GoType) (hwf : T.wf = true) :
    ∀ (js : List JTree) (acc : JTree) (v0 v : GoVal),
      unm o T acc T.zero = .ok v0 → unmChain o T js v0 = .ok v →
      unm o T (js.foldl JTree.merge acc) T.zero = .ok v := by
  intro js
  induction js with
  | nil => intro acc v0 v h0 h; cases h; exact h0
  | cons j r ih =>
    intro acc v0 v h0 h
    obtain ⟨v1, hj, h⟩ := unmChain_cons.1 h
    exact ih (JTree.merge acc j) v1 v (merge_law_unm' o ho T hwf acc j v0 v1 h0 hj) h

end JsonV.Lemmas.Merge
