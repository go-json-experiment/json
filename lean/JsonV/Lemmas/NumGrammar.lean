/-
C10 lemmas: the ECMA-262 layout of a non-zero value taken apart once — integer digits, fraction digits,
exponent.
-/
import JsonV.Lemmas.NumFloat
import JsonV.Lemmas.NumDigits

namespace JsonV.Lemmas.NumGrammar
open JsonV JsonV.Spec.Ecma JsonV.Lemmas.NumFloat JsonV.Lemmas.NumParse JsonV.Lemmas.NumDigits

theorem zeros_digits (z : Nat) : ∀ c ∈ zeros z, isDigit c = true := by
  intro c hc
  rw [(List.mem_replicate.1 hc).2]; rfl

theorem dropWhile_all (l : Bytes) (h : ∀ c ∈ l, isDigit c = true) : l.dropWhile isDigit = [] := by
  have := List.dropWhile_append_of_pos (l₂ := []) h
  rwa [List.append_nil] at this

theorem takeWhile_all (l : Bytes) (h : ∀ c ∈ l, isDigit c = true) : l.takeWhile isDigit = l := by
  have := List.takeWhile_append_of_pos (l₂ := []) h
  rwa [List.append_nil, List.takeWhile_nil, List.append_nil] at this

theorem span_stop (l : Bytes) (h : ∀ c, l.head? = some c → isDigit c = false) :
    l.takeWhile isDigit = [] ∧ l.dropWhile isDigit = l := by
  cases l with
  | nil => exact ⟨rfl, rfl⟩
  | cons c t =>
    have hc : ¬ isDigit c = true := by rw [h c rfl]; exact Bool.false_ne_true
    exact ⟨List.takeWhile_cons_of_neg hc, List.dropWhile_cons_of_neg hc⟩

/-- `. fp`, or nothing when there are no fraction digits. -/
def fracText : Bytes → Bytes
  | [] => []
  | c :: t => 46 :: c :: t

/-- `e±ddd`, or nothing. -/
def expOpt : Option Int → Bytes
  | none => []
  | some x => expText x

/-- The text with integer digits `ip`, fraction digits `fp` and exponent `xo`. -/
def numText (ip fp : Bytes) (xo : Option Int) : Bytes := ip ++ (fracText fp ++ expOpt xo)

theorem fracText_of_ne_nil (fp : Bytes) (h : fp ≠ []) : fracText fp = 46 :: fp := by
  obtain ⟨a, t, rfl⟩ := List.exists_cons_of_ne_nil h
  rfl

theorem expOpt_stop (xo : Option Int) : ∀ c, (expOpt xo).head? = some c → isDigit c = false := by
  intro c h
  cases xo with
  | none => cases h
  | some x => cases h; rfl

theorem tail_stop (fp : Bytes) (xo : Option Int) :
    ∀ c, (fracText fp ++ expOpt xo).head? = some c → isDigit c = false := by
  cases fp with
  | nil => exact expOpt_stop xo
  | cons a t => intro c h; cases h; rfl

theorem numText_not_minus (ip fp : Bytes) (xo : Option Int) (hip : canonicalDecimal ip = true) :
    (numText ip fp xo).head? ≠ some 45 := by
  obtain ⟨hne, hdig, _⟩ := (canonical_iff ip).1 hip
  obtain ⟨c, t, rfl⟩ := List.exists_cons_of_ne_nil hne
  exact fun h => absurd (hdig c List.mem_cons_self) (by cases h; decide)

/-- The five forms of the layout of a non-zero value, in parts, with the coefficient and decimal exponent that the
parts spell: `d₁…d_k × 10^(n−k)`, written with trailing zeros instead of an exponent in the integer form. -/
theorem layout_parts (ds : List Nat) (n : Int) (h : WFD ds n) (hne : ds ≠ []) :
    ∃ ip fp xo, layout ds n = numText ip fp xo ∧ canonicalDecimal ip = true ∧ (∀ c ∈ fp, isDigit c = true) ∧
      (bytesVal (ip ++ fp), xo.getD 0 - (fp.length : Int)) =
        if (ds.length : Int) ≤ n ∧ n ≤ 21 then (digitsVal ds * 10 ^ (n - ds.length).toNat, 0)
        else (digitsVal ds, n - ds.length) := by
  obtain ⟨hlt, hhead, _, _, _⟩ := h
  obtain ⟨d, r, rfl⟩ := List.exists_cons_of_ne_nil hne
  have hd : d < 10 := hlt d List.mem_cons_self
  have hd0 : d ≠ 0 := fun e => hhead (congrArg some e)
  have hr : ∀ x ∈ r, x < 10 := fun x hx => hlt x (List.mem_cons_of_mem d hx)
  have hval := bytesVal_map_dig (d :: r) hlt
  by_cases hp : -6 < n ∧ n ≤ 21
  · by_cases hA : ((d :: r).length : Int) ≤ n
    · refine ⟨(d :: r).map dig ++ zeros (n - (d :: r).length).toNat, [], none, ?_, ?_, fun _ hc => absurd hc List.not_mem_nil, ?_⟩
      · rw [ecma_int _ n hne hA hp.2]; exact (List.append_nil _).symm
      · refine canonical_lead d _ hd hd0 fun c hc => ?_
        rcases List.mem_append.1 hc with hc | hc
        · exact map_dig_digits r hr c hc
        · exact zeros_digits _ c hc
      · rw [if_pos ⟨hA, hp.2⟩, List.append_nil, bytesVal_append, bytesVal_zeros, hval, zeros, List.length_replicate]
        rfl
    · by_cases hB : 0 < n
      · obtain ⟨a, rfl⟩ : ∃ a : Nat, n = (a + 1 : Nat) := ⟨n.toNat - 1, by omega⟩
        have ha : a < r.length := by rw [List.length_cons] at hA; omega
        have hfr : (r.drop a).map dig ≠ [] := fun e =>
          Nat.lt_irrefl _ (Nat.lt_of_lt_of_le ha (List.drop_eq_nil_iff.1 (List.map_eq_nil_iff.1 e)))
        refine ⟨dig d :: (r.take a).map dig, (r.drop a).map dig, none, ?_, ?_, ?_, ?_⟩
        · rw [ecma_point _ _ hne hA hB hp.2, Int.toNat_natCast, numText, fracText_of_ne_nil _ hfr, expOpt, List.append_nil,
            List.append_assoc]
          rfl
        · exact canonical_lead d _ hd hd0 (map_dig_digits _ fun y hy => hr y (List.mem_of_mem_take hy))
        · exact map_dig_digits _ fun y hy => hr y (List.mem_of_mem_drop hy)
        · rw [if_neg (fun hh => hA hh.1), List.cons_append, ← List.map_append, List.take_append_drop, ← List.map_cons, hval,
            List.length_map, List.length_drop, List.length_cons]
          exact Prod.ext rfl (by simp only [Option.getD_none]; omega)
      · refine ⟨[48], zeros (-n).toNat ++ (d :: r).map dig, none, ?_, rfl, ?_, ?_⟩
        · rw [ecma_small _ n hne hp.1 (Int.not_lt.1 hB), numText, expOpt, List.append_nil, List.append_assoc,
            fracText_of_ne_nil (zeros (-n).toNat ++ (d :: r).map dig)
              (List.append_ne_nil_of_right_ne_nil _ (List.cons_ne_nil (dig d) (r.map dig)))]
          rfl
        · intro c hc
          rcases List.mem_append.1 hc with hc | hc
          · exact zeros_digits _ c hc
          · exact map_dig_digits _ hlt c hc
        · rw [if_neg (fun hh => hA hh.1), bytesVal_append, bytesVal_append, bytesVal_zeros, hval, List.length_append, zeros,
            List.length_replicate, List.length_map]
          exact Prod.ext (by simp [bytesVal]) (by simp only [Option.getD_none]; omega)
  · have hx : n ≤ -6 ∨ 21 < n := by omega
    refine ⟨[dig d], r.map dig, some (n - 1), ?_, canonical_lead d [] hd hd0 (fun _ hc => absurd hc List.not_mem_nil),
      map_dig_digits r hr, ?_⟩
    · rw [ecma_exp d r n hx]
      cases r with
      | nil => rfl
      | cons a t => rw [if_neg (List.cons_ne_nil a t), List.append_assoc]; rfl
    · rw [if_neg (fun hh => hp ⟨by have := hh.1; rw [List.length_cons] at this; omega, hh.2⟩), List.singleton_append,
        ← List.map_cons, hval, List.length_map, List.length_cons]
      exact Prod.ext rfl (by simp only [Option.getD_some]; omega)

end JsonV.Lemmas.NumGrammar
