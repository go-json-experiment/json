/-
ReadValue and SkipValue of the streaming decoder model simulate the whole-buffer decoder; scripts mixing
ReadToken / ReadValue / SkipValue (C05: `sim_full`, `value_span_full`, `fault_stutter_full`).
-/
import JsonV.Lemmas.ResumeStreamRun
import JsonV.Lemmas.ResumeStreamVal

namespace JsonV.Model.Stream
open JsonV JsonV.Model JsonV.Model.Validate JsonV.Model.TokenLoop

theorem containerFeed_tok (st : TState) (pos n : Nat) (k : UInt8) : EndsAt (pos + n) (containerFeed st pos n k) := by
  unfold containerFeed
  refine .ite ?_ ?_
  · cases st.m.pushObject maxNestingDepth with
    | error se => exact .err _ _ _
    | ok m1 =>
      dsimp only
      cases m1.popObject with
      | error _ => exact .err _ _ _
      | ok m2 => exact .tok _ _
  · cases st.m.pushArray maxNestingDepth with
    | error se => exact .err _ _ _
    | ok m1 =>
      dsimp only
      cases m1.popArray with
      | error _ => exact .err _ _ _
      | ok m2 => exact .tok _ _

theorem kindAt_cons (u : Bytes) (pos : Nat) (c : UInt8) (vt : Bytes) (h : u.drop pos = c :: vt) :
    kindAt u pos = normKind c := by simp [kindAt, h]

theorem valS_ok (o : VOpts) (fuel : Nat) (st : TState) (u : Bytes) (pos : Nat) (es : List Event) (f0 : Bool) (c : UInt8)
    (vt : Bytes) (hv : u.drop pos = c :: vt) :
    LexOk u pos es (valW o fuel st pos ((c :: vt) ++ avail es)) (valS o fuel st u pos es f0) := by
  have hk : kindAt u pos = normKind c := kindAt_cons u pos c vt hv
  have hk' : kindAt ((c :: vt) ++ avail es) 0 = normKind c := by simp [kindAt]
  have hpos : pos < u.length := lt_of_drop_cons hv
  unfold valS valW
  rw [hk, hk']
  by_cases hs : isScalarKind (normKind c) = true
  · simp only [hs, if_true]
    exact lexS_ok o st u pos es f0 c vt hv
  · simp only [hs, Bool.false_eq_true, if_false]
    by_cases hc : (normKind c == 0x7B || normKind c == 0x5B) = true
    · simp only [hc, if_true]
      have hV := (value_sim_all o fuel).1 st.m.depth u pos es c vt hv
      cases hsv : sValue o fuel st.m.depth u pos es with
      | fault u' es' => rw [hsv] at hV; exact hV
      | done n e u' es' f1 =>
        rw [hsv] at hV
        obtain ⟨g0, gA, gb⟩ := hV
        simp only
        rw [← g0]
        refine ⟨rfl, rfl, gA, ?_⟩
        intro m st' hm
        simp only at hm
        split at hm
        · simp at hm
        · rename_i hne
          have hok : e = .ok := by simpa using hne
          have := containerFeed_tok _ _ _ _ _ _ hm
          have hb := gb hok
          omega
    · simp only [hc, Bool.false_eq_true, if_false]
      exact lexOk_here _ _ _ _ _ (by intro n st' h; simp at h)

theorem readValue_sim (o : VOpts) (s : SState) (ws : WState) (h : Sim s ws) :
    Step1 s ws (readValue o s) (wholeReadValue o ws) := by
  have hf : fuelFor (s.w.unread ++ avail s.events) = fuelFor ws.r := by rw [h.2.2.2.2.1]
  unfold readValue wholeReadValue
  rw [hf]
  exact readWith_sim (valS o (fuelFor ws.r)) (valW o (fuelFor ws.r)) _ (fun st => valS_ok o (fuelFor ws.r) st) s ws h

theorem readValue_nf (o : VOpts) (s : SState) (ws : WState) (h : Sim s ws) (hn : NoFault s.events) :
    StepNF (readValue o s) (wholeReadValue o ws) :=
  stepNF_of_sim hn (readValue_sim o s ws h)

/-- the `lex` of PeekKind: report the position -/
theorem peekLex_ok (st : TState) (u : Bytes) (pos : Nat) (es : List Event) (f : Bool) (c : UInt8) (vt : Bytes)
    (hv : u.drop pos = c :: vt) :
    LexOk u pos es ((fun (p : Nat) (_ : Bytes) => TRes.tok p st) pos ((c :: vt) ++ avail es))
      ((fun u pos es f => SRes.res (.tok pos st) pos u es f) u pos es f) := by
  have hpos : pos < u.length := lt_of_drop_cons hv
  exact lexOk_here _ _ _ _ _ (by intro n st' h; injection h with h1 _; omega)

theorem peek_nf (s : SState) (ws : WState) (h : Sim s ws) (hn : NoFault s.events) :
    (peek s).1 = some (wholePeek ws) ∧ Sim (peek s).2 ws ∧ NoFault (peek s).2.events := by
  have h0 := invalidate_facts s.w h.1 h.2.1
  have hst : ws.st = s.st := h.2.2.2.1
  have hr0 : ws.r = (Window.invalidate s.w).unread ++ avail s.events := by rw [h0.1]; exact h.2.2.2.2.1
  have hscan := scanWith_ok s.st (fun u pos es f => SRes.res (.tok pos s.st) pos u es f) (fun p _ => TRes.tok p s.st)
    (peekLex_ok s.st) (Window.invalidate s.w).unread s.events
  unfold peek
  simp only
  generalize scanWith s.st (fun u pos es f => SRes.res (.tok pos s.st) pos u es f) (Window.invalidate s.w).unread
    s.events = S at hscan ⊢
  cases S with
  | fault u' es' => exact absurd (noFault_of_consumed hscan.cons hn).1 (by decide)
  | res r start u' es' f =>
    obtain ⟨g0, A, g4⟩ := hscan
    obtain ⟨hsim, c1, hoff, hTu⟩ := commit_sim h h0 f A.same A.len
    have hw : wholeWith ws.st (fun p _ => TRes.tok p ws.st) ws.r = r := by rw [hst, hr0]; exact g0.symm
    have hn' := (noFault_of_consumed A.cons hn).2
    cases r with
    | err off e => exact ⟨by simp [wholePeek, hw], hsim, hn'⟩
    | tok n st' =>
      obtain ⟨t1, _, _, t4⟩ := g4 n st' rfl
      refine ⟨?_, hsim, hn'⟩
      simp only [wholePeek, hw]
      rw [hr0, ← t1, ← hr0, hTu, kindAt_append u' _ start t4]

theorem skipLoop_nf (o : VOpts) (fuel depth : Nat) : ∀ (s : SState) (ws : WState), Sim s ws → NoFault s.events →
    StepNF (skipLoop o fuel depth s) (wholeSkipLoop o fuel depth ws) := by
  induction fuel with
  | zero => intro s ws h hn; exact ⟨rfl, h, hn⟩
  | succ f ih =>
    intro s ws h hn
    obtain ⟨ho, hs', hn'⟩ := readToken_nf o s ws h hn
    simp only [skipLoop, wholeSkipLoop]
    rcases hrt : readToken o s with ⟨out, s'⟩
    rcases hwt : wholeRead o ws with ⟨outw, ws'⟩
    rw [hrt, hwt] at ho hs'
    rw [hrt] at hn'
    simp only at ho hs' hn'
    subst ho
    have hst : ws'.st = s'.st := hs'.2.2.2.1
    cases out with
    | fault => exact ⟨rfl, hs', hn'⟩
    | err off e => exact ⟨rfl, hs', hn'⟩
    | skip b => exact ⟨rfl, hs', hn'⟩
    | tok k a b =>
      simp only [hst]
      split
      · exact ⟨rfl, hs', hn'⟩
      · exact ih s' ws' hs' hn'

theorem skipValue_nf (o : VOpts) (s : SState) (ws : WState) (h : Sim s ws) (hn : NoFault s.events) :
    StepNF (skipValue o s) (wholeSkipValue o ws) := by
  obtain ⟨hp, hs1, hn1⟩ := peek_nf s ws h hn
  unfold skipValue wholeSkipValue
  rcases hpk : peek s with ⟨k, s1⟩
  rw [hpk] at hp hs1 hn1
  simp only at hp hs1 hn1
  subst hp
  simp only
  have hst : ws.st = s1.st := hs1.2.2.2.1
  have hr : ws.r = s1.w.unread ++ avail s1.events := hs1.2.2.2.2.1
  by_cases hk : (wholePeek ws == 0x7B || wholePeek ws == 0x5B) = true
  · simp only [hk, if_true]
    rw [← hr, ← hst]
    exact skipLoop_nf o _ _ s1 ws hs1 hn1
  · simp only [hk, Bool.false_eq_true, if_false]
    obtain ⟨ho, hs2, hn2⟩ := readValue_nf o s1 ws hs1 hn1
    rcases hrv : readValue o s1 with ⟨out, s2⟩
    rcases hwv : wholeReadValue o ws with ⟨outw, ws2⟩
    rw [hrv, hwv] at ho hs2
    rw [hrv] at hn2
    simp only at ho hs2 hn2
    subst ho
    cases out <;> exact ⟨rfl, hs2, hn2⟩

theorem call_nf (o : VOpts) (c : Call) (s : SState) (ws : WState) (h : Sim s ws) (hn : NoFault s.events) :
    StepNF (call o c s) (wholeCall o c ws) := by
  cases c with
  | readToken => exact readToken_nf o s ws h hn
  | readValue => exact readValue_nf o s ws h hn
  | skipValue => exact skipValue_nf o s ws h hn

/-- `sim_full` (C05) for ReadToken / ReadValue / SkipValue scripts -/
theorem script_sim (o : VOpts) (cs : List Call) : ∀ (s : SState) (ws : WState), Sim s ws → NoFault s.events →
    runScript o cs s = wholeScript o cs ws := by
  induction cs with
  | nil => intros; rfl
  | cons c cs ih =>
    intro s ws h hn
    obtain ⟨ho, hs', hn'⟩ := call_nf o c s ws h hn
    simp only [runScript, wholeScript]
    rw [ho, ih _ _ hs' hn']

theorem readValue_span (o : VOpts) (s : SState) (ws : WState) (h : Sim s ws) (pre : Bytes) (hpre : pre.length = ws.off)
    (k : UInt8) (a b : Nat) (ht : (readValue o s).1 = .tok k a b) :
    ws.off ≤ a ∧ a ≤ b ∧ b ≤ (pre ++ ws.r).length ∧
    (readValue o s).2.w.baseOffset + (readValue o s).2.w.prevEnd = b ∧
    (readValue o s).2.w.baseOffset + (readValue o s).2.w.prevStart = a ∧
    (readValue o s).2.prevBytes = ((pre ++ ws.r).drop a).take (b - a) := by
  have hf : fuelFor (s.w.unread ++ avail s.events) = fuelFor ws.r := by rw [h.2.2.2.2.1]
  unfold readValue at ht ⊢
  rw [hf] at ht ⊢
  obtain ⟨g1, g2, g3, g4, g5⟩ := readWith_span (valS o (fuelFor ws.r)) (valW o (fuelFor ws.r)) (fun _ => true)
    (fun st => valS_ok o (fuelFor ws.r) st) s ws h pre hpre k a b ht
  exact ⟨g1, g2, g3, g4, (g5 rfl).1, (g5 rfl).2⟩

end JsonV.Model.Stream
