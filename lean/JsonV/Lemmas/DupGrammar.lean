/-
Grammar lemma for C08: a text of one grammar instance is a text of another instance as soon as the two agree on the
string literals that occur in it (as infixes) and on the keys of those literals (`JValue.mono` under the blanks of
`JText`).  Used for "AllowInvalidUTF8 only adds texts containing an ill-formed literal" and for replacing the validator's
name key by the unquoted name.
-/
import JsonV.Lemmas.GrammarL

namespace JsonV.Lemmas.DupGrammar
open JsonV JsonV.Spec.Grammar

theorem jtext_transfer (o1 o2 : GOpts) (K : Nat) (k1 k2 : Bytes → Bytes) (hdup : o1.allowDup = o2.allowDup)
    (b : Bytes) (h : JText o1 K k1 b)
    (hs : ∀ q, q <:+: b → JString o1.strict q → JString o2.strict q ∧ k1 q = k2 q) : JText o2 K k2 b := by
  obtain ⟨w1, v, w2, h1, hv, h2, rfl⟩ := h
  have hs' := fun q (hq : q <:+: v) => hs q (hq.trans ⟨w1, w2, rfl⟩)
  exact ⟨w1, v, w2, h1, hv.mono (Nat.le_refl K) (fun q hq hj => (hs' q hq hj).1)
    (.inr ⟨hdup, fun q hq hj => (hs' q hq hj).2⟩), h2, rfl⟩

end JsonV.Lemmas.DupGrammar
