/-
One classification of what the rest of a string body starts with (`headOf`), and the step functions of AppendUnquote and
ConsumeString (Model/Quote) as tables over it (`unqStep_eq`, `csStep_eq`): a fact about one iteration is a `cases` over `Head`, and
beside these equations only the termination lemmas of Model/Quote walk the `if`-trees of the step functions.  `Shape` says what
each answer means for the input; it has no constructor for `bug`, the `panic("BUG: unhandled character")` arm, which is therefore
not reached (`headOf_shape`).
-/
import JsonV.Model.Quote
import JsonV.Spec.StringSpec

namespace JsonV.Lemmas.QuoteHead
open JsonV JsonV.Model.Utf8 JsonV.Model.Quote JsonV.Spec.StringSpec

/-- What the rest of a string body starts with.  The byte counts `k` of `multi` and `bad` are determined by the other data; they are
what the step functions write there, so that `unqStep_eq` and `csStep_eq` hold by unfolding. -/
inductive Head
  /-- a byte that stands for itself -/
  | plain (c : UInt8)
  /-- the closing quote; `last`: nothing follows it -/
  | close (last : Bool)
  /-- a well-formed sequence `p` of `k = p.length` bytes, more than one -/
  | multi (p : Bytes) (k : Nat)
  /-- `\e`, standing for the byte `v` -/
  | simple (e v : UInt8)
  /-- `\uXXXX` with a value that is no surrogate; `nc`: RFC 8785 spells it otherwise -/
  | uni (v1 : Nat) (nc : Bool)
  /-- a surrogate pair -/
  | pair (v1 v2 : Nat) (nc : Bool)
  /-- `\uXXXX` with a surrogate value and no second half behind it -/
  | lone (v1 : Nat) (nc : Bool)
  /-- `\uXXXX` with a surrogate value, and the input ends where the second half could still follow -/
  | loneEOF (v1 : Nat) (nc : Bool)
  /-- a byte that starts no well-formed sequence (`k` = 1, the width `decodeRune` reports) -/
  | bad (k : Nat)
  /-- the input ends: empty, inside a UTF-8 sequence, or (`esc`) inside an escape -/
  | eof (esc : Bool)
  | badEscape
  | ctrl
  /-- the `default` arm of the Go `switch`; `headOf` never answers it (`headOf_shape`) -/
  | bug

/-- `headU` behind a first `\uXXXX` with the surrogate value `v1`; `rest` is the input after it. -/
def headSurr (v1 : Nat) (nc : Bool) (rest : Bytes) : Head :=
  match rest with
  | b0 :: b1 :: h1 :: h2 :: h3 :: h4 :: _ =>
    match parseHexUint16 [h1, h2, h3, h4] with
    | some v2 =>
      if b0 ≠ 0x5c ∨ b1 ≠ 0x75 then .lone v1 nc
      else if utf16DecodeRune v1 v2 = runeError then .lone v1 nc
      else .pair v1 v2 nc
    | none => .lone v1 nc
  | _ => if hasEscapedUTF16Prefix rest true then .loneEOF v1 nc else .lone v1 nc

/-- `headEsc` on an input that starts with `\u`. -/
def headU (src : Bytes) : Head :=
  match src with
  | _ :: _ :: h1 :: h2 :: h3 :: h4 :: rest =>
    match parseHexUint16 [h1, h2, h3, h4] with
    | none => .badEscape
    | some v1 =>
      if isSurrogate v1 then headSurr v1 (escNonCanon v1 [h1, h2, h3, h4]) rest
      else .uni v1 (escNonCanon v1 [h1, h2, h3, h4])
  | _ => if hasEscapedUTF16Prefix src false then .eof true else .badEscape

/-- `headOf` on an input that starts with the backslash. -/
def headEsc (src : Bytes) : Head :=
  match src with
  | [] | [_] => .eof true
  | _ :: c1 :: _ =>
    let e := c1.toNat
    if e = 0x22 ∨ e = 0x5c ∨ e = 0x2f then .simple c1 c1
    else if e = 0x62 then .simple c1 0x08
    else if e = 0x66 then .simple c1 0x0c
    else if e = 0x6e then .simple c1 0x0a
    else if e = 0x72 then .simple c1 0x0d
    else if e = 0x74 then .simple c1 0x09
    else if e = 0x75 then headU src
    else .badEscape

/-- The tests that `unqStep` and `csStep` make on `src`, in their order, with a `Head` for the arm they reach. -/
def headOf (src : Bytes) : Head :=
  match src with
  | [] => .eof false
  | c :: t =>
    if noEscape c.toNat then .plain c
    else if c = 0x22 then .close t.isEmpty
    else
      let d := decodeRune src
      if d.2 > 1 then .multi (src.take d.2) d.2
      else if d.1 = 0x5c then headEsc src
      else if d.1 = runeError then
        if !fullRune src then .eof false else .bad d.2
      else if d.1 < 0x20 then .ctrl
      else .bug

/-- AppendUnquote's iteration. -/
def unqOf : Head → Step
  | .plain c => .cont [c] 1 none
  | .close last => .stop [] (if last then none else some .invalidChar)
  | .multi p k => .cont p k none
  | .simple _ v => .cont [v] 2 none
  | .uni v1 _ => .cont (encodeRune v1) 6 none
  | .pair v1 v2 _ => .cont (encodeRune (utf16DecodeRune v1 v2)) 12 none
  | .loneEOF _ _ => .stop (encodeRune runeError) (some .unexpectedEOF)
  | .lone _ _ => .cont (encodeRune runeError) 6 (some .invalidEscape)
  | .bad k => .cont utf8FFFD k (some .invalidUTF8)
  | .eof _ => .stop [] (some .unexpectedEOF)
  | .badEscape => .stop [] (some .invalidEscape)
  | .ctrl => .stop [] (some .invalidChar)
  | .bug => .stop [] (some .bug)

/-- ConsumeString's iteration. -/
def csOf (v : Bool) : Head → CStep
  | .plain _ => .cont 1 false
  | .close _ => .stop 1 .ok false
  | .multi _ k => .cont k false
  | .simple e _ => .cont 2 (decide (e.toNat = 0x2f))
  | .uni _ nc => .cont 6 nc
  | .pair _ _ nc => if v then .cont 12 nc else .cont 6 nc
  | .loneEOF _ nc => if v then .stop 0 .unexpectedEOF nc else .cont 6 nc
  | .lone _ nc => if v then .stop 0 .invalidEscape true else .cont 6 nc
  | .bad _ => if v then .stop 0 .invalidUTF8 true else .cont 1 true
  | .eof _ => .stop 0 .unexpectedEOF false
  | .badEscape => .stop 0 .invalidEscape true
  | .ctrl => .stop 0 .invalidChar true
  | .bug => .stop 0 .bug false

theorem six_or_short : ∀ r : Bytes, (∃ x0 x1 x2 x3 x4 x5 t, r = x0 :: x1 :: x2 :: x3 :: x4 :: x5 :: t) ∨ r.length < 6
  | [] | [_] | [_, _] | [_, _, _] | [_, _, _, _] | [_, _, _, _, _] => .inr (by simp)
  | _ :: _ :: _ :: _ :: _ :: _ :: _ => .inl ⟨_, _, _, _, _, _, _, rfl⟩

theorem headSurr_short {rest : Bytes} (h : rest.length < 6) (v1 : Nat) (nc : Bool) :
    headSurr v1 nc rest = if hasEscapedUTF16Prefix rest true then .loneEOF v1 nc else .lone v1 nc := by
  unfold headSurr
  split
  · simp at h; omega
  · rfl

theorem headU_short {src : Bytes} (h : src.length < 6) :
    headU src = if hasEscapedUTF16Prefix src false then .eof true else .badEscape := by
  unfold headU
  split
  · simp at h; omega
  · rfl

/-- The models test the escape byte in different orders; each is compared with this once. -/
theorem headEsc_cases (c0 c1 : UInt8) (t : Bytes) :
    (∃ v, (c1, v) ∈ simpleEscapes ∧ headEsc (c0 :: c1 :: t) = .simple c1 v) ∨
    (c1 = 0x75 ∧ headEsc (c0 :: c1 :: t) = headU (c0 :: c1 :: t)) ∨
    (¬ (c1.toNat = 0x22 ∨ c1.toNat = 0x5c ∨ c1.toNat = 0x2f ∨ c1.toNat = 0x62 ∨ c1.toNat = 0x66 ∨ c1.toNat = 0x6e ∨
        c1.toNat = 0x72 ∨ c1.toNat = 0x74 ∨ c1.toNat = 0x75) ∧ headEsc (c0 :: c1 :: t) = .badEscape) := by
  have hb (k : UInt8) (h : c1.toNat = k.toNat) : c1 = k := UInt8.toNat_inj.mp h
  simp only [headEsc]
  by_cases h1 : c1.toNat = 0x22 ∨ c1.toNat = 0x5c ∨ c1.toNat = 0x2f
  · rw [if_pos h1]
    rcases h1 with h | h | h
    · obtain rfl := hb 0x22 h; exact .inl ⟨_, .head _, rfl⟩
    · obtain rfl := hb 0x5c h; exact .inl ⟨_, .tail _ (.head _), rfl⟩
    · obtain rfl := hb 0x2f h; exact .inl ⟨_, .tail _ (.tail _ (.head _)), rfl⟩
  rw [if_neg h1]
  by_cases h2 : c1.toNat = 0x62
  · rw [if_pos h2]; obtain rfl := hb 0x62 h2; exact .inl ⟨_, .tail _ (.tail _ (.tail _ (.head _))), rfl⟩
  rw [if_neg h2]
  by_cases h3 : c1.toNat = 0x66
  · rw [if_pos h3]; obtain rfl := hb 0x66 h3; exact .inl ⟨_, .tail _ (.tail _ (.tail _ (.tail _ (.head _)))), rfl⟩
  rw [if_neg h3]
  by_cases h4 : c1.toNat = 0x6e
  · rw [if_pos h4]; obtain rfl := hb 0x6e h4; exact .inl ⟨_, .tail _ (.tail _ (.tail _ (.tail _ (.tail _ (.head _))))), rfl⟩
  rw [if_neg h4]
  by_cases h5 : c1.toNat = 0x72
  · rw [if_pos h5]; obtain rfl := hb 0x72 h5; exact .inl ⟨_, .tail _ (.tail _ (.tail _ (.tail _ (.tail _ (.tail _ (.head _)))))), rfl⟩
  rw [if_neg h5]
  by_cases h6 : c1.toNat = 0x74
  · rw [if_pos h6]; obtain rfl := hb 0x74 h6; exact .inl ⟨_, .tail _ (.tail _ (.tail _ (.tail _ (.tail _ (.tail _ (.tail _ (.head _))))))), rfl⟩
  rw [if_neg h6]
  by_cases h7 : c1.toNat = 0x75
  · rw [if_pos h7]; exact .inr (.inl ⟨hb 0x75 h7, rfl⟩)
  · rw [if_neg h7]; exact .inr (.inr ⟨by omega, rfl⟩)

theorem simple_cases {P : UInt8 → UInt8 → Prop} {e v : UInt8} (h : (e, v) ∈ simpleEscapes)
    (h1 : P 0x22 0x22) (h2 : P 0x5c 0x5c) (h3 : P 0x2f 0x2f) (h4 : P 0x62 0x08) (h5 : P 0x66 0x0c) (h6 : P 0x6e 0x0a)
    (h7 : P 0x72 0x0d) (h8 : P 0x74 0x09) : P e v := by
  simp only [simpleEscapes, List.mem_cons, Prod.mk.injEq, List.not_mem_nil, or_false] at h
  rcases h with ⟨rfl, rfl⟩ | ⟨rfl, rfl⟩ | ⟨rfl, rfl⟩ | ⟨rfl, rfl⟩ | ⟨rfl, rfl⟩ | ⟨rfl, rfl⟩ | ⟨rfl, rfl⟩ | ⟨rfl, rfl⟩ <;>
    assumption

theorem unqSurrogate_eq (v1 : Nat) (nc : Bool) (rest : Bytes) : unqSurrogate v1 rest = unqOf (headSurr v1 nc rest) := by
  unfold unqSurrogate headSurr
  split
  · split <;> rename_i hp <;> simp only [hp, apply_ite unqOf] <;> rfl
  · simp only [apply_ite unqOf]; rfl

theorem csSurrogate_eq (v1 : Nat) (nc : Bool) (rest : Bytes) :
    csSurrogate v1 nc rest = csOf true (headSurr v1 nc rest) := by
  unfold csSurrogate headSurr
  split
  · split <;> rename_i hp <;> simp only [hp, apply_ite (csOf true)] <;> rfl
  · simp only [apply_ite (csOf true)]; rfl

/-- Without validateUTF8 ConsumeString does not look behind a surrogate escape. -/
theorem csOf_false_headSurr (v1 : Nat) (nc : Bool) (rest : Bytes) : csOf false (headSurr v1 nc rest) = .cont 6 nc := by
  unfold headSurr
  split
  · split
    · simp only [apply_ite (csOf false)]; split; rfl; split <;> rfl
    · rfl
  · split <;> rfl

theorem unqEscapeU_eq (src : Bytes) : unqEscapeU src = unqOf (headU src) := by
  unfold unqEscapeU headU
  split
  · split <;> rename_i hp <;> simp only [hp, apply_ite unqOf, ← unqSurrogate_eq] <;> rfl
  · simp only [apply_ite unqOf]; rfl

theorem csEscapeU_eq (v : Bool) (src : Bytes) : csEscapeU v src = csOf v (headU src) := by
  unfold csEscapeU headU
  split
  · split <;> rename_i hp <;> simp only [hp, apply_ite (csOf v)]
    · rfl
    · cases v
      · simp only [csOf_false_headSurr, Bool.false_and, Bool.false_eq_true, if_false]; exact (ite_self _).symm
      · simp only [← csSurrogate_eq, Bool.true_and]; rfl
  · simp only [apply_ite (csOf v)]; rfl

theorem unqEscape_eq : ∀ src, unqEscape src = unqOf (headEsc src)
  | [] | [_] => rfl
  | _ :: c1 :: t => by simp only [unqEscape, headEsc, apply_ite unqOf, ← unqEscapeU_eq]; rfl

theorem csEscape_eq (v : Bool) : ∀ src, csEscape v src = csOf v (headEsc src)
  | [] | [_] => rfl
  | c0 :: c1 :: t => by
    rcases headEsc_cases c0 c1 t with ⟨w, hm, he⟩ | ⟨rfl, he⟩ | ⟨hn, he⟩
    · rw [he]
      exact simple_cases (P := fun e w => csEscape v (c0 :: e :: t) = csOf v (.simple e w)) hm rfl rfl rfl rfl rfl rfl rfl rfl
    · rw [he, ← csEscapeU_eq]; rfl
    · rw [he, csEscape, if_neg (show ¬ c1.toNat = 0x2f by omega),
        if_neg (show ¬ (c1.toNat = 0x22 ∨ c1.toNat = 0x5c ∨ c1.toNat = 0x62 ∨ c1.toNat = 0x66 ∨ c1.toNat = 0x6e ∨
          c1.toNat = 0x72 ∨ c1.toNat = 0x74) by omega), if_neg (show ¬ c1.toNat = 0x75 by omega)]
      rfl

theorem unqStep_eq : ∀ src, unqStep src = unqOf (headOf src)
  | [] => rfl
  | c :: t => by simp only [unqStep, headOf, apply_ite unqOf, ← unqEscape_eq]; rfl

theorem csStep_eq (v : Bool) : ∀ src, csStep v src = csOf v (headOf src)
  | [] => rfl
  | c :: t => by simp only [csStep, headOf, apply_ite (csOf v), ← csEscape_eq]; rfl

theorem simpleEscapes_lt : ∀ p ∈ simpleEscapes, p.2.toNat < runeSelf := by decide

/-- What the tests in front of the `default` arm of the Go `switch` leave is a control character. -/
theorem ctrl_of_ascii {c : UInt8} (h0 : c.toNat < runeSelf) (hne : ¬ noEscape c.toNat = true) (hq : c ≠ 0x22)
    (h5 : ¬ c.toNat = 0x5c) : c.toNat < 0x20 := by
  refine Decidable.byContradiction fun hlt => hne ?_
  have hq' : c.toNat ≠ 0x22 := fun h => hq (UInt8.toNat_inj.mp h)
  simp only [noEscape, Bool.and_eq_true, decide_eq_true_eq, ne_eq]
  exact ⟨⟨⟨h0, Nat.le_of_not_lt hlt⟩, h5⟩, hq'⟩

/-- The bytes in front when `headOf` answers `h`.  `lone` and `loneEOF` have the same premises: how much input follows the escape
is not recorded here (`headSurr_short` says it). -/
inductive Shape : Bytes → Head → Prop
  | plain {c : UInt8} {t : Bytes} : noEscape c.toNat = true → Shape (c :: t) (.plain c)
  | close {t : Bytes} : Shape (0x22 :: t) (.close t.isEmpty)
  | multi {c : UInt8} {t : Bytes} : ¬ c.toNat < runeSelf → 1 < (decodeRune (c :: t)).2 →
      Shape (c :: t) (.multi ((c :: t).take (decodeRune (c :: t)).2) (decodeRune (c :: t)).2)
  | simple {e v : UInt8} {t : Bytes} : (e, v) ∈ simpleEscapes → Shape (0x5c :: e :: t) (.simple e v)
  | uni {a b c d : UInt8} {v1 : Nat} {t : Bytes} : parseHexUint16 [a, b, c, d] = some v1 → isSurrogate v1 = false →
      Shape (0x5c :: 0x75 :: a :: b :: c :: d :: t) (.uni v1 (escNonCanon v1 [a, b, c, d]))
  | pair {a b c d e f g h : UInt8} {v1 v2 : Nat} {t : Bytes} : parseHexUint16 [a, b, c, d] = some v1 →
      parseHexUint16 [e, f, g, h] = some v2 → isSurrogate v1 = true → utf16DecodeRune v1 v2 ≠ runeError →
      Shape (0x5c :: 0x75 :: a :: b :: c :: d :: 0x5c :: 0x75 :: e :: f :: g :: h :: t)
        (.pair v1 v2 (escNonCanon v1 [a, b, c, d]))
  | lone {a b c d : UInt8} {v1 : Nat} {t : Bytes} : parseHexUint16 [a, b, c, d] = some v1 →
      isSurrogate v1 = true → Shape (0x5c :: 0x75 :: a :: b :: c :: d :: t) (.lone v1 (escNonCanon v1 [a, b, c, d]))
  | loneEOF {a b c d : UInt8} {v1 : Nat} {t : Bytes} : parseHexUint16 [a, b, c, d] = some v1 →
      isSurrogate v1 = true → Shape (0x5c :: 0x75 :: a :: b :: c :: d :: t) (.loneEOF v1 (escNonCanon v1 [a, b, c, d]))
  | bad {c : UInt8} {t : Bytes} : ¬ c.toNat < runeSelf → decodeRune (c :: t) = (runeError, 1) →
      fullRune (c :: t) = true → Shape (c :: t) (.bad 1)
  | eof {src : Bytes} {esc : Bool} : Shape src (.eof esc)
  | badEscape {src : Bytes} : Shape src .badEscape
  | ctrl {c : UInt8} {t : Bytes} : c.toNat < 0x20 → Shape (c :: t) .ctrl

theorem headSurr_shape {a b c d : UInt8} {v1 : Nat} (hp : parseHexUint16 [a, b, c, d] = some v1)
    (hs : isSurrogate v1 = true) (rest : Bytes) :
    Shape (0x5c :: 0x75 :: a :: b :: c :: d :: rest) (headSurr v1 (escNonCanon v1 [a, b, c, d]) rest) := by
  unfold headSurr
  split
  · split
    · rename_i b0 b1 _ _ _ _ _ _ v2 hp2
      by_cases hb : b0 ≠ 0x5c ∨ b1 ≠ 0x75
      · rw [if_pos hb]; exact .lone hp hs
      rw [if_neg hb]
      obtain ⟨rfl, rfl⟩ : b0 = 0x5c ∧ b1 = 0x75 := by
        simpa only [not_or, ne_eq, Decidable.not_not] using hb
      by_cases hd : utf16DecodeRune v1 v2 = runeError
      · rw [if_pos hd]; exact .lone hp hs
      · rw [if_neg hd]; exact .pair hp hp2 hs hd
    · exact .lone hp hs
  · split
    · exact .loneEOF hp hs
    · exact .lone hp hs

theorem headU_shape (t : Bytes) : Shape (0x5c :: 0x75 :: t) (headU (0x5c :: 0x75 :: t)) := by
  unfold headU
  split
  · rename_i heq
    obtain ⟨-, -, rfl⟩ : _ ∧ _ ∧ t = _ := by simpa only [List.cons.injEq] using heq
    split
    · exact .badEscape
    · rename_i v1 hp
      by_cases hs : isSurrogate v1 = true
      · rw [if_pos hs]; exact headSurr_shape hp hs _
      · rw [if_neg hs]; exact .uni hp (Bool.eq_false_iff.mpr hs)
  · split
    · exact .eof
    · exact .badEscape

theorem headEsc_shape : ∀ t, Shape (0x5c :: t) (headEsc (0x5c :: t))
  | [] => .eof
  | c1 :: t => by
    rcases headEsc_cases 0x5c c1 t with ⟨w, hm, he⟩ | ⟨rfl, he⟩ | ⟨-, he⟩
    · rw [he]; exact .simple hm
    · rw [he]; exact headU_shape t
    · rw [he]; exact .badEscape

theorem headOf_shape : ∀ src, Shape src (headOf src)
  | [] => .eof
  | c :: t => by
    simp only [headOf]
    by_cases hne : noEscape c.toNat = true
    · rw [if_pos hne]; exact .plain hne
    rw [if_neg hne]
    by_cases hq : c = 0x22
    · rw [if_pos hq, hq]; exact .close
    rw [if_neg hq]
    by_cases h1 : (decodeRune (c :: t)).2 > 1
    · rw [if_pos h1]
      exact .multi (fun h0 => by rw [decodeRune_ascii c t h0] at h1; exact absurd h1 (Nat.lt_irrefl 1)) h1
    rw [if_neg h1]
    rcases decodeRune_narrow c t h1 with ⟨h0, hd⟩ | hd
    · have hr : ¬ c.toNat = runeError := fun h => absurd (h ▸ h0) (by decide)
      rw [hd]
      by_cases h5 : c.toNat = 0x5c
      · obtain rfl : c = 0x5c := UInt8.toNat_inj.mp h5
        rw [if_pos h5]; exact headEsc_shape t
      · have hlt := ctrl_of_ascii h0 hne hq h5
        rw [if_neg h5, if_neg hr, if_pos hlt]; exact .ctrl hlt
    · have h0 : ¬ c.toNat < runeSelf := fun h0 => by
        rw [decodeRune_ascii c t h0] at hd
        have hc : c.toNat = runeError := (Prod.ext_iff.mp hd).1
        rw [hc] at h0
        exact absurd h0 (by decide)
      rw [hd, if_neg (by decide), if_pos rfl]
      cases hf : fullRune (c :: t) with
      | false => exact .eof
      | true => exact .bad h0 hd hf

theorem headOf_plain {c : UInt8} (t : Bytes) (h : noEscape c.toNat = true) : headOf (c :: t) = .plain c := by
  rw [headOf, if_pos h]

theorem headOf_close (t : Bytes) : headOf (0x22 :: t) = .close t.isEmpty := by
  rw [headOf, if_neg (by decide), if_pos rfl]

theorem headOf_high {c : UInt8} (t : Bytes) (h0 : ¬ c.toNat < runeSelf) :
    headOf (c :: t) =
      if (decodeRune (c :: t)).2 > 1 then .multi ((c :: t).take (decodeRune (c :: t)).2) (decodeRune (c :: t)).2
      else if !fullRune (c :: t) then .eof false else .bad 1 := by
  have hne : ¬ noEscape c.toNat = true := by
    simp only [noEscape, Bool.and_eq_true, decide_eq_true_eq]; exact fun h => h0 h.1.1.1
  have hq : c ≠ 0x22 := fun h => h0 (h ▸ by decide)
  rw [headOf, if_neg hne, if_neg hq]
  rcases decodeRune_high c t h0 with h1 | h1
  · simp only [if_pos h1]
  · simp only [h1, if_neg (Nat.lt_irrefl 1), if_neg (show ¬ runeError = 0x5c by decide), if_pos]

theorem headOf_multi {p : Bytes} {r : Nat} (t : Bytes) (hp : 1 < p.length) (hd : decodeRune (p ++ t) = (r, p.length)) :
    headOf (p ++ t) = .multi p p.length := by
  match p, hp with
  | c :: p', hp =>
    rw [List.cons_append] at hd
    have h0 : ¬ c.toNat < runeSelf := fun h0 => by
      rw [decodeRune_ascii c _ h0] at hd
      exact absurd (Prod.ext_iff.mp hd).2 (Nat.ne_of_lt hp)
    rw [List.cons_append, headOf_high _ h0, hd]
    exact (if_pos hp).trans (congrArg (Head.multi · _) (by rw [← List.cons_append]; exact List.take_left))

theorem headOf_take (c : UInt8) (t tail : Bytes) (h1 : 1 < (decodeRune (c :: t)).2) :
    headOf ((c :: t).take (decodeRune (c :: t)).2 ++ tail) =
      .multi ((c :: t).take (decodeRune (c :: t)).2) (decodeRune (c :: t)).2 := by
  have hl := take_decodeRune_length (c :: t)
  have := headOf_multi (r := (decodeRune (c :: t)).1) tail (by rw [hl]; exact h1) (by rw [decodeRune_take_append _ _ h1, hl])
  rwa [hl] at this

theorem headOf_bad {c : UInt8} {t : Bytes} (h0 : ¬ c.toNat < runeSelf) (hd : decodeRune (c :: t) = (runeError, 1))
    (hf : fullRune (c :: t) = true) : headOf (c :: t) = .bad 1 := by
  rw [headOf_high t h0, hd, if_neg (Nat.lt_irrefl 1), hf]; rfl

theorem headOf_backslash (t : Bytes) : headOf (0x5c :: t) = headEsc (0x5c :: t) := by
  rw [headOf, if_neg (by decide), if_neg (by decide), decodeRune_ascii 0x5c t (by decide)]
  exact (if_neg (Nat.lt_irrefl 1)).trans (if_pos rfl)

theorem headOf_simple {e v : UInt8} (t : Bytes) (h : (e, v) ∈ simpleEscapes) : headOf (0x5c :: e :: t) = .simple e v := by
  rw [headOf_backslash]
  simp only [simpleEscapes, List.mem_cons, Prod.mk.injEq, List.not_mem_nil, or_false] at h
  rcases h with ⟨rfl, rfl⟩ | ⟨rfl, rfl⟩ | ⟨rfl, rfl⟩ | ⟨rfl, rfl⟩ | ⟨rfl, rfl⟩ | ⟨rfl, rfl⟩ | ⟨rfl, rfl⟩ | ⟨rfl, rfl⟩ <;> rfl

theorem headOf_u (t : Bytes) : headOf (0x5c :: 0x75 :: t) = headU (0x5c :: 0x75 :: t) := by
  rw [headOf_backslash]; rfl

theorem headOf_uni {a b c d : UInt8} {v1 : Nat} (t : Bytes) (hp : parseHexUint16 [a, b, c, d] = some v1)
    (hs : isSurrogate v1 = false) :
    headOf (0x5c :: 0x75 :: a :: b :: c :: d :: t) = .uni v1 (escNonCanon v1 [a, b, c, d]) := by
  rw [headOf_u]; simp only [headU, hp, hs, Bool.false_eq_true, if_false]

theorem headOf_pair {a b c d e f g h : UInt8} {v1 v2 : Nat} (t : Bytes) (hp : parseHexUint16 [a, b, c, d] = some v1)
    (hp2 : parseHexUint16 [e, f, g, h] = some v2) (hs : isSurrogate v1 = true) (hd : utf16DecodeRune v1 v2 ≠ runeError) :
    headOf (0x5c :: 0x75 :: a :: b :: c :: d :: 0x5c :: 0x75 :: e :: f :: g :: h :: t) =
      .pair v1 v2 (escNonCanon v1 [a, b, c, d]) := by
  rw [headOf_u]
  simp only [headU, hp, hs, if_true, headSurr, hp2, ne_eq, not_true, or_self, if_false, if_neg hd]

end JsonV.Lemmas.QuoteHead
