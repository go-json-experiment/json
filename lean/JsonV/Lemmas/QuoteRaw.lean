/-
AppendUnquote on content with escapes and raw bytes that may be ill-formed (C11, `unqLoop_lossy`): the result is the meaning
with exactly one U+FFFD per ill-formed byte, with ErrInvalidUTF8 iff there is one.  The closing quote changes neither how the
content decodes nor that an ill-formed byte before it is a full rune (`Utf8.decodeRune_append_ascii`).  A literal valid per RFC
8259 is the case without ill-formed bytes (`QuoteMeaning.unqLoop_meaning`: it unquotes to its meaning).
-/
import JsonV.Lemmas.QuoteWf
import JsonV.Lemmas.QuoteMeaning

namespace JsonV.Lemmas.QuoteRaw
open JsonV JsonV.Model.Utf8 JsonV.Model.Quote JsonV.Lemmas.QuoteL JsonV.Spec.StringSpec JsonV.Lemmas.QuoteWf JsonV.Lemmas.QuoteHead

/-- Bytes that may appear raw between the quotes: not `"`, not `\`, not a control character. -/
def RawBody (body : Bytes) : Prop := ∀ b ∈ body, b ≠ 0x22 ∧ b ≠ 0x5c ∧ 0x20 ≤ b.toNat

theorem unqStep_illFormed (c : UInt8) (t : Bytes) (h0 : ¬ c.toNat < runeSelf) (hd : decodeRune (c :: t) = (runeError, 1)) :
    unqStep (c :: (t ++ [0x22])) = .cont utf8FFFD 1 (some .invalidUTF8) := by
  have hd' : decodeRune (c :: (t ++ [0x22])) = (runeError, 1) :=
    (decodeRune_append_ascii (c :: t) [] 0x22 (by decide) (by simp)).trans hd
  have hf : fullRune (c :: (t ++ [0x22])) = true := fullRune_append_ascii (c :: t) [] 0x22 (by decide) (by simp)
  rw [unqStep_eq, headOf_bad h0 hd' hf]; rfl

theorem lossy_seq {p rest m : Bytes} {r k : Nat} (hs : IsSeq p r) (h20 : 0x20 ≤ r) (hq : r ≠ 0x22) (hb : r ≠ 0x5c)
    (h : UnescapesLossy rest m k) : UnescapesLossy (p ++ rest) (p ++ m) k := by
  have := hs.2 []
  rw [List.append_nil] at this
  exact .unescaped this.1 hs.1 this.2 h20 hq hb h

theorem unescapesLossy_of_raw (body : Bytes) (hb : RawBody body) :
    UnescapesLossy body (lossy body) (illFormedCount body) := by
  fun_induction lossy body with
  | case1 => rw [illFormedCount]; exact .nil
  | case2 c t ih =>
    have hc := hb c (by simp)
    have ih := ih fun b hm => hb b (List.mem_of_mem_drop hm)
    rw [illFormedCount]
    by_cases h0 : c.toNat < runeSelf
    · have hs := isSeq_ascii c h0
      have hi : illFormedHead (c :: t) = false := (hs.2 t).2
      rw [decodeRune_ascii c t h0] at ih ⊢
      rw [hi, if_neg Bool.false_ne_true, if_neg Bool.false_ne_true, Nat.zero_add]
      exact lossy_seq hs hc.2.2 (fun h => hc.1 (UInt8.toNat_inj.mp h)) (fun h => hc.2.1 (UInt8.toNat_inj.mp h)) ih
    · rcases decodeRune_high c t h0 with h1 | h1
      · have hs := isSeq_take c t h1
        have hge := decodeRune_multi_ge (c :: t) h1
        have := lossy_seq hs (by omega) (by omega) (by omega) ih
        rw [List.take_append_drop] at this
        have hi : illFormedHead (c :: t) = false := by
          rw [← List.take_append_drop (decodeRune (c :: t)).2 (c :: t)]; exact (hs.2 _).2
        rwa [hi, if_neg Bool.false_ne_true, if_neg Bool.false_ne_true, Nat.zero_add]
      · have hi : illFormedHead (c :: t) = true := by simp [illFormedHead, h1]
        rw [h1] at ih ⊢
        rw [hi, if_pos rfl, if_pos rfl, Nat.add_comm]
        exact .bad (Nat.le_of_not_lt h0) hi ih

open JsonV.Lemmas.QuoteMeaning in
theorem unqLoop_lossy {body m : Bytes} {k : Nat} (h : UnescapesLossy body m k) (e : Err) :
    unqLoop (body ++ [0x22]) e = (m, if 0 < k then Err.invalidUTF8 else e) := by
  induction h generalizing e with
  | nil => simpa using unqLoop_close e
  | @unescaped p rest m r k hd hp hi h20 hq hb _ ih =>
    rw [List.append_assoc, unqLoop_cont e (unqStep_unescaped p r hd hp hi h20 hq hb _)]
    simp [ih]
  | @bad c rest m k hc hi _ ih =>
    have h0 : ¬ c.toNat < runeSelf := by simp only [runeSelf]; omega
    have hd : decodeRune (c :: rest) = (runeError, 1) := by
      simp only [illFormedHead, Bool.and_eq_true, decide_eq_true_eq] at hi
      exact Prod.ext hi.1 hi.2
    rw [List.cons_append, unqLoop_cont e (unqStep_illFormed c rest h0 hd)]
    simp [ih, utf8FFFD, replacement]
  | @simple e' v rest m k hmem _ ih =>
    rw [List.cons_append, List.cons_append, unqLoop_cont e (unqStep_simple e' v hmem _)]
    simp [ih]
  | @unicode a b c d v rest m k h4 hs _ ih =>
    simp only [List.cons_append]
    rw [unqLoop_cont e (unqStep_unicode a b c d v h4 hs _)]
    simp [ih]
  | @pair a b c d a' b' c' d' hi lo rest m k h1 h2 hh hl _ ih =>
    simp only [List.cons_append]
    rw [unqLoop_cont e (unqStep_pair a b c d a' b' c' d' hi lo h1 h2 hh hl _)]
    simp [ih]

theorem unescapesLossy_of_unescapes {body m : Bytes} (h : Unescapes body m) : UnescapesLossy body m 0 := by
  induction h with
  | nil => exact .nil
  | unescaped hd hp hi h20 hq hb _ ih => exact .unescaped hd hp hi h20 hq hb ih
  | simple hm _ ih => exact .simple hm ih
  | unicode h4 hs _ ih => exact .unicode h4 hs ih
  | pair h1 h2 hh hl _ ih => exact .pair h1 h2 hh hl ih

end JsonV.Lemmas.QuoteRaw

namespace JsonV.Lemmas.QuoteMeaning
open JsonV JsonV.Model.Quote JsonV.Spec.StringSpec

theorem unqLoop_meaning {body m : Bytes} (h : Unescapes body m) (e : Err) : unqLoop (body ++ [0x22]) e = (m, e) := by
  simpa using QuoteRaw.unqLoop_lossy (QuoteRaw.unescapesLossy_of_unescapes h) e

theorem appendUnquote_meaning (lit m : Bytes) (h : StringLiteral lit m) : appendUnquote lit = (m, Err.ok) := by
  obtain ⟨body, rfl, hb⟩ := h
  simp only [appendUnquote, ↓reduceIte]
  exact unqLoop_meaning hb Err.ok

end JsonV.Lemmas.QuoteMeaning
