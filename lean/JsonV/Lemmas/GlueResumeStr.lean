/-
Glue, part 2: the string scanner copies of Model/Resume.lean (C05) and Model/WireDecode.lean (C01) are equal: one
iteration by comparing their tables over `Head` (`stepMap_rsOf`), then the loops.
-/
import JsonV.Lemmas.GlueResume
import JsonV.Lemmas.ResumeStr
import JsonV.Lemmas.WireStringHead

namespace JsonV.Lemmas.GlueResume
open JsonV JsonV.Model JsonV.Lemmas JsonV.Lemmas.QuoteHead

def fR (f : Resume.VFlags) : Wire.ValueFlags := ⟨f.nonVerbatim, f.nonCanonical⟩

def stepMap : Resume.Step → Wire.Step
  | .adv k g => .cont (k + 1) (fR g)
  | .done => .stop 1 {} .ok
  | .stop g e => .stop 0 (fR g) (eR e)

theorem stepMap_rsOf (v : Bool) {src : Bytes} {h : Head} (hs : Shape src h) :
    stepMap (Resume.rsOf v h) = WireStringHead.wsOf v h := by
  cases hs <;> cases v <;> first | rfl | skip
  all_goals exact congrArg (Wire.Step.cont · {}) (Nat.sub_add_cancel (Nat.le_of_lt ‹_›))

theorem step_eq (c : UInt8) (r1 : Bytes) (v : Bool) :
    stepMap (Resume.strStep c r1 v) = Wire.stringStep v (c :: r1) := by
  rw [Resume.strStep_eq, WireStringHead.stringStep_eq, stepMap_rsOf v (headOf_shape _)]

theorem fR_join (f g : Resume.VFlags) : fR (f.join g) = (fR f).join (fR g) := rfl

theorem join_empty (f : Wire.ValueFlags) : f.join {} = f := by
  cases f; simp [Wire.ValueFlags.join]

theorem empty_join (f : Wire.ValueFlags) : Wire.ValueFlags.join {} f = f := by
  cases f; simp [Wire.ValueFlags.join]

theorem join_assoc (a b c : Wire.ValueFlags) : (a.join b).join c = a.join (b.join c) := by
  cases a; cases b; cases c; simp [Wire.ValueFlags.join, Bool.or_assoc]

/-- the string loop: `Resume.strLoop` (absolute offset, flags threaded) is `Wire.stringLoop` (relative, fuelled) -/
theorem loop_eq (v : Bool) (fuel : Nat) : ∀ (r : Bytes) (n : Nat) (f : Resume.VFlags), r.length + 1 ≤ fuel →
    (Resume.strLoop r n f v).1 = n + (Wire.stringLoop v fuel r).1 ∧
    fR (Resume.strLoop r n f v).2.1 = (fR f).join (Wire.stringLoop v fuel r).2.1 ∧
    eR (Resume.strLoop r n f v).2.2 = (Wire.stringLoop v fuel r).2.2 := by
  induction fuel with
  | zero => intro r n f h; omega
  | succ fuel ih =>
    intro r n f hf
    cases r with
    | nil =>
      rw [Resume.strLoop_nil]
      simp [Wire.stringLoop, Wire.stringStep, eR, join_empty]
    | cons c r1 =>
      rw [Resume.strLoop_cons]
      have hs := step_eq c r1 v
      simp only [Wire.stringLoop, ← hs]
      cases Resume.strStep c r1 v with
      | adv k g =>
        simp only [stepMap, List.drop_succ_cons]
        have := ih (r1.drop k) (n + k + 1) (f.join g) (by simp at hf ⊢; omega)
        rcases hl : Wire.stringLoop v fuel (r1.drop k) with ⟨n', f', e'⟩
        rw [hl] at this
        simp only at this ⊢
        refine ⟨by omega, ?_, this.2.2⟩
        rw [this.2.1, fR_join, join_assoc]
      | done => simp [stepMap, eR, join_empty]
      | stop g e => simp [stepMap, fR_join]

/-- Model/WireDecode's scanner returns the flags it found; Model/Resume's joins them onto those it is handed. -/
theorem string_resumable_eq (f : Resume.VFlags) (b : Bytes) (off : Nat) (v : Bool) :
    (Resume.consumeStringResumable f b off v).1 = (Wire.consumeStringResumable b off v).1 ∧
    fR (Resume.consumeStringResumable f b off v).2.1 = (fR f).join (Wire.consumeStringResumable b off v).2.1 ∧
    eR (Resume.consumeStringResumable f b off v).2.2 = (Wire.consumeStringResumable b off v).2.2 := by
  unfold Resume.consumeStringResumable Wire.consumeStringResumable
  by_cases h0 : off > 0
  · simp only [h0, if_true]
    have := loop_eq v (b.length + 1) (b.drop off) off f (by simp)
    rcases hl : Wire.stringLoop v (b.length + 1) (b.drop off) with ⟨n', f', e'⟩
    rw [hl] at this
    exact this
  · simp only [h0, if_false]
    cases b with
    | nil => simp [eR, join_empty]
    | cons c r =>
      by_cases hq : (c == 0x22) = true
      · simp only [hq, if_true]
        have := loop_eq v (r.length + 1) r 1 f (Nat.le_refl _)
        rcases hl : Wire.stringLoop v (r.length + 1) r with ⟨n', f', e'⟩
        rw [hl] at this
        exact this
      · simp [hq, eR, join_empty]

/-- a result of Model/Resume's string scanner in the types of Model/WireDecode -/
def mapStr (r : Nat × Resume.VFlags × Resume.Err) : Nat × Wire.ValueFlags × Wire.Err := (r.1, fR r.2.1, eR r.2.2)

theorem wire_string_eq (b : Bytes) (off : Nat) (v : Bool) :
    Wire.consumeStringResumable b off v = mapStr (Resume.consumeStringResumable .none b off v) := by
  obtain ⟨h1, h2, h3⟩ := string_resumable_eq .none b off v
  rw [show fR Resume.VFlags.none = {} from rfl, empty_join] at h2
  exact Prod.ext h1.symm (Prod.ext h2.symm h3.symm)

theorem mapStr_eq_iff {r : Nat × Resume.VFlags × Resume.Err} {n : Nat} {e : Resume.Err} :
    (∃ f, mapStr r = (n, f, eR e)) ↔ ∃ f, r = (n, f, e) := by
  obtain ⟨n', f', e'⟩ := r
  constructor
  · rintro ⟨f, h⟩
    obtain ⟨rfl, -, he⟩ : n' = n ∧ fR f' = f ∧ eR e' = eR e := by simpa [mapStr] using h
    exact ⟨f', by rw [eR_inj _ _ he]⟩
  · rintro ⟨f, h⟩; cases h; exact ⟨_, rfl⟩

theorem wire_number_eq (b : Bytes) :
    Wire.consumeNumber b = ((Resume.consumeNumberResumable b 0 0).1, eR (Resume.consumeNumberResumable b 0 0).2.2) := by
  rw [Wire.consumeNumber, show Wire.stInit = 0 from rfl, ← number_resumable_eq]; rfl

end JsonV.Lemmas.GlueResume
