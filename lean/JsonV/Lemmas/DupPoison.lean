/-
The entry-bit facts behind "poisoned" coders (C08): `InvalidateDisabledNamespaces` leaves the entry of a
disabled namespace invalid.  That every transition of the state machine then fails is `Props.C08.poisoned`.
-/
import JsonV.Model.State

namespace JsonV.Lemmas.Dup
open JsonV JsonV.Model

theorem invalidBit_61 : Entry.invalidNamespaceBit.getLsbD 61 = true := by decide

theorem isValid_invalidate (e : Entry) : (Entry.invalidateNamespace e).isValidNamespace = false := by
  unfold Entry.isValidNamespace Entry.invalidateNamespace
  have h : ((e ||| Entry.invalidNamespaceBit) &&& Entry.invalidNamespaceBit).getLsbD 61 = true := by
    rw [BitVec.getLsbD_and, BitVec.getLsbD_or, invalidBit_61]; simp
  cases hb : ((e ||| Entry.invalidNamespaceBit) &&& Entry.invalidNamespaceBit == 0#64) with
  | false => rfl
  | true =>
    have := eq_of_beq hb
    rw [this] at h
    simp at h

theorem last_invalid (m : Machine) (h : m.last.isActiveNamespace = false) :
    m.invalidateDisabledNamespaces.last.isValidNamespace = false := by
  unfold Machine.invalidateDisabledNamespaces
  simp only [h, Bool.not_false, if_true]
  exact isValid_invalidate _

end JsonV.Lemmas.Dup
