/-
Glue between the two models of the jsonwire scanners: `JsonV.Model.Resume` (Model/Resume.lean: absolute offsets,
used for the resumability / chunk-independence theorems of Props/C05.lean) and `JsonV.Model.Wire`
(Model/WireDecode.lean: relative offsets, used for the grammar theorems of Props/C01.lean).
The copies are proved EQUAL (modulo the isomorphism of the error enums), so theorems transfer.
-/
import JsonV.Model.Resume
import JsonV.Model.WireDecode
import JsonV.Lemmas.ResumeNum
import JsonV.Lemmas.WireBasic

namespace JsonV.Lemmas.GlueResume
open JsonV JsonV.Model

/-- the error enum of Model/Resume.lean inside the one of Model/WireDecode.lean -/
def eR : Resume.Err → Wire.Err
  | .ok => .ok | .eof => .eof | .invalidChar => .invalidChar
  | .invalidEscape => .invalidEscape | .invalidUTF8 => .invalidUTF8

theorem eR_inj (a b : Resume.Err) (h : eR a = eR b) : a = b := by cases a <;> cases b <;> simp_all [eR]

def mapNum (r : Resume.NumRes) : Nat × Nat × Wire.Err := (r.1, r.2.1, eR r.2.2)
def shiftNum (n : Nat) (r : Nat × Nat × Wire.Err) : Nat × Nat × Wire.Err := (n + r.1, r.2.1, r.2.2)

theorem ws_eq (b : Bytes) : Resume.consumeWhitespace b = Wire.consumeWhitespace b := by
  induction b with
  | nil => rfl
  | cons c r ih => simp only [Resume.consumeWhitespace, Wire.consumeWhitespace, ih]; rfl

theorem lit_eq (b lit : Bytes) :
    ((Resume.consumeLiteral b lit).1, eR (Resume.consumeLiteral b lit).2) = Wire.consumeLiteral b lit := by
  induction lit generalizing b with
  | nil => cases b <;> simp [Resume.consumeLiteral, Wire.consumeLiteral, eR]
  | cons l lit ih =>
    cases b with
    | nil => simp [Resume.consumeLiteral, Wire.consumeLiteral, eR]
    | cons c b =>
      simp only [Resume.consumeLiteral, Wire.consumeLiteral]
      split
      · simp [eR]
      · rw [← ih b]

theorem digits_eq (r : Bytes) : Resume.countDigits r = Wire.digitRun r := by
  induction r with
  | nil => rfl
  | cons c r ih => simp only [Resume.countDigits, Wire.digitRun, ih]; rfl

theorem isDigit_eq (c : UInt8) : Resume.isDigit c = Wire.isDigit c := rfl

theorem exponent_eq (r : Bytes) (n st : Nat) :
    mapNum (Resume.beforeExponent r n st) = shiftNum n (Wire.numExponent st r) := by
  cases r with
  | nil => rfl
  | cons c r1 =>
    by_cases hE : (c == 0x65 || c == 0x45) = true
    · cases r1 with
      | nil =>
        rw [Resume.beforeExponent_e hE]
        simp only [Wire.numExponent, hE, if_true]; rfl
      | cons s r2 =>
        by_cases hS : (s == 0x2D || s == 0x2B) = true
        · cases r2 with
          | nil =>
            rw [Resume.beforeExponent_e_sign hE hS]
            simp only [Wire.numExponent, hE, hS, if_true]; rfl
          | cons d r3 =>
            rw [Resume.beforeExponent_e_sign_cons hE hS, isDigit_eq]
            simp only [Wire.numExponent, hE, hS, if_true, List.drop_succ_cons, List.drop_zero]
            by_cases hD : Wire.isDigit d = true
            · rw [if_pos hD, if_pos hD]
              unfold Resume.afterDigits
              rw [digits_eq, Nat.add_assoc n 3]; rfl
            · rw [if_neg hD, if_neg hD]; rfl
        · rw [Resume.beforeExponent_e_cons hE hS, isDigit_eq]
          simp only [Wire.numExponent, hE, hS, if_true, Bool.false_eq_true, if_false, List.drop_zero]
          by_cases hD : Wire.isDigit s = true
          · rw [if_pos hD, if_pos hD]
            unfold Resume.afterDigits
            rw [digits_eq, Nat.add_assoc n 2]; rfl
          · rw [if_neg hD, if_neg hD]; rfl
    · rw [Resume.beforeExponent_other hE]
      simp only [Wire.numExponent, hE, Bool.false_eq_true, if_false]; rfl

theorem shift_shift (a b : Nat) (r : Nat × Nat × Wire.Err) : shiftNum a (shiftNum b r) = shiftNum (a + b) r := by
  simp [shiftNum, Nat.add_assoc]

theorem fractional_eq (r : Bytes) (n st : Nat) :
    mapNum (Resume.beforeFractional r n st) = shiftNum n (Wire.numFractional st r) := by
  cases r with
  | nil => exact exponent_eq [] n st
  | cons c r1 =>
    by_cases hdot : (c == 0x2E) = true
    · cases r1 with
      | nil =>
        rw [Resume.beforeFractional_dot hdot]
        simp only [Wire.numFractional, hdot, if_true]; rfl
      | cons d r2 =>
        rw [Resume.beforeFractional_dot_cons hdot, isDigit_eq]
        simp only [Wire.numFractional, hdot, if_true]
        by_cases hD : Wire.isDigit d = true
        · rw [if_pos hD, if_pos hD]
          unfold Resume.afterDigits
          rw [exponent_eq, digits_eq, Nat.add_assoc n 2, ← shift_shift]; rfl
        · rw [if_neg hD, if_neg hD]; rfl
    · rw [Resume.beforeFractional_other hdot, exponent_eq]
      simp only [Wire.numFractional, hdot, Bool.false_eq_true, if_false]

theorem integerBody_eq (r : Bytes) (n n1 st : Nat) :
    mapNum (Resume.integerBody r n n1 st) =
      (match r with
       | [] => (n, Wire.stBeforeIntegerDigits, Wire.Err.eof)
       | c :: r1 =>
         if c == 0x30 then
           (n1 + 1 + (Wire.numFractional Wire.stBeforeFractionalDigits r1).1,
            (Wire.numFractional Wire.stBeforeFractionalDigits r1).2.1,
            (Wire.numFractional Wire.stBeforeFractionalDigits r1).2.2)
         else if Wire.isDigit19 c then
           (n1 + 1 + Wire.digitRun r1 + (Wire.numFractional Wire.stWithinIntegerDigits (r1.drop (Wire.digitRun r1))).1,
            (Wire.numFractional Wire.stWithinIntegerDigits (r1.drop (Wire.digitRun r1))).2.1,
            (Wire.numFractional Wire.stWithinIntegerDigits (r1.drop (Wire.digitRun r1))).2.2)
         else (n1, st, Wire.Err.invalidChar)) := by
  cases r with
  | nil => rfl
  | cons c r1 =>
    by_cases hz : (c == 0x30) = true
    · rw [Resume.integerBody_zero hz, fractional_eq]
      simp only [hz, if_true]; rfl
    · by_cases h19 : Wire.isDigit19 c = true
      · rw [Resume.integerBody_nonzero hz h19]
        unfold Resume.afterDigits
        rw [fractional_eq, digits_eq]
        simp only [hz, h19, if_true, Bool.false_eq_true, if_false]; rfl
      · rw [Resume.integerBody_other hz h19]
        simp only [hz, h19, Bool.false_eq_true, if_false]; rfl

theorem integer_eq (b : Bytes) (n st : Nat) :
    mapNum (Resume.beforeInteger b n st) = Wire.numInteger st b n := by
  unfold Resume.beforeInteger Wire.numInteger
  cases b with
  | nil => simp [integerBody_eq]
  | cons c r =>
    by_cases hm : (c == 0x2D) = true
    · simp only [hm, if_true]; rw [integerBody_eq]; cases List.drop (n + 1) (c :: r) <;> rfl
    · simp only [hm, Bool.false_eq_true, if_false]; rw [integerBody_eq]; cases List.drop n (c :: r) <;> rfl

theorem dispatch_eq (b : Bytes) (n st : Nat) :
    mapNum (Resume.numDispatch b n st) =
      (if st == 1 then Wire.numInteger st b n
       else if st == 3 then
         (n + (Wire.numFractional st (b.drop n)).1, (Wire.numFractional st (b.drop n)).2.1, (Wire.numFractional st (b.drop n)).2.2)
       else if st == 5 then
         (n + (Wire.numExponent st (b.drop n)).1, (Wire.numExponent st (b.drop n)).2.1, (Wire.numExponent st (b.drop n)).2.2)
       else (n, st, Wire.Err.ok)) := by
  unfold Resume.numDispatch
  by_cases h1 : (st == 1) = true
  · simp only [h1, if_true]; exact integer_eq _ _ _
  by_cases h3 : (st == 3) = true
  · simp only [h1, h3, if_true, Bool.false_eq_true, if_false]; rw [fractional_eq]; rfl
  by_cases h5 : (st == 5) = true
  · simp only [h1, h3, h5, if_true, Bool.false_eq_true, if_false]; rw [exponent_eq]; rfl
  · simp [h1, h3, h5, mapNum, eR]

theorem lenLt_succ (b : Bytes) (n : Nat) : Wire.lenLt b (n + 1) = decide (b.length ≤ n) := by
  rw [Bool.eq_iff_iff, WireBasic.lenLt_iff, decide_eq_true_iff, Nat.lt_succ_iff]

theorem number_resumable_eq (b : Bytes) (off st : Nat) :
    mapNum (Resume.consumeNumberResumable b off st) = Wire.consumeNumberResumable b off st := by
  unfold Resume.consumeNumberResumable Wire.consumeNumberResumable
  simp only [Wire.stInit, gt_iff_lt]
  by_cases h0 : 0 < st
  · rw [if_pos h0, if_pos h0]
    by_cases hw : (st == 2 || st == 4 || st == 6) = true
    · have hw' : (st == Wire.stWithinIntegerDigits || st == Wire.stWithinFractionalDigits ||
          st == Wire.stWithinExponentDigits) = true := hw
      rw [if_pos hw]
      simp only [hw', if_true, digits_eq, lenLt_succ, Bool.true_and]
      by_cases hl : b.length ≤ off + Wire.digitRun (b.drop off)
      · rw [if_pos hl, if_pos (decide_eq_true hl)]; rfl
      · rw [if_neg hl, if_neg (by rw [decide_eq_true_eq]; exact hl), dispatch_eq]; rfl
    · have hw' : (st == Wire.stWithinIntegerDigits || st == Wire.stWithinFractionalDigits ||
          st == Wire.stWithinExponentDigits) = false := Bool.eq_false_iff.mpr hw
      rw [if_neg hw]
      simp only [hw', Bool.false_eq_true, if_false, Bool.false_and]
      rw [dispatch_eq]; rfl
  · rw [if_neg h0, if_neg h0]
    exact integer_eq _ _ _

end JsonV.Lemmas.GlueResume
