/-
C10 lemmas: the ECMA layout denotes exactly ±0.d₁…d_k × 10^n (nothing is lost by the layout).
-/
import JsonV.Lemmas.NumGrammar

namespace JsonV.Lemmas.NumDenote
open JsonV JsonV.Spec.Ecma JsonV.Lemmas.NumFloat JsonV.Lemmas.NumGrammar JsonV.Lemmas.NumParse

theorem expValue_exp (x : Int) : expValue (expText x) = x := by
  have ht := takeWhile_all _ (map_dig_digits (decimal x.natAbs) (decimal_lt x.natAbs))
  by_cases h : x < 0
  · simp only [expText, h, if_true, List.cons_append, List.nil_append, expValue, beq_self_eq_true, ht, bytesVal_decimal]
    omega
  · simp only [expText, h, if_false, List.cons_append, List.nil_append, expValue, ht, bytesVal_decimal]
    rw [if_neg (by decide), if_pos (by decide)]
    omega

theorem Dec.same_refl (a : Dec) : a.same a := by
  simp [Dec.same]

theorem fracSplit_tail (fp : Bytes) (xo : Option Int) (hfp : ∀ c ∈ fp, isDigit c = true) :
    fracSplit (fracText fp ++ expOpt xo) = (fp, expOpt xo) := by
  obtain ⟨ht, hd⟩ := span_stop _ (expOpt_stop xo)
  cases fp with
  | nil =>
    cases xo with
    | none => rfl
    | some x => rfl
  | cons a t =>
    show (((a :: t) ++ expOpt xo).takeWhile isDigit, ((a :: t) ++ expOpt xo).dropWhile isDigit) = _
    rw [List.takeWhile_append_of_pos hfp, List.dropWhile_append_of_pos hfp, ht, hd, List.append_nil]

theorem unsignedValue_numText (ip fp : Bytes) (xo : Option Int) (hip : ∀ c ∈ ip, isDigit c = true)
    (hfp : ∀ c ∈ fp, isDigit c = true) :
    unsignedValue (numText ip fp xo) = (bytesVal (ip ++ fp), xo.getD 0 - (fp.length : Int)) := by
  obtain ⟨ht, hd⟩ := span_stop _ (tail_stop fp xo)
  have he : expValue (expOpt xo) = xo.getD 0 := by
    cases xo with
    | none => rfl
    | some x => exact expValue_exp x
  rw [unsignedValue, numText, List.takeWhile_append_of_pos hip, List.dropWhile_append_of_pos hip, ht, hd, fracSplit_tail fp xo hfp,
    List.append_nil, he]

theorem numberToString_denotes (neg : Bool) (ds : List Nat) (n : Int) (h : WFD ds n) (hne : ds ≠ []) :
    (decimalValue (numberToString neg ds n)).same ⟨neg, digitsVal ds, n - ds.length⟩ := by
  obtain ⟨ip, fp, xo, hl, hip, hfp, hv⟩ := layout_parts ds n h hne
  have hu := unsignedValue_numText ip fp xo ((canonical_iff ip).1 hip).2.1 hfp
  rw [← hl, hv] at hu
  have h45 : (layout ds n).head? ≠ some 45 := hl ▸ numText_not_minus ip fp xo hip
  have hval : decimalValue (numberToString neg ds n) = ⟨neg, (unsignedValue (layout ds n)).1, (unsignedValue (layout ds n)).2⟩ := by
    cases neg with
    | true => simp [decimalValue, numberToString]
    | false =>
      have : ((layout ds n).head? == some 45) = false := by simpa using h45
      simp only [decimalValue, numberToString, Bool.false_eq_true, if_false, List.nil_append, this]
  rw [hval, hu]
  by_cases hc : (ds.length : Int) ≤ n ∧ n ≤ 21
  · rw [if_pos hc]
    simp only [Dec.same, and_true]
    have hm : min (0 : Int) (n - ds.length) = 0 := by omega
    rw [hm]
    simp
  · rw [if_neg hc]
    exact Dec.same_refl _

theorem zero_denotes (neg : Bool) : decimalValue (numberToString neg [] 0) = ⟨neg, 0, 0⟩ := by
  cases neg <;> decide

end JsonV.Lemmas.NumDenote
