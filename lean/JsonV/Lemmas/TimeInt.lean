/-
`parseInt64`, a second model of the integer arshaler's parse at 64 bits, written over `Model.Time`'s integers, and its round
trip for every int64.  It is declared in namespace `JsonV.Model.Time` but the oracle does not
have it, and it is not tied to `Model.Number.unmarshalInt 64`, whose round trip is `Props.C10.int_rt`.
-/
import JsonV.Lemmas.TimeDur

namespace JsonV.Model.Time
open JsonV

/-- `makeIntArshaler(...).unmarshal` on the number text for `bits = 64`:
`n, ok := ParseUint(val[negOffset:]); overflow := (neg && n > 1<<63) || (!neg && n > 1<<63-1)`; result `int64(∓n)`. -/
def parseInt64 (b : Bytes) : Except Err Int :=
  let (neg, rest) := match b with
    | c :: rest => if c = cMinus then (true, rest) else (false, b)
    | [] => (false, b)
  let (n, ok) := parseUint rest
  let overflow := (neg && decide (n > I63)) || (!neg && decide (n > I63 - 1))
  if !ok then (if n ≠ maxU64 then .error .syntax else .error .range)
  else if overflow then .error .range
  else if neg then .ok (wrapI (-(n : Int))) else .ok (toI64 n)

theorem parseInt64_intDigits (i : Int) (h0 : -9223372036854775808 ≤ i) (h1 : i < 9223372036854775808) :
    parseInt64 (intDigits i) = .ok i := by
  unfold parseInt64 intDigits
  by_cases hn : i < 0
  · rw [if_pos hn]
    simp only [if_true]
    rw [parseUint_natDigits (by simp only [U64]; omega)]
    simp only [I63]
    have hle : ¬ ((-i).toNat > 9223372036854775808) := by omega
    simp only [hle, decide_false]
    simp
    rw [show -max (-i) 0 = i by omega, wrapI_id h0 h1]
  · rw [if_neg hn]
    obtain ⟨c, cs, hd, hc⟩ := natDigits_cons i.toNat
    have hne : c ≠ cMinus := digit_ne hc (by decide)
    rw [hd]
    simp only [if_neg hne]
    rw [← hd, parseUint_natDigits (by simp only [U64]; omega)]
    simp only [I63]
    have hle : ¬ (i.toNat > 9223372036854775808 - 1) := by omega
    simp only [hle, decide_false]
    simp
    rw [toI64_small (by omega)]; omega

end JsonV.Model.Time
