/-
`foldName` on ASCII input: delete `_`/`-`, upper-case; two ASCII names fold to the same string iff they
are equal after deleting `_`/`-` and folding ASCII case (`Spec.FieldRule.normAscii`).  The result is a normal
form (ASCII, no `_`/`-`, no lower case), so folding is idempotent there; `equalFold` is an equivalence.
-/
import JsonV.Model.Fold
import JsonV.Spec.FieldRule

namespace JsonV.Lemmas.Fields
open JsonV JsonV.Model JsonV.Model.Fold JsonV.Spec.FieldRule

theorem foldName_ascii (fr : Nat → Nat) : ∀ (b : Bytes), IsAscii b →
    foldName fr b = (b.filter (fun c => !isDelim c)).map upperAscii
  | [], _ => by simp [foldName]
  | c :: rest, h => by
    have hc : c.toNat < Utf8.runeSelf := h c (List.mem_cons_self ..)
    have ih := foldName_ascii fr rest (fun x hx => h x (List.mem_cons_of_mem _ hx))
    rw [foldName]
    simp only [hc, if_true]
    by_cases hd : isDelim c = true
    · simp [hd, ih]
    · simp [hd, ih]

theorem upperAscii_toNat (c : UInt8) : (upperAscii c).toNat = if 0x61 ≤ c.toNat ∧ c.toNat ≤ 0x7A then c.toNat - 32 else c.toNat := by
  unfold upperAscii
  split
  · rename_i h
    rw [UInt8.toNat_ofNat']
    have : c.toNat < 256 := c.toNat_lt
    omega
  · rfl

theorem lowerAscii_toNat (c : UInt8) : (lowerAscii c).toNat = if 0x41 ≤ c.toNat ∧ c.toNat ≤ 0x5A then c.toNat + 32 else c.toNat := by
  unfold lowerAscii
  split
  · rename_i h
    rw [UInt8.toNat_ofNat']
    omega
  · rfl

theorem lowerAscii_upperAscii (c : UInt8) : lowerAscii (upperAscii c) = lowerAscii c := by
  rw [← UInt8.toNat_inj, lowerAscii_toNat, lowerAscii_toNat, upperAscii_toNat]
  by_cases h : 0x61 ≤ c.toNat ∧ c.toNat ≤ 0x7A
  · rw [if_pos h, if_pos (by omega), if_neg (by omega)]
    omega
  · rw [if_neg h]

theorem upperAscii_lowerAscii (c : UInt8) : upperAscii (lowerAscii c) = upperAscii c := by
  rw [← UInt8.toNat_inj, upperAscii_toNat, upperAscii_toNat, lowerAscii_toNat]
  by_cases h : 0x41 ≤ c.toNat ∧ c.toNat ≤ 0x5A
  · rw [if_pos h, if_pos (by omega), if_neg (by omega)]
    omega
  · rw [if_neg h]

theorem upper_eq_iff_lower_eq (a b : UInt8) : upperAscii a = upperAscii b ↔ lowerAscii a = lowerAscii b :=
  ⟨fun h => by rw [← lowerAscii_upperAscii a, h, lowerAscii_upperAscii],
   fun h => by rw [← upperAscii_lowerAscii a, h, upperAscii_lowerAscii]⟩

theorem map_eq_map_iff {α β γ} (f : α → β) (g : α → γ) (hfg : ∀ a b, f a = f b ↔ g a = g b) :
    ∀ l₁ l₂ : List α, l₁.map f = l₂.map f ↔ l₁.map g = l₂.map g
  | [], [] => by simp
  | [], _ :: _ => by simp
  | _ :: _, [] => by simp
  | a :: as, b :: bs => by
    simp only [List.map_cons, List.cons.injEq, hfg a b, map_eq_map_iff f g hfg as bs]

theorem foldName_eq_iff_norm (fr : Nat → Nat) (x y : Bytes) (hx : IsAscii x) (hy : IsAscii y) :
    foldName fr x = foldName fr y ↔ normAscii x = normAscii y := by
  rw [foldName_ascii fr x hx, foldName_ascii fr y hy]
  unfold normAscii
  have : (fun c : UInt8 => !isDelim c) = (fun c : UInt8 => !(c.toNat == 0x5F || c.toNat == 0x2D)) := by
    funext c; simp [isDelim]
  rw [this]
  exact map_eq_map_iff _ _ upper_eq_iff_lower_eq _ _

theorem upperAscii_idem (c : UInt8) : upperAscii (upperAscii c) = upperAscii c := by
  rw [← upperAscii_lowerAscii (upperAscii c), lowerAscii_upperAscii, upperAscii_lowerAscii]

theorem upperAscii_lt (c : UInt8) (h : c.toNat < 0x80) : (upperAscii c).toNat < 0x80 := by
  rw [upperAscii_toNat]; split <;> omega

theorem upperAscii_not_lower (c : UInt8) : ¬ (0x61 ≤ (upperAscii c).toNat ∧ (upperAscii c).toNat ≤ 0x7A) := by
  rw [upperAscii_toNat]; split <;> omega

theorem isDelim_upperAscii (c : UInt8) : isDelim (upperAscii c) = isDelim c := by
  unfold isDelim
  rw [upperAscii_toNat, Bool.eq_iff_iff]
  simp only [Bool.or_eq_true, beq_iff_eq]
  split <;> omega

theorem foldName_ascii_shape (fr : Nat → Nat) (x : Bytes) (hx : IsAscii x) :
    ∀ c ∈ foldName fr x, c.toNat < 0x80 ∧ isDelim c = false ∧ ¬ (0x61 ≤ c.toNat ∧ c.toNat ≤ 0x7A) := by
  rw [foldName_ascii fr x hx]
  intro c hc
  rw [List.mem_map] at hc
  obtain ⟨a, ha, rfl⟩ := hc
  rw [List.mem_filter] at ha
  refine ⟨upperAscii_lt a (hx a ha.1), ?_, upperAscii_not_lower a⟩
  rw [isDelim_upperAscii]
  simpa using ha.2

theorem foldName_ascii_isAscii (fr : Nat → Nat) (x : Bytes) (hx : IsAscii x) : IsAscii (foldName fr x) :=
  fun c hc => (foldName_ascii_shape fr x hx c hc).1

/-- The key of `byFoldedName` is a normal form. -/
theorem foldName_idem_ascii (fr : Nat → Nat) (x : Bytes) (hx : IsAscii x) :
    foldName fr (foldName fr x) = foldName fr x := by
  rw [foldName_ascii fr (foldName fr x) (foldName_ascii_isAscii fr x hx), foldName_ascii fr x hx]
  rw [List.filter_map, List.map_map]
  have hf : ((fun c => !isDelim c) ∘ upperAscii) = (fun c : UInt8 => !isDelim c) := by
    funext c; simp [isDelim_upperAscii]
  have hm : (upperAscii ∘ upperAscii) = upperAscii := by
    funext c; simp [upperAscii_idem]
  rw [hf, hm, List.filter_filter]
  simp

theorem equalFold_refl (fr : Nat → Nat) (s : Bytes) : equalFold fr s s = true := by
  simp [equalFold]

theorem equalFold_symm (fr : Nat → Nat) (s t : Bytes) : equalFold fr s t = equalFold fr t s := by
  unfold equalFold
  rw [Bool.eq_iff_iff]; simp only [beq_iff_eq]; exact eq_comm

theorem equalFold_trans (fr : Nat → Nat) (s t u : Bytes) (h1 : equalFold fr s t = true) (h2 : equalFold fr t u = true) :
    equalFold fr s u = true := by
  unfold equalFold at *
  simp only [beq_iff_eq] at *
  exact h1.trans h2

theorem foldName_insert_delim_upper (foldRune : Nat → Nat) (x y : Bytes) (d c : UInt8)
    (hx : IsAscii x) (hy : IsAscii y) (hd : Fold.isDelim d = true) (hc : c.toNat < 0x80) :
    Fold.foldName foldRune (x ++ d :: y) = Fold.foldName foldRune (x ++ y) ∧
    Fold.foldName foldRune (x ++ Fold.upperAscii c :: y) = Fold.foldName foldRune (x ++ c :: y) := by
  have hdA : d.toNat < 0x80 := by
    unfold Fold.isDelim at hd
    simp only [Bool.or_eq_true, beq_iff_eq] at hd
    omega
  have hA : ∀ (m : List UInt8), IsAscii m → IsAscii (x ++ m) := by
    intro m hm b hb
    rcases List.mem_append.mp hb with h | h
    · exact hx b h
    · exact hm b h
  have hcons : ∀ (b : UInt8), b.toNat < 0x80 → IsAscii (b :: y) := by
    intro b hb a ha
    rcases List.mem_cons.mp ha with rfl | h
    · exact hb
    · exact hy a h
  constructor
  · rw [foldName_ascii foldRune _ (hA _ (hcons d hdA)), foldName_ascii foldRune _ (hA _ hy)]
    simp [List.filter_append, hd]
  · rw [foldName_ascii foldRune _ (hA _ (hcons _ (upperAscii_lt c hc))), foldName_ascii foldRune _ (hA _ (hcons c hc))]
    simp [List.filter_append, List.filter_cons, isDelim_upperAscii]
    cases hdc : Fold.isDelim c <;> simp [upperAscii_idem]

end JsonV.Lemmas.Fields
