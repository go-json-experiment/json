/-
`jsonwire.ParseUint` is modelled twice: on `Nat` modulo 2^64 here and on `UInt64` in `Model.Number`.  The two models
are the same function, so `NumParse.parseUint_exact` also describes this one; in particular the decimal text of a
value below 2^64 parses back to itself and that of a larger value is reported as overflow `(MaxUint64, false)`.
-/
import JsonV.Lemmas.TimeDigits
import JsonV.Lemmas.NumInt

namespace JsonV.Model.Time
open JsonV JsonV.Lemmas

theorem scanDigits_eq (b : Bytes) (v : UInt64) (n : Nat) :
    scanDigits b v.toNat n = ((Number.parseUintLoop b n v).2.toNat, (Number.parseUintLoop b n v).1) := by
  induction b generalizing v n with
  | nil => rfl
  | cons c cs ih =>
    rw [scanDigits, Number.parseUintLoop]
    by_cases hc : isDigit c = true
    · have hc' : Number.isDigit c = true := hc
      have h48 : (48 : UInt8) ≤ c := UInt8.le_iff_toNat_le.2 ((isDigit_iff c).1 hc).1
      have hstep : (10 * v.toNat + digitVal c) % U64 = (10 * v + (c - 48).toUInt64).toNat := by
        rw [UInt64.toNat_add, UInt64.toNat_mul, UInt8.toNat_toUInt64, UInt8.toNat_sub_of_le _ _ h48]
        simp only [U64, digitVal]
        show _ = (10 * v.toNat % 2 ^ 64 + (c.toNat - 48)) % 2 ^ 64
        omega
      rw [if_pos hc, if_pos hc', hstep, ih]
    · have hc' : ¬ Number.isDigit c = true := hc
      rw [if_neg hc, if_neg hc']

theorem parseUint_eq (b : Bytes) : parseUint b = ((Number.parseUint b).1.toNat, (Number.parseUint b).2) := by
  have h := scanDigits_eq b 0 0
  unfold parseUint Number.parseUint
  rw [show (0 : UInt64).toNat = 0 from rfl] at h
  rw [h]
  generalize Number.parseUintLoop b 0 0 = r
  obtain ⟨n, v⟩ := r
  have e1 : (n = 0 ∨ b.length ≠ n ∨ b.head? = some c0 ∧ b ≠ strZero) ↔
      (n == 0 || b.length != n || b.head? == some 48 && b != [48]) = true := by
    simp only [Bool.or_eq_true, Bool.and_eq_true, beq_iff_eq, bne_iff_ne, or_assoc]
    rfl
  have e2 : (n ≥ 20 ∧ (b.head? ≠ some c1 ∨ v.toNat < 10000000000000000000 ∨ n > 20)) ↔
      (decide (n ≥ Number.unsafeWidth) && (b.head? != some 49 || decide (v < 10000000000000000000) ||
        decide (n > Number.unsafeWidth))) = true := by
    simp only [Bool.or_eq_true, Bool.and_eq_true, decide_eq_true_eq, bne_iff_ne, or_assoc, UInt64.lt_iff_toNat_lt]
    rfl
  simp only []
  by_cases h1 : (n == 0 || b.length != n || b.head? == some 48 && b != [48]) = true
  · rw [if_pos (e1.2 h1), if_pos h1]
    rfl
  · rw [if_neg (mt e1.1 h1), if_neg h1]
    by_cases h2 : (decide (n ≥ Number.unsafeWidth) && (b.head? != some 49 || decide (v < 10000000000000000000) ||
        decide (n > Number.unsafeWidth))) = true
    · rw [if_pos (e2.2 h2), if_pos h2]
      rfl
    · rw [if_neg (mt e2.1 h2), if_neg h2]

theorem parseUint_exact (b : Bytes) :
    parseUint b = if Spec.Ecma.canonicalDecimal b then
      (if Spec.Ecma.bytesVal b < U64 then (Spec.Ecma.bytesVal b, true) else (maxU64, false)) else (0, false) := by
  rw [parseUint_eq, NumParse.parseUint_exact]
  cases Spec.Ecma.canonicalDecimal b
  · rfl
  · by_cases h : Spec.Ecma.bytesVal b < 2 ^ 64
    · simp only [if_true, if_pos h, if_pos (show Spec.Ecma.bytesVal b < U64 from h), UInt64.toNat_ofNat_of_lt' h]
    · simp only [if_true, if_neg h, if_neg (show ¬ Spec.Ecma.bytesVal b < U64 from h)]
      rfl

theorem parseUint_natDigits_eq (n : Nat) :
    parseUint (natDigits n) = if n < U64 then (n, true) else (maxU64, false) := by
  rw [parseUint_exact, if_pos (natDigits_canonical n), bytesVal_natDigits]

/-- C04's `uint_digits_rt` is this at `n.toNat`. -/
theorem parseUint_natDigits {n : Nat} (h : n < U64) : parseUint (natDigits n) = (n, true) := by
  rw [parseUint_natDigits_eq, if_pos h]

theorem parseUint_natDigits_ge {n : Nat} (h : U64 ≤ n) : parseUint (natDigits n) = (maxU64, false) := by
  rw [parseUint_natDigits_eq, if_neg (Nat.not_lt.2 h)]

end JsonV.Model.Time
