/-
Completeness of the C03 meaning spec against the C01 grammar: every value / text of the grammar
(strict UTF-8, duplicate names allowed) is parsed by `Spec.Meaning.parseTree`.
-/
import JsonV.Lemmas.GlueMeaningFuel
import JsonV.Lemmas.GlueMeaningLex
import JsonV.Lemmas.GlueMeaningStrC
import JsonV.Lemmas.GlueMeaningTree
import JsonV.Lemmas.MeaningParse
import JsonV.Lemmas.WireComplete

namespace JsonV.Lemmas.GlueMeaningTreeC
open JsonV JsonV.Spec.Meaning JsonV.Spec.Grammar
open JsonV.Lemmas.GlueMeaningLex JsonV.Lemmas.GlueMeaningStrC JsonV.Lemmas.GlueMeaningTree
open JsonV.Lemmas.MeaningParse
open JsonV.Lemmas.GlueMeaningFuel (fuel_succ)
open JsonV.Lemmas.WireComplete (DelimHead isDelim follow_of_delim delimHead_ws_sep delimHead_ws delimHead_cons delimHead_nil)

/-- `v` is parsed, with one tree, whatever delimiter-headed input follows and with any sufficient fuel. -/
def Parses (md d : Nat) (v : Bytes) : Prop :=
  ∃ t : MTree, d + t.depth ≤ md ∧ ∀ rest, DelimHead rest → ∀ m, 2 * (v ++ rest).length ≤ m →
    parseValue m (v ++ rest) = some (t, rest)

/-- `skipWs` stops in front of `v`. -/
def NonWsHead (v : Bytes) : Prop := ∃ c t, v = c :: t ∧ Spec.Meaning.isWs c = false

theorem skipWs_ws_nonws (w v t : Bytes) (hw : JWs w) (hv : NonWsHead v) : skipWs (w ++ (v ++ t)) = v ++ t := by
  rw [skipWs_ws_append w _ hw]
  obtain ⟨c, t', rfl, hc⟩ := hv
  exact skipWs_idem_of_head hc

theorem skipWs_ws_byte (w : Bytes) (c : UInt8) (t : Bytes) (hw : JWs w) (hc : Spec.Meaning.isWs c = false) :
    skipWs (w ++ c :: t) = c :: t := by
  rw [skipWs_ws_append w _ hw, skipWs_idem_of_head hc]

theorem numhead_facts : ∀ c : UInt8, (c = 0x2D ∨ Digit c) →
    c ≠ 0x7B ∧ c ≠ 0x5B ∧ c ≠ 0x22 ∧ c ≠ 0x6E ∧ c ≠ 0x74 ∧ c ≠ 0x66 ∧ Spec.Meaning.isWs c = false := by
  intro c h
  rcases h with rfl | h
  · decide
  · unfold Digit at h
    have h1 := UInt8.le_iff_toNat_le.mp h.1
    have h2 := UInt8.le_iff_toNat_le.mp h.2
    simp at h1 h2
    have ne : ∀ k : UInt8, (k.toNat < 0x30 ∨ 0x39 < k.toNat) → c ≠ k := by
      intro k hk e; subst e; omega
    refine ⟨ne _ (by decide), ne _ (by decide), ne _ (by decide), ne _ (by decide), ne _ (by decide), ne _ (by decide), ?_⟩
    simp [Spec.Meaning.isWs, ne 0x20 (by decide), ne 0x09 (by decide), ne 0x0A (by decide), ne 0x0D (by decide)]

/-- This and `fuel_cons` are stated on the lengths as they stand, so that the loops below need no arithmetic on sums of
six lengths. -/
theorem fuel_append {w x : Bytes} {k m : Nat} (h : 2 * (w ++ x).length + k ≤ m) : 2 * x.length + k ≤ m := by
  rw [List.length_append] at h; omega

theorem fuel_cons {a : UInt8} {x : Bytes} {k m : Nat} (h : 2 * (a :: x).length + k ≤ m) :
    2 * x.length + (k + 2) ≤ m := by
  rw [List.length_cons] at h; omega

theorem parses_scalar {md d : Nat} (hd : d ≤ md) {c : UInt8} {p : Bytes} {t : MTree} (ht : t.depth = 0)
    (h7 : c ≠ 0x7B) (h5 : c ≠ 0x5B) (h : ∀ rest, DelimHead rest → lexScalar (c :: (p ++ rest)) = some (t, rest)) :
    Parses md d (c :: p) := by
  refine ⟨t, by rw [ht]; exact hd, fun rest hr m hm => ?_⟩
  rw [List.cons_append] at hm ⊢
  obtain ⟨m', rfl, -⟩ := fuel_succ hm
  rw [parseValue_scalar m' _ h7 h5]
  exact h rest hr

theorem parses_num (md d : Nat) (hd : d ≤ md) (p : Bytes) (hp : JNumber p) : Parses md d p := by
  obtain ⟨c, t, rfl, hc⟩ := JNumber.head hp
  obtain ⟨h1, h2, h3, h4, h5, h6, _⟩ := numhead_facts c hc
  refine parses_scalar hd (t := .num (c :: t)) rfl h1 h2 fun rest hr => ?_
  have hl := lexNum_complete (c :: t) rest hp (follow_of_delim _ rest hr hp)
  rw [List.cons_append] at hl
  rw [lexScalar_num _ h3 h4 h5 h6, hl]
  rfl

theorem parses_str (md d : Nat) (hd : d ≤ md) (p : Bytes) (hp : JString true p) : Parses md d p := by
  obtain ⟨s, q, rfl, hl⟩ := lexStr_complete p hp
  exact parses_scalar hd (t := .str s) rfl (by decide) (by decide) fun rest _ => by rw [lexScalar_str, hl rest]; rfl

/-- `parseElems` on `e₁ , e₂ , … ]`: each element is parsed by its `Parses` (whitespace and then `,` or `]` follow it, a
delimiter head), and the fuel left after it still covers what remains.  `members_loop` is the same walk with a name and a
colon in front of each value. -/
theorem elems_loop (md d : Nat) {t : Bytes} (ht : JElems (fun v => Parses md d v ∧ NonWsHead v) t) :
    ∃ xs, d + depthList xs ≤ md ∧ ∀ rest m, 2 * (t ++ rest).length + 1 ≤ m →
      parseElems m (skipWs (t ++ rest)) = some (xs, rest) := by
  induction ht with
  | last w1 v w2 hw1 hv hw2 =>
    obtain ⟨⟨x, hxd, hpx⟩, hnw⟩ := hv
    refine ⟨[x], by simpa [depthList] using hxd, fun rest m hm => ?_⟩
    simp only [List.append_assoc, List.cons_append, List.nil_append] at hm ⊢
    rw [skipWs_ws_nonws w1 v _ hw1 hnw]
    obtain ⟨m', rfl⟩ := Nat.exists_eq_add_one.mpr (Nat.lt_of_lt_of_le (Nat.succ_pos _) hm)
    have hp := hpx _ (delimHead_ws_sep w2 0x5D rest hw2 (by decide)) m' (Nat.le_of_succ_le_succ (fuel_append hm))
    rw [parseElems_elem m' hp (skipWs_ws_byte w2 0x5D rest hw2 (by decide)), if_neg (by decide), if_pos rfl]
  | cons w1 v w2 t' hw1 hv hw2 _ ih =>
    obtain ⟨⟨x, hxd, hpx⟩, hnw⟩ := hv
    obtain ⟨xs, hxsd, hxs⟩ := ih
    refine ⟨x :: xs, by simp only [depthList]; omega, fun rest m hm => ?_⟩
    simp only [List.append_assoc, List.cons_append] at hm ⊢
    rw [skipWs_ws_nonws w1 v _ hw1 hnw]
    obtain ⟨m', rfl⟩ := Nat.exists_eq_add_one.mpr (Nat.lt_of_lt_of_le (Nat.succ_pos _) hm)
    have hp := hpx _ (delimHead_ws_sep w2 0x2C _ hw2 (by decide)) m' (Nat.le_of_succ_le_succ (fuel_append hm))
    rw [parseElems_elem m' hp (skipWs_ws_byte w2 0x2C _ hw2 (by decide)), if_pos rfl,
      hxs rest m' (by have := fuel_cons (fuel_append (fuel_append (fuel_append hm))); omega)]
    rfl

theorem members_loop (md d : Nat) {seen : List Bytes} {t : Bytes}
    (ht : JMembers (JString true) (fun v => Parses md d v ∧ NonWsHead v) id true seen t) :
    ∃ ms, d + depthMembers ms ≤ md ∧ ∀ rest m, 2 * (t ++ rest).length ≤ m →
      parseMembers m (skipWs (t ++ rest)) = some (ms, rest) := by
  induction ht with
  | last _ w1 name w2 w3 v w4 hw1 hname hw2 hw3 hv hw4 _ =>
    obtain ⟨⟨x, hxd, hpx⟩, hnw⟩ := hv
    obtain ⟨s, q, rfl, hl⟩ := lexStr_complete name hname
    refine ⟨[(s, x)], by simpa [depthMembers] using hxd, fun rest m hm => ?_⟩
    simp only [List.append_assoc, List.cons_append, List.nil_append] at hm ⊢
    rw [skipWs_ws_byte w1 0x22 _ hw1 (by decide)]
    obtain ⟨m', rfl, hm1⟩ := fuel_succ (fuel_append (k := 0) hm)
    have hp := hpx _ (delimHead_ws_sep w4 0x7D rest hw4 (by decide)) m'
      (Nat.le_of_add_right_le (fuel_append (fuel_cons (fuel_append (fuel_append hm1)))))
    rw [parseMembers_member m' (hl _) (skipWs_ws_byte w2 0x3A _ hw2 (by decide))
      (by rw [skipWs_ws_nonws w3 v _ hw3 hnw]; exact hp) (skipWs_ws_byte w4 0x7D rest hw4 (by decide)),
      if_neg (by decide), if_pos rfl]
  | cons _ w1 name w2 w3 v w4 t' hw1 hname hw2 hw3 hv hw4 _ _ ih =>
    obtain ⟨⟨x, hxd, hpx⟩, hnw⟩ := hv
    obtain ⟨s, q, rfl, hl⟩ := lexStr_complete name hname
    obtain ⟨ms, hmd, hms⟩ := ih
    refine ⟨(s, x) :: ms, by simp only [depthMembers]; omega, fun rest m hm => ?_⟩
    simp only [List.append_assoc, List.cons_append] at hm ⊢
    rw [skipWs_ws_byte w1 0x22 _ hw1 (by decide)]
    obtain ⟨m', rfl, hm1⟩ := fuel_succ (fuel_append (k := 0) hm)
    have hm2 := fuel_append (fuel_cons (fuel_append (fuel_append hm1)))
    have hp := hpx _ (delimHead_ws_sep w4 0x2C (t' ++ rest) hw4 (by decide)) m' (Nat.le_of_add_right_le hm2)
    have hx := hms rest m' (Nat.le_of_add_right_le (fuel_cons (fuel_append (fuel_append hm2))))
    rw [parseMembers_member m' (hl _) (skipWs_ws_byte w2 0x3A _ hw2 (by decide))
      (by rw [skipWs_ws_nonws w3 v _ hw3 hnw]; exact hp) (skipWs_ws_byte w4 0x2C _ hw4 (by decide)), if_pos rfl, hx]
    rfl

theorem parseElems_head {n : Nat} {b : Bytes} {r : List MTree × Bytes} (h : parseElems n b = some r) :
    ∃ c t, b = c :: t ∧ c ≠ 0x5D := by
  cases n with
  | zero => cases h
  | succ n =>
    obtain ⟨v, r3, -, -, hv, -⟩ := parseElems_succ_some (xs := r.1) (rest := r.2) h
    cases b with
    | nil => rw [parseValue_nil] at hv; cases hv
    | cons c t => exact ⟨c, t, rfl, fun hc => by rw [hc, parseValue_close] at hv; cases hv⟩

theorem parseMembers_head {n : Nat} {b : Bytes} {r : List (Bytes × MTree) × Bytes} (h : parseMembers n b = some r) :
    ∃ t, b = 0x22 :: t := by
  cases n with
  | zero => cases h
  | succ n =>
    obtain ⟨t, _, _, _, _, _, _, _, rfl, -⟩ := parseMembers_succ_some (ms := r.1) (rest := r.2) h
    exact ⟨t, rfl⟩

theorem value_complete (md : Nat) {d : Nat} {v : Bytes} (h : JValue go md id d v) (hd : d ≤ md) :
    Parses md d v ∧ NonWsHead v := by
  revert hd
  refine JValue.cons_induction (P := fun d v => d ≤ md → Parses md d v ∧ NonWsHead v)
    ?null ?true ?false ?num ?str ?emptyArr ?arr ?emptyObj ?obj h
  case null => exact fun d hd => ⟨parses_scalar hd rfl (by decide) (by decide) fun _ _ => rfl, 0x6E, _, rfl, by decide⟩
  case true => exact fun d hd => ⟨parses_scalar hd rfl (by decide) (by decide) fun _ _ => rfl, 0x74, _, rfl, by decide⟩
  case false => exact fun d hd => ⟨parses_scalar hd rfl (by decide) (by decide) fun _ _ => rfl, 0x66, _, rfl, by decide⟩
  case num =>
    intro d p hp hd
    obtain ⟨c, t, rfl, hc⟩ := JNumber.head hp
    exact ⟨parses_num md d hd _ hp, c, t, rfl, (numhead_facts c hc).2.2.2.2.2.2⟩
  case str =>
    intro d p hp hd
    refine ⟨parses_str md d hd p hp, ?_⟩
    obtain ⟨body, _, rfl⟩ := hp
    exact ⟨0x22, _, rfl, by decide⟩
  case emptyArr =>
    intro d w hlt hw _
    refine ⟨⟨.arr [], by simp only [MTree.depth, depthList]; omega, fun rest _ m hm => ?_⟩, 0x5B, _, rfl, by decide⟩
    simp only [List.cons_append, List.append_assoc, List.nil_append] at hm ⊢
    obtain ⟨m', rfl, -⟩ := fuel_succ hm
    rw [parseValue_arr m' (skipWs_ws_byte w 0x5D rest hw (by decide)), if_pos rfl]
  case emptyObj =>
    intro d w hlt hw _
    refine ⟨⟨.obj [], by simp only [MTree.depth, depthMembers]; omega, fun rest _ m hm => ?_⟩, 0x7B, _, rfl, by decide⟩
    simp only [List.cons_append, List.append_assoc, List.nil_append] at hm ⊢
    obtain ⟨m', rfl, -⟩ := fuel_succ hm
    rw [parseValue_obj m' (skipWs_ws_byte w 0x7D rest hw (by decide)), if_pos rfl]
  case arr =>
    intro d t hlt ht _
    obtain ⟨xs, hxd, hxs⟩ := elems_loop md (d+1) (ht.imp fun _ hv => hv.2 hlt)
    refine ⟨⟨.arr xs, by simp only [MTree.depth]; omega, fun rest _ m hm => ?_⟩, 0x5B, _, rfl, by decide⟩
    rw [List.cons_append] at hm ⊢
    obtain ⟨m', rfl, hm'⟩ := fuel_succ hm
    have hx := hxs rest m' hm'
    obtain ⟨c, t, hct, hc⟩ := parseElems_head hx
    rw [parseValue_arr m' hct, if_neg hc, ← hct, hx]
    rfl
  case obj =>
    intro d t hlt ht _
    obtain ⟨ms, hmd, hms⟩ := members_loop md (d+1) (ht.imp (fun _ h => h) fun _ hv => hv.2 hlt)
    refine ⟨⟨.obj ms, by simp only [MTree.depth]; omega, fun rest _ m hm => ?_⟩, 0x7B, _, rfl, by decide⟩
    rw [List.cons_append] at hm ⊢
    obtain ⟨m', rfl, hm'⟩ := fuel_succ hm
    have hx := hms rest m' (Nat.le_of_succ_le hm')
    obtain ⟨t, hct⟩ := parseMembers_head hx
    rw [parseValue_obj m' hct, if_neg (by decide), ← hct, hx]
    rfl

theorem text_complete (md : Nat) (b : Bytes) (h : JText go md id b) : ∃ t, parseTree b = some t ∧ t.depth ≤ md := by
  obtain ⟨w1, v, w2, hw1, hv, hw2, rfl⟩ := h
  obtain ⟨⟨t, htd, hpt⟩, hnw⟩ := value_complete md hv (Nat.zero_le _)
  have hws : skipWs w2 = [] := by simpa [skipWs] using skipWs_ws_append w2 [] hw2
  refine ⟨t, parseTreeF_iff.mpr ⟨w2, ?_, by rw [hws]; rfl⟩, by omega⟩
  rw [List.append_assoc, skipWs_ws_nonws w1 v w2 hw1 hnw]
  exact hpt w2 (delimHead_ws w2 hw2) _ (by simp only [List.length_append]; omega)

theorem jtext_key_irrel (strict : Bool) (md : Nat) (k k' : Bytes → Bytes) {b : Bytes}
    (h : JText ⟨strict, true⟩ md k b) : JText ⟨strict, true⟩ md k' b := by
  obtain ⟨w1, v, w2, h1, h2, h3, h4⟩ := h
  exact ⟨w1, v, w2, h1, h2.mono (Nat.le_refl _) (fun _ _ h => h) (.inl rfl), h3, h4⟩

end JsonV.Lemmas.GlueMeaningTreeC
