/-
The string scanner and the unquoter of Model/WireDecode as tables over the classification of Lemmas/QuoteHead.lean
(`stringStep_eq`, `unquoteStep_eq`), so that the two models of ConsumeString and AppendUnquote are compared table against table
(Lemmas/GlueQuote.lean).  Model/WireDecode writes its tests as Boolean operations on bytes, Model/Quote as propositions on
numbers: first the byte-level functions of the two are shown equal.
-/
import JsonV.Model.WireDecode
import JsonV.Lemmas.QuoteHead
import JsonV.Lemmas.WireBasic

namespace JsonV.Lemmas.WireStringHead
open JsonV JsonV.Model JsonV.Model.Utf8 JsonV.Model.Quote JsonV.Spec.StringSpec JsonV.Lemmas.QuoteHead

theorem hexVal_eq (c : UInt8) : Wire.hexVal c = hexVal c.toNat := by
  simp [Wire.hexVal, hexVal, UInt8.le_iff_toNat_le]

theorem noEscape_eq (c : UInt8) : Wire.noEscape c = noEscape c.toNat := by
  rw [Bool.eq_iff_iff]
  simp only [Wire.noEscape, noEscape, Bool.and_eq_true, decide_eq_true_eq, bne_iff_ne, ne_eq, UInt8.lt_iff_toNat_lt,
    UInt8.le_iff_toNat_le, ← UInt8.toNat_inj]
  rfl

theorem parseHex_eq (b : Bytes) : Wire.parseHexUint16 b = parseHexUint16 b := by
  match b with
  | [] => rfl
  | [_] => rfl
  | [_, _] => rfl
  | [_, _, _] => rfl
  | [a, b, c, d] =>
    simp only [Wire.parseHexUint16, parseHexUint16, hexVal_eq]
    cases hexVal a.toNat <;> cases hexVal b.toNat <;> cases hexVal c.toNat <;> cases hexVal d.toNat <;> rfl
  | _ :: _ :: _ :: _ :: _ :: _ => rfl

theorem isHex_eq (c : UInt8) : Wire.isHex c = isHexDigit c.toNat := by
  simp [Wire.isHex, isHexDigit, hexVal_eq]

theorem pfxAux_eq (lower : Bool) (i : Nat) (b : Bytes) :
    Wire.hasEscapedUTF16PrefixAux lower i b = hasEscapedUTF16PrefixAux lower i b := by
  induction b generalizing i with
  | nil => rfl
  | cons c r ih =>
    rw [Wire.hasEscapedUTF16PrefixAux, hasEscapedUTF16PrefixAux, ih]
    simp only [Bool.and_eq_true, beq_iff_eq, bne_iff_ne, ne_eq, Bool.not_eq_true', decide_eq_true_eq, Bool.and_eq_false_iff,
      decide_eq_false_iff_not, UInt8.le_iff_toNat_le, ← UInt8.toNat_inj, isHex_eq, ge_iff_le, and_assoc,
      Classical.not_and_iff_not_or_not, UInt8.reduceToNat]

theorem pfx_eq (b : Bytes) (lower : Bool) : Wire.hasEscapedUTF16Prefix b lower = hasEscapedUTF16Prefix b lower :=
  pfxAux_eq lower 0 b

theorem beq_toNat (c k : UInt8) : (c == k) = decide (c.toNat = k.toNat) := by
  by_cases h : c = k
  · subst h; simp
  · have : c.toNat ≠ k.toNat := fun e => h (UInt8.toNat_inj.mp e)
    simp [h, this]

theorem upper_eq (d : Bytes) : d.any (fun c => decide (0x41 ≤ c) && decide (c ≤ 0x46)) = hasUpperHex d := by
  unfold hasUpperHex
  congr 1

/-- `stringNonVerbatim` with `nc` for `stringNonCanonical`: the flags of every escape. -/
abbrev esc (nc : Bool) : Wire.ValueFlags := ⟨true, nc⟩

theorem esc_join_nc (nc : Bool) : (esc nc).join Wire.ValueFlags.nc = esc true := by cases nc <;> rfl

/-- The flags of a `\uXXXX` escape (decode.go:191-207). -/
theorem escFlags (v1 : Nat) (d : Bytes) : Wire.ValueFlags.nv.join (Wire.escapeCanonFlags v1 d) = esc (escNonCanon v1 d) := by
  simp only [Wire.escapeCanonFlags, escNonCanon, upper_eq]
  by_cases h1 : v1 = 0x08 ∨ v1 = 0x0c ∨ v1 = 0x0a ∨ v1 = 0x0d ∨ v1 = 0x09
  · have : (v1 == 0x08 || v1 == 0x0C || v1 == 0x0A || v1 == 0x0D || v1 == 0x09) = true := by
      rcases h1 with h | h | h | h | h <;> subst h <;> rfl
    rw [if_pos this, if_pos h1]; rfl
  · have : ¬ (v1 == 0x08 || v1 == 0x0C || v1 == 0x0A || v1 == 0x0D || v1 == 0x09) = true := by
      simp only [Bool.or_eq_true, beq_iff_eq]; omega
    rw [if_neg this, if_neg h1]
    by_cases h2 : v1 ≥ 0x20
    · rw [if_pos h2, if_pos h2]; rfl
    · rw [if_neg h2, if_neg h2]
      cases hasUpperHex d <;> rfl

/-- ConsumeString's iteration in Model/WireDecode. -/
def wsOf (v : Bool) : Head → Wire.Step
  | .plain _ => .cont 1 {}
  | .close _ => .stop 1 {} .ok
  | .multi _ k => .cont k {}
  | .simple e _ => .cont 2 (esc (decide (e.toNat = 0x2f)))
  | .uni _ nc => .cont 6 (esc nc)
  | .pair _ _ nc => if v then .cont 12 (esc nc) else .cont 6 (esc nc)
  | .loneEOF _ nc => if v then .stop 0 (esc nc) .eof else .cont 6 (esc nc)
  | .lone _ nc => if v then .stop 0 (esc true) .invalidEscape else .cont 6 (esc nc)
  | .bad _ => if v then .stop 0 (esc true) .invalidUTF8 else .cont 1 (esc true)
  | .eof e => .stop 0 ⟨e, false⟩ .eof
  | .badEscape => .stop 0 (esc true) .invalidEscape
  | .ctrl => .stop 0 (esc true) .invalidChar
  | .bug => .stop 0 {} .bug

/-- AppendUnquote's iteration in Model/WireDecode. -/
def wuOf : Head → Wire.UStep
  | .plain c => .cont 1 [c] none
  | .close last => .close (!last)
  | .multi p k => .cont k p none
  | .simple _ v => .cont 2 [v] none
  | .uni v1 _ => .cont 6 (encodeRune v1) none
  | .pair v1 v2 _ => .cont 12 (encodeRune (utf16DecodeRune v1 v2)) none
  | .loneEOF _ _ => .stop Wire.runeErrorBytes .eof
  | .lone _ _ => .cont 6 Wire.runeErrorBytes (some .invalidEscape)
  | .bad k => .cont k Wire.runeErrorBytes (some .invalidUTF8)
  | .eof _ => .stop [] .eof
  | .badEscape => .stop [] .invalidEscape
  | .ctrl => .stop [] .invalidChar
  | .bug => .stop [] .bug

/-- Model/WireDecode tests the length where Model/Quote matches six bytes. -/
theorem lenLt_six {r : Bytes} (h : r.length < 6) : Wire.lenLt r 6 = true := (WireBasic.lenLt_iff r 6).mpr h

theorem wsOf_false_headSurr (v1 : Nat) (nc : Bool) (rest : Bytes) : wsOf false (headSurr v1 nc rest) = .cont 6 (esc nc) := by
  unfold headSurr
  split
  · split
    · simp only [apply_ite (wsOf false)]; split; rfl; split <;> rfl
    · rfl
  · split <;> rfl

theorem stringEscape_u (v : Bool) (a : UInt8) (r2 : Bytes) :
    Wire.stringEscape v (a :: 0x75 :: r2) = wsOf v (headU (a :: 0x75 :: r2)) := by
  rw [Wire.stringEscape, if_neg (by decide), if_neg (by decide), if_pos (by decide)]
  rcases six_or_short (a :: 0x75 :: r2) with ⟨_, _, h1, h2, h3, h4, rest, heq⟩ | hno
  · obtain ⟨-, -, rfl⟩ : _ ∧ _ ∧ r2 = _ := by simpa only [List.cons.injEq] using heq
    simp only [headU, Wire.lenLt, Bool.false_eq_true, if_false, List.take_succ_cons, List.take_zero, List.drop_succ_cons,
      List.drop_zero, parseHex_eq, escFlags]
    cases parseHexUint16 [h1, h2, h3, h4] with
    | none => rfl
    | some v1 =>
      simp only [apply_ite (wsOf v)]
      cases v
      · simp only [wsOf_false_headSurr, Bool.false_and, Bool.false_eq_true, if_false]; exact (ite_self _).symm
      · simp only [Bool.true_and]
        by_cases hs : isSurrogate v1 = true
        · rw [if_pos hs, if_pos hs]
          rcases six_or_short rest with ⟨b0, b1, g1, g2, g3, g4, t, rfl⟩ | hno
          · simp only [headSurr, Wire.lenLt, Bool.false_eq_true, if_false, List.take_succ_cons, List.take_zero, esc_join_nc]
            cases parseHexUint16 [g1, g2, g3, g4] with
            | none => rfl
            | some v2 => simp only [apply_ite (wsOf true), Bool.or_eq_true, bne_iff_ne, ne_eq, beq_iff_eq]; rfl
          · rw [lenLt_six hno, if_pos rfl, pfx_eq, headSurr_short hno, apply_ite (wsOf true), esc_join_nc]; rfl
        · rw [if_neg hs, if_neg hs]; rfl
  · rw [lenLt_six hno, if_pos rfl, pfx_eq, headU_short hno, apply_ite (wsOf v)]; rfl

theorem stringEscape_eq (v : Bool) : ∀ r, Wire.stringEscape v r = wsOf v (headEsc r)
  | [] | [_] => rfl
  | a :: e :: r2 => by
    rcases headEsc_cases a e r2 with ⟨w, hm, he⟩ | ⟨rfl, he⟩ | ⟨hn, he⟩
    · rw [he]
      exact simple_cases (P := fun e w => Wire.stringEscape v (a :: e :: r2) = wsOf v (.simple e w)) hm
        rfl rfl rfl rfl rfl rfl rfl rfl
    · rw [he]; exact stringEscape_u v a r2
    · rw [he, Wire.stringEscape]
      simp only [beq_toNat, UInt8.reduceToNat, Bool.or_eq_true, decide_eq_true_eq]
      rw [if_neg (by omega), if_neg (by omega), if_neg (by omega)]
      rfl

theorem stringStep_eq (v : Bool) : ∀ r, Wire.stringStep v r = wsOf v (headOf r)
  | [] => rfl
  | c :: t => by
    simp only [Wire.stringStep, headOf, apply_ite (wsOf v), noEscape_eq, ← stringEscape_eq, beq_iff_eq]
    rfl

theorem unquoteEscape_u (a : UInt8) (r2 : Bytes) :
    Wire.unquoteEscape (a :: 0x75 :: r2) = wuOf (headU (a :: 0x75 :: r2)) := by
  rw [Wire.unquoteEscape, if_neg (by decide), if_neg (by decide), if_neg (by decide), if_neg (by decide),
    if_neg (by decide), if_neg (by decide), if_pos (by decide)]
  rcases six_or_short (a :: 0x75 :: r2) with ⟨_, _, h1, h2, h3, h4, rest, heq⟩ | hno
  · obtain ⟨-, -, rfl⟩ : _ ∧ _ ∧ r2 = _ := by simpa only [List.cons.injEq] using heq
    simp only [headU, Wire.lenLt, Bool.false_eq_true, if_false, List.take_succ_cons, List.take_zero, List.drop_succ_cons,
      List.drop_zero, parseHex_eq]
    cases parseHexUint16 [h1, h2, h3, h4] with
    | none => rfl
    | some v1 =>
      simp only [apply_ite wuOf]
      by_cases hs : isSurrogate v1 = true
      · rw [if_pos hs, if_pos hs]
        rcases six_or_short rest with ⟨b0, b1, g1, g2, g3, g4, t, rfl⟩ | hno
        · simp only [headSurr, Wire.lenLt, Bool.false_eq_true, if_false, List.take_succ_cons, List.take_zero]
          cases parseHexUint16 [g1, g2, g3, g4] with
          | none => rfl
          | some v2 => simp only [apply_ite wuOf, Bool.or_eq_true, bne_iff_ne, ne_eq, beq_iff_eq]; rfl
        · rw [lenLt_six hno, if_pos rfl, pfx_eq, headSurr_short hno, apply_ite wuOf]; rfl
      · rw [if_neg hs, if_neg hs]; rfl
  · rw [lenLt_six hno, if_pos rfl, pfx_eq, headU_short hno, apply_ite wuOf]; rfl

theorem unquoteEscape_eq : ∀ r, Wire.unquoteEscape r = wuOf (headEsc r)
  | [] | [_] => rfl
  | a :: e :: r2 => by
    rcases headEsc_cases a e r2 with ⟨w, hm, he⟩ | ⟨rfl, he⟩ | ⟨hn, he⟩
    · rw [he]
      exact simple_cases (P := fun e w => Wire.unquoteEscape (a :: e :: r2) = wuOf (.simple e w)) hm
        rfl rfl rfl rfl rfl rfl rfl rfl
    · rw [he]; exact unquoteEscape_u a r2
    · rw [he, Wire.unquoteEscape]
      simp only [beq_toNat, UInt8.reduceToNat, Bool.or_eq_true, decide_eq_true_eq]
      rw [if_neg (by omega), if_neg (by omega), if_neg (by omega), if_neg (by omega), if_neg (by omega),
        if_neg (by omega), if_neg (by omega)]
      rfl

theorem unquoteStep_eq : ∀ r, Wire.unquoteStep r = wuOf (headOf r)
  | [] => rfl
  | c :: t => by
    simp only [Wire.unquoteStep, headOf, apply_ite wuOf, noEscape_eq, ← unquoteEscape_eq, beq_iff_eq]
    rfl

end JsonV.Lemmas.WireStringHead
