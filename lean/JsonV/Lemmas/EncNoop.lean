/-
Rejected calls of the Encoder model leave the state unchanged; scripts and their accepted sub-scripts.
-/
import JsonV.Model.Encoder

namespace JsonV.Lemmas.EncNoop
open JsonV.Model JsonV.Model.Encoder

/-- A call of the public API. -/
inductive Call where
  | tok (t : Tok)
  | val (v : Bytes)
deriving Repr, DecidableEq

def doCall (e : Enc) : Call → Enc × Option EncErr
  | .tok t => writeToken e t
  | .val v => writeValue e v

/-- The shape shared by every exit of `writeToken`/`writeValue`. -/
theorem fin_noop {e e' : Enc} {b : Bytes} {r : Except EncErr (Machine × List (List Bytes))} {err : EncErr}
    (h : (match r with
      | .ok (m, ns) => (commit e b m ns, (none : Option EncErr))
      | .error x => (e, some x)) = (e', some err)) : e' = e := by
  cases r with
  | ok p => simp at h
  | error x => simp at h; exact h.1.symm

theorem writeToken_noop (e : Enc) (t : Tok) (err : EncErr) (e' : Enc)
    (h : writeToken e t = (e', some err)) : e' = e := by
  unfold writeToken at h
  cases t <;> simp only at h
  case str s =>
    split at h
    · simp at h; exact h.1.symm
    · exact fin_noop h
  all_goals exact fin_noop h

theorem writeValue_noop (e : Enc) (v : Bytes) (err : EncErr) (e' : Enc)
    (h : writeValue e v = (e', some err)) : e' = e := by
  unfold writeValue at h
  simp only at h
  split at h
  · simp at h; exact h.1.symm
  · split at h
    · simp at h; exact h.1.symm
    · exact fin_noop h

theorem doCall_noop (e : Enc) (c : Call) (err : EncErr) (e' : Enc)
    (h : doCall e c = (e', some err)) : e' = e := by
  cases c with
  | tok t => exact writeToken_noop e t err e' h
  | val v => exact writeValue_noop e v err e' h

/-- Run a script; a rejected call is reported and the run continues (as a caller of the API would). -/
def run : Enc → List Call → Enc × List (Option EncErr)
  | e, [] => (e, [])
  | e, c :: cs =>
    let (e1, r) := doCall e c
    let (e2, rs) := run e1 cs
    (e2, r :: rs)

/-- The calls of a script that are accepted when it is run from `e`. -/
def accepted : Enc → List Call → List Call
  | _, [] => []
  | e, c :: cs =>
    match doCall e c with
    | (e1, none) => c :: accepted e1 cs
    | (e1, some _) => accepted e1 cs

theorem run_accepted (cs : List Call) : ∀ e : Enc,
    run e (accepted e cs) = ((run e cs).1, (accepted e cs).map fun _ => none) := by
  induction cs with
  | nil => intro e; simp [run, accepted]
  | cons c cs ih =>
    intro e
    cases hc : doCall e c with
    | mk e1 r =>
      cases r with
      | none =>
        simp only [accepted, hc, run, List.map_cons]
        rw [ih e1]
      | some err =>
        have : e1 = e := doCall_noop e c err e1 hc
        subst this
        simp only [accepted, hc, run]
        rw [ih e1]

end JsonV.Lemmas.EncNoop
