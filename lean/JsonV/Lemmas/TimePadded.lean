/-
`appendPaddedBase10`/`parsePaddedBase10` and `appendFracBase10`/`parseFracBase10`: what the writers append in closed form
(`appendPadded_eq`; `appendFrac_eq` with the text `fracText`, through `trimRight_eq`) and the round trips.  `fracText` serves
the proofs only: the model and the oracle do not have it.
-/
import JsonV.Lemmas.TimeDigits

namespace JsonV.Model.Time
open JsonV JsonV.Spec.Ecma JsonV.Lemmas.NumParse JsonV.Lemmas.NumDigits

theorem trimRight_eq (p : UInt8 → Bool) (b : Bytes) : trimRight p b = (b.reverse.dropWhile p).reverse := by
  induction b with
  | nil => rfl
  | cons x xs ih =>
    rw [trimRight, ih, List.reverse_cons, List.dropWhile_append]
    cases xs.reverse.dropWhile p with
    | nil => cases hx : p x <;> simp [hx]
    | cons a as => simp

theorem trimRight_append_of_ne_nil (p : UInt8 → Bool) (xs ys : Bytes) (h : trimRight p ys ≠ []) :
    trimRight p (xs ++ ys) = xs ++ trimRight p ys := by
  rw [trimRight_eq, trimRight_eq, List.reverse_append, List.dropWhile_append] at *
  rw [if_neg (by simpa using h), List.reverse_append, List.reverse_reverse]

theorem trimRight_zero_decomp (b : Bytes) : ∃ z, b = trimRight (· = c0) b ++ List.replicate z c0 := by
  refine ⟨(b.reverse.takeWhile (· = c0)).length, ?_⟩
  have h : b.reverse.takeWhile (· = c0) = List.replicate (b.reverse.takeWhile (· = c0)).length c0 :=
    List.eq_replicate_iff.2 ⟨rfl, fun x hx => by simpa using List.all_eq_true.1 List.all_takeWhile x hx⟩
  rw [trimRight_eq, ← List.reverse_replicate, ← h, ← List.reverse_append, List.takeWhile_append_dropWhile,
    List.reverse_reverse]

theorem trimRight_append_zeros (b : Bytes) (j : Nat) :
    trimRight (· = c0) (b ++ List.replicate j c0) = trimRight (· = c0) b := by
  rw [trimRight_eq, trimRight_eq, List.reverse_append, List.reverse_replicate,
    List.dropWhile_append_of_pos fun a ha => by simpa using (List.mem_replicate.1 ha).2]

theorem appendPadded_eq (b : Bytes) (k n : Nat) (h : n < 10 ^ (k + 1)) :
    appendPaddedBase10 b n (10 ^ (k + 1)) = b ++ padDigits (k + 1) n := by
  have hdiv : 10 ^ (k + 1) / 10 = 10 ^ k := by rw [Nat.pow_succ]; exact Nat.mul_div_cancel _ (by decide)
  unfold appendPaddedBase10
  rw [hdiv]
  by_cases hlt : n < 10 ^ k
  · -- too few digits: the code prints `n + 10^k`, whose first digit is 1, and turns that 1 into 0
    rw [if_pos hlt, natDigits_one_pad k n hlt, padDigits, Nat.div_eq_of_lt hlt]
    rfl
  · rw [if_neg hlt, natDigits_eq_pad k n h (Nat.le_of_not_lt hlt)]

/-- the loop on a (possibly truncated) run of digits: missing digits count as zeros. -/
theorem parsePaddedLoop_digits (m : Nat) : ∀ (j : Nat) (hp : 0 < 10 ^ j) (acc : Nat) (ds : Bytes),
    ds.all isDigit = true → ds.length ≤ m →
    parsePaddedLoop (10 ^ (j + m)) (10 ^ j) hp acc ds
      = ((acc * 10 ^ ds.length + bytesVal ds) * 10 ^ (m - ds.length), [], true) := by
  induction m with
  | zero =>
    intro j hp acc ds hd hl
    have : ds = [] := List.eq_nil_of_length_eq_zero (by omega)
    subst this
    unfold parsePaddedLoop
    simp [bytesVal]
  | succ m ih =>
    intro j hp acc ds hd hl
    have hlt : 10 ^ j < 10 ^ (j + (m + 1)) := Nat.pow_lt_pow_right (by decide) (by omega)
    have hpow : 10 ^ j * 10 = 10 ^ (j + 1) := by rw [Nat.pow_succ]
    have hexp : j + (m + 1) = (j + 1) + m := by omega
    unfold parsePaddedLoop
    rw [dif_pos hlt]
    cases ds with
    | nil =>
      simp only []
      have := ih (j + 1) (Nat.pow_pos (by decide)) (acc * 10) [] (by rfl) (by simp)
      simp only [hpow, hexp]
      rw [this]
      simp [bytesVal, Nat.pow_succ, Nat.mul_assoc, Nat.mul_comm 10]
    | cons c cs =>
      simp only [List.all_cons, Bool.and_eq_true] at hd
      have hc := (isDigit_iff c).mp hd.1
      have hnot : ¬ (c < c0 ∨ c9 < c) := by
        simp only [c0, c9, UInt8.lt_iff_toNat_lt]
        have h0 : (48 : UInt8).toNat = 48 := by decide
        have h9 : (57 : UInt8).toNat = 57 := by decide
        omega
      simp only []
      rw [if_neg hnot]
      have := ih (j + 1) (Nat.pow_pos (by decide)) (acc * 10 + digitVal c) cs hd.2 (by simpa using hl)
      simp only [hpow, hexp]
      rw [this]
      simp only [List.length_cons, Nat.succ_sub_succ]
      congr 2
      rw [show bytesVal (c :: cs) = digitVal c * 10 ^ cs.length + bytesVal cs from bytesVal_cons c cs, Nat.pow_succ]
      simp only [Nat.add_mul, Nat.mul_assoc, Nat.add_assoc]
      congr 2
      rw [Nat.mul_comm 10]

theorem parsePadded_digits (k : Nat) (ds : Bytes) (hd : ds.all isDigit = true) (hl : ds.length ≤ k) :
    parsePaddedBase10 ds (10 ^ k) = (bytesVal ds * 10 ^ (k - ds.length), true) := by
  unfold parsePaddedBase10
  have := parsePaddedLoop_digits k 0 (by decide) 0 ds hd hl
  simp only [Nat.zero_add, Nat.pow_zero, Nat.zero_mul] at this
  rw [this]
  simp

theorem parsePadded_padDigits (k m : Nat) (hm : m < 10 ^ k) : parsePaddedBase10 (padDigits k m) (10 ^ k) = (m, true) := by
  rw [parsePadded_digits k _ (padDigits_allDigits _ _) (by rw [padDigits_length]; exact Nat.le_refl _),
    bytesVal_padDigits, padDigits_length, Nat.sub_self, Nat.pow_zero, Nat.mul_one, Nat.mod_eq_of_lt hm]

/-- C04's `padded_rt` cites this. -/
theorem padded_roundtrip (k n : Nat) (h : n < 10 ^ (k + 1)) :
    parsePaddedBase10 (appendPaddedBase10 [] n (10 ^ (k + 1))) (10 ^ (k + 1)) = (n, true) := by
  rw [appendPadded_eq [] k n h, List.nil_append]
  exact parsePadded_padDigits (k + 1) n h

/-- the text `appendFracBase10` adds for a fraction `f` of `10^k`: nothing, or `.` and the digits without trailing zeros. -/
def fracText (k f : Nat) : Bytes := if f = 0 then [] else cDot :: trimRight (· = c0) (padDigits k f)

theorem trimmed_pad_allDigits (k f : Nat) : (trimRight (· = c0) (padDigits k f)).all isDigit = true := by
  obtain ⟨z, hz⟩ := trimRight_zero_decomp (padDigits k f)
  have hall := padDigits_allDigits k f
  rw [hz, List.all_append] at hall
  exact (Bool.and_eq_true _ _ ▸ hall).1

theorem trimmed_pad_facts (k f : Nat) (hf : 0 < f) (hlt : f < 10 ^ k) :
    let t := trimRight (· = c0) (padDigits k f)
    t ≠ [] ∧ t.all isDigit = true ∧ t.length ≤ k ∧ bytesVal t * 10 ^ (k - t.length) = f := by
  obtain ⟨z, hz⟩ := trimRight_zero_decomp (padDigits k f)
  intro t
  have hlen : t.length + z = k := by
    have := congrArg List.length hz
    simpa [padDigits_length] using this.symm
  have hval : bytesVal t * 10 ^ z = f := by
    have := congrArg bytesVal hz
    rw [bytesVal_padDigits, Nat.mod_eq_of_lt hlt, bytesVal_append, List.length_replicate, show List.replicate z c0 = zeros z from rfl, bytesVal_zeros] at this
    simpa using this.symm
  refine ⟨?_, trimmed_pad_allDigits k f, by omega, ?_⟩
  · intro e
    rw [e] at hval
    simp [bytesVal] at hval
    omega
  · have : k - t.length = z := by omega
    rw [this]; exact hval

theorem appendFrac_eq (b : Bytes) (k f : Nat) (hlt : f < 10 ^ k) :
    appendFracBase10 b f (10 ^ k) = b ++ fracText k f := by
  unfold appendFracBase10 fracText
  by_cases h0 : f = 0
  · simp [h0]
  · obtain ⟨k, rfl⟩ : ∃ k', k = k' + 1 := Nat.exists_eq_add_one_of_ne_zero (by rintro rfl; omega)
    rw [if_neg h0, if_neg h0, appendPadded_eq _ k f hlt, List.append_assoc]
    have ht := (trimmed_pad_facts (k + 1) f (by omega) hlt).1
    have hne : trimRight (· = c0) ([cDot] ++ padDigits (k + 1) f) ≠ [] := by
      rw [trimRight_append_of_ne_nil _ _ _ ht]; simp
    rw [trimRight_append_of_ne_nil _ _ _ hne, trimRight_append_of_ne_nil _ _ _ ht]
    rfl

/-- With `appendFrac_eq`, C04's `frac_rt`; for `k = 0` the text is empty. -/
theorem parseFrac_fracText (k f : Nat) (hlt : f < 10 ^ k) : parseFracBase10 (fracText k f) (10 ^ k) = (f, true) := by
  unfold fracText
  by_cases h0 : f = 0
  · simp [h0, parseFracBase10]
  · rw [if_neg h0]
    obtain ⟨hne, hall, hlen, hval⟩ := trimmed_pad_facts k f (by omega) hlt
    cases ht : trimRight (· = c0) (padDigits k f) with
    | nil => exact absurd ht hne
    | cons a as =>
      rw [ht] at hall hlen hval
      unfold parseFracBase10
      simp only [ne_eq, not_true_eq_false, if_false]
      rw [parsePadded_digits k _ hall hlen, hval]

theorem fracText_shape (k f : Nat) : fracText k f = [] ∨ ∃ ds, fracText k f = cDot :: ds ∧ ds.all isDigit = true := by
  unfold fracText
  by_cases h0 : f = 0
  · left; simp [h0]
  · right
    rw [if_neg h0]
    exact ⟨_, rfl, trimmed_pad_allDigits k f⟩

end JsonV.Model.Time
