/-
The accepted steps of the grammar's push-down automaton (Spec/PDA.lean) as an inductive relation: a user takes a step apart
by `cases step_iff.mp h` and does not unfold `PDA.step`.
-/
import JsonV.Spec.PDA

namespace JsonV.Lemmas.StateStep
open JsonV.Spec JsonV.Spec.PDA

/-- The accepted steps of `PDA.step`, one constructor per token kind. -/
inductive Step (max : Nat) : Frames → Kind → Frames → Prop
  | lit {f rest} : f.needName = false → Step max (f :: rest) .lit (f.bump :: rest)
  | str {f rest} : Step max (f :: rest) .str (f.bump :: rest)
  | num {f rest} : f.needName = false → Step max (f :: rest) .num (f.bump :: rest)
  | beginObj {f rest} : f.needName = false → rest.length < max → Step max (f :: rest) .beginObj (.obj 0 :: f.bump :: rest)
  | endObj {n g rest} : n % 2 = 0 → Step max (.obj n :: g :: rest) .endObj (g :: rest)
  | beginArr {f rest} : f.needName = false → rest.length < max → Step max (f :: rest) .beginArr (.arr 0 :: f.bump :: rest)
  | endArr {n g rest} : Step max (.arr n :: g :: rest) .endArr (g :: rest)

theorem step_iff {max : Nat} {fs fs' : Frames} {k : Kind} : step max fs k = some fs' ↔ Step max fs k fs' := by
  constructor
  · intro h
    cases fs with
    | nil => cases h
    | cons f rest =>
      cases k <;> simp only [step, Option.ite_none_left_eq_some, Option.ite_none_right_eq_some, Option.some.injEq,
        Bool.not_eq_true] at h
      · obtain ⟨hn, rfl⟩ := h; exact .lit hn
      · cases h; exact .str
      · obtain ⟨hn, rfl⟩ := h; exact .num hn
      · obtain ⟨hn, hl, rfl⟩ := h; exact .beginObj hn hl
      · cases f <;> cases rest <;> simp only [Option.ite_none_right_eq_some, Option.some.injEq, reduceCtorEq] at h
        obtain ⟨hn, rfl⟩ := h; exact .endObj hn
      · obtain ⟨hn, hl, rfl⟩ := h; exact .beginArr hn hl
      · cases f <;> cases rest <;> cases h
        exact .endArr
  · intro h
    cases h <;> simp [step, *]

end JsonV.Lemmas.StateStep
