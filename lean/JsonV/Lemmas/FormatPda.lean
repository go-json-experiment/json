/-
Lemmas about the token grammar (`step`/`accepts`), delimiter insertion and removal, and the whitespace
produced by the renderer of the C12 model.
-/
import JsonV.Lemmas.FormatLex

namespace JsonV.Fmt

/-- the delimiter `step` asks for, as a lexeme: what `delimPiece` of Model/Format.lean is for the renderer's pieces -/
def delimLex : Option Delim → List Lex
  | some d => [.delim d]
  | none => []

/-- The lexemes of the rendered text: tokens with the delimiters the grammar requires. -/
def punct : Stack → List Tok → List Lex
  | _, [] => []
  | st, t :: ts =>
    match step st t with
    | some (d, st') => delimLex d ++ .tok t :: punct st' ts
    | none => .tok t :: punct st ts

theorem pieces_map_snd (o : WsOpts) : ∀ (ts : List Tok) (st : Stack),
    (pieces o st ts).map Prod.snd = punct st ts := by
  intro ts
  induction ts with
  | nil => intro st; rfl
  | cons t ts ih =>
    intro st
    simp only [pieces, punct]
    cases hs : step st t with
    | none => simp [ih]
    | some p =>
      obtain ⟨d, st'⟩ := p
      cases d <;> simp [delimPiece, delimLex, ih]

theorem accepts_cons {st : Stack} {t : Tok} {ts : List Tok} (h : accepts st (t :: ts) = true) :
    ∃ d st', step st t = some (d, st') ∧ accepts st' ts = true := by
  simp only [accepts] at h
  split at h
  · rename_i d st' hs; exact ⟨d, st', hs, h⟩
  · simp at h

theorem accepts_ne_nil {ts : List Tok} (h : accepts [.top0] ts = true) : ts ≠ [] := by
  rintro rfl
  simp [accepts] at h

theorem step_open (f : Fr) (s : Stack) {k : Tok} {g : Fr} (hk : (k = .ba ∧ g = .arr0) ∨ (k = .bo ∧ g = .obj0)) :
    step (f :: s) k = (match f.value false with
      | some (d, f') => if s.length < maxDepth then some (d, g :: f' :: s) else none
      | none => none) := by
  rcases hk with ⟨rfl, rfl⟩ | ⟨rfl, rfl⟩ <;> rfl

theorem step_open_inv {f g : Fr} {s st' : Stack} {d : Option Delim} {k : Tok}
    (hk : (k = .ba ∧ g = .arr0) ∨ (k = .bo ∧ g = .obj0)) (h : step (f :: s) k = some (d, st')) :
    ∃ f', f.value false = some (d, f') ∧ s.length < maxDepth ∧ st' = g :: f' :: s := by
  rw [step_open f s hk] at h
  split at h
  · rename_i hv
    split at h <;> cases h
    exact ⟨_, hv, ‹_›, rfl⟩
  · cases h

theorem unpunct_punct : ∀ (ts : List Tok) (st : Stack), accepts st ts = true → unpunct st (punct st ts) = some ts := by
  intro ts
  induction ts with
  | nil =>
    intro st h
    simp only [accepts, beq_iff_eq] at h
    simp [punct, unpunct, h]
  | cons t ts ih =>
    intro st h
    obtain ⟨d, st', hs, h'⟩ := accepts_cons h
    simp only [punct, hs]
    cases d with
    | none => simp [delimLex, unpunct, hs, ih _ h', consT]
    | some d => simp [delimLex, unpunct, hs, ih _ h', consT]

theorem consT_eq_some {t : Tok} {x : Option (List Tok)} {ts : List Tok} :
    consT t x = some ts ↔ ∃ ts', ts = t :: ts' ∧ x = some ts' := by
  cases x <;> simp [consT, eq_comm]

theorem unpunct_spec {st : Stack} {ls : List Lex} {ts : List Tok} (h : unpunct st ls = some ts) :
    accepts st ts = true ∧ ls = punct st ts := by
  fun_induction unpunct st ls generalizing ts with
  | case1 =>
    cases h
    exact ⟨rfl, rfl⟩
  | case3 st t ls st' hs ih | case5 st t ls d st' hs ih =>
    obtain ⟨ts', rfl, h'⟩ := consT_eq_some.mp h
    obtain ⟨hacc, rfl⟩ := ih h'
    simp [accepts, punct, hs, hacc, delimLex]
  | _ => cases h

theorem tok_mem_punct {t : Tok} : ∀ {ts : List Tok} (st : Stack), t ∈ ts → Lex.tok t ∈ punct st ts := by
  intro ts
  induction ts with
  | nil => intro st h; cases h
  | cons x ts ih =>
    intro st h
    unfold punct
    rcases List.mem_cons.mp h with rfl | h
    · split <;> simp
    · split <;> simp [ih _ h]

theorem allWs_append (a b : Bytes) : allWs (a ++ b) = (allWs a && allWs b) := by
  simp [allWs, List.all_append]

theorem allWs_repeat (b : Bytes) (hb : allWs b = true) : ∀ k, allWs (repeatBytes b k) = true := by
  intro k
  induction k with
  | zero => rfl
  | succ k ih => simp [repeatBytes, allWs_append, hb, ih]

theorem allWs_nl (o : WsOpts) (ho : o.Blank) (k : Nat) : allWs (nl o k) = true := by
  unfold nl
  split
  · have : allWs (o.pre ++ repeatBytes o.ind k) = true := by
      simp [allWs_append, ho.1, allWs_repeat _ ho.2]
    simpa [allWs, isWs] using this
  · rfl

theorem allWs_sp (b : Bool) : allWs (sp b) = true := by cases b <;> decide

theorem allWs_wsBefore (o : WsOpts) (ho : o.Blank) (st : Stack) (t : Tok) : allWs (wsBefore o st t) = true := by
  unfold wsBefore
  split
  · split
    · rfl
    · exact allWs_nl o ho _
  · split <;> simp [allWs_append, allWs_nl o ho, allWs_sp]
  · split
    · rfl
    · exact allWs_nl o ho _
  · split <;> simp [allWs_append, allWs_nl o ho, allWs_sp]
  · exact allWs_sp _
  · rfl

theorem wsBefore_compact (st : Stack) (t : Tok) : wsBefore compactOpts st t = [] := by
  unfold wsBefore
  split <;> (try split) <;> simp [nl, sp, compactOpts]

theorem headOK_ws_append {w r : Bytes} (hw : allWs w = true) (hr : headOK r) : headOK (w ++ r) := by
  cases w with
  | nil => exact hr
  | cons c w =>
    intro x hx
    cases hx
    simp only [allWs, List.all_cons, Bool.and_eq_true] at hw
    exact ws_not_numChar _ hw.1

/-- the context right after a value: complete top level, array element, member value -/
def afterValue (st : Stack) : Prop := ∃ f s, st = f :: s ∧ (f = .top1 ∨ f = .arrN ∨ f = .objV)

theorem afterValue_num {st st' : Stack} {raw : Bytes} {d : Option Delim}
    (h : step st (.num raw) = some (d, st')) : afterValue st' := by
  cases st with
  | nil => simp [step] at h
  | cons f s =>
    cases f <;> simp [step, Fr.value] at h <;> obtain ⟨_, rfl⟩ := h <;> exact ⟨_, _, rfl, by simp⟩

theorem step_after_value {st st' : Stack} {t : Tok} (hst : afterValue st) (hs : step st t = some (none, st')) :
    t = .eo ∨ t = .ea := by
  obtain ⟨f, s, rfl, hf⟩ := hst
  rcases hf with rfl | rfl | rfl <;> cases t <;> simp [step, Fr.value] at hs ⊢ <;> split at hs <;> cases hs

end JsonV.Fmt
