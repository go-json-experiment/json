/-
The bytes `reformatValue` produces for a raw value are what the specification-level encoder (`EncIff.Emits`) writes for
the value's tokens: a tokenizer `tokValue` with the same shape as `reformatValue`, and the proof by induction on the fuel
(`raw_all`).  What the rest of C06 uses: `writeValue_emits` (one accepted `WriteValue` from a reachable state) and
`emits_run` (what is emitted at specification level is accepted by `WriteToken`, token after token).
-/
import JsonV.Lemmas.EncValue
import JsonV.Lemmas.GlueEncQuote
import JsonV.Lemmas.GlueNameKey
import JsonV.Lemmas.QuoteWf
import JsonV.Lemmas.WireValue

namespace JsonV.Lemmas.EncRaw
open JsonV JsonV.Model JsonV.Model.Encoder JsonV.Spec JsonV.Spec.PDA JsonV.Spec.Render JsonV.Spec.Names
open JsonV.Lemmas.StateRefine JsonV.Lemmas.StateRun JsonV.Lemmas.EncRender JsonV.Lemmas.EncIff JsonV.Lemmas.EncValue
open JsonV.Lemmas.EncReformat

def litNull : Bytes := [0x6e, 0x75, 0x6c, 0x6c]
def litFalse : Bytes := [0x66, 0x61, 0x6c, 0x73, 0x65]
def litTrue : Bytes := [0x74, 0x72, 0x75, 0x65]

mutual
/-- The tokens of the JSON value at the start of `src` (and the rest), scanned as `reformatValue` scans. -/
def tokValue (o : Opts) : Nat → Bytes → Option (List Tok × Bytes)
  | 0, _ => none
  | fuel + 1, src =>
    match src with
    | [] => none
    | c :: _ =>
      let k := normKind c
      if k = 0x6e then match scanLiteral src litNull with | .ok r => some ([.null], r) | .error _ => none
      else if k = 0x66 then match scanLiteral src litFalse with | .ok r => some ([.fals], r) | .error _ => none
      else if k = 0x74 then match scanLiteral src litTrue with | .ok r => some ([.tru], r) | .error _ => none
      else if k = 0x22 then match reformatString o src with | .ok (_, name, r) => some ([.str name], r) | .error _ => none
      else if k = 0x30 then match scanNumber src with | .ok (n, r) => some ([.num n], r) | .error _ => none
      else if k = 0x7b then
        match skipWS (src.drop 1) with
        | [] => none
        | c1 :: r1 =>
          if c1 = 0x7d then some ([.beginObj, .endObj], r1)
          else match tokObj o fuel (c1 :: r1) with
            | some (ts, r) => some (.beginObj :: ts, r)
            | none => none
      else if k = 0x5b then
        match skipWS (src.drop 1) with
        | [] => none
        | c1 :: r1 =>
          if c1 = 0x5d then some ([.beginArr, .endArr], r1)
          else match tokArr o fuel (c1 :: r1) with
            | some (ts, r) => some (.beginArr :: ts, r)
            | none => none
      else none

/-- Members up to and including the closing `}`. -/
def tokObj (o : Opts) : Nat → Bytes → Option (List Tok × Bytes)
  | 0, _ => none
  | fuel + 1, src =>
    match skipWS src with
    | [] => none
    | s0 =>
      match reformatString o s0 with
      | .error _ => none
      | .ok (_, name, s1) =>
        match skipWS s1 with
        | [] => none
        | c2 :: s2 =>
          if c2 ≠ 0x3a then none
          else match skipWS s2 with
            | [] => none
            | s3 =>
              match tokValue o fuel s3 with
              | none => none
              | some (tv, s4) =>
                match skipWS s4 with
                | [] => none
                | c5 :: s5 =>
                  if c5 = 0x2c then
                    match tokObj o fuel s5 with
                    | some (ts, r) => some (.str name :: tv ++ ts, r)
                    | none => none
                  else if c5 = 0x7d then some (.str name :: tv ++ [.endObj], s5)
                  else none

/-- Elements up to and including the closing `]`. -/
def tokArr (o : Opts) : Nat → Bytes → Option (List Tok × Bytes)
  | 0, _ => none
  | fuel + 1, src =>
    match skipWS src with
    | [] => none
    | s0 =>
      match tokValue o fuel s0 with
      | none => none
      | some (tv, s1) =>
        match skipWS s1 with
        | [] => none
        | c2 :: s2 =>
          if c2 = 0x2c then
            match tokArr o fuel s2 with
            | some (ts, r) => some (tv ++ ts, r)
            | none => none
          else if c2 = 0x5d then some (tv ++ [.endArr], s2)
          else none
end

/-- The tokens of a raw value passed to `WriteValue`. -/
def valueToks (o : Opts) (v : Bytes) : List Tok :=
  match tokValue o (3 * v.length + 4) (skipWS v) with
  | some (ts, _) => ts
  | none => []

theorem NL_deep (f g : Frame) (r : List Frame) : NL (f :: g :: r) = [] := by simp [NL]

/-- The comma (and space) before every element but the first. -/
def commaPart (o : Opts) (n : Nat) : Bytes := if n > 0 then 0x2c :: spComma o else []

theorem commaPart_succ (o : Opts) (n : Nat) : commaPart o (n + 1) = 0x2c :: spComma o := by simp [commaPart]

theorem trackRun_append (o : Opts) (a b : List Tok) : ∀ (fs : Frames) (ns : List (List Bytes)),
    trackRun o fs ns (a ++ b) = (trackRun o fs ns a).bind (fun p => trackRun o p.1 p.2 b) := by
  induction a with
  | nil => intro fs ns; simp [trackRun]
  | cons t a ih =>
    intro fs ns
    simp only [List.cons_append, trackRun]
    cases step o.maxDepth fs (kindOf t) with
    | none => rfl
    | some fs' => exact ih fs' _

theorem renderFrom_append (o : Opts) (ts us : List Tok) : ∀ (fs fs' : Frames),
    run o.maxDepth fs (ts.map kindOf) = some fs' →
    renderFrom o fs (ts ++ us) = renderFrom o fs ts ++ renderFrom o fs' us := by
  induction ts with
  | nil => intro fs fs' h; simp [run] at h; subst h; simp [renderFrom]
  | cons t ts ih =>
    intro fs fs' h
    simp only [List.map_cons, run] at h
    cases hs : step o.maxDepth fs (kindOf t) with
    | none => rw [hs] at h; cases h
    | some fs1 =>
      rw [hs] at h
      simp only [List.cons_append, renderFrom, hs, ih fs1 fs' h, List.append_assoc]

theorem sep_indep (o : Opts) (fs : Frames) (k k' : Kind) (h : k.closing = k'.closing) :
    sepBytes o fs k = sepBytes o fs k' := by
  unfold sepBytes delim indent
  cases fs with
  | nil => rfl
  | cons f r => cases r with
    | nil => rfl
    | cons g r => simp only [h]

theorem sep_item (o : Opts) {F : Frame} (g : Frame) (r : List Frame) {k : Kind} (hF : F.needValue = false)
    (hk : k.closing = false) : sepBytes o (F :: g :: r) k = commaPart o F.count ++ ind o (r.length + 2) := by
  simp only [sepBytes, delim, indent, hF, hk, commaPart, ind, List.length_cons]
  by_cases h0 : F.count > 0 <;> simp [h0, spComma]

theorem sep_member_value (o : Opts) {F : Frame} (g : Frame) (r : List Frame) (k : Kind) (hF : F.needValue = true) :
    sepBytes o (F :: g :: r) k = 0x3a :: spColon o := by
  simp only [sepBytes, delim, hF, spColon, if_true]

theorem sep_close (o : Opts) {F : Frame} (g : Frame) (r : List Frame) {k : Kind} (hF : F.needValue = false)
    (hk : k.closing = true) : sepBytes o (F :: g :: r) k = ind o (if F.count = 0 then 0 else r.length + 1) := by
  simp only [sepBytes, delim, indent, hF, hk, ind, List.length_cons]
  simp

theorem fresh_nonstr (o : Opts) (fs : Frames) (ns : List (List Bytes)) {t : Tok} (h : ∀ s, t ≠ .str s) :
    Fresh o fs ns t := fun s hs => absurd hs (h s)

theorem badUTF8_nonstr (o : Opts) {t : Tok} (h : ∀ s, t ≠ .str s) : badUTF8 o t = false := by
  cases t <;> first | rfl | exact absurd rfl (h _)

variable {o : Opts} {f F g : Frame} {r0 r : List Frame} {ns ns' : List (List Bytes)} {fs' : Frames} {ts : List Tok}
  {out : Bytes}

theorem emits_scalar (o : Opts) (r0 : List Frame) (ns : List (List Bytes)) (t : Tok) (hf : f.needName = false)
    (hk : kindOf t = .lit ∨ kindOf t = .str ∨ kindOf t = .num) (hb : badUTF8 o t = false) :
    Emits o (f :: r0) ns [t] (sepBytes o (f :: r0) .lit ++ tokText o t ++ NL (f.bump :: r0)) (f.bump :: r0) ns := by
  have hn : namesStep o (f :: r0) ns t = ns := by
    cases t <;> simp [kindOf] at hk <;> simp [namesStep, isNamePos, hf]
  have := Emits.cons (ns := ns) (step_value (max := o.maxDepth) (r0 := r0) _ hf hk) hb
    (fun _ s _ hp => by simp [isNamePos, hf] at hp) (.nil _ _)
  rwa [hn, List.append_nil, sep_indep o _ _ .lit (by rcases hk with h | h | h <;> rw [h] <;> rfl)] at this

theorem emits_open (t : Tok) (ht : ∀ s, t ≠ .str s) (hc : (kindOf t).closing = false)
    (hs : step o.maxDepth (f :: r0) (kindOf t) = some (F :: f.bump :: r0))
    (h : Emits o (F :: f.bump :: r0) (namesStep o (f :: r0) ns t) ts out fs' ns') :
    Emits o (f :: r0) ns (t :: ts) (sepBytes o (f :: r0) .lit ++ tokText o t ++ out) fs' ns' := by
  have := Emits.cons hs (badUTF8_nonstr o ht) (fun _ => fresh_nonstr o _ ns ht) h
  rwa [NL_deep, List.append_nil, sep_indep o _ _ .lit hc] at this

theorem emits_close (t : Tok) (ht : ∀ s, t ≠ .str s) (hc : (kindOf t).closing = true) (hF : F.needValue = false)
    (hs : step o.maxDepth (F :: g :: r) (kindOf t) = some (g :: r)) :
    Emits o (F :: g :: r) ns [t] (ind o (if F.count = 0 then 0 else r.length + 1) ++ tokText o t ++ NL (g :: r)) (g :: r)
      (namesStep o (F :: g :: r) ns t) := by
  have := Emits.cons hs (badUTF8_nonstr o ht) (fun _ => fresh_nonstr o _ ns ht) (.nil _ _)
  rwa [List.append_nil, sep_close o g r hF hc] at this

theorem emits_name {n : Nat} {top : List Bytes} {name : Bytes} (hn : n % 2 = 0) (hb : badUTF8 o (.str name) = false)
    (hf : o.allowDup = false → nameOf o name ∉ top)
    (h : Emits o (.obj (n + 1) :: g :: r) ((top ++ [nameOf o name]) :: ns) ts out fs' ns') :
    Emits o (.obj n :: g :: r) (top :: ns) (.str name :: ts)
      (commaPart o n ++ ind o (r.length + 2) ++ (appendQuote o name).1 ++ out) fs' ns' := by
  have hp : isNamePos (.obj n :: g :: r) = true := by simp [isNamePos, Frame.needName, hn]
  have := Emits.cons (o := o) (t := .str name) (ns := top :: ns) (fs := .obj n :: g :: r) (fs1 := .obj (n + 1) :: g :: r) rfl hb
    (fun hd s hs _ => by cases hs; exact hf hd) (by simpa [namesStep, hp] using h)
  rwa [NL_deep, List.append_nil, sep_item o g r (by simp [Frame.needValue, hn]) rfl] at this

/-- Both conjuncts hold because the unescaped value of an accepted string literal is well-formed UTF-8. -/
theorem reformatString_name {o : Opts} {src q name r : Bytes} (h : reformatString o src = .ok (q, name, r)) :
    badUTF8 o (.str name) = false ∧ nameOf o name = name := by
  obtain ⟨n, fl, hvs, hname, -, -⟩ := reformatString_ok_iff.mp h
  have hj := (JsonV.Lemmas.WireValue.valueString_sound (vopts o) src n fl hvs).2
  have ht := JsonV.Lemmas.WireValue.valueString_take (vopts o) src n fl hvs
  have hfl : fl = (Validate.valueString (vopts o) (src.take n)).2.1 := by rw [ht]
  have hu := JsonV.Lemmas.GlueNameKey.unescapedName_valueString (vopts o) (src.take n) hj
  rw [← hfl, ← hname, JsonV.Lemmas.GlueQuote.unquote_eq] at hu
  have hwf : JsonV.Spec.StringSpec.WellFormed name := by
    rw [hu]; exact JsonV.Lemmas.QuoteWf.appendUnquote_wellFormed _
  refine ⟨?_, JsonV.Lemmas.GlueEncQuote.unquote_appendQuote_wellFormed o name hwf⟩
  rw [JsonV.Lemmas.GlueEncQuote.badUTF8_str_iff]
  right
  exact (JsonV.Lemmas.QuoteMeaning.validAux_iff name.length name (Nat.le_refl _)).mpr hwf

theorem reformatString_out {o : Opts} {src q name r : Bytes} (h : reformatString o src = .ok (q, name, r)) :
    q = (appendQuote o name).1 := by
  obtain ⟨_, _, -, -, hq, -⟩ := reformatString_ok_iff.mp h
  exact hq

/-! The three statements of the induction on the fuel, for `reformatValue`, `objectLoop` and `arrayLoop`: the call reads the
tokens `tokValue`/`tokObj`/`tokArr` read, and these are emitted (`Emits`) from the frames the call stands for with an output
that, after `pre`, is the buffer the call returns.  `pre` is the output before the value's (or container's) tokens; `dst`,
the encoder's buffer when the call starts, is `pre` and the separator already written. -/
def PV (o : Opts) (fuel : Nat) : Prop :=
  ∀ (pre dst src dst' rest : Bytes) (f : Frame) (r0 : List Frame),
    f.needName = false → (f :: r0).length ≤ o.maxDepth + 1 →
    dst = pre ++ sepBytes o (f :: r0) .lit →
    reformatValue o fuel dst src (f :: r0).length = .ok (dst', rest) →
    ∃ toks out, tokValue o fuel src = some (toks, rest) ∧ pre ++ out = dst' ++ NL (f.bump :: r0) ∧
      ∀ ns, Emits o (f :: r0) ns toks out (f.bump :: r0) ns

def PO (o : Opts) (fuel : Nat) : Prop :=
  ∀ (pre dst src dst' rest : Bytes) (n : Nat) (g : Frame) (r : List Frame) (names : List Bytes),
    n % 2 = 0 → (g :: r).length ≤ o.maxDepth →
    dst = pre ++ commaPart o n →
    objectLoop o fuel dst src (r.length + 2) names = .ok (dst', rest) →
    ∃ toks out, tokObj o fuel src = some (toks, rest) ∧ pre ++ out = dst' ++ NL (g :: r) ∧
      ∀ top ns, (o.allowDup = false → top = names) → Emits o (.obj n :: g :: r) (top :: ns) toks out (g :: r) ns

def PA (o : Opts) (fuel : Nat) : Prop :=
  ∀ (pre dst src dst' rest : Bytes) (n : Nat) (g : Frame) (r : List Frame),
    (g :: r).length ≤ o.maxDepth →
    dst = pre ++ commaPart o n →
    arrayLoop o fuel dst src (r.length + 2) = .ok (dst', rest) →
    ∃ toks out, tokArr o fuel src = some (toks, rest) ∧ pre ++ out = dst' ++ NL (g :: r) ∧
      ∀ ns, Emits o (.arr n :: g :: r) ns toks out (g :: r) ns

theorem pa_step (o : Opts) (fuel : Nat) (hV : PV o fuel) (hA : PA o fuel) : PA o (fuel + 1) := by
  intro pre dst src dst' rest n g r hlen hd h
  obtain ⟨c0, s0, dst2, s1, c2, s2, hs, hv, hw, hc⟩ := arrayLoop_ok_iff.mp h
  obtain ⟨tv, ov, htv, hov, hev⟩ := hV pre _ (c0 :: s0) dst2 s1 (.arr n) (g :: r) rfl
    (by simp only [List.length_cons] at hlen ⊢; omega)
    (by rw [hd, sep_item o g r rfl rfl, List.append_assoc]; rfl) hv
  rw [show (Frame.arr n).bump = .arr (n + 1) from rfl, NL_deep, List.append_nil] at hov
  rcases hc with ⟨hc, hc'⟩ | ⟨hc, rfl, rfl⟩
  · obtain ⟨ts, os, hts, hos, hes⟩ := hA dst2 _ s2 dst' rest (n + 1) g r hlen (by rw [commaPart_succ]) hc'
    exact ⟨tv ++ ts, ov ++ os, by simp [tokArr, hs, htv, hw, hc, hts], by rw [← List.append_assoc, hov, hos],
      fun ns => (hev ns).append (hes ns)⟩
  · refine ⟨tv ++ [.endArr], _, by simp [tokArr, hs, htv, hw, hc], ?_,
      fun ns => (hev ns).append (emits_close .endArr nofun rfl rfl step_endArr)⟩
    rw [← List.append_assoc, hov]
    simp [Frame.count, Frame.bump, tokText, List.append_assoc]

theorem po_step (o : Opts) (fuel : Nat) (hV : PV o fuel) (hO : PO o fuel) : PO o (fuel + 1) := by
  intro pre dst src dst' rest n g r names hn hlen hd h
  obtain ⟨c0, s0, q, name, s1, s2, c3, s3, dst5, s4, c5, s5, hs, hq, hdup, hw, hw3, hv, hw5, hc⟩ :=
    objectLoop_ok_iff.mp h
  have hodd : (n + 1) % 2 = 1 := by rw [Nat.add_mod, hn]
  have heven : (n + 2) % 2 = 0 := by rw [Nat.add_mod_right]; exact hn
  obtain ⟨tv, ov, htv, hov, hev⟩ := hV (dst ++ ind o (r.length + 2) ++ q) _ (c3 :: s3) dst5 s4
    (.obj (n + 1)) (g :: r) (by simp [Frame.needName, hodd]) (by simp only [List.length_cons] at hlen ⊢; omega)
    (by rw [sep_member_value o g r _ (by simp [Frame.needValue, hodd])]) hv
  rw [show (Frame.obj (n + 1)).bump = .obj (n + 2) from rfl, NL_deep, List.append_nil] at hov
  obtain ⟨hbad, hname⟩ := reformatString_name hq
  -- the name token in front of whatever the rest of the loop emits
  have hem : ∀ {ts out top ns}, (o.allowDup = false → top = names) →
      Emits o (.obj (n + 1) :: g :: r) ((top ++ [name]) :: ns) ts out (g :: r) ns →
      Emits o (.obj n :: g :: r) (top :: ns) (.str name :: ts)
        (commaPart o n ++ ind o (r.length + 2) ++ q ++ out) (g :: r) ns := by
    intro ts out top ns htop h
    rw [reformatString_out hq]
    refine emits_name hn hbad (fun hd hm => ?_) (by rwa [hname])
    rw [hname, htop hd] at hm
    simp [hd, hm] at hdup
  have hpre : ∀ out, pre ++ (commaPart o n ++ ind o (r.length + 2) ++ q ++ (ov ++ out)) = dst5 ++ out := by
    intro out; rw [← hov, hd]; simp [List.append_assoc]
  rcases hc with ⟨hc, hc'⟩ | ⟨hc, rfl, rfl⟩
  · obtain ⟨ts, os, hts, hos, hes⟩ := hO dst5 _ s5 dst' rest (n + 2) g r _ heven hlen (by rw [commaPart_succ]) hc'
    exact ⟨.str name :: (tv ++ ts), _, by simp [tokObj, hs, hq, hw, hw3, htv, hw5, hc, hts], by rw [hpre, hos],
      fun top ns htop => hem htop ((hev _).append (hes _ ns fun hd => by simp [hd, htop hd]))⟩
  · refine ⟨.str name :: (tv ++ [.endObj]), _, by simp [tokObj, hs, hq, hw, hw3, htv, hw5, hc], ?_,
      fun top ns htop => hem htop ((hev _).append
        (emits_close .endObj nofun rfl (by simp [Frame.needValue, Frame.bump, heven]) (step_endObj heven)))⟩
    rw [hpre]
    simp [Frame.count, Frame.bump, tokText, List.append_assoc]

theorem pv_step (o : Opts) (fuel : Nat) (hO : PO o fuel) (hA : PA o fuel) : PV o (fuel + 1) := by
  intro pre dst src dst' rest f r0 hf hlen hd h
  obtain ⟨c, s, rfl, hk⟩ := reformat_ok_kind h
  have hdep : (f :: r0).length + 1 = r0.length + 2 := rfl
  have hl : (f :: r0).length ≠ o.maxDepth + 1 → r0.length < o.maxDepth := fun hdp => by
    simp only [List.length_cons] at hlen hdp; omega
  -- a scalar token `t` whose text the call has appended to `dst`
  have scalar : ∀ t, kindOf t = .lit ∨ kindOf t = .str ∨ kindOf t = .num → badUTF8 o t = false →
      dst' = dst ++ tokText o t → tokValue o (fuel + 1) (c :: s) = some ([t], rest) →
      ∃ toks out, tokValue o (fuel + 1) (c :: s) = some (toks, rest) ∧ pre ++ out = dst' ++ NL (f.bump :: r0) ∧
        ∀ ns, Emits o (f :: r0) ns toks out (f.bump :: r0) ns :=
    fun t hk hb hdst ht => ⟨[t], _, ht, by rw [hdst, hd]; simp [List.append_assoc],
      fun ns => emits_scalar o r0 ns t hf hk hb⟩
  rcases hk with k | k | k | k | k | k | k
  · rw [reformatValue_null k, Except.map_eq_ok] at h
    obtain ⟨r, hs, hh⟩ := h
    cases hh
    exact scalar .null (.inl rfl) rfl rfl (by simp [tokValue, k, litNull, hs])
  · rw [reformatValue_false k, Except.map_eq_ok] at h
    obtain ⟨r, hs, hh⟩ := h
    cases hh
    exact scalar .fals (.inl rfl) rfl rfl (by simp [tokValue, k, litFalse, hs])
  · rw [reformatValue_true k, Except.map_eq_ok] at h
    obtain ⟨r, hs, hh⟩ := h
    cases hh
    exact scalar .tru (.inl rfl) rfl rfl (by simp [tokValue, k, litTrue, hs])
  · rw [reformatValue_str k, Except.map_eq_ok] at h
    obtain ⟨⟨q, name, r⟩, hs, hh⟩ := h
    cases hh
    exact scalar (.str name) (.inr (.inl rfl)) (reformatString_name hs).1 (by rw [reformatString_out hs]; rfl)
      (by simp [tokValue, k, hs])
  · rw [reformatValue_num k, Except.map_eq_ok] at h
    obtain ⟨⟨nt, r⟩, hs, hh⟩ := h
    cases hh
    exact scalar (.num nt) (.inr (.inr rfl)) rfl rfl (by simp [tokValue, k, hs])
  · obtain ⟨hdp, c1, r1, hw, hc | hc⟩ := (reformatValue_obj_ok_iff k).mp h
    · obtain ⟨hc, rfl, rfl⟩ := hc
      refine ⟨[.beginObj, .endObj], _, by simp [tokValue, k, hw, hc], ?_, fun ns =>
        emits_open .beginObj nofun rfl (step_beginObj hf (hl hdp)) (emits_close .endObj nofun rfl rfl (step_endObj rfl))⟩
      rw [hd]; simp [Frame.count, tokText, ind_zero, List.append_assoc]
    · rw [hdep] at hc
      obtain ⟨toks, out, ht, hout, hem⟩ := hO (dst ++ [0x7b]) _ (c1 :: r1) dst' rest 0 f.bump r0 [] rfl
        (by simp only [List.length_cons] at hlen hdp ⊢; omega) (by simp [commaPart]) hc.2
      refine ⟨.beginObj :: toks, _, by simp [tokValue, k, hw, hc.1, ht], ?_, fun ns =>
        emits_open .beginObj nofun rfl (step_beginObj hf (hl hdp)) (hem [] ns fun _ => rfl)⟩
      rw [← hout, hd]; simp [tokText, List.append_assoc]
  · obtain ⟨hdp, c1, r1, hw, hc | hc⟩ := (reformatValue_arr_ok_iff k).mp h
    · obtain ⟨hc, rfl, rfl⟩ := hc
      refine ⟨[.beginArr, .endArr], _, by simp [tokValue, k, hw, hc], ?_, fun ns =>
        emits_open .beginArr nofun rfl (step_beginArr hf (hl hdp)) (emits_close .endArr nofun rfl rfl step_endArr)⟩
      rw [hd]; simp [Frame.count, tokText, ind_zero, List.append_assoc]
    · rw [hdep] at hc
      obtain ⟨toks, out, ht, hout, hem⟩ := hA (dst ++ [0x5b]) _ (c1 :: r1) dst' rest 0 f.bump r0
        (by simp only [List.length_cons] at hlen hdp ⊢; omega) (by simp [commaPart]) hc.2
      refine ⟨.beginArr :: toks, _, by simp [tokValue, k, hw, hc.1, ht], ?_, fun ns =>
        emits_open .beginArr nofun rfl (step_beginArr hf (hl hdp)) (hem ns)⟩
      rw [← hout, hd]; simp [tokText, List.append_assoc]

theorem raw_all (o : Opts) : ∀ fuel, PV o fuel ∧ PO o fuel ∧ PA o fuel := by
  intro fuel
  induction fuel with
  | zero =>
    refine ⟨?_, ?_, ?_⟩
    · intro pre dst src dst' rest f r0 _ _ _ h; rw [reformatValue_zero] at h; cases h
    · intro pre dst src dst' rest n g r names _ _ _ h; rw [objectLoop_zero] at h; cases h
    · intro pre dst src dst' rest n g r _ _ h; rw [arrayLoop_zero] at h; cases h
  | succ fuel ih =>
    obtain ⟨hV, hO, hA⟩ := ih
    exact ⟨pv_step o fuel hO hA, po_step o fuel hV hO, pa_step o fuel hV hA⟩

theorem beforeValue_eq (e : Enc) (k : UInt8) (hk : IsValueKind k) (hb : BottomArr (abs e.m)) :
    beforeToken e k = e.out ++ sepBytes e.o (abs e.m) .lit :=
  beforeToken_of e k .lit (by rcases hk with h | h | h | h | h | h | h <;> subst h <;> decide)
    (by rcases hk with h | h | h | h | h | h | h <;> subst h <;> decide) hb

theorem countP_bump (f : Frame) (r0 : List Frame) :
    (f.bump :: r0).countP isObj = (f :: r0).countP isObj := by
  simp [List.countP_cons, isObj_bump]

theorem namesAfterName_length (fs : Frames) (ns : List (List Bytes)) (name : Bytes) :
    (namesAfterName fs ns name).length = ns.length := by
  unfold namesAfterName
  split
  · cases ns <;> simp
  · rfl

theorem writeValue_emits {o : Opts} {b : Nat} {fs : Frames} {ns : List (List Bytes)} {e e' : Enc}
    (hI : EncInv o b fs ns e) (hb : b + 2 < 2^61) (v : Bytes) (h : writeValue e v = (e', none)) :
    ∃ out fs' ns', Emits o fs ns (valueToks o v) out fs' ns' ∧ EncInv o (b + 2) fs' ns' e' ∧ e'.out = e.out ++ out := by
  suffices ∃ toks rest out fs' ns', tokValue o (3 * v.length + 4) (skipWS v) = some (toks, rest) ∧
      Emits o fs ns toks out fs' ns' ∧ EncInv o (b + 2) fs' ns' e' ∧ e'.out = e.out ++ out by
    obtain ⟨toks, rest, out, fs', ns', ht, hem, hI', hout⟩ := this
    exact ⟨out, fs', ns', by simpa [valueToks, ht] using hem, hI', hout⟩
  obtain ⟨b', rest, m, ns2, hr, -, hv, rfl⟩ := (writeValue_ok_iff e e' v).mp h
  rw [hI.opts] at hr
  obtain ⟨c, s, hsrc, hkc⟩ := reformat_ok_kind hr
  have hkind : valueKind v = normKind c := by simp [valueKind, hsrc]
  have hk : IsValueKind (valueKind v) := hkind ▸ hkc
  obtain ⟨f, r0, rfl⟩ : ∃ f r0, fs = f :: r0 := by rw [← hI.abs_eq, abs_cons]; exact ⟨_, _, rfl⟩
  have hfs := hI.abs_eq
  have hbt : beforeToken e (valueKind v) = e.out ++ sepBytes o (f :: r0) .lit := by
    rw [beforeValue_eq e _ hk (by rw [hfs]; exact hI.bottom), hI.opts, hfs]
  have hlen : (f :: r0).length ≤ o.maxDepth + 1 := by
    rw [← hfs, abs_length]; have := hI.inv.depth; omega
  rw [depth_abs, hfs, hsrc] at hr
  obtain ⟨hsm, heff⟩ := valueSM_spec hI hb (valueKind v) (b'.drop (beforeToken e (valueKind v)).length) hk
  obtain ⟨hab, hinv, hnames⟩ := heff m ns2 hv
  obtain ⟨hstp, hfr⟩ := hsm.mp ⟨_, hv⟩
  have hout : ∀ out, e.out ++ out = b' ++ NL (f.bump :: r0) → (commit e b' m ns2).out = e.out ++ out := by
    intro out h
    have hst : m.stack.length = r0.length := by have := abs_length m; rw [hab] at this; simp at this; omega
    rw [commit_out, h]; simp [NL, hst]
  have hbot : BottomArr (f.bump :: r0) := bottomArr_bump hI.bottom
  by_cases hq : valueKind v = 0x22
  · -- a raw string, possibly a member name
    rw [reformatValue_str (hkind ▸ hq), Except.map_eq_ok] at hr
    obtain ⟨⟨q, name, r⟩, hl, hh⟩ := hr
    cases hh
    have hlit : (beforeToken e (valueKind v) ++ q).drop (beforeToken e (valueKind v)).length = (appendQuote o name).1 := by
      rw [reformatString_out hl]; simp
    rw [hlit] at hfr hnames
    refine ⟨[.str name], rest, _, _, _, by simp [hsrc, tokValue, hkind ▸ hq, hl],
      .cons (t := .str name) rfl (reformatString_name hl).1 (fun hd s' hs' hp => by cases hs'; exact hfr hq hd hp)
        (.nil _ _), ⟨hI.opts, hinv, hab, hbot, fun hd => ⟨?_, ?_⟩⟩, hout _ ?_⟩
    · exact (hnames hd).trans (if_pos hq)
    · rw [namesStep_str, namesAfterName_length, countP_bump]; exact (hI.names hd).2
    · rw [hbt, reformatString_out hl]; simp [kindOf, tokText, sep_indep o (f :: r0) .str .lit rfl, List.append_assoc]
  · have hnn : f.needName = false := by
      cases hn : f.needName with
      | false => rfl
      | true =>
        unfold firstKind at hstp
        rw [if_neg hq] at hstp
        split at hstp <;> (try split at hstp) <;> (try split at hstp) <;> simp [step, hn] at hstp
    obtain ⟨toks, out, ht, hrn, hem⟩ := (raw_all o (3 * v.length + 4)).1 e.out _ (c :: s) b' rest f r0 hnn hlen hbt hr
    refine ⟨toks, rest, out, _, _, by rw [hsrc]; exact ht, hem ns, ⟨hI.opts, hinv, hab, hbot, fun hd => ⟨?_, ?_⟩⟩,
      hout _ hrn⟩
    · exact (hnames hd).trans (if_neg hq)
    · rw [countP_bump]; exact (hI.names hd).2

theorem emits_run {o : Opts} {fs fs' : Frames} {ns ns' : List (List Bytes)} {ts : List Tok} {out : Bytes}
    (hem : Emits o fs ns ts out fs' ns') : ∀ {b : Nat} {e : Enc}, EncInv o b fs ns e → b + ts.length < 2^61 →
    ∃ e', runToks e ts = some e' ∧ EncInv o (b + ts.length) fs' ns' e' ∧ e'.out = e.out ++ out := by
  induction hem with
  | nil => intro b e hI _; exact ⟨e, rfl, hI, (List.append_nil _).symm⟩
  | @cons fs fs1 _ ns _ t ts _ hs hb hf _ ih =>
    intro b e hI hlen
    rw [List.length_cons] at hlen
    have hsp := writeToken_spec hI (by omega) t
    rcases hw : writeToken e t with ⟨e1, _ | err⟩
    · rw [hw] at hsp
      obtain ⟨out1, fs1', hem1, hI1, hout1⟩ := hsp
      cases hem1 with | cons hs' _ _ hn =>
      cases hn; cases hs.symm.trans hs'
      obtain ⟨e', hr, hI', hout'⟩ := ih hI1 (by omega)
      exact ⟨e', by simp only [runToks, hw, hr], by rwa [List.length_cons, Nat.add_comm ts.length, ← Nat.add_assoc],
        by rw [hout', hout1]; simp [List.append_assoc]⟩
    · rw [hw] at hsp
      exact absurd ⟨by simp [hs], hb, hf⟩ hsp

end JsonV.Lemmas.EncRaw
