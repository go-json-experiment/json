/-
The shape invariant is kept by every accepted token call.
-/
import JsonV.Lemmas.FlushInvA

namespace JsonV.Model.Flush
open JsonV

/-- Token texts and whitespace as the encoder produces them. -/
def SaneTok (t : Tok) (ws : Bytes) : Prop :=
  WsOnly ws ∧ (∀ x, t = .scalar x → SaneText x) ∧ (∀ b, t = .str b → QuotesEscaped b)

theorem total_of_write {e e' : Enc} {d ws x : Bytes} (hb : e'.buf = e.buf ++ d ++ ws ++ x)
    (hd : e'.delivered = e.delivered) : e'.total = e.total ++ d ++ ws ++ x := by
  simp only [Enc.total, hb, hd, List.append_assoc]

theorem invS_write_bump {e e' : Enc} {f : Bool} (h : InvS e f) {t : Tok} {ws : Bytes}
    (hl : e'.last = e.last.inc) (hst : e'.stack = e.stack)
    (hb : e'.buf = e.buf ++ delim e.last e.stack t ++ ws ++ t.text) (hd : e'.delivered = e.delivered)
    (hws : WsOnly ws) (htxt : SaneText t.text) (hclose : t.isClose = false)
    (hname : e.last.needName = true → ∃ b, t.text = 0x22 :: b ++ [0x22] ∧ QuotesEscaped b) :
    InvS e' true := by
  have hlen : e'.last.len = e.last.len + 1 := by rw [hl]; rfl
  have hobj : e'.last.isObj = e.last.isObj := by rw [hl]; rfl
  refine ⟨?_, ?_, ?_, ?_, ?_, ?_⟩
  · rw [hl, hst, bottomIsObj_inc]; exact h.bottom
  · rw [hst]; exact h.parents
  · intro h0; omega
  · -- a name was written
    intro hv
    obtain ⟨ho, hk⟩ := needValue_isObj hv
    rw [hobj] at ho
    have hn : e.last.needName = true := by simp [Frame.needName, ho]; omega
    obtain ⟨b, htb, hq⟩ := hname hn
    have hsep := memberSep_of_inv h.toInv hn hclose
    have hdl := delim_of_needName hn (stack_ne_nil_of_obj h.bottom ho) hclose
    rw [hdl] at hsep
    rw [hd, hlen, hst, hb, htb, hdl]
    refine ⟨e.buf, _, ws, b, rfl, hws, hq, hsep, ?_⟩
    by_cases h0 : e.last.len = 0
    · simp only [h0, if_true]
      exact ⟨fun _ => ⟨trivial, h.opened h0⟩, fun hf => by simp at hf⟩
    · simp only [h0, if_false]
      refine ⟨fun hf => ?_, fun _ => ⟨trivial, ?_, ?_⟩⟩
      · simp at hf; exact absurd hf h0
      · simpa [Enc.total] using h.noOpen (Nat.pos_of_ne_zero h0)
      · simpa using h.stale hn (Nat.pos_of_ne_zero h0)
  · -- a member value was written
    intro hn hl'
    obtain ⟨ho, hk⟩ := needName_isObj hn
    rw [hobj] at ho
    rw [hlen] at hk hl'
    have hv : e.last.needValue = true := by simp [Frame.needValue, ho]; omega
    rw [hd, hlen, hst]
    by_cases hne : emptyLenR e'.total.reverse = 0
    · exact compat_of_zero _ (by simpa [Enc.total, hd] using hne)
    · rw [total_of_write hb hd, List.reverse_append] at hne
      have hv' := emptyText_of_sane _ htxt hne
      exact compat_of_cshape ⟨_, _, by rw [hb, delim_of_needValue hv], hv', pshape_of_vshape (h.named hv) hws⟩ hl' hk
  · intro _
    obtain ⟨p, c, hpc, hc1, hc2⟩ := saneText_last htxt
    rw [total_of_write hb hd, hpc, ← List.append_assoc]
    exact noOpenerEnd_append_last _ _ hc1 hc2

theorem invS_write_open {e e' : Enc} {f : Bool} (h : InvS e f) {t : Tok} {ws : Bytes} {io : Bool} {o : UInt8}
    (hl : e'.last = ⟨io, 0⟩) (hst : e'.stack = e.last.inc :: e.stack)
    (hb : e'.buf = e.buf ++ delim e.last e.stack t ++ ws ++ t.text) (hd : e'.delivered = e.delivered)
    (hbot : bottomIsObj e'.last e'.stack = false)
    (hws : WsOnly ws) (ho : OpenerLike o) (htext : t.text = [o]) (hacc : e.last.needName = false) :
    InvS e' false := by
  have hvalue : e.last.isObj = true → e.last.needValue = true := by
    intro hobj
    have : ¬ (e.last.len % 2 = 0) := by
      intro hk; simp [Frame.needName, hobj, hk] at hacc
    simp [Frame.needValue, hobj]; omega
  refine ⟨hbot, ?_, ?_, ?_, (by intro _ hlen; rw [hl] at hlen; simp at hlen), ?_⟩
  · intro g hg
    rw [hst] at hg
    cases List.mem_cons.mp hg with
    | inl hgl =>
      subst hgl
      refine ⟨by simp [Frame.inc], ?_⟩
      intro hobj
      have := (needValue_isObj (hvalue hobj)).2
      simp [Frame.inc]; omega
    | inr hgr => exact h.parents g hgr
  · intro _
    rw [hd, hst]
    refine ⟨e.buf ++ delim e.last e.stack t ++ ws, o, by rw [hb, htext], ho, ?_⟩
    intro hobj
    rw [delim_of_needValue (hvalue hobj)]
    exact pshape_of_vshape (h.named (hvalue hobj)) hws
  · intro hv; rw [hl] at hv; simp [Frame.needValue] at hv
  · intro hlen; rw [hl] at hlen; simp at hlen

theorem invS_write_close {e e' : Enc} {f : Bool} (h : InvS e f) {t : Tok} {ws : Bytes} {c : UInt8}
    {p : Frame} {rest : List Frame} (hstack : e.stack = p :: rest) (hl : e'.last = p) (hst : e'.stack = rest)
    (hb : e'.buf = e.buf ++ delim e.last e.stack t ++ ws ++ t.text) (hd : e'.delivered = e.delivered)
    (hbot : bottomIsObj e'.last e'.stack = false)
    (hws : WsOnly ws) (hc : c = 0x7d ∨ c = 0x5d) (htext : t.text = [c]) (hclose : t.isClose = true)
    (hnv : e.last.needValue = false) :
    InvS e' true := by
  have hp := h.parents p (by rw [hstack]; simp)
  have hbuf : e'.buf = e.buf ++ ws ++ [c] := by rw [hb, delim_close hnv hclose, htext]; simp
  have hcne : c ≠ 0x7b ∧ c ≠ 0x5b := by rcases hc with rfl | rfl <;> decide
  refine ⟨hbot, ?_, ?_, ?_, ?_, ?_⟩
  · intro g hg; rw [hst] at hg; exact h.parents g (by rw [hstack]; simp [hg])
  · intro h0; rw [hl] at h0; omega
  · intro hv; rw [hl] at hv
    obtain ⟨hobj, hk⟩ := needValue_isObj hv
    have := hp.2 hobj; omega
  · intro hn hl'
    rw [hl] at hn hl'
    have hk := (needName_isObj hn).2
    rw [hd, hl, hst]
    by_cases hne : emptyLenR e'.total.reverse = 0
    · exact compat_of_zero _ (by simpa [Enc.total, hd] using hne)
    · by_cases h0 : e.last.len = 0
      · have hA := h.opened h0
        rw [hstack] at hA
        obtain ⟨b, o, hbo, _, hshape⟩ := hA
        have hrev : e'.total.reverse = c :: (ws.reverse ++ o :: (b.reverse ++ e.delivered.reverse)) := by
          simp [Enc.total, hbuf, hd, hbo, List.reverse_append]
        rw [hrev] at hne
        obtain ⟨hws0, hv⟩ := emptyText_of_close c o ws _ hws hc hne
        exact compat_of_cshape ⟨b, [o, c], by rw [hbuf, hbo, hws0]; simp, hv, hshape (needName_isObj hn).1⟩ hl' hk
      · exfalso
        have hT := h.noOpen (Nat.pos_of_ne_zero h0)
        have hrev : e'.total.reverse = c :: (ws.reverse ++ e.total.reverse) := by
          simp [Enc.total, hbuf, hd, List.reverse_append]
        rw [hrev] at hne
        exact hne (emptyLen_close_nonempty c ws e.total hws hc hT)
  · intro _
    have : e'.total = (e.delivered ++ e.buf ++ ws) ++ [c] := by
      simp [Enc.total, hbuf, hd, List.append_assoc]
    rw [this]; exact noOpenerEnd_append_last _ _ hcne.1 hcne.2

theorem invS_write {e e' : Enc} {f : Bool} (h : InvS e f) {t : Tok} {ws : Bytes} (hs : SaneTok t ws)
    (hw : write e t ws = some e') : InvS e' t.valueEnd := by
  obtain ⟨l, st, hf, rfl⟩ := write_some hw
  obtain ⟨hws, hsc, hstr⟩ := hs
  have hbot := hf.bottom h.bottom
  cases hf with
  | scalar x hn => exact invS_write_bump h rfl rfl rfl rfl hws (hsc x rfl) rfl fun hn' => by rw [hn] at hn'; cases hn'
  | str x =>
    exact invS_write_bump h rfl rfl rfl rfl hws (.inr (.inr ⟨x, rfl, hstr x rfl⟩)) rfl fun _ => ⟨x, rfl, hstr x rfl⟩
  | openObj hn => exact invS_write_open h rfl rfl rfl rfl hbot hws (o := 0x7b) ⟨by decide, by decide, by decide⟩ rfl hn
  | openArr hn => exact invS_write_open h rfl rfl rfl rfl hbot hws (o := 0x5b) ⟨by decide, by decide, by decide⟩ rfl hn
  | closeObj _ hv hst => exact invS_write_close h hst rfl rfl rfl rfl hbot hws (.inl rfl) rfl rfl hv
  | closeArr ho hst =>
    exact invS_write_close h hst rfl rfl rfl rfl hbot hws (.inr rfl) rfl rfl (by simp [Frame.needValue, ho])

theorem invS_step_tok {e e' : Enc} {f : Bool} (h : InvS e f) {t : Tok} {ws : Bytes} (hs : SaneTok t ws)
    (hw : write e t ws = some e') (s : Sched) : InvS (step e (.tok t ws) s) t.valueEnd := by
  rcases step_tok_cases hw s with h' | ⟨_, h'⟩ <;> rw [h']
  · exact invS_flush (invS_write h hs hw) _
  · exact invS_write h hs hw

end JsonV.Model.Flush
