/-
Lemmas for C18: the intern cache is transparent and keeps its invariant; the cycle tracker
is balanced on every exit path; a coder step refines the survivor-free step.
-/
import JsonV.Model.Reset

namespace JsonV.Lemmas.ResetL
open JsonV JsonV.Model JsonV.Model.Reset JsonV.Model.Intern

theorem makeString_fst (c : Cache) (b : Bytes) : (makeString c b).1 = b := by
  unfold makeString
  split
  · rfl
  · simp only
    split
    · assumption
    · rfl

theorem runAll_fst (c : Cache) (bs : List Bytes) : (runAll c bs).1 = bs := by
  induction bs generalizing c with
  | nil => rfl
  | cons b bs ih => simp [runAll, makeString_fst, ih]

theorem inv_empty : Inv Cache.empty := by
  intro i
  left
  simp [Cache.empty]

theorem makeString_inv (c : Cache) (b : Bytes) (h : Inv c) : Inv (makeString c b).2 := by
  unfold makeString
  split
  · exact h
  · next hc =>
    simp only
    split
    · exact h
    · intro j
      simp only [Fin.getElem_fin, Vector.getElem_set]
      split
      · next hj => exact .inr ⟨by simpa using hc, Fin.ext hj⟩
      · exact h j

theorem runAll_inv (c : Cache) (bs : List Bytes) (h : Inv c) : Inv (runAll c bs).2 := by
  induction bs generalizing c with
  | nil => exact h
  | cons b bs ih =>
    simp only [runAll]
    exact ih _ (makeString_inv c b h)

theorem filter_cons_self (p : Nat) (seen : List Nat) (h : p ∉ seen) :
    (p :: seen).filter (· != p) = seen := by
  simp only [List.filter_cons, bne_self_eq_false, Bool.false_eq_true, ↓reduceIte]
  rw [List.filter_eq_self]
  intro a ha
  simp only [bne_iff_ne, ne_eq]
  intro e
  exact h (e ▸ ha)

mutual
theorem marshal_seen (ca : Nat) : ∀ (v : GoVal) (depth : Nat) (seen : List Nat),
    (marshal ca depth seen v).2 = seen
  | .leaf e, d, s => by simp [marshal]
  | .node p kids, d, s => by
    unfold marshal
    split
    · split
      · rfl
      · rename_i hp
        simp only
        rw [marshalKids_seen ca kids]
        exact filter_cons_self p s hp
    · exact marshalKids_seen ca kids _ _
theorem marshalKids_seen (ca : Nat) : ∀ (ks : List GoVal) (depth : Nat) (seen : List Nat),
    (marshalKids ca depth seen ks).2 = seen
  | [], d, s => by simp [marshalKids]
  | k :: ks, d, s => by
    unfold marshalKids
    simp only
    split
    · rw [marshal_seen ca k]
      exact marshalKids_seen ca ks d s
    · exact marshal_seen ca k d s
end

theorem core_growSurv (c : Coder) : (growSurv c).core = c.core := rfl
theorem seen_growSurv (c : Coder) : (growSurv c).surv.seen = c.surv.seen := rfl

theorem step_refines (P : Params) (c : Coder) (op : Op) (hs : c.surv.seen = []) :
    (step P c op).2 = (stepC P c.core op).2 ∧
    (step P c op).1.core = (stepC P c.core op).1 ∧
    (step P c op).1.surv.seen = [] := by
  obtain ⟨m, names, nss, off, fl, flo, sv⟩ := c
  simp only at hs
  cases op with
  | literal =>
    simp only [step, stepC, Coder.core]
    cases m.appendLiteral <;> exact ⟨rfl, rfl, hs⟩
  | number =>
    simp only [step, stepC, Coder.core]
    cases m.appendNumber <;> exact ⟨rfl, rfl, hs⟩
  | pushArray =>
    simp only [step, stepC, Coder.core]
    cases m.pushArray P.maxDepth <;> exact ⟨rfl, rfl, hs⟩
  | popArray =>
    simp only [step, stepC, Coder.core]
    by_cases hfl : blockedArr m flo = true <;> simp only [hfl, Bool.false_eq_true, ↓reduceIte, true_and]
    · exact hs
    · cases m.popArray <;> exact ⟨rfl, rfl, hs⟩
  | enterUser => exact ⟨rfl, rfl, hs⟩
  | leaveUser prev => exact ⟨rfl, rfl, hs⟩
  | pushObject =>
    simp only [step, stepC, Coder.core]
    cases m.pushObject P.maxDepth <;> exact ⟨rfl, rfl, hs⟩
  | popObject =>
    simp only [step, stepC, Coder.core]
    by_cases hfl : blockedObj m flo = true <;> simp only [hfl, Bool.false_eq_true, ↓reduceIte, true_and]
    · exact hs
    · cases m.popObject <;> exact ⟨rfl, rfl, hs⟩
  | string s =>
    simp only [step, stepC, Coder.core, Coder.allowDup, allowDupK, makeString_fst]
    by_cases hc : (m.last.needObjectName && !fl.get allowDupBit) = true <;>
      simp only [hc, Bool.false_eq_true, ↓reduceIte]
    case neg => cases m.appendString <;> exact ⟨rfl, rfl, hs⟩
    case pos =>
      cases nss.getLast? with
      | none => exact ⟨rfl, rfl, hs⟩
      | some ns =>
        by_cases hd : s ∈ ns <;> simp only [hd, ↓reduceIte, true_and]
        · exact hs
        · cases m.appendString <;> exact ⟨rfl, rfl, hs⟩
  | value v =>
    simp only [step, stepC, Coder.core]
    cases m.appendLiteral with
    | error e => exact ⟨rfl, rfl, hs⟩
    | ok m' =>
      simp only [hs, marshal_seen]
      by_cases hw : (marshal P.cycleAfter m.depth [] v).fst = MExit.ok
      · simp only [hw, ↓reduceIte]; exact ⟨rfl, rfl, rfl⟩
      · simp only [hw, ↓reduceIte, and_self]

theorem behaviour_refines (P : Params) (ops : List Op) : ∀ (c : Coder), c.surv.seen = [] →
    behaviour P c ops = behaviourC P c.core ops := by
  induction ops with
  | nil => intro c _; rfl
  | cons op ops ih =>
    intro c hs
    obtain ⟨h1, h2, h3⟩ := step_refines P c op hs
    simp only [behaviour, behaviourC]
    rw [h1, ih _ h3, h2]

theorem reachable_seen (P : Params) (c : Coder) (h : Reachable P c) : c.surv.seen = [] := by
  induction h with
  | fresh f => rfl
  | step op _ ih => exact (step_refines P _ op ih).2.2
  | reset f _ ih => exact ih

theorem core_reset (c : Coder) (f : Flags) : (reset c f).core = (fresh f).core := rfl

end JsonV.Lemmas.ResetL
