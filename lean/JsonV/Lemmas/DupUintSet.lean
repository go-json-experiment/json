/-
Lemmas about the `uintSet` model (C08): the 64-bit words as bit tests, `has` as an abstract bit function,
`insert` as "set that bit, report whether it was clear".
-/
import JsonV.Model.UintSet

namespace JsonV.Lemmas.Dup
open JsonV.Model

/-- `s&(1<<i) > 0` is the test of bit `i` (false for `i ≥ 64`, where Go's shift yields 0). -/
theorem has64_eq (s : BitVec 64) (i : Nat) : UintSet64.has s i = s.getLsbD i := by
  unfold UintSet64.has
  rw [← BitVec.twoPow_eq, BitVec.and_twoPow]
  by_cases h : s.getLsbD i
  · have hi : i < 64 := by
      rcases Nat.lt_or_ge i 64 with h' | h'
      · exact h'
      · rw [BitVec.getLsbD_of_ge _ _ h'] at h; cases h
    simp [h, BitVec.ult, BitVec.toNat_twoPow]
    have : 2 ^ i < 2 ^ 64 := Nat.pow_lt_pow_right (by omega) hi
    rw [Nat.mod_eq_of_lt this]; exact Nat.pow_pos (by omega)
  · simp [h, BitVec.ult]

/-- `*s |= 1 << i` sets bit `i` (nothing for `i ≥ 64`) and keeps the others. -/
theorem getLsbD_set64 (s : BitVec 64) (i j : Nat) :
    (UintSet64.set s i).getLsbD j = (s.getLsbD j || (decide (i < 64) && decide (i = j))) := by
  unfold UintSet64.set
  rw [← BitVec.twoPow_eq, BitVec.getLsbD_or, BitVec.getLsbD_twoPow]

/-- The abstraction: which naturals are in the set. -/
def bit (s : UintSet) (i : Nat) : Bool :=
  if i < 64 then s.lo.getLsbD i else (s.hi.getD ((i - 64) / 64) 0#64).getLsbD ((i - 64) % 64)

theorem getD_zero_of_ge (l : List (BitVec 64)) (k : Nat) (h : l.length ≤ k) : l.getD k 0#64 = 0#64 := by
  simp [List.getD_eq_getElem?_getD, List.getElem?_eq_none h]

theorem has_eq_bit (s : UintSet) (i : Nat) : s.has i = bit s i := by
  unfold UintSet.has bit UintSet.wordBits
  split
  · exact has64_eq _ _
  · simp only [has64_eq]
    by_cases h : (i - 64) / 64 < s.hi.length
    · simp [h]
    · rw [getD_zero_of_ge _ _ (Nat.le_of_not_lt h)]; simp [h]

theorem getD_grow (hi : List (BitVec 64)) (k n : Nat) : (UintSet.grow hi k).getD n 0#64 = hi.getD n 0#64 := by
  unfold UintSet.grow
  split
  · simp only [List.getD_eq_getElem?_getD, List.getElem?_append]
    split
    · rfl
    · rename_i h
      have h' : hi.length ≤ n := Nat.le_of_not_lt h
      rw [List.getElem?_eq_none h']
      simp only [List.getElem?_replicate]
      split <;> rfl
  · rfl

theorem length_grow (hi : List (BitVec 64)) (k : Nat) : k < (UintSet.grow hi k).length := by
  unfold UintSet.grow
  split
  · simp; omega
  · omega

theorem getD_set (l : List (BitVec 64)) (k n : Nat) (w : BitVec 64) (hk : k < l.length) :
    (l.set k w).getD n 0#64 = if n = k then w else l.getD n 0#64 := by
  simp only [List.getD_eq_getElem?_getD, List.getElem?_set]
  by_cases h : k = n
  · subst h; simp [hk]
  · have : ¬ n = k := fun e => h e.symm
    simp [h, this]

theorem insert_snd (s : UintSet) (i : Nat) : (s.insert i).2 = !bit s i := by
  unfold UintSet.insert bit UintSet.wordBits
  split
  · simp [has64_eq]
  · simp only [has64_eq, getD_grow]

theorem bit_insert (s : UintSet) (i j : Nat) : bit (s.insert i).1 j = (decide (j = i) || bit s j) := by
  -- `lo` or `hi`, the same word of `hi` or another, the same bit of it or another; word and bit index
  -- determine the number (`omega`)
  unfold UintSet.insert UintSet.wordBits
  by_cases hi : i < 64
  · simp only [hi, if_true]
    unfold bit
    by_cases hj : j < 64
    · simp only [hj, if_true, getLsbD_set64]
      by_cases e : i = j
      · subst e; simp [hi]
      · have : ¬ j = i := fun x => e x.symm
        simp [e, this]
    · have : ¬ j = i := by omega
      simp [hj, this]
  · simp only [hi, if_false]
    unfold bit
    by_cases hj : j < 64
    · have : ¬ j = i := by omega
      simp [hj, this]
    · simp only [hj, if_false]
      rw [getD_set _ _ _ _ (length_grow _ _)]
      by_cases e : (j - 64) / 64 = (i - 64) / 64
      · simp only [e, if_true, getLsbD_set64, getD_grow]
        by_cases e2 : (i - 64) % 64 = (j - 64) % 64
        · have : j = i := by omega
          subst this; simp; omega
        · have : ¬ j = i := by intro x; subst x; exact e2 rfl
          simp [e2, this]
      · have : ¬ j = i := by intro x; subst x; exact e rfl
        simp only [e, if_false, getD_grow]; simp [this]

theorem bit_empty (i : Nat) : bit UintSet.empty i = false := by
  unfold bit UintSet.empty
  split <;> simp

theorem insertAll_spec (is : List Nat) : ∀ (s : UintSet),
    (∀ j, bit (s.insertAll is).1 j = (decide (j ∈ is) || bit s j)) ∧
    (s.insertAll is).2.length = is.length ∧
    (∀ k (hk : k < is.length), (s.insertAll is).2[k]? = some (!(bit s is[k] || decide (is[k] ∈ is.take k)))) := by
  induction is with
  | nil => intro s; simp [UintSet.insertAll]
  | cons i is ih =>
    intro s
    obtain ⟨ih1, ih2, ih3⟩ := ih (s.insert i).1
    refine ⟨?_, ?_, ?_⟩
    · intro j
      simp only [UintSet.insertAll, ih1, bit_insert, List.mem_cons]
      by_cases e : j = i <;> simp [e]
    · simp [UintSet.insertAll, ih2]
    · intro k hk
      cases k with
      | zero => simp [UintSet.insertAll, insert_snd]
      | succ k =>
        have hk' : k < is.length := by simpa using hk
        simp only [UintSet.insertAll, List.getElem?_cons_succ, ih3 k hk', bit_insert, List.getElem_cons_succ,
          List.take_succ_cons, List.mem_cons]
        by_cases e : is[k] = i <;> simp [e, Bool.or_comm]

end JsonV.Lemmas.Dup
