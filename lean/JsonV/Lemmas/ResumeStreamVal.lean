/-
The streaming value scanner of Model/Stream.lean (`sValue / sObject / sObjectLoop / sArray / sArrayLoop`) answers,
for every reader, what `Validate.consumeValue / consumeObject / objectLoop / consumeArray / arrayLoop` answer on
(buffer ++ everything still to come) — or reports the transient fault without losing input (C05).
-/
import JsonV.Lemmas.ResumeStreamSim

namespace JsonV.Model.Stream
open JsonV JsonV.Model JsonV.Model.Validate
open JsonV.Lemmas.WireValue

/-- a scanner run at position `q` of the unread buffer `u` against the whole-input function `W` of the suffix -/
def AtOk {β : Type} (W : Bytes → β) (u : Bytes) (q : Nat) (es : List Event) : Fill β → Prop
  | .done b u' es' _ => b = W ((u ++ avail es).drop q) ∧ b = W (u'.drop q) ∧ Adv u es u' es' false
  | .fault u' es' => Adv u es u' es' true

theorem suffix_at {T u : Bytes} {es : List Event} (hT : u ++ avail es = T) {q : Nat} (hq : q ≤ u.length) :
    T.drop q = u.drop q ++ avail es := by
  rw [← hT, List.drop_append_of_le_length hq]

theorem rebase_ok {β : Type} (W : Bytes → β) (u : Bytes) (q : Nat) (es : List Event) (F : Fill β) (hq : q ≤ u.length)
    (h : FillOk W (u.drop q) es F) : AtOk W u q es (F.rebase u q) := by
  cases F with
  | done b x es' f =>
    obtain ⟨h1, h2, h3⟩ := h
    exact ⟨by rw [suffix_at rfl hq]; exact h1, by rw [List.drop_left' (List.length_take_of_le hq)]; exact h2,
      h3.rebase rfl hq⟩
  | fault x es' => exact h.rebase rfl hq

theorem map_ok {β γ : Type} (g : β → γ) (W : Bytes → β) (v : Bytes) (es : List Event) (F : Fill β)
    (h : FillOk W v es F) : FillOk (fun t => g (W t)) v es (F.map g) := by
  cases F with
  | done b x es' f => exact ⟨by rw [h.1], by rw [h.2.1], h.2.2⟩
  | fault x es' => exact h

theorem atOk_congr {β : Type} {W W' : Bytes → β} (hW : ∀ t, W t = W' t) {u : Bytes} {q : Nat} {es : List Event}
    {F : Fill β} (h : AtOk W u q es F) : AtOk W' u q es F := by
  have : W = W' := funext hW
  subst this; exact h

theorem atOk_here {β : Type} (W : Bytes → β) (u : Bytes) (q : Nat) (es : List Event) (b : β)
    (h1 : b = W ((u ++ avail es).drop q)) (h2 : b = W (u.drop q)) : AtOk W u q es (.done b u es false) :=
  ⟨h1, h2, Adv.refl u es⟩

theorem wsAt_ok (u : Bytes) (q : Nat) (es : List Event) (hq : q ≤ u.length) : AtOk wsW u q es (wsAt u q es) :=
  rebase_ok wsW u q es _ hq (sWhitespace_ok (u.drop q) 0 es (Nat.zero_le _))

theorem litAt_ok (l : Bytes) (hl : l ≠ []) (u : Bytes) (q : Nat) (es : List Event) (hq : q ≤ u.length) :
    AtOk (valueLiteral l) u q es (litAt l u q es) := by
  unfold litAt
  by_cases hf : Wire.consumeExact l (u.drop q) = 0
  · simp only [hf, bne_self_eq_false, Bool.false_eq_true, if_false]
    apply atOk_congr (W := fun t => ((litW l t).1, toWire (litW l t).2)) (fun t => (valueLiteral_eq l t hl).symm)
    exact rebase_ok _ u q es _ hq (map_ok _ _ _ _ _ (sLiteral_ok l (u.drop q) es))
  · have hf' : (Wire.consumeExact l (u.drop q) != 0) = true := by simpa using hf
    simp only [hf', if_true]
    apply atOk_here
    · rw [suffix_at rfl hq]; exact (lit_fast l (u.drop q) (avail es) hl hf).1.symm
    · simp [valueLiteral, hf]

theorem strAt_ok (o : VOpts) (u : Bytes) (q : Nat) (es : List Event) (hq : q ≤ u.length) :
    AtOk (valueString o) u q es (strAt o u q es) := by
  unfold strAt
  by_cases hf : Wire.consumeSimpleString (u.drop q) = 0
  · simp only [hf, bne_self_eq_false, Bool.false_eq_true, if_false]
    apply atOk_congr (W := fun t => ((strW (!o.allowInvalidUTF8) t).1, toWireFlags (strW (!o.allowInvalidUTF8) t).2.1,
      toWire (strW (!o.allowInvalidUTF8) t).2.2)) (fun t => (valueString_eq o t).symm)
    exact rebase_ok _ u q es _ hq (map_ok _ _ _ _ _ (sString_ok (!o.allowInvalidUTF8) (u.drop q) es))
  · have hf' : (Wire.consumeSimpleString (u.drop q) != 0) = true := by simpa using hf
    simp only [hf', if_true]
    apply atOk_here
    · rw [suffix_at rfl hq]; exact (str_fast o (u.drop q) (avail es) hf).1.symm
    · simp [valueString, hf]

theorem numAt_ok (u : Bytes) (q : Nat) (es : List Event) (hq : q ≤ u.length) :
    AtOk valueNumber u q es (numAt u q es) := by
  unfold numAt
  by_cases hf : (Wire.consumeSimpleNumber (u.drop q) == 0 || Wire.lenLt (u.drop q) (Wire.consumeSimpleNumber (u.drop q) + 1)) = true
  · simp only [hf, if_true]
    apply atOk_congr (W := fun t => ((numW t).1, toWire (numW t).2)) (fun t => (valueNumber_eq t).symm)
    exact rebase_ok _ u q es _ hq (map_ok _ _ _ _ _ (sNumber_ok (u.drop q) es))
  · simp only [hf, Bool.false_eq_true, if_false]
    apply atOk_here
    · rw [suffix_at rfl hq]; exact (num_fast (u.drop q) (avail es) hf).symm
    · have := num_fast (u.drop q) [] hf
      simpa using this.symm

/-- the value scanned at `p` of the unread buffer `u` is the value `r` of the whole input, nothing is lost -/
def ValOk (u : Bytes) (p : Nat) (es : List Event) (r : Nat × Wire.Err) : VRes → Prop
  | .fault u' es' => Adv u es u' es' true
  | .done n e u' es' _ => (n, e) = r ∧ Adv u es u' es' false ∧ (e = .ok → p + n ≤ u'.length)

/-- `PV`, `PA`, `PO`, `PAL`, `POL`: with `fuel`, the streaming `sValue`, `sArray`, `sObject`, `sArrayLoop`, `sObjectLoop`
answer what the functions of Model/Validate.lean answer on the whole input (`ValOk`); proved together by induction on
the fuel. -/
def PV (o : VOpts) (fuel : Nat) : Prop := ∀ (depth : Nat) (u : Bytes) (p : Nat) (es : List Event) (c : UInt8) (vt : Bytes),
  u.drop p = c :: vt → ValOk u p es (consumeValue o fuel depth ((c :: vt) ++ avail es)) (sValue o fuel depth u p es)
def PA (o : VOpts) (fuel : Nat) : Prop := ∀ (depth : Nat) (u : Bytes) (p : Nat) (es : List Event) (c : UInt8) (vt : Bytes),
  u.drop p = c :: vt → ValOk u p es (consumeArray o fuel depth ((c :: vt) ++ avail es)) (sArray o fuel depth u p es)
def PO (o : VOpts) (fuel : Nat) : Prop := ∀ (depth : Nat) (u : Bytes) (p : Nat) (es : List Event) (c : UInt8) (vt : Bytes),
  u.drop p = c :: vt → ValOk u p es (consumeObject o fuel depth ((c :: vt) ++ avail es)) (sObject o fuel depth u p es)
def PAL (o : VOpts) (fuel : Nat) : Prop := ∀ (depth : Nat) (u : Bytes) (p : Nat) (es : List Event) (T : Bytes),
  u ++ avail es = T → p ≤ u.length →
    ValOk u p es (arrayLoop o fuel depth (T.drop p)) (sArrayLoop o fuel depth u p es)
def POL (o : VOpts) (fuel : Nat) : Prop :=
  ∀ (depth : Nat) (names : List Bytes) (u : Bytes) (p : Nat) (es : List Event) (T : Bytes),
    u ++ avail es = T → p ≤ u.length →
      ValOk u p es (objectLoop o fuel depth names (T.drop p)) (sObjectLoop o fuel depth names u p es)

theorem ValOk.ite {u : Bytes} {p : Nat} {es : List Event} {c : Prop} [Decidable c] {r r' : Nat × Wire.Err} {S S' : VRes}
    (h : ValOk u p es r S) (h' : ValOk u p es r' S') : ValOk u p es (if c then r else r') (if c then S else S') := by
  by_cases hc : c
  · rw [if_pos hc, if_pos hc]; exact h
  · rw [if_neg hc, if_neg hc]; exact h'

theorem byte_facts (T u : Bytes) (es : List Event) (q : Nat) (hT : u ++ avail es = T) (hq : q < u.length) :
    u.drop q = byteAt u q :: u.drop (q + 1) ∧ T.drop q = byteAt u q :: (u.drop (q + 1) ++ avail es) ∧
    T.drop (q + 1) = u.drop (q + 1) ++ avail es := by
  obtain ⟨c, vt, hd⟩ := drop_cons_of_lt u q hq
  have hb : byteAt u q = c := by simp [byteAt, hd]
  have hvt : u.drop (q + 1) = vt := by rw [← List.drop_drop, hd]; rfl
  refine ⟨by rw [hb, hvt]; exact hd, ?_, suffix_at hT (by omega)⟩
  rw [suffix_at hT (Nat.le_of_lt hq), hd, hb, hvt]; rfl

theorem addOff_ok {u u1 : Bytes} {p q : Nat} {es es1 : List Event} {r1 : Nat × Wire.Err} {S : VRes}
    (h : ValOk u1 q es1 r1 S) (hA : Adv u es u1 es1 false) (k : Nat) (hq : q = p + k) (f0 : Bool) :
    ValOk u p es (addOff k r1) (S.addOff k f0) := by
  cases S with
  | fault u' es' => exact hA.trans h
  | done n e u' es' f =>
    obtain ⟨r0, rA, rb⟩ := h
    refine ⟨by rw [← r0]; rfl, hA.trans rA, fun hh => ?_⟩
    rw [← Nat.add_assoc, ← hq]
    exact rb hh

/-! The bodies of the four container scanners are sequences of three kinds of phases: a run of blanks up to the next
byte, a member name, a value.  Each phase lemma relates a phase of the streaming scanner at `q` of the buffer `u`,
reached from `(u0, es0)`, to the same phase of the whole-input scanner on the suffix at `q`; `K` and `K'` are what the
two scanners do next, `off` and `off' k` the offsets they report when the phase fails (equal by `rfl` at every use:
`hoff`); `F` is what the streaming side makes of the fetched flag, which `ValOk` does not look at. -/

theorem ValOk.ws_then {u0 u : Bytes} {p0 q : Nat} {es0 es : List Event} (A : Adv u0 es0 u es false) (hq : q ≤ u.length)
    {R : Bytes} (hR : R = (u0 ++ avail es0).drop q) {off : Nat} {off' : Nat → Nat} {F : Bool → Bool}
    {K : UInt8 → Bytes → Nat × Wire.Err} {K' : Nat → Bytes → List Event → Bool → VRes}
    (hK : ∀ u1 es1 f1, Adv u0 es0 u1 es1 false → q + Wire.consumeWhitespace R < u1.length →
      (u0 ++ avail es0).drop (q + Wire.consumeWhitespace R) =
        byteAt u1 (q + Wire.consumeWhitespace R) :: (u0 ++ avail es0).drop (q + Wire.consumeWhitespace R + 1) →
      ValOk u0 p0 es0
        (K (byteAt u1 (q + Wire.consumeWhitespace R)) ((u0 ++ avail es0).drop (q + Wire.consumeWhitespace R + 1)))
        (K' (Wire.consumeWhitespace R) u1 es1 f1))
    (hoff : off' (Wire.consumeWhitespace R) = off := by rfl) :
    ValOk u0 p0 es0
      (match R.drop (Wire.consumeWhitespace R) with
       | [] => (off, .eof)
       | c :: rc => K c rc)
      (match wsAt u q es with
       | .fault u1 es1 => .fault u1 es1
       | .done (w, found) u1 es1 f1 => if !found then .done (off' w) .eof u1 es1 (F f1) else K' w u1 es1 f1) := by
  subst hR hoff
  have h1 := wsAt_ok u q es hq
  generalize wsAt u q es = F1 at h1 ⊢
  cases F1 with
  | fault u1 es1 => exact A.trans h1
  | done b1 u1 es1 f1 =>
    obtain ⟨w, found⟩ := b1
    obtain ⟨h1, h2, A1'⟩ := h1
    rw [A.same] at h1
    obtain ⟨rfl, hnil, _⟩ := ws_facts _ w found h1
    have A1 := A.trans A1'
    cases found with
    | false =>
      simp only [hnil rfl, Bool.not_false, if_true]
      exact ⟨rfl, A1, fun h => by cases h⟩
    | true =>
      have hq1 : q + Wire.consumeWhitespace ((u0 ++ avail es0).drop q) < u1.length := by
        have := (ws_facts _ _ true h2).2.2 rfl
        rw [List.length_drop] at this
        omega
      obtain ⟨_, b1b, b1c⟩ := byte_facts _ u1 es1 _ A1.same hq1
      rw [← b1c] at b1b
      simp only [List.drop_drop, b1b, Bool.not_true, Bool.false_eq_true, if_false]
      exact hK u1 es1 f1 A1 hq1 b1b

theorem ValOk.val_then {o : VOpts} {f : Nat} (hV : PV o f) (depth : Nat) {u0 u : Bytes} {p0 q : Nat}
    {es0 es : List Event} (A : Adv u0 es0 u es false) (hq : q < u.length) {X : Bytes}
    (hc : (u0 ++ avail es0).drop q = X) {off : Nat} {off' : Nat → Nat} {F : Bool → Bool} {K : Nat × Wire.Err}
    {K' : Nat → Bytes → List Event → Bool → VRes}
    (hK : ∀ u2 es2 f2, Adv u0 es0 u2 es2 false → q + (consumeValue o f depth X).1 ≤ u2.length →
      X.drop (consumeValue o f depth X).1 = (u0 ++ avail es0).drop (q + (consumeValue o f depth X).1) →
      ValOk u0 p0 es0 K (K' (consumeValue o f depth X).1 u2 es2 f2))
    (hoff : off' (consumeValue o f depth X).1 = off := by rfl) :
    ValOk u0 p0 es0
      (if (consumeValue o f depth X).2 != .ok then (off, (consumeValue o f depth X).2) else K)
      (match sValue o f depth u q es with
       | .fault u2 es2 => .fault u2 es2
       | .done k e u2 es2 f2 => if e != .ok then .done (off' k) e u2 es2 (F f2) else K' k u2 es2 f2) := by
  subst hc hoff
  obtain ⟨b1a, b1b, _⟩ := byte_facts _ u es q A.same hq
  have hv := hV depth u q es _ _ b1a
  rw [List.cons_append, ← b1b] at hv
  generalize sValue o f depth u q es = S at hv ⊢
  cases S with
  | fault u2 es2 => exact A.trans hv
  | done k e u2 es2 f2 =>
    obtain ⟨g0, gA, gb⟩ := hv
    rw [← g0] at hK ⊢
    by_cases hne : (e != Wire.Err.ok) = true
    · simp only [hne, if_true]
      exact ⟨rfl, A.trans gA, fun h => by simp [h] at hne⟩
    · simp only [hne, Bool.false_eq_true, if_false]
      exact hK u2 es2 f2 (A.trans gA) (gb (by simpa using hne)) (List.drop_drop ..)

theorem ValOk.str_then (o : VOpts) {u0 u : Bytes} {p0 q : Nat} {es0 es : List Event} (A : Adv u0 es0 u es false)
    (hq : q < u.length) {X : Bytes} (hc : (u0 ++ avail es0).drop q = X) {off : Nat} {off' : Nat → Nat}
    {F : Bool → Bool} {K : Nat × Wire.Err} {K' : Nat → Wire.ValueFlags → Bytes → List Event → Bool → VRes}
    (hK : ∀ u2 es2 f2, Adv u0 es0 u2 es2 false → q + (valueString o X).1 ≤ u2.length →
      X.take (valueString o X).1 = (u2.drop q).take (valueString o X).1 →
      X.drop (valueString o X).1 = (u0 ++ avail es0).drop (q + (valueString o X).1) →
      ValOk u0 p0 es0 K (K' (valueString o X).1 (valueString o X).2.1 u2 es2 f2))
    (hoff : off' (valueString o X).1 = off := by rfl) :
    ValOk u0 p0 es0
      (if (valueString o X).2.2 != .ok then (off, (valueString o X).2.2) else K)
      (match strAt o u q es with
       | .fault u2 es2 => .fault u2 es2
       | .done (n, fl, e) u2 es2 f2 => if e != .ok then .done (off' n) e u2 es2 (F f2) else K' n fl u2 es2 f2) := by
  subst hc hoff
  have h2 := strAt_ok o u q es (Nat.le_of_lt hq)
  generalize strAt o u q es = F2 at h2 ⊢
  cases F2 with
  | fault u2 es2 => exact A.trans h2
  | done b2 u2 es2 f2 =>
    obtain ⟨n, fl, e⟩ := b2
    obtain ⟨s1, s2, sA⟩ := h2
    rw [A.same] at s1
    have A2 := A.trans sA
    rw [← s1] at hK ⊢
    by_cases hne : (e != Wire.Err.ok) = true
    · simp only [hne, if_true]
      exact ⟨rfl, A2, fun h => by simp [h] at hne⟩
    · simp only [hne, Bool.false_eq_true, if_false]
      obtain rfl : e = .ok := by simpa using hne
      have hnb : n ≤ (u2.drop q).length := (valueString_sound o _ n fl s2.symm).1
      have hq2 : q + n ≤ u2.length := by
        rw [List.length_drop] at hnb
        have := sA.len
        omega
      refine hK u2 es2 f2 A2 hq2 ?_ (List.drop_drop ..)
      rw [suffix_at A2.same (Nat.le_trans (Nat.le_of_lt hq) sA.len), List.take_append_of_le_length hnb]

-- Positions below are scanner applications (`consumeWhitespace R`, `(valueString o (c :: _)).1`). To compare two `match`
-- or `if` terms the unifier first normalises what they branch on, and so would run these scanners on `c :: _` at every phase.
attribute [local irreducible] valueString Wire.consumeWhitespace byteAt

theorem pal_step (o : VOpts) (f : Nat) (hV : PV o f) (hL : PAL o f) : PAL o (f + 1) := by
  rintro depth u p es _ rfl hp
  simp only [sArrayLoop, arrayLoop]
  refine .ws_then (Adv.refl u es) hp rfl fun u1 es1 f1 A1 hq1 hc1 => ?_
  refine .val_then hV depth A1 hq1 hc1 fun u2 es2 f2 A2 hq2 hre => ?_
  refine .ws_then A2 hq2 hre fun u3 es3 f3 A3 hq3 hc3 => ?_
  refine .ite ?_ (.ite ⟨rfl, A3, fun _ => by omega⟩ ⟨rfl, A3, fun h => by cases h⟩)
  exact addOff_ok (hL depth u3 _ es3 _ A3.same hq3) A3 _ (by omega) _

theorem pol_step (o : VOpts) (f : Nat) (hV : PV o f) (hL : POL o f) : POL o (f + 1) := by
  rintro depth names u p es _ rfl hp
  simp only [sObjectLoop, objectLoop]
  refine .ws_then (Adv.refl u es) hp rfl fun u1 es1 f1 A1 hq1 hc1 => ?_
  refine .str_then o A1 hq1 hc1 fun u2 es2 f2 A2 hq2 htake hrb => ?_
  rw [htake]
  refine .ite ⟨rfl, A2, fun h => by cases h⟩ ?_
  refine .ws_then A2 hq2 hrb fun u3 es3 f3 A3 hq3 hc3 => ?_
  refine .ite ⟨rfl, A3, fun h => by cases h⟩ ?_
  refine .ws_then A3 (Nat.add_one_le_of_lt hq3) rfl fun u4 es4 f4 A4 hq4 hc4 => ?_
  refine .val_then hV depth A4 hq4 hc4 fun u5 es5 f5 A5 hq5 hre => ?_
  refine .ws_then A5 hq5 hre fun u6 es6 f6 A6 hq6 hc6 => ?_
  refine .ite ?_ (.ite ⟨rfl, A6, fun _ => by omega⟩ ⟨rfl, A6, fun h => by cases h⟩)
  exact addOff_ok (hL depth _ u6 _ es6 _ A6.same hq6) A6 _ (by omega) _

theorem pa_step (o : VOpts) (f : Nat) (hL : PAL o f) : PA o (f + 1) := by
  intro depth u p es c vt hd
  have hplt : p < u.length := lt_of_drop_cons hd
  have hr1 : ((c :: vt) ++ avail es).drop 1 = (u ++ avail es).drop (p + 1) := by
    rw [← hd, ← suffix_at rfl (Nat.le_of_lt hplt), List.drop_drop]
  simp only [sArray, consumeArray]
  refine .ite ⟨rfl, Adv.refl u es, fun h => by cases h⟩ ?_
  refine .ws_then (Adv.refl u es) (Nat.add_one_le_of_lt hplt) hr1 fun u1 es1 f1 A1 hq1 hc1 => ?_
  refine .ite ⟨rfl, A1, fun _ => by omega⟩ ?_
  have h := hL (depth + 1) u1 _ es1 _ A1.same (Nat.le_of_lt hq1)
  rw [hc1] at h
  exact addOff_ok h A1 _ (Nat.add_assoc _ _ _) _

theorem po_step (o : VOpts) (f : Nat) (hL : POL o f) : PO o (f + 1) := by
  intro depth u p es c vt hd
  have hplt : p < u.length := lt_of_drop_cons hd
  have hr1 : ((c :: vt) ++ avail es).drop 1 = (u ++ avail es).drop (p + 1) := by
    rw [← hd, ← suffix_at rfl (Nat.le_of_lt hplt), List.drop_drop]
  simp only [sObject, consumeObject]
  refine .ite ⟨rfl, Adv.refl u es, fun h => by cases h⟩ ?_
  refine .ws_then (Adv.refl u es) (Nat.add_one_le_of_lt hplt) hr1 fun u1 es1 f1 A1 hq1 hc1 => ?_
  refine .ite ⟨rfl, A1, fun _ => by omega⟩ ?_
  have h := hL (depth + 1) [] u1 _ es1 _ A1.same (Nat.le_of_lt hq1)
  rw [hc1] at h
  exact addOff_ok h A1 _ (Nat.add_assoc _ _ _) _

theorem ofFill_ok (W : Bytes → Nat × Wire.Err) (u : Bytes) (p : Nat) (es : List Event) (F : Fill (Nat × Wire.Err))
    (hp : p ≤ u.length) (h : AtOk W u p es F)
    (hb : ∀ (t : Bytes) (n : Nat), W t = (n, .ok) → n ≤ t.length) :
    ValOk u p es (W ((u ++ avail es).drop p)) (.ofFill false F) := by
  cases F with
  | fault u' es' => exact h
  | done b u' es' f =>
    obtain ⟨h1, h2, h3⟩ := h
    refine ⟨by rw [← h1], h3, ?_⟩
    · intro hok
      have := hb (u'.drop p) b.1 (by rw [← h2]; exact Prod.ext rfl hok)
      have := h3.len
      rw [List.length_drop] at *; omega

theorem map_atOk {β γ : Type} (g : β → γ) (W : Bytes → β) (u : Bytes) (q : Nat) (es : List Event) (F : Fill β)
    (h : AtOk W u q es F) : AtOk (fun t => g (W t)) u q es (F.map g) := by
  cases F with
  | done b x es' f =>
    obtain ⟨h1, h2, h3, h4, h5⟩ := h
    exact ⟨by rw [h1], by rw [h2], h3, h4, h5⟩
  | fault x es' => exact h

theorem pv_step (o : VOpts) (f : Nat) (hA : PA o f) (hO : PO o f) : PV o (f + 1) := by
  intro depth u p es c vt hd
  have hplt : p < u.length := lt_of_drop_cons hd
  have hp := Nat.le_of_lt hplt
  have hT : (c :: vt) ++ avail es = (u ++ avail es).drop p := by rw [← hd]; exact (suffix_at rfl hp).symm
  have stop (e : Wire.Err) (he : e ≠ .ok) : ValOk u p es (0, e) (.done 0 e u es false) :=
    ⟨rfl, Adv.refl u es, fun h => absurd h he⟩
  have lit (l : Bytes) (hl : l ≠ []) :
      ValOk u p es (valueLiteral l ((c :: vt) ++ avail es)) (.ofFill false (litAt l u p es)) := by
    rw [hT]
    exact ofFill_ok _ u p es _ hp (litAt_ok l hl u p es hp) fun t n h => (valueLiteral_sound _ t n hl h).1
  have str : ValOk u p es ((valueString o ((c :: vt) ++ avail es)).1, (valueString o ((c :: vt) ++ avail es)).2.2)
      (.ofFill false ((strAt o u p es).map fun b => (b.1, b.2.2))) := by
    rw [hT]
    exact ofFill_ok (fun t => ((valueString o t).1, (valueString o t).2.2)) u p es _ hp
      (map_atOk (fun b => (b.1, b.2.2)) _ u p es _ (strAt_ok o u p es hp))
      fun t n h => by
        injection h with ha hb
        exact (valueString_sound o t n (valueString o t).2.1 (Prod.ext ha (Prod.ext rfl hb))).1
  have num : ValOk u p es (valueNumber ((c :: vt) ++ avail es)) (.ofFill false (numAt u p es)) := by
    rw [hT]
    exact ofFill_ok _ u p es _ hp (numAt_ok u p es hp) fun t n h => (valueNumber_sound t n h).1
  rw [sValue, consumeValue.eq_def]
  -- both match on the first byte: reduce these matches once, before the two if-chains are compared
  rw [hd, List.cons_append]
  dsimp only
  rw [← List.cons_append]
  exact .ite (lit _ (by decide)) (.ite (lit _ (by decide)) (.ite (lit _ (by decide)) (.ite str (.ite num
    (.ite (hO depth u p es c vt hd) (.ite (hA depth u p es c vt hd) (.ite (stop _ (by simp)) (stop _ (by simp)))))))))

theorem value_sim_all (o : VOpts) (fuel : Nat) : PV o fuel ∧ PA o fuel ∧ PO o fuel ∧ PAL o fuel ∧ POL o fuel := by
  induction fuel with
  | zero =>
    have z : ∀ (u : Bytes) (p : Nat) (es : List Event), ValOk u p es (0, .fuel) (.done 0 .fuel u es false) :=
      fun u p es => ⟨rfl, Adv.refl u es, by intro h; simp at h⟩
    refine ⟨?_, ?_, ?_, ?_, ?_⟩
    · intro depth u p es c vt _; simp only [sValue, consumeValue]; exact z u p es
    · intro depth u p es c vt _; simp only [sArray, consumeArray]; exact z u p es
    · intro depth u p es c vt _; simp only [sObject, consumeObject]; exact z u p es
    · intro depth u p es _ _ _; simp only [sArrayLoop, arrayLoop]; exact z u p es
    · intro depth names u p es _ _ _; simp only [sObjectLoop, objectLoop]; exact z u p es
  | succ f ih =>
    obtain ⟨hV, hA, hO, hAL, hOL⟩ := ih
    exact ⟨pv_step o f hA hO, pa_step o f hAL, po_step o f hOL, pal_step o f hV hAL, pol_step o f hV hOL⟩

end JsonV.Model.Stream
