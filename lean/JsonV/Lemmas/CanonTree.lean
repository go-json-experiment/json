/-
Structural lemmas about the token trees of Model/Canon.lean: how `respell` and `sortTree` act on the token
sequence of a tree.
-/
import JsonV.Model.Canon

namespace JsonV.Lemmas.CanonTree
open JsonV JsonV.Fmt JsonV.Canon JsonV.Model

mutual
theorem toks_respell (fp : FloatCodec) : ∀ t : JV, (respell fp t).toks = t.toks.map (canonAtom fp)
  | .atom t => by simp [respell, JV.toks]
  | .arr es => by simp [respell, JV.toks, toksL_respell fp es, canonAtom]
  | .obj ms => by simp [respell, JV.toks, toksM_respell fp ms, canonAtom]
theorem toksL_respell (fp : FloatCodec) : ∀ es : List JV, toksL (respellL fp es) = (toksL es).map (canonAtom fp)
  | [] => by simp [respellL, toksL]
  | e :: es => by simp [respellL, toksL, toks_respell fp e, toksL_respell fp es]
theorem toksM_respell (fp : FloatCodec) :
    ∀ ms : List (Bytes × JV), toksM (respellM fp ms) = (toksM ms).map (canonAtom fp)
  | [] => by simp [respellM, toksM]
  | (n, v) :: ms => by simp [respellM, toksM, toks_respell fp v, toksM_respell fp ms, canonAtom]
end

theorem toksM_flatMap (ms : List (Bytes × JV)) : toksM ms = ms.flatMap (fun p => Tok.str p.1 :: p.2.toks) := by
  induction ms with
  | nil => simp [toksM]
  | cons p ms ih => obtain ⟨n, v⟩ := p; simp [toksM, ih]

theorem toksM_perm {ms ms' : List (Bytes × JV)} (h : ms.Perm ms') : (toksM ms).Perm (toksM ms') := by
  rw [toksM_flatMap, toksM_flatMap]
  exact h.flatMap_right _

theorem sortObj_perm (ms : List (Bytes × JV)) : (sortObj ms).Perm ms := by
  unfold sortObj
  split
  · exact List.Perm.refl _
  · exact List.mergeSort_perm _ _

mutual
theorem toks_sortTree : ∀ t : JV, (sortTree t).toks.Perm t.toks
  | .atom t => by simp [sortTree]
  | .arr es => by
    simp only [sortTree, JV.toks]
    exact List.Perm.cons _ ((toksL_sortL es).append_right _)
  | .obj ms => by
    simp only [sortTree, JV.toks]
    exact List.Perm.cons _ (((toksM_perm (sortObj_perm _)).trans (toksM_sortM ms)).append_right _)
theorem toksL_sortL : ∀ es : List JV, (toksL (sortL es)).Perm (toksL es)
  | [] => by simp [sortL]
  | e :: es => by
    simp only [sortL, toksL]
    exact (toks_sortTree e).append (toksL_sortL es)
theorem toksM_sortM : ∀ ms : List (Bytes × JV), (toksM (sortM ms)).Perm (toksM ms)
  | [] => by simp [sortM]
  | (n, v) :: ms => by
    simp only [sortM, toksM]
    exact List.Perm.cons _ ((toks_sortTree v).append (toksM_sortM ms))
end

theorem toks_canonTree (fp : FloatCodec) (t : JV) : (canonTree fp t).toks.Perm (t.toks.map (canonAtom fp)) := by
  unfold canonTree
  rw [← toks_respell]
  exact toks_sortTree _

theorem mem_toks_canonTree {fp : FloatCodec} {t : JV} {k : Tok} :
    k ∈ (canonTree fp t).toks ↔ ∃ k0 ∈ t.toks, canonAtom fp k0 = k :=
  (toks_canonTree fp t).mem_iff.trans List.mem_map

mutual
theorem strict_toks : ∀ t : JV, strict t = true → ∀ r, Tok.str r ∈ t.toks → strOK r = true
  | .atom k, h, r, hm => by
    simp only [JV.toks, List.mem_singleton] at hm
    subst hm; simpa [strict] using h
  | .arr es, h, r, hm => by
    simp only [strict] at h
    simp [JV.toks] at hm
    exact strictL_toks es h r hm
  | .obj ms, h, r, hm => by
    simp only [strict, Bool.and_eq_true] at h
    simp [JV.toks] at hm
    exact strictM_toks ms h.1 r hm
theorem strictL_toks : ∀ es : List JV, strictL es = true → ∀ r, Tok.str r ∈ toksL es → strOK r = true
  | [], _, r, hm => by simp [toksL] at hm
  | e :: es, h, r, hm => by
    simp only [strictL, Bool.and_eq_true] at h
    simp only [toksL, List.mem_append] at hm
    rcases hm with hm | hm
    · exact strict_toks e h.1 r hm
    · exact strictL_toks es h.2 r hm
theorem strictM_toks : ∀ ms : List (Bytes × JV), strictM ms = true → ∀ r, Tok.str r ∈ toksM ms → strOK r = true
  | [], _, r, hm => by simp [toksM] at hm
  | (n, v) :: ms, h, r, hm => by
    simp only [strictM, Bool.and_eq_true] at h
    simp only [toksM, List.mem_cons, List.mem_append, Tok.str.injEq] at hm
    rcases hm with hm | hm | hm
    · subst hm; exact h.1.1
    · exact strict_toks v h.1.2 r hm
    · exact strictM_toks ms h.2 r hm
end

end JsonV.Lemmas.CanonTree
