/-
The string grammar of Spec/Grammar.lean is deterministic.  `JChar` is ambiguous as a relation under `strict = false` (a lead byte
may be read `raw`, a high surrogate escape `uni`), so this is not proved on derivations but through a recogniser: `strBody` of
Spec/ValidJson.lean reads every char of the grammar (`strBody_char`), and what it has read is chars (`strBody_sound`), so it
returns `t` exactly on a body, a quote and `t`.  What a function returns is unique: hence `JChars.of_prefix` (a body with a char
taken off its front is a body), `JChars.unique_end`, `JString.prefix_free`.
-/
import JsonV.Spec.ValidJson
import JsonV.Lemmas.JStringL

namespace JsonV.Spec.ValidJson
open JsonV JsonV.Model JsonV.Spec.Grammar

theorem hexVal_eq (c : UInt8) : hexVal c = hexSpec c := by
  simp only [hexVal, hexSpec_ranges, UInt8.le_iff_toNat_le, UInt8.toNat_ofNat]

theorem hex4_eq (a b c d : UInt8) : hex4 a b c d = hex4Spec a b c d := by
  simp only [hex4, hexVal_eq, hex4Spec]
  cases hexSpec a <;> cases hexSpec b <;> cases hexSpec c <;> cases hexSpec d <;>
    first | rfl | exact congrArg some (hex_horner ..)

theorem isSimpleEscape_iff (e : UInt8) : isSimpleEscape e = true ↔ SimpleEscape e := by
  simp [isSimpleEscape, SimpleEscape, or_assoc]

theorem utf8Len_spec {c : UInt8} {r : Bytes} {n : Nat} (h : utf8Len c r = some n) :
    n ≤ r.length ∧ Utf8Multi (c :: r.take n) := by
  unfold utf8Len at h
  cases hl : Utf8.leadInfo c.toNat with
  | none => simp [hl] at h
  | some p =>
    obtain ⟨sz, lo, hi⟩ := p
    simp only [hl] at h
    rcases (Utf8.leadInfo_bounds hl).2.2.2.2 with rfl | rfl | rfl
    · rcases r with _ | ⟨b1, t⟩ <;> simp [inRange] at h
      obtain ⟨h1, rfl⟩ := h
      exact ⟨by simp, c, b1, [], 2, lo, hi, rfl, hl, rfl, h1.1, h1.2, by simp⟩
    · rcases r with _ | ⟨b1, _ | ⟨b2, t⟩⟩ <;> simp [inRange] at h
      obtain ⟨h1, h2, rfl⟩ := h
      exact ⟨by simp, c, b1, [b2], 3, lo, hi, rfl, hl, rfl, h1.1, h1.2, by simp [Utf8.isCont_iff, h2]⟩
    · rcases r with _ | ⟨b1, _ | ⟨b2, _ | ⟨b3, t⟩⟩⟩ <;> simp [inRange] at h
      obtain ⟨h1, h2, h3, rfl⟩ := h
      exact ⟨by simp, c, b1, [b2, b3], 4, lo, hi, rfl, hl, rfl, h1.1, h1.2, by simp [Utf8.isCont_iff, h2, h3]⟩

theorem utf8Len_of_multi {c : UInt8} {q : Bytes} (h : Utf8Multi (c :: q)) (x : Bytes) : utf8Len c (q ++ x) = some q.length := by
  obtain ⟨b0, b1, rest, sz, lo, hi, e, hli, hlen, hlo, hhi, hcont⟩ := h
  obtain ⟨rfl, rfl⟩ := List.cons.inj e
  simp only [List.length_cons] at hlen
  have hc : ∀ b ∈ rest, inRange b 0x80 0xBF = true := fun b hb => by
    simpa [inRange] using Utf8.isCont_iff.mp (hcont b hb)
  have h1 : inRange b1 lo hi = true := by simp [inRange, hlo, hhi]
  unfold utf8Len
  simp only [hli, List.cons_append, h1, Bool.not_true, Bool.false_eq_true, if_false]
  rcases (Utf8.leadInfo_bounds hli).2.2.2.2 with rfl | rfl | rfl
  · obtain rfl : rest = [] := List.eq_nil_of_length_eq_zero (by omega)
    rfl
  · match rest, hlen, hc with
    | [b2], _, hc => simp [hc b2 (by simp)]
  · match rest, hlen, hc with
    | [b2, b3], _, hc => simp [hc b2 (by simp), hc b3 (by simp)]

theorem strBody_high {p : Bytes} (hp : ∀ c ∈ p, (0x80 : UInt8) ≤ c) (r : Bytes) : strBody false (p ++ r) = strBody false r := by
  induction p with
  | nil => rfl
  | cons c cs ih =>
    have hc := hp c (by simp)
    have h1 : ¬ c = 0x22 := by rintro rfl; exact absurd hc (by decide)
    have h2 : ¬ c = 0x5c := by rintro rfl; exact absurd hc (by decide)
    have h3 : ¬ c < 0x20 := UInt8.not_lt.mpr (UInt8.le_trans (by decide) hc)
    rw [List.cons_append, strBody.eq_def]
    simp only [h1, h2, h3, if_false, Bool.not_false, Bool.or_true, if_true]
    exact ih fun x hx => hp x (List.mem_cons_of_mem _ hx)

theorem strBody_quote (st : Bool) (t : Bytes) : strBody st (0x22 :: t) = some t := by
  rw [strBody.eq_def]; rfl

theorem strBody_uni {st : Bool} {a b c d : UInt8} (ha : HexDigit a) (hb : HexDigit b) (hc : HexDigit c) (hd : HexDigit d)
    (hs : st = true → ¬ Surrogate (hex4Value a b c d)) (r : Bytes) :
    strBody st (0x5C :: 0x75 :: a :: b :: c :: d :: r) = strBody st r := by
  have hh : (st && Utf8.isHighSurrogate (hex4Value a b c d)) = false := by
    cases st with
    | false => rfl
    | true => exact Bool.eq_false_iff.mpr fun h => hs rfl (surrogate_split.mpr (.inl (isHighSurrogate_iff.mp h)))
  have hl : (st && Utf8.isLowSurrogate (hex4Value a b c d)) = false := by
    cases st with
    | false => rfl
    | true => exact Bool.eq_false_iff.mpr fun h => hs rfl (surrogate_split.mpr (.inr (isLowSurrogate_iff.mp h)))
  rw [strBody.eq_def]
  simp [isSimpleEscape, hex4_eq, hex4Spec_of ha hb hc hd, hh, hl]

theorem strBody_char {st : Bool} {c : Bytes} (hc : JChar st c) (r : Bytes) : strBody st (c ++ r) = strBody st r := by
  cases hc with
  | plain x h1 h2 h3 h4 =>
    rw [List.singleton_append, strBody.eq_def]
    simp [h3, h4, UInt8.not_lt.mpr h1, h2]
  | utf8 p hm =>
    cases st with
    | false => exact strBody_high hm.high r
    | true =>
      obtain ⟨-, -, b0, p', rfl, h0⟩ := decodeRune_of_multi c [] hm
      have hb : (0x80 : UInt8) ≤ b0 := hm.high b0 (by simp)
      have h1 : ¬ b0 = 0x22 := by rintro rfl; exact absurd hb (by decide)
      have h2 : ¬ b0 = 0x5c := by rintro rfl; exact absurd hb (by decide)
      have h3 : ¬ b0 < 0x20 := UInt8.not_lt.mpr (UInt8.le_trans (by decide) hb)
      rw [List.cons_append, strBody.eq_def]
      simp [h1, h2, h3, UInt8.not_lt.mpr hb, utf8Len_of_multi hm r]
  | raw x hv hx => subst hv; exact strBody_high (p := [x]) (by simpa using hx) r
  | esc e he =>
    show strBody st (0x5C :: e :: r) = _
    rw [strBody.eq_def]
    simp [(isSimpleEscape_iff e).mpr he]
  | uni a b c d ha hb hc hd hs => exact strBody_uni ha hb hc hd hs r
  | pair a b c d e f g h ha hb hc hd he hf hg hh hhi hlo =>
    cases st with
    | false => exact (strBody_uni (st := false) ha hb hc hd nofun _).trans (strBody_uni (st := false) he hf hg hh nofun r)
    | true =>
      show strBody true (0x5C :: 0x75 :: a :: b :: c :: d :: 0x5C :: 0x75 :: e :: f :: g :: h :: r) = _
      rw [strBody.eq_def]
      simp [isSimpleEscape, hex4_eq, hex4Spec_of ha hb hc hd, hex4Spec_of he hf hg hh, isHighSurrogate_iff.mpr hhi,
        isLowSurrogate_iff.mpr hlo]

theorem strBody_chars {st : Bool} {body : Bytes} (h : JChars st body) (t : Bytes) : strBody st (body ++ 0x22 :: t) = some t := by
  induction h with
  | nil => exact strBody_quote st t
  | cons c r hc _ ih => rw [List.append_assoc, strBody_char hc, ih]

theorem strBody_sound (st : Bool) (s : Bytes) : ∀ t, strBody st s = some t → ∃ body, s = body ++ 0x22 :: t ∧ JChars st body := by
  have cons {c rest t : Bytes} (hc : JChar st c) : (∃ body, rest = body ++ 0x22 :: t ∧ JChars st body) →
      ∃ body, c ++ rest = body ++ 0x22 :: t ∧ JChars st body := fun ⟨body, e, hb⟩ =>
    ⟨c ++ body, by rw [e, List.append_assoc], .cons c body hc hb⟩
  fun_induction strBody st s <;> intro t h
  all_goals try (simp at h; done)
  case case2 r => cases h; exact ⟨[], rfl, .nil⟩
  case case4 e r1 he _ ih => exact cons (c := [0x5C, e]) (.esc e ((isSimpleEscape_iff e).mp he)) (ih t h)
  case case6 a b c d v hv hh bs u a' b' c' d' r3 hbu v2 hv2 hl _ _ ih =>
    obtain ⟨rfl, rfl⟩ := hbu
    obtain ⟨h1, h2, h3, h4, rfl⟩ := hex4Spec_eq_some.mp (hex4_eq a b c d ▸ hv)
    obtain ⟨h5, h6, h7, h8, rfl⟩ := hex4Spec_eq_some.mp (hex4_eq a' b' c' d' ▸ hv2)
    exact cons (c := [0x5C, 0x75, a, b, c, d, 0x5C, 0x75, a', b', c', d'])
      (.pair a b c d a' b' c' d' h1 h2 h3 h4 h5 h6 h7 h8 (isHighSurrogate_iff.mp (Bool.and_eq_true_iff.mp hh).2)
        (isLowSurrogate_iff.mp hl)) (ih t h)
  case case12 a b c d r2 v hv hnh hnl _ _ ih =>
    obtain ⟨h1, h2, h3, h4, rfl⟩ := hex4Spec_eq_some.mp (hex4_eq a b c d ▸ hv)
    refine cons (c := [0x5C, 0x75, a, b, c, d]) (.uni a b c d h1 h2 h3 h4 ?_) (ih t h)
    rintro rfl hs
    rcases surrogate_split.mp hs with hs | hs
    · exact hnh (by simpa using isHighSurrogate_iff.mpr hs)
    · exact hnl (by simpa using isLowSurrogate_iff.mpr hs)
  case case16 c r hq hb hc hs ih =>
    refine cons (c := [c]) ?_ (ih t h)
    by_cases h128 : c < 128
    · exact .plain c (UInt8.not_lt.mp hc) h128 hq hb
    · exact .raw c (by simpa [h128] using hs) (UInt8.not_lt.mp h128)
  case case17 c r hq hb hc hs n hn ih =>
    obtain ⟨hle, hm⟩ := utf8Len_spec hn
    have := cons (c := c :: r.take n) (.utf8 _ hm) (ih t h)
    rwa [List.cons_append, List.take_append_drop] at this

theorem strBody_append (st : Bool) (s r t : Bytes) (h : strBody st s = some t) : strBody st (s ++ r) = some (t ++ r) := by
  obtain ⟨body, rfl, hb⟩ := strBody_sound st s t h
  rw [List.append_assoc, List.cons_append]; exact strBody_chars hb _

end JsonV.Spec.ValidJson

namespace JsonV.Spec.Grammar
open JsonV JsonV.Spec.ValidJson

theorem JChars.of_prefix {st : Bool} {body c x t : Bytes} (hb : JChars st body) (hc : JChar st c)
    (e : body ++ 0x22 :: t = c ++ x) : ∃ r, body = c ++ r ∧ x = r ++ 0x22 :: t ∧ JChars st r := by
  have h := strBody_chars hb t
  rw [e, strBody_char hc] at h
  obtain ⟨r, rfl, hr⟩ := strBody_sound st x t h
  rw [← List.append_assoc] at e
  exact ⟨r, List.append_cancel_right e, rfl, hr⟩

theorem JChars.unique_end {st : Bool} {a b ta tb : Bytes} (ha : JChars st a) (hb : JChars st b)
    (e : a ++ 0x22 :: ta = b ++ 0x22 :: tb) : a = b ∧ ta = tb := by
  have h := strBody_chars ha ta
  rw [e, strBody_chars hb] at h
  obtain rfl := Option.some.inj h
  exact ⟨List.append_cancel_right e, rfl⟩

theorem JString.prefix_free {v : Bool} {p q : Bytes} (hp : JString v p) (hq : JString v q) (hpq : p <+: q) : p = q := by
  obtain ⟨a, ha, rfl⟩ := hp
  obtain ⟨b, hb, rfl⟩ := hq
  obtain ⟨t, e⟩ := hpq
  rw [List.cons_append, List.append_assoc, List.cons_append] at e
  obtain ⟨rfl, -⟩ := ha.unique_end hb (List.cons.inj e).2
  rfl

end JsonV.Spec.Grammar
