/-
The encoder output model (Model/Flush.lean part (ii)) under arbitrary flush decisions and writer behaviour.
`write` is split into what it does to the frames (`framesAfter`, as the relation `FStep`) and to the bytes (`write_nf`); `Flush`
changes neither the frames nor, but for the top-level newline `flushNL`, the total stream.  Hence `Sim` (same frames, same total
stream) is kept by every token call under any two schedules; `rel_run` is the induction that carries a relation kept by every call
along two runs (`run` or `runD`), `tokOnly` restricts a call list to token calls.
-/
import JsonV.Model.Flush

namespace JsonV.Model.Flush
open JsonV

/-- The newline that Flush appends after a top-level value. -/
def flushNL (e : Enc) : Bytes :=
  if avoidFlush e then [] else if e.depth == 1 && !e.omitNL then [0x0a] else []

theorem flush_of_avoid {e : Enc} (h : avoidFlush e = true) (a : WAct) : flush e a = e := by
  simp [flush, h]

theorem flush_frames (e : Enc) (a : WAct) :
    (flush e a).last = e.last ∧ (flush e a).stack = e.stack ∧ (flush e a).omitNL = e.omitNL := by
  cases h : avoidFlush e
  · cases a <;> simp [flush, h]
  · simp [flush_of_avoid h]

@[simp] theorem flush_last (e : Enc) (a : WAct) : (flush e a).last = e.last := (flush_frames e a).1
@[simp] theorem flush_stack (e : Enc) (a : WAct) : (flush e a).stack = e.stack := (flush_frames e a).2.1
@[simp] theorem flush_omitNL (e : Enc) (a : WAct) : (flush e a).omitNL = e.omitNL := (flush_frames e a).2.2

theorem flush_total (e : Enc) (a : WAct) : (flush e a).total = e.total ++ flushNL e := by
  cases h : avoidFlush e
  · cases hn : (e.depth == 1 && !e.omitNL) <;> cases a <;>
      simp [flush, flushNL, h, hn, Enc.total, List.append_assoc]
  · simp [flush_of_avoid h, flushNL, h]

theorem flush_delivered_prefix (e : Enc) (a : WAct) : e.delivered <+: (flush e a).delivered := by
  cases h : avoidFlush e
  · cases a <;> simp [flush, h]
  · simp [flush_of_avoid h]

theorem flush_ok_buf {e : Enc} (h : avoidFlush e = false) : (flush e .ok).buf = [] := by
  simp [flush, h]

/-- Kind of the bottom frame; in a run that is the top-level pseudo-array, so this is `false` (`InvS.bottom`). -/
def bottomIsObj : Frame → List Frame → Bool
  | f, [] => f.isObj
  | _, p :: s => bottomIsObj p s

theorem bottomIsObj_inc (f : Frame) (s : List Frame) : bottomIsObj f.inc s = bottomIsObj f s := by
  cases s <;> rfl

theorem avoidFlush_top {e : Enc} (hb : bottomIsObj e.last e.stack = false) (hs : e.stack = []) :
    avoidFlush e = decide (e.last.len = 0) := by
  have : e.last.isObj = false := by simpa [hs, bottomIsObj] using hb
  simp [avoidFlush, Frame.needValue, Frame.needName, this]

/-- The frames after a call, `none` where the state machine rejects it: the part of `write` that does not look at the bytes. -/
def framesAfter (l : Frame) (st : List Frame) (t : Tok) : Option (Frame × List Frame) :=
  if accepts l st t then nextFrames l st t else none

/-- What an accepted call does to the frames: appendLiteral/appendString, pushObject/pushArray, popObject/popArray of state.go. -/
inductive FStep (l : Frame) (st : List Frame) : Tok → Frame → List Frame → Prop
  | scalar (x : Bytes) : l.needName = false → FStep l st (.scalar x) l.inc st
  | str (b : Bytes) : FStep l st (.str b) l.inc st
  | openObj : l.needName = false → FStep l st .openObj ⟨true, 0⟩ (l.inc :: st)
  | openArr : l.needName = false → FStep l st .openArr ⟨false, 0⟩ (l.inc :: st)
  | closeObj {p rest} : l.isObj = true → l.needValue = false → st = p :: rest → FStep l st .closeObj p rest
  | closeArr {p rest} : l.isObj = false → st = p :: rest → FStep l st .closeArr p rest

theorem framesAfter_iff {l l' : Frame} {st st' : List Frame} {t : Tok} :
    framesAfter l st t = some (l', st') ↔ FStep l st t l' st' := by
  constructor
  · intro h
    unfold framesAfter at h
    by_cases ha : accepts l st t = true
    · rw [if_pos ha] at h
      cases t with
      | scalar x => cases h; exact .scalar x ((Bool.not_eq_true' _).mp ha)
      | str b => cases h; exact .str b
      | openObj => cases h; exact .openObj ((Bool.not_eq_true' _).mp ha)
      | openArr => cases h; exact .openArr ((Bool.not_eq_true' _).mp ha)
      | closeObj =>
        cases st with
        | nil => cases h
        | cons p rest =>
          cases h; simp only [accepts, Bool.and_eq_true, Bool.not_eq_true'] at ha
          exact .closeObj ha.1.1 ha.1.2 rfl
      | closeArr =>
        cases st with
        | nil => cases h
        | cons p rest =>
          cases h; simp only [accepts, Bool.and_eq_true, Bool.not_eq_true'] at ha
          exact .closeArr ha.1 rfl
    · rw [if_neg ha] at h; cases h
  · intro h
    cases h with
    | scalar _ hn | openObj hn | openArr hn => exact if_pos ((Bool.not_eq_true' _).mpr hn)
    | str => rfl
    | closeObj ho hv hs => subst hs; exact if_pos (by simp only [accepts, ho, hv]; rfl)
    | closeArr ho hs => subst hs; exact if_pos (by simp only [accepts, ho]; rfl)

/-- Whether `write` accepts, and where the frames go, depends on the frames only. -/
theorem write_nf (e : Enc) (t : Tok) (ws : Bytes) : write e t ws = (framesAfter e.last e.stack t).map fun p =>
    { e with buf := e.buf ++ delim e.last e.stack t ++ ws ++ t.text, last := p.1, stack := p.2 } := by
  unfold write framesAfter
  cases accepts e.last e.stack t
  · rfl
  · cases nextFrames e.last e.stack t <;> rfl

theorem write_some {e e' : Enc} {t : Tok} {ws : Bytes} (h : write e t ws = some e') : ∃ l st, FStep e.last e.stack t l st ∧
    e' = { e with buf := e.buf ++ delim e.last e.stack t ++ ws ++ t.text, last := l, stack := st } := by
  rw [write_nf] at h
  obtain ⟨⟨l, st⟩, hf, rfl⟩ := Option.map_eq_some_iff.mp h
  exact ⟨l, st, framesAfter_iff.mp hf, rfl⟩

theorem write_of_fstep {e : Enc} {t : Tok} {l : Frame} {st : List Frame} (h : FStep e.last e.stack t l st) (ws : Bytes) :
    write e t ws = some { e with buf := e.buf ++ delim e.last e.stack t ++ ws ++ t.text, last := l, stack := st } := by
  rw [write_nf, framesAfter_iff.mpr h]; rfl

theorem FStep.bottom {l l' : Frame} {st st' : List Frame} {t : Tok} (h : FStep l st t l' st')
    (hb : bottomIsObj l st = false) : bottomIsObj l' st' = false := by
  cases h with
  | scalar | str => rwa [bottomIsObj_inc]
  | openObj | openArr => rwa [bottomIsObj, bottomIsObj_inc]
  | closeObj _ _ hs | closeArr _ hs => rwa [hs] at hb

theorem needName_isObj {f : Frame} (h : f.needName = true) : f.isObj = true ∧ f.len % 2 = 0 := by
  simpa [Frame.needName] using h

theorem needValue_isObj {f : Frame} (h : f.needValue = true) : f.isObj = true ∧ f.len % 2 = 1 := by
  simpa [Frame.needValue] using h

theorem delim_of_needValue {l : Frame} {st : List Frame} {t : Tok} (h : l.needValue = true) :
    delim l st t = [0x3a] := by simp [delim, h]

theorem delim_of_needName {l : Frame} {st : List Frame} {t : Tok} (h : l.needName = true) (hst : st ≠ [])
    (hc : t.isClose = false) : delim l st t = if l.len = 0 then [] else [0x2c] := by
  obtain ⟨ho, hk⟩ := needName_isObj h
  have hv : l.needValue = false := by simp [Frame.needValue, hk]
  have hse : st.isEmpty = false := by simpa using hst
  by_cases h0 : l.len = 0
  · simp [delim, hv, h0]
  · have : 0 < l.len := Nat.pos_of_ne_zero h0
    simp [delim, hv, h0, this, hc, hse]

theorem delim_close {l : Frame} {st : List Frame} {t : Tok} (hv : l.needValue = false) (hc : t.isClose = true) :
    delim l st t = [] := by simp [delim, hv, hc]

/-- What two runs of the same calls under different schedules share: the total stream, the frames, OmitTopLevelNewline. -/
structure Sim (e₁ e₂ : Enc) : Prop where
  total : e₁.total = e₂.total
  last : e₁.last = e₂.last
  stack : e₁.stack = e₂.stack
  omitNL : e₁.omitNL = e₂.omitNL

theorem Sim.refl (e : Enc) : Sim e e := ⟨rfl, rfl, rfl, rfl⟩

theorem Sim.observed {e₁ e₂ : Enc} (h : Sim e₁ e₂) :
    e₁.total = e₂.total ∧ e₁.last = e₂.last ∧ e₁.stack = e₂.stack := ⟨h.total, h.last, h.stack⟩

theorem write_sim {e₁ e₂ : Enc} (h : Sim e₁ e₂) (t : Tok) (ws : Bytes) :
    (write e₁ t ws = none ∧ write e₂ t ws = none) ∨
    (∃ e₁' e₂', write e₁ t ws = some e₁' ∧ write e₂ t ws = some e₂' ∧ Sim e₁' e₂') := by
  rw [write_nf, write_nf, ← h.last, ← h.stack]
  cases framesAfter e₁.last e₁.stack t with
  | none => exact .inl ⟨rfl, rfl⟩
  | some p =>
    refine .inr ⟨_, _, rfl, rfl, ?_, rfl, rfl, h.omitNL⟩
    simp only [Enc.total, ← List.append_assoc]
    rw [show e₁.delivered ++ e₁.buf = e₂.delivered ++ e₂.buf from h.total]

theorem flushNL_of_deep {e : Enc} (h : e.stack ≠ []) : flushNL e = [] := by
  have : e.stack.length ≠ 0 := by simpa using h
  simp [flushNL, Enc.depth, this]

/-- The newline depends on the frames only: below the top level there is none, and at the top level avoidFlush
only looks at Length(). -/
theorem flushNL_congr {e₁ e₂ : Enc} (hs : Sim e₁ e₂) (hb : bottomIsObj e₁.last e₁.stack = false) :
    flushNL e₁ = flushNL e₂ := by
  by_cases hst : e₁.stack = []
  · have hb2 : bottomIsObj e₂.last e₂.stack = false := by rw [← hs.last, ← hs.stack]; exact hb
    have hst2 : e₂.stack = [] := by rw [← hs.stack]; exact hst
    simp [flushNL, avoidFlush_top hb hst, avoidFlush_top hb2 hst2, hs.last, Enc.depth, hst, hst2, hs.omitNL]
  · rw [flushNL_of_deep hst, flushNL_of_deep (hs.stack ▸ hst)]

theorem step_tok_none {e : Enc} {t : Tok} {ws : Bytes} (hw : write e t ws = none) (s : Sched) :
    step e (.tok t ws) s = e := by
  simp only [step, hw]

theorem step_tok_cases {e e' : Enc} {t : Tok} {ws : Bytes} (hw : write e t ws = some e') (s : Sched) :
    step e (.tok t ws) s = flush e' s.act ∨ (e'.stack ≠ [] ∧ step e (.tok t ws) s = e') := by
  simp only [step, hw]
  by_cases hc : (e'.stack.isEmpty || s.want) = true
  · exact .inl (if_pos hc)
  · exact .inr ⟨fun h0 => hc (by simp [h0]), if_neg hc⟩

theorem step_tok_some {e e' : Enc} {t : Tok} {ws : Bytes} (hw : write e t ws = some e') (s : Sched) :
    (step e (.tok t ws) s).total = e'.total ++ flushNL e' ∧ (step e (.tok t ws) s).last = e'.last ∧
      (step e (.tok t ws) s).stack = e'.stack ∧ (step e (.tok t ws) s).omitNL = e'.omitNL := by
  rcases step_tok_cases hw s with h | ⟨hst, h⟩ <;> rw [h]
  · exact ⟨flush_total _ _, flush_last _ _, flush_stack _ _, flush_omitNL _ _⟩
  · exact ⟨by rw [flushNL_of_deep hst, List.append_nil], rfl, rfl, rfl⟩

theorem step_tok_sim {e₁ e₂ : Enc} (h : Sim e₁ e₂) (hb : bottomIsObj e₁.last e₁.stack = false)
    (t : Tok) (ws : Bytes) (s₁ s₂ : Sched) :
    Sim (step e₁ (.tok t ws) s₁) (step e₂ (.tok t ws) s₂) ∧
    bottomIsObj (step e₁ (.tok t ws) s₁).last (step e₁ (.tok t ws) s₁).stack = false := by
  rcases write_sim h t ws with ⟨h1, h2⟩ | ⟨e₁', e₂', h1, h2, hs⟩
  · rw [step_tok_none h1, step_tok_none h2]; exact ⟨h, hb⟩
  · obtain ⟨l, st, hf, rfl⟩ := write_some h1
    have hb' := hf.bottom hb
    obtain ⟨t1, l1, k1, o1⟩ := step_tok_some h1 s₁
    obtain ⟨t2, l2, k2, o2⟩ := step_tok_some h2 s₂
    exact ⟨⟨by rw [t1, t2, hs.total, flushNL_congr hs hb'], by rw [l1, l2, hs.last], by rw [k1, k2, hs.stack],
      by rw [o1, o2, hs.omitNL]⟩, by rw [l1, k1]; exact hb'⟩

theorem unwriteName_noop {e : Enc} (h : ¬(e.last.isObj = true ∧ e.last.len = 1)) : unwriteName e = e := by
  unfold unwriteName
  rw [if_pos]
  cases ho : e.last.isObj
  · rfl
  · have : e.last.len ≠ 1 := fun hl => h ⟨ho, hl⟩
    simp [this]

theorem unwriteName_first {e : Enc} (ho : e.last.isObj = true) (hl : e.last.len = 1) :
    unwriteName e = { e with buf := unwriteNameBytes e.buf, last := ⟨true, 0⟩ } := by
  unfold unwriteName
  rw [if_neg (by simp [ho, hl])]

/-- Two runs of the same calls under different schedules: a relation that every call satisfying `P` keeps is kept by
the runs.  For any state type and step function, so for `run` and `runD` alike; with `b = a` and the same list it
is the induction for an invariant. -/
theorem rel_run {σ : Type} {step : σ → Op → Sched → σ} {run : σ → List (Op × Sched) → σ}
    (hnil : ∀ a, run a [] = a) (hcons : ∀ a op s r, run a ((op, s) :: r) = run (step a op s) r)
    {R : σ → σ → Prop} {P : Op → Prop}
    (hstep : ∀ a b op s₁ s₂, R a b → P op → R (step a op s₁) (step b op s₂)) :
    ∀ (l₁ l₂ : List (Op × Sched)) (a b : σ), R a b → l₁.map Prod.fst = l₂.map Prod.fst → (∀ p ∈ l₁, P p.1) →
      R (run a l₁) (run b l₂)
  | [], [], a, b, h, _, _ => by rw [hnil, hnil]; exact h
  | [], _ :: _, _, _, _, hl, _ => by simp at hl
  | _ :: _, [], _, _, _, hl, _ => by simp at hl
  | (op₁, s₁) :: r₁, (op₂, s₂) :: r₂, a, b, h, hl, hP => by
    simp only [List.map_cons, List.cons.injEq] at hl
    obtain ⟨rfl, hr⟩ : op₁ = op₂ ∧ _ := hl
    rw [hcons, hcons]
    exact rel_run hnil hcons hstep r₁ r₂ _ _ (hstep a b op₁ s₁ s₂ h (hP _ List.mem_cons_self)) hr
      (fun p hp => hP p (List.mem_cons_of_mem _ hp))

theorem prefix_run {σ : Type} {step : σ → Op → Sched → σ} {run : σ → List (Op × Sched) → σ}
    (hnil : ∀ a, run a [] = a) (hcons : ∀ a op s r, run a ((op, s) :: r) = run (step a op s) r)
    (d : σ → Bytes) (hstep : ∀ a op s, d a <+: d (step a op s)) (l : List (Op × Sched)) (a : σ) :
    d a <+: d (run a l) :=
  rel_run (R := fun b _ => d a <+: d b) (P := fun _ => True) hnil hcons
    (fun b _ op s _ h _ => h.trans (hstep b op s)) l l a a (List.prefix_refl _) rfl (fun _ _ => trivial)

/-- Token calls only, no unwrite call. -/
def tokOnly : List (Op × Sched) → Prop
  | [] => True
  | (.tok _ _, _) :: rest => tokOnly rest
  | _ :: _ => False

theorem tokOnly_mem : ∀ {l : List (Op × Sched)}, tokOnly l → ∀ p ∈ l, ∃ t ws, p.1 = .tok t ws
  | [], _, _, hp => by cases hp
  | (.tok t ws, _) :: r, h, p, hp => by
    rcases List.mem_cons.mp hp with rfl | hp
    · exact ⟨t, ws, rfl⟩
    · exact tokOnly_mem (l := r) h p hp
  | (.unwriteEmpty, _) :: _, h, _, _ => h.elim
  | (.unwriteName, _) :: _, h, _, _ => h.elim

theorem run_tok_sim (l₁ l₂ : List (Op × Sched)) (e₁ e₂ : Enc) (h : Sim e₁ e₂)
    (hb : bottomIsObj e₁.last e₁.stack = false) (ht : tokOnly l₁) (hl : l₁.map Prod.fst = l₂.map Prod.fst) :
    Sim (run e₁ l₁) (run e₂ l₂) :=
  (rel_run (R := fun a b => Sim a b ∧ bottomIsObj a.last a.stack = false)
    (P := fun op => ∃ t ws, op = .tok t ws) (fun _ => rfl) (fun _ _ _ _ => rfl)
    (by rintro a b _ s₁ s₂ ⟨h, hb⟩ ⟨t, ws, rfl⟩; exact step_tok_sim h hb t ws s₁ s₂)
    l₁ l₂ e₁ e₂ ⟨h, hb⟩ hl (tokOnly_mem ht)).1

theorem step_delivered_prefix (e : Enc) (op : Op) (s : Sched) : e.delivered <+: (step e op s).delivered := by
  cases op with
  | tok t ws =>
    cases hw : write e t ws with
    | none => rw [step_tok_none hw]; exact List.prefix_refl _
    | some e' =>
      rw [show e.delivered = e'.delivered by obtain ⟨_, _, _, rfl⟩ := write_some hw; rfl]
      rcases step_tok_cases hw s with h | ⟨_, h⟩ <;> rw [h]
      · exact flush_delivered_prefix _ _
      · exact List.prefix_refl _
  | unwriteEmpty =>
    simp only [step, unwriteEmpty]
    split
    · exact List.prefix_refl _
    · split <;> exact List.prefix_refl _
  | unwriteName =>
    by_cases h : e.last.isObj = true ∧ e.last.len = 1
    · rw [step, unwriteName_first h.1 h.2]; exact List.prefix_refl _
    · rw [step, unwriteName_noop h]; exact List.prefix_refl _

end JsonV.Model.Flush
