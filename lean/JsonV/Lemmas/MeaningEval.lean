/-
C03: the total characterisation of the specialised decoder on valid texts.  `evalV` replays, on the spec tree,
what the decoder does in document order: names are looked up in the map built so far (duplicate ⇒ `dup`), numbers go
through `fp` (overflow ⇒ `range`); the first error wins.  On every text the spec parses within the nesting limit the
decoder's outcome is `evalV` of the tree (`eval_core`); on a tree without duplicate names the replay is `toGo`, `none` read
as `range` (`evalV_noDup`).
-/
import JsonV.Lemmas.MeaningRoutes
import JsonV.Lemmas.MeaningParse

namespace JsonV.Lemmas.MeaningEval
open JsonV JsonV.Spec.Meaning JsonV.Model.AnyDecode JsonV.Lemmas.MeaningRoutes JsonV.Lemmas.MeaningParse

variable {F : Type} (fp : FloatParse F)

theorem mapInsert_fresh {α : Type} (m : List (Bytes × α)) (k : Bytes) (v : α) (h : mapHas m k = false) :
    mapInsert m k v = m ++ [(k, v)] := by
  induction m with
  | nil => rfl
  | cons e m ih =>
    obtain ⟨hk, hm⟩ : ¬ e.1 = k ∧ mapHas m k = false := by
      simpa only [mapHas, List.any_cons, Bool.or_eq_false_iff, beq_eq_false_iff_ne] using h
    rw [mapInsert, if_neg hk, ih hm]
    rfl

theorem mapHas_append {α : Type} (m : List (Bytes × α)) (k n : Bytes) (v : α) :
    mapHas (m ++ [(k, v)]) n = (mapHas m n || k == n) := by
  simp [mapHas, List.any_append]

mutual
def evalV : MTree → Except Err (GoAny F)
  | .null => .ok .nil
  | .bool b => .ok (.bool b)
  | .str s => .ok (.str s)
  | .num l => match fp l with
    | some x => .ok (.f64 x)
    | none => .error .range
  | .arr xs => match evalXs [] xs with
    | .ok a => .ok (.slice a)
    | .error e => .error e
  | .obj ms => match evalMs [] ms with
    | .ok m => .ok (.map m)
    | .error e => .error e
/-- `acc`: the elements decoded so far. -/
def evalXs : List (GoAny F) → List MTree → Except Err (List (GoAny F))
  | acc, [] => .ok acc
  | acc, x :: xs => match evalV x with
    | .error e => .error e
    | .ok v => evalXs (acc ++ [v]) xs
/-- `acc`: the map built so far, in which the next name is looked up. -/
def evalMs : List (Bytes × GoAny F) → List (Bytes × MTree) → Except Err (List (Bytes × GoAny F))
  | acc, [] => .ok acc
  | acc, (k, x) :: ms =>
    if mapHas acc k then .error .dup
    else match evalV x with
      | .error e => .error e
      | .ok v => evalMs (mapInsert acc k v) ms
end

/-- an outcome together with the unread input -/
def res {α : Type} (x : Except Err α) (rest : Bytes) : Except Err (α × Bytes) :=
  match x with
  | .ok v => .ok (v, rest)
  | .error e => .error e

theorem strip_eq_res {α : Type} {y : Res α} {x : Except Err α} {rest : Bytes} (h : strip y = res x rest) :
    (∃ e, x = .error e ∧ y = .error e) ∨ ∃ v c', x = .ok v ∧ y = .ok (v, rest, c') := by
  rcases y with e' | ⟨v', r, c⟩ <;> rcases x with e | v <;> simp only [strip, res] at h <;> cases h
  · exact .inl ⟨_, rfl, rfl⟩
  · exact .inr ⟨_, c, rfl, rfl⟩

theorem scalar_eval (fuel d : Nat) (c : Cache) (k : UInt8) (r : Bytes) (t : MTree) (rest : Bytes)
    (h7 : k ≠ 0x7B) (h5 : k ≠ 0x5B) (h : lexScalar (k :: r) = some (t, rest)) :
    strip (fastValue fp (fuel+1) d c (k :: r)) = res (evalV fp t) rest := by
  simp only [fastValue, h7, h5, if_false, h]
  rcases lexScalar_some h with ⟨_, s, -, -, rfl⟩ | ⟨-, rfl⟩ | ⟨-, rfl⟩ | ⟨-, rfl⟩ | ⟨l, -, rfl⟩
  · simp [evalV, res, makeString_fst]
  · rfl
  · rfl
  · rfl
  · simp only [evalV]
    cases fp l <;> rfl

/-- With `fuel` units, on every text the spec parses within the nesting limit, the specialised decoder's outcome and
unread input are the replay of the spec tree — for every cache and every depth offset; likewise for the member and
element loops, from any accumulator. -/
def EvalOK (fuel : Nat) : Prop :=
  (∀ (d : Nat) (c : Cache) (b : Bytes) (t : MTree) (rest : Bytes), parseValue fuel b = some (t, rest) →
    d + t.depth ≤ maxDepth → strip (fastValue fp fuel d c b) = res (evalV fp t) rest) ∧
  (∀ (d : Nat) (acc : List (Bytes × GoAny F)) (c : Cache) (b : Bytes) (ms : List (Bytes × MTree)) (rest : Bytes),
    parseMembers fuel b = some (ms, rest) → d + depthMembers ms ≤ maxDepth →
    strip (fastMembers fp fuel d acc c b) = res (evalMs fp acc ms) rest) ∧
  (∀ (d : Nat) (acc : List (GoAny F)) (c : Cache) (b : Bytes) (xs : List MTree) (rest : Bytes),
    parseElems fuel b = some (xs, rest) → d + depthList xs ≤ maxDepth →
    strip (fastElems fp fuel d acc c b) = res (evalXs fp acc xs) rest)

theorem members_eval_step (fuel : Nat) (ih : EvalOK fp fuel)
    (d : Nat) (acc : List (Bytes × GoAny F)) (c : Cache) (b : Bytes) (ms : List (Bytes × MTree)) (rest : Bytes)
    (h : parseMembers (fuel+1) b = some (ms, rest)) (hd : d + depthMembers ms ≤ maxDepth) :
    strip (fastMembers fp (fuel+1) d acc c b) = res (evalMs fp acc ms) rest := by
  obtain ⟨r, name, r1, r2, v, r3, k4, r4, rfl, hl, hs1, hv, hs3, hk⟩ := parseMembers_succ_some h
  obtain ⟨ms', rfl⟩ : ∃ ms', ms = (name, v) :: ms' := by
    rcases hk with ⟨-, ms', -, rfl⟩ | ⟨-, rfl, -⟩ <;> exact ⟨_, rfl⟩
  simp only [fastMembers, if_true, hl, hs1, evalMs]
  by_cases hfresh : mapHas acc name = true
  · simp only [hfresh, if_true]; rfl
  simp only [hfresh, if_false, Bool.false_eq_true]
  rcases strip_eq_res (ih.1 d c _ v r3 hv (depthMembers_cons_le hd).1) with ⟨e, hg, hx⟩ | ⟨gv, c3, hg, hx⟩ <;> rw [hg, hx]
  · rfl
  simp only [hs3]
  rcases hk with ⟨rfl, ms'', hm, hms⟩ | ⟨rfl, hms, rfl⟩ <;> cases hms
  · exact ih.2.1 d _ c3 _ ms' _ hm (depthMembers_cons_le hd).2
  · rfl

theorem elems_eval_step (fuel : Nat) (ih : EvalOK fp fuel)
    (d : Nat) (acc : List (GoAny F)) (c : Cache) (b : Bytes) (xs : List MTree) (rest : Bytes)
    (h : parseElems (fuel+1) b = some (xs, rest)) (hd : d + depthList xs ≤ maxDepth) :
    strip (fastElems fp (fuel+1) d acc c b) = res (evalXs fp acc xs) rest := by
  obtain ⟨v, r3, k4, r4, hv, hs3, hk⟩ := parseElems_succ_some h
  obtain ⟨xs', rfl⟩ : ∃ xs', xs = v :: xs' := by
    rcases hk with ⟨-, xs', -, rfl⟩ | ⟨-, rfl, -⟩ <;> exact ⟨_, rfl⟩
  simp only [fastElems, evalXs]
  rcases strip_eq_res (ih.1 d c b v r3 hv (depthList_cons_le hd).1) with ⟨e, hg, hx⟩ | ⟨gv, c3, hg, hx⟩ <;> rw [hg, hx]
  · rfl
  simp only [hs3]
  rcases hk with ⟨rfl, xs'', hm, hxs⟩ | ⟨rfl, hxs, rfl⟩ <;> cases hxs
  · exact ih.2.2 d _ c3 _ xs' _ hm (depthList_cons_le hd).2
  · rfl

theorem value_eval_step (fuel : Nat) (ih : EvalOK fp fuel)
    (d : Nat) (c : Cache) (b : Bytes) (t : MTree) (rest : Bytes)
    (h : parseValue (fuel+1) b = some (t, rest)) (hdep : d + t.depth ≤ maxDepth) :
    strip (fastValue fp (fuel+1) d c b) = res (evalV fp t) rest := by
  rcases parseValue_succ_some h with ⟨r, rfl, hs, rfl⟩ | ⟨r, k', r', ms, rfl, hs, hk', hm, rfl⟩ | ⟨r, rfl, hs, rfl⟩ |
    ⟨r, k', r', xs, rfl, hs, hk', hm, rfl⟩ | ⟨k, r, rfl, h7, h5, hl⟩
  · rw [fastValue, if_pos rfl, if_neg (Nat.ne_of_lt (depth_obj_le hdep).1), hs]
    rfl
  · rw [fastValue, if_pos rfl, if_neg (Nat.ne_of_lt (depth_obj_le hdep).1), hs, evalV]
    dsimp only
    rw [if_neg hk']
    rcases strip_eq_res (ih.2.1 (d+1) [] c _ ms _ hm (depth_obj_le hdep).2) with ⟨e, hg, hx⟩ | ⟨gv, c3, hg, hx⟩ <;>
      rw [hg, hx] <;> rfl
  · rw [fastValue, if_neg (by decide), if_pos rfl, if_neg (Nat.ne_of_lt (depth_arr_le hdep).1), hs]
    rfl
  · rw [fastValue, if_neg (by decide), if_pos rfl, if_neg (Nat.ne_of_lt (depth_arr_le hdep).1), hs, evalV]
    dsimp only
    rw [if_neg hk']
    rcases strip_eq_res (ih.2.2 (d+1) [] c _ xs _ hm (depth_arr_le hdep).2) with ⟨e, hg, hx⟩ | ⟨gv, c3, hg, hx⟩ <;>
      rw [hg, hx] <;> rfl
  · exact scalar_eval fp fuel d c k r t rest h7 h5 hl

theorem eval_core (fuel : Nat) : EvalOK fp fuel := by
  induction fuel with
  | zero => exact ⟨fun _ _ _ _ _ h => (by cases h), fun _ _ _ _ _ _ h => (by cases h), fun _ _ _ _ _ _ h => (by cases h)⟩
  | succ n ih => exact ⟨value_eval_step fp n ih, members_eval_step fp n ih, elems_eval_step fp n ih⟩

theorem fast_eq_eval (c : Cache) (b : Bytes) (t : MTree) (h : parseTree b = some t) (hdep : t.depth ≤ maxDepth) :
    fast fp c b = evalV fp t := by
  obtain ⟨rest, hv, hws⟩ := parseTreeF_iff.mp h
  -- `parseTree` and `fast` run on the same fuel, `2 * b.length + 2`, so `eval_core` at that fuel applies to `hv` as it stands
  unfold fast fuelFor
  rcases strip_eq_res ((eval_core fp _).1 0 c (skipWs b) t rest hv (by rwa [Nat.zero_add])) with
    ⟨e, hg, hx⟩ | ⟨gv, c3, hg, hx⟩ <;> rw [hg, hx]
  · rfl
  · simp [finish, hws]

mutual
theorem evalV_ok_noDup : ∀ (t : MTree) (v : GoAny F), evalV fp t = .ok v → t.noDup = true
  | .null, _, _ => rfl
  | .bool _, _, _ => rfl
  | .str _, _, _ => rfl
  | .num _, _, _ => rfl
  | .arr xs, v, h => by
    simp only [evalV] at h
    cases hx : evalXs fp [] xs with
    | error e => simp [hx] at h
    | ok a => simp only [MTree.noDup]; exact evalXs_ok_noDup xs [] a hx
  | .obj ms, v, h => by
    simp only [evalV] at h
    cases hx : evalMs fp [] ms with
    | error e => simp [hx] at h
    | ok m =>
      have := evalMs_ok_noDup ms [] m hx
      simp only [MTree.noDup, Bool.and_eq_true]
      exact ⟨this.2.1, this.1⟩
theorem evalXs_ok_noDup : ∀ (xs : List MTree) (acc a : List (GoAny F)), evalXs fp acc xs = .ok a → noDupList xs = true
  | [], _, _, _ => rfl
  | x :: xs, acc, a, h => by
    simp only [evalXs] at h
    cases hv : evalV fp x with
    | error e => simp [hv] at h
    | ok v =>
      simp only [hv] at h
      simp only [noDupList, Bool.and_eq_true]
      exact ⟨evalV_ok_noDup x v hv, evalXs_ok_noDup xs _ a h⟩
theorem evalMs_ok_noDup : ∀ (ms : List (Bytes × MTree)) (acc m : List (Bytes × GoAny F)), evalMs fp acc ms = .ok m →
    noDupMembers ms = true ∧ noDupNames (names ms) = true ∧ ∀ n ∈ names ms, mapHas acc n = false
  | [], _, _, _ => ⟨rfl, rfl, by intro n hn; simp [names] at hn⟩
  | (k, x) :: ms, acc, m, h => by
    -- the third conjunct is what the induction carries: no name still to come is in the accumulator
    simp only [evalMs] at h
    by_cases hfresh : mapHas acc k = true
    · simp [hfresh] at h
    · simp only [hfresh, if_false, Bool.false_eq_true] at h
      have hfresh' : mapHas acc k = false := by simpa using hfresh
      cases hv : evalV fp x with
      | error e => simp [hv] at h
      | ok v =>
        simp only [hv] at h
        obtain ⟨h1, h2, h3⟩ := evalMs_ok_noDup ms _ m h
        rw [mapInsert_fresh acc k v hfresh'] at h3
        refine ⟨?_, ?_, ?_⟩
        · simp only [noDupMembers, Bool.and_eq_true]; exact ⟨evalV_ok_noDup x v hv, h1⟩
        · simp only [names, List.map_cons, noDupNames, Bool.and_eq_true, Bool.not_eq_eq_eq_not, Bool.not_true]
          refine ⟨?_, h2⟩
          rw [List.contains_eq_mem]
          simp only [decide_eq_false_iff_not]
          intro hk
          have := h3 k hk
          rw [mapHas_append] at this
          simp at this
        · intro n hn
          simp only [names, List.map_cons, List.mem_cons] at hn
          rcases hn with rfl | hn
          · exact hfresh'
          · have := h3 n hn
            rw [mapHas_append] at this
            simp only [Bool.or_eq_false_iff] at this
            exact this.1
end

/-- the only errors on a parsed text are a duplicate name, or a float overflow (which needs an overflowing literal) -/
def ErrOK (e : Err) : Prop := e = .dup ∨ (e = .range ∧ ∃ l, fp l = none)

mutual
theorem evalV_err : ∀ (t : MTree) (e : Err), evalV fp t = .error e → ErrOK fp e
  | .null, _, h => by simp [evalV] at h
  | .bool _, _, h => by simp [evalV] at h
  | .str _, _, h => by simp [evalV] at h
  | .num l, e, h => by
    simp only [evalV] at h
    cases hl : fp l with
    | some x => simp [hl] at h
    | none => simp only [hl, Except.error.injEq] at h; exact Or.inr ⟨h.symm, l, hl⟩
  | .arr xs, e, h => by
    simp only [evalV] at h
    cases hx : evalXs fp [] xs with
    | error e' => simp only [hx, Except.error.injEq] at h; subst h; exact evalXs_err xs [] _ hx
    | ok a => simp [hx] at h
  | .obj ms, e, h => by
    simp only [evalV] at h
    cases hx : evalMs fp [] ms with
    | error e' => simp only [hx, Except.error.injEq] at h; subst h; exact evalMs_err ms [] _ hx
    | ok a => simp [hx] at h
theorem evalXs_err : ∀ (xs : List MTree) (acc : List (GoAny F)) (e : Err), evalXs fp acc xs = .error e → ErrOK fp e
  | [], _, _, h => by simp [evalXs] at h
  | x :: xs, acc, e, h => by
    simp only [evalXs] at h
    cases hv : evalV fp x with
    | error e' => simp only [hv, Except.error.injEq] at h; subst h; exact evalV_err x _ hv
    | ok v => simp only [hv] at h; exact evalXs_err xs _ e h
theorem evalMs_err : ∀ (ms : List (Bytes × MTree)) (acc : List (Bytes × GoAny F)) (e : Err), evalMs fp acc ms = .error e → ErrOK fp e
  | [], _, _, h => by simp [evalMs] at h
  | (k, x) :: ms, acc, e, h => by
    simp only [evalMs] at h
    by_cases hfresh : mapHas acc k = true
    · simp only [hfresh, if_true, Except.error.injEq] at h; exact Or.inl h.symm
    · simp only [hfresh, if_false, Bool.false_eq_true] at h
      cases hv : evalV fp x with
      | error e' => simp only [hv, Except.error.injEq] at h; subst h; exact evalV_err x _ hv
      | ok v => simp only [hv] at h; exact evalMs_err ms _ e h
end

mutual
theorem evalV_noDup : ∀ t : MTree, t.noDup = true →
    evalV fp t = match toGo fp t with
      | some v => .ok v
      | none => .error .range
  | .null, _ => rfl
  | .bool _, _ => rfl
  | .str _, _ => rfl
  | .num l, _ => by simp only [evalV, toGo]; cases fp l <;> rfl
  | .arr xs, h => by
    simp only [evalV, toGo, evalXs_noDup xs [] h]
    cases toGoList fp xs <;> rfl
  | .obj ms, h => by
    simp only [MTree.noDup, Bool.and_eq_true] at h
    simp only [evalV, toGo, evalMs_noDup ms [] h.2 h.1 fun _ _ => rfl]
    cases toGoMembers fp ms <;> rfl
theorem evalXs_noDup : ∀ (xs : List MTree) (acc : List (GoAny F)), noDupList xs = true →
    evalXs fp acc xs = match toGoList fp xs with
      | some vs => .ok (acc ++ vs)
      | none => .error .range
  | [], acc, _ => by simp [evalXs, toGoList]
  | x :: xs, acc, h => by
    simp only [noDupList, Bool.and_eq_true] at h
    simp only [evalXs, toGoList, evalV_noDup x h.1]
    cases toGo fp x with
    | none => rfl
    | some v =>
      simp only [evalXs_noDup xs _ h.2]
      cases toGoList fp xs <;> simp
theorem evalMs_noDup : ∀ (ms : List (Bytes × MTree)) (acc : List (Bytes × GoAny F)), noDupMembers ms = true →
    noDupNames (names ms) = true → (∀ n ∈ names ms, mapHas acc n = false) →
    evalMs fp acc ms = match toGoMembers fp ms with
      | some gms => .ok (acc ++ gms)
      | none => .error .range
  | [], acc, _, _, _ => by simp [evalMs, toGoMembers]
  | (k, x) :: ms, acc, hnd, hnn, hacc => by
    simp only [noDupMembers, Bool.and_eq_true] at hnd
    simp only [names, List.map_cons, noDupNames, Bool.and_eq_true, Bool.not_eq_eq_eq_not, Bool.not_true,
      List.contains_eq_mem, decide_eq_false_iff_not] at hnn
    have hk := hacc k (by simp [names])
    simp only [evalMs, toGoMembers, hk, Bool.false_eq_true, if_false, evalV_noDup x hnd.1]
    cases toGo fp x with
    | none => rfl
    | some v =>
      have hacc' : ∀ n ∈ names ms, mapHas (acc ++ [(k, v)]) n = false := by
        intro n hn
        rw [mapHas_append, hacc n (by simp only [names, List.map_cons, List.mem_cons]; exact .inr hn)]
        simp only [Bool.false_or, beq_eq_false_iff_ne, ne_eq]
        rintro rfl
        exact hnn.1 hn
      simp only [mapInsert_fresh acc k v hk, evalMs_noDup ms _ hnd.2 hnn.2 hacc']
      cases toGoMembers fp ms <;> simp
end

theorem toGoMembers_names (ms : List (Bytes × MTree)) (gms : List (Bytes × GoAny F))
    (h : toGoMembers fp ms = some gms) : gms.map (·.1) = names ms := by
  induction ms generalizing gms with
  | nil => simp [toGoMembers] at h; subst h; rfl
  | cons e ms ih =>
    obtain ⟨k, x⟩ := e
    simp only [toGoMembers] at h
    cases hx : toGo fp x with
    | none => simp [hx] at h
    | some v =>
      simp only [hx] at h
      cases hm : toGoMembers fp ms with
      | none => simp [hm] at h
      | some gms' =>
        simp only [hm, Option.map_some, Option.some.injEq] at h
        subst h
        simp [names, ih gms' hm]

theorem toGoList_map (xs : List MTree) (gxs : List (GoAny F)) (h : toGoList fp xs = some gxs) :
    xs.map (toGo fp) = gxs.map some := by
  induction xs generalizing gxs with
  | nil => simp [toGoList] at h; subst h; rfl
  | cons x xs ih =>
    simp only [toGoList] at h
    cases hx : toGo fp x with
    | none => simp [hx] at h
    | some v =>
      simp only [hx] at h
      cases hm : toGoList fp xs with
      | none => simp [hm] at h
      | some gxs' =>
        simp only [hm, Option.map_some, Option.some.injEq] at h
        subst h
        simp [hx, ih gxs' hm]

end JsonV.Lemmas.MeaningEval
