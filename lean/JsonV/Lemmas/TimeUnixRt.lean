/-
`timeUnix_roundtrip_pow` (C04's `timeUnix_rt` cites it): `parseTimeUnix` reads back what `appendTimeUnix` writes.  After the
sign `appendTimeUnix` writes, in each of its three branches, the decimal of `sec * p + nsec / (10^9 / p)` and the fraction
below it (`unixBody_eq`); `parseTimeUnix_text` divides that number by `p` again.  `unixBody` serves the proofs only: the model
and the oracle do not have it.
-/
import JsonV.Lemmas.TimeUnix

namespace JsonV.Model.Time
open JsonV

/-- the part of `appendTimeUnix` after the sign step. -/
def unixBody (b : Bytes) (sec nsec : Int) (pow10 : Nat) : Bytes :=
  let usec := toU64 sec
  let unsec := toU64 nsec
  if pow10 = 1 then
    appendFracBase10 (b ++ natDigits usec) unsec 1000000000
  else if usec < 1000000000 then
    let b := b ++ natDigits ((usec * pow10 + unsec / (1000000000 / pow10)) % U64)
    appendFracBase10 b ((unsec * pow10 % U64) % 1000000000) 1000000000
  else
    let b := b ++ natDigits usec
    let b := appendPaddedBase10 b (unsec / (1000000000 / pow10)) pow10
    appendFracBase10 b ((unsec * pow10 % U64) % 1000000000) 1000000000

theorem appendTimeUnix_eq (sec nsec : Int) (p : Nat) :
    appendTimeUnix [] sec nsec p =
      unixBody (if sec < 0 then [cMinus] else []) (if sec < 0 then negateSecNano sec nsec else (sec, nsec)).1
        (if sec < 0 then negateSecNano sec nsec else (sec, nsec)).2 p := by
  unfold appendTimeUnix unixBody
  by_cases h : sec < 0 <;> simp [h]

theorem mul_add_lt_U64 {x p m : Nat} (hx : x ≤ 1000000000) (hp : p ≤ 1000000000) (hm : m < p) : x * p + m < U64 := by
  have := Nat.mul_le_mul hx hp
  simp only [U64]; omega

theorem pow9 : (10 : Nat) ^ 9 = 1000000000 := by decide

/-- For `k = 0` the number is `s` and the fraction `n`; below `10^9` seconds the code computes the sum; above, it prints
`s` and the zero-padded `n / 10^j` side by side (`natDigits_append_pad`). -/
theorem unixBody_eq (k j : Nat) (hkj : k + j = 9) (b : Bytes) (s n : Int) (hun : toU64 n < 1000000000) :
    unixBody b s n (10 ^ k) =
      b ++ (natDigits (toU64 s * 10 ^ k + toU64 n / 10 ^ j) ++ fracText j (toU64 n % 10 ^ j)) := by
  have hmul : 10 ^ k * 10 ^ j = 1000000000 := by rw [← Nat.pow_add, hkj]
  have hpk : 0 < 10 ^ k := Nat.pow_pos (by decide)
  have hpj : 0 < 10 ^ j := Nat.pow_pos (by decide)
  have hq : 1000000000 / 10 ^ k = 10 ^ j := div_pow10 hmul
  unfold unixBody
  generalize toU64 s = us, toU64 n = un at hun ⊢
  by_cases hk0 : k = 0
  · subst hk0
    obtain rfl : j = 9 := by omega
    rw [if_pos (Nat.pow_zero 10), ← pow9, appendFrac_eq _ 9 _ (by rw [pow9]; exact hun), List.append_assoc,
      Nat.pow_zero, Nat.mul_one, pow9, Nat.div_eq_of_lt hun, Nat.mod_eq_of_lt hun, Nat.add_zero]
  · have hple : 10 ^ k ≤ 1000000000 := hmul ▸ Nat.le_mul_of_pos_right _ hpj
    -- the fraction below the unit: (nsec * P) % 10^9 = (nsec % Q) * P
    have hfrac : (un * 10 ^ k % U64) % 1000000000 = (un % 10 ^ j) * 10 ^ k := by
      rw [Nat.mod_eq_of_lt (show un * 10 ^ k < U64 from mul_add_lt_U64 (Nat.le_of_lt hun) hple hpk), ← hmul,
        Nat.mul_comm (10 ^ k) (10 ^ j), Nat.mul_mod_mul_right]
    have hftext : fracText 9 ((un % 10 ^ j) * 10 ^ k) = fracText j (un % 10 ^ j) := by
      rw [← hkj, Nat.add_comm]; exact fracText_scale j k _
    have hflt : (un % 10 ^ j) * 10 ^ k < 10 ^ 9 := by
      rw [pow9, ← hmul, Nat.mul_comm]
      exact Nat.mul_lt_mul_of_pos_left (Nat.mod_lt _ hpj) hpk
    have hm : un / 10 ^ j < 10 ^ k := (Nat.div_lt_iff_lt_mul hpj).mpr (by rw [hmul]; exact hun)
    simp only [if_neg (pow10_ne_one (Nat.pos_of_ne_zero hk0)), hq, hfrac]
    by_cases hsmall : us < 1000000000
    · rw [if_pos hsmall, Nat.mod_eq_of_lt (mul_add_lt_U64 (Nat.le_of_lt hsmall) hple hm), ← pow9,
        appendFrac_eq _ 9 _ hflt, hftext, List.append_assoc]
    · obtain ⟨k', rfl⟩ := Nat.exists_eq_add_one_of_ne_zero hk0
      rw [if_neg hsmall, appendPadded_eq _ k' _ hm, ← pow9, appendFrac_eq _ 9 _ hflt, hftext,
        natDigits_append_pad (k' + 1) us (un / 10 ^ j) (by omega) hm]
      simp only [List.append_assoc]

theorem unixBody_parse (k j : Nat) (hkj : k + j = 9) (hlog : k = 0 ∨ log10w (10 ^ k) = k) (neg : Bool) (s n : Int)
    (hs0 : -9223372036854775808 ≤ s) (hs1 : s < 9223372036854775808) (hn0 : 0 ≤ n) (hn1 : n < 1000000000) :
    parseTimeUnix (unixBody (if neg then [cMinus] else []) s n (10 ^ k)) (10 ^ k) = finishUnix neg s n := by
  have hpk : 0 < 10 ^ k := Nat.pow_pos (by decide)
  have hpj : 0 < 10 ^ j := Nat.pow_pos (by decide)
  have hun : toU64 n = n.toNat := toU64_nonneg hn0 (by omega)
  have hm : n.toNat / 10 ^ j < 10 ^ k :=
    (Nat.div_lt_iff_lt_mul hpj).mpr (by rw [← Nat.pow_add, hkj, pow9]; omega)
  -- quotient and remainder of the whole field by the base are `s` and the upper digits of `n`
  have e1 : (toU64 s * 10 ^ k + n.toNat / 10 ^ j) / 10 ^ k = toU64 s := by
    rw [Nat.add_comm, Nat.add_mul_div_right _ _ hpk, Nat.div_eq_of_lt hm, Nat.zero_add]
  have e2 : (toU64 s * 10 ^ k + n.toNat / 10 ^ j) % 10 ^ k = n.toNat / 10 ^ j := by
    rw [Nat.add_comm, Nat.add_mul_mod_self_right, Nat.mod_eq_of_lt hm]
  rw [unixBody_eq k j hkj _ s n (by omega), hun,
    parseTimeUnix_text k j (by rw [← Nat.pow_add, hkj]) hlog neg _ _ (by rw [e1]; exact toU64_lt s) (Nat.mod_lt _ hpj),
    e1, e2, Nat.mul_comm, Nat.div_add_mod, show toI64 (toU64 s) = s from wrapI_id hs0 hs1, toI64_small (by omega),
    Int.toNat_of_nonneg hn0]

theorem finishUnix_ok (sec nsec : Int) (hs0 : -9223372036854775808 ≤ sec) (hs1 : sec < 9223372036854775808)
    (hn0 : 0 ≤ nsec) (hn1 : nsec < 1000000000) :
    finishUnix (decide (sec < 0)) (if sec < 0 then negateSecNano sec nsec else (sec, nsec)).1
      (if sec < 0 then negateSecNano sec nsec else (sec, nsec)).2 = .ok (sec, nsec) := by
  unfold finishUnix
  by_cases h : sec < 0
  · simp only [h, decide_true, if_true]
    rw [negate_involutive sec nsec hs0 hs1 hn0 hn1]
    simp [h]
  · simp [h]

theorem timeUnix_roundtrip_pow (k j : Nat) (hkj : k + j = 9) (hlog : k = 0 ∨ log10w (10 ^ k) = k) (sec nsec : Int)
    (hs0 : -9223372036854775808 ≤ sec) (hs1 : sec < 9223372036854775808) (hn0 : 0 ≤ nsec) (hn1 : nsec < 1000000000) :
    parseTimeUnix (appendTimeUnix [] sec nsec (10 ^ k)) (10 ^ k) = .ok (sec, nsec) := by
  rw [appendTimeUnix_eq]
  have hr : -9223372036854775808 ≤ (if sec < 0 then negateSecNano sec nsec else (sec, nsec)).1 ∧
      (if sec < 0 then negateSecNano sec nsec else (sec, nsec)).1 < 9223372036854775808 ∧
      0 ≤ (if sec < 0 then negateSecNano sec nsec else (sec, nsec)).2 ∧
      (if sec < 0 then negateSecNano sec nsec else (sec, nsec)).2 < 1000000000 := by
    by_cases h : sec < 0
    · simp only [h, if_true]; exact negate_range sec nsec hs0 hs1 hn0 hn1
    · simp only [h, if_false]; exact ⟨hs0, hs1, hn0, hn1⟩
  have hsgn : (if sec < 0 then [cMinus] else ([] : Bytes)) = (if decide (sec < 0) = true then [cMinus] else []) := by
    by_cases h : sec < 0 <;> simp [h]
  rw [hsgn, unixBody_parse k j hkj hlog (decide (sec < 0)) _ _ hr.1 hr.2.1 hr.2.2.1 hr.2.2.2]
  exact finishUnix_ok sec nsec hs0 hs1 hn0 hn1

end JsonV.Model.Time
