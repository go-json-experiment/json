/-
The nesting limit in the token grammar: at every opening bracket of an accepted token list fewer than
`maxDepth` containers are open — whatever the bracket encloses (in particular also when it is empty).
-/
import JsonV.Lemmas.FormatPda

namespace JsonV.Fmt

def Tok.isOpen : Tok → Bool
  | .bo | .ba => true
  | _ => false

def Tok.isClose : Tok → Bool
  | .eo | .ea => true
  | _ => false

def opens (ts : List Tok) : Nat := ts.countP Tok.isOpen
def closes (ts : List Tok) : Nat := ts.countP Tok.isClose

theorem step_length {st st' : Stack} {t : Tok} {d : Option Delim} (h : step st t = some (d, st')) :
    st'.length + (if t.isClose then 1 else 0) = st.length + (if t.isOpen then 1 else 0) := by
  cases st with
  | nil => simp [step] at h
  | cons f s =>
    cases t
    case ba =>
      obtain ⟨f', _, _, rfl⟩ := step_open_inv (.inl ⟨rfl, rfl⟩) h
      rfl
    case bo =>
      obtain ⟨f', _, _, rfl⟩ := step_open_inv (.inr ⟨rfl, rfl⟩) h
      rfl
    all_goals
      simp only [step] at h
      split at h <;> cases h
      rfl

theorem step_open_bound {st st' : Stack} {t : Tok} {d : Option Delim} (ht : t.isOpen = true)
    (h : step st t = some (d, st')) : st.length ≤ maxDepth := by
  cases st with
  | nil => simp [step] at h
  | cons f s =>
    cases t <;> simp [Tok.isOpen] at ht
    · obtain ⟨_, _, hd, _⟩ := step_open_inv (g := .obj0) (.inr ⟨rfl, rfl⟩) h
      exact hd
    · obtain ⟨_, _, hd, _⟩ := step_open_inv (g := .arr0) (.inl ⟨rfl, rfl⟩) h
      exact hd

theorem accepts_depth : ∀ (pre : List Tok) (st : Stack) (t : Tok) (rest : List Tok), t.isOpen = true →
    accepts st (pre ++ t :: rest) = true → st.length + opens pre ≤ maxDepth + closes pre := by
  intro pre
  induction pre with
  | nil =>
    intro st t rest ht h
    obtain ⟨d, st', hs, _⟩ := accepts_cons h
    simpa [opens, closes] using step_open_bound ht hs
  | cons x pre ih =>
    intro st t rest ht h
    obtain ⟨d, st1, hs, h'⟩ := accepts_cons h
    have h1 := ih st1 t rest ht h'
    have h2 := step_length hs
    simp only [opens, closes, List.countP_cons] at h1 ⊢
    cases hx : x.isOpen <;> cases hc : x.isClose <;> simp [hx, hc] at h2 ⊢ <;> omega

end JsonV.Fmt
