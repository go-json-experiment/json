/-
Glue C12 ↔ C01, numbers: the C12 recogniser `scanNum` accepts exactly the literals of the RFC 8259 grammar
`JNumber` (Spec/Grammar.lean): by a bisimulation of its automaton with the DFA of Lemmas/WireNumber.lean, `scanNum` is
the longest match `WireNumber.scan` from every state (`scanNum_eq`).
-/
import JsonV.Model.Format
import JsonV.Lemmas.WireNumber

namespace JsonV.Fmt
open JsonV.Spec.Grammar
open JsonV.Lemmas.WireNumber (St δ acc cls cls_minus cls_plus cls_zero cls_dot cls_e
  cls_digit cls_d19 scan pre scan_stop scan_cons scan_start)

/-- the state map of the bisimulation -/
def NSt.toSt : NSt → St
  | .start => .start | .minus => .minus | .zero => .zero | .int => .int | .dot => .dot
  | .frac => .frac | .exp => .e | .expSign => .esign | .expDigits => .exp

theorem toSt_acc (st : NSt) : acc st.toSt = st.accept := by cases st <;> rfl

/-- Both automata look at a byte only through its class (`cls`), and their tables agree class by class. -/
theorem toSt_next (st : NSt) (c : UInt8) :
    δ st.toSt c = (match st.next c with | some st' => st'.toSt | none => .dead) := by
  have d : isDigit c = (cls c == .zero || cls c == .d19) := cls_digit c
  have d19 : isDigit19 c = (cls c == .d19) := cls_d19 c
  unfold δ
  cases st <;>
    simp only [NSt.next, ← beq_iff_eq (a := c), ← Bool.or_eq_true, cls_minus, cls_plus, cls_zero, cls_dot, cls_e,
      d, d19] <;>
    generalize cls c = k <;>
    cases k <;>
    rfl

theorem toSt_ne_dead (st : NSt) : st.toSt ≠ .dead := by cases st <;> simp [NSt.toSt]

theorem consFst_eq_pre (c : UInt8) (x : Option (Bytes × Bytes)) : consFst c x = pre [c] x := by
  rcases x with _ | ⟨a, r⟩ <;> rfl

theorem scanNum_eq (st : NSt) (b : Bytes) : scanNum st b = scan st.toSt b := by
  induction b generalizing st with
  | nil => rw [scanNum, ← toSt_acc]; rfl
  | cons c cs ih =>
    have hn := toSt_next st c
    rw [scanNum]
    cases hnx : st.next c with
    | none =>
      rw [hnx] at hn
      rw [scan_stop (t := c :: cs) hn, ← toSt_acc]; rfl
    | some st' =>
      rw [hnx] at hn
      rw [scan_cons hn (toSt_ne_dead st'), ← ih]
      exact consFst_eq_pre c _

theorem scanNum_iff' (lit : Bytes) : scanNum .start lit = some (lit, []) ↔ JNumber lit := by
  rw [scanNum_eq]
  exact ⟨fun h => (scan_start.mp h).2.1, fun h => scan_start.mpr ⟨(List.append_nil _).symm, h, nofun⟩⟩

theorem num_valid_iff (raw : Bytes) : (Tok.num raw).valid = true ↔ JNumber raw :=
  beq_iff_eq.trans (scanNum_iff' raw)

end JsonV.Fmt
