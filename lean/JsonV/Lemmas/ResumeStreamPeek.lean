/-
PeekKind with its cache (C05): a read call entered with a cached position answers what the whole-input read call
answers (cache transparency), PeekKind finds the whole-input kind, a cached error is delivered once.
-/
import JsonV.Lemmas.ResumeStreamCalls

namespace JsonV.Model.Stream
open JsonV JsonV.Model JsonV.Model.Validate JsonV.Model.TokenLoop JsonV.Model.Window

theorem invalidate_facts' (w : Window) : w.unread = w.unread ∧ w.inputOffset = w.inputOffset ∧ w.pending = w.pending := ⟨rfl, rfl, rfl⟩

theorem readCached_eq (lex : TState → Bytes → Nat → List Event → Bool → SRes) (span : UInt8 → Bool) (s : SState)
    (start : Nat) {r : TRes} (hL : LexOk s.w.unread start s.events r (lex s.st s.w.unread start s.events false)) :
    readCached lex span s start = finish span s s.w (lex s.st s.w.unread start s.events false) := by
  unfold readCached
  simp only
  generalize lex s.st s.w.unread start s.events false = S at hL ⊢
  cases S with
  | fault u' es' => rfl
  | res r' st0 u' es' f =>
    obtain ⟨_, h2, _⟩ := hL
    subst h2
    cases r' <;> rfl

theorem cached_scanOk (lex : TState → Bytes → Nat → List Event → Bool → SRes) (lexW : TState → Nat → Bytes → TRes)
    (hlex : ∀ st, LexSim (lex st) (lexW st))
    (s : SState) (ws : WState) (h : Sim s ws) (start : Nat) (c : UInt8) (vt : Bytes)
    (hd : s.w.unread.drop start = c :: vt) (hst0 : start = wholeStart ws.r)
    (hw : wholeWith ws.st (lexW ws.st) ws.r = lexW ws.st start (ws.r.drop start)) :
    ScanAdv s.st (lexW s.st) s.w.unread s.events (lex s.st s.w.unread start s.events false) := by
  obtain ⟨_, _, _, h4, h5, _⟩ := h
  have hlt : start < s.w.unread.length := lt_of_drop_cons hd
  have hsuf : ws.r.drop start = (c :: vt) ++ avail s.events := by
    rw [h5, List.drop_append_of_le_length (Nat.le_of_lt hlt), hd]
  exact scanAdv_of_lexOk s.st (lexW s.st) (hlex s.st s.w.unread start s.events false c vt hd) (Adv.refl _ _)
    (by rw [← h5, ← h4, hw, hsuf]) (by rw [← h5]; exact hst0) hlt

/-- The head of a call (blanks, and a delimiter checked against the state machine) does not depend on the
`switch next`: it fails, or it hands over to the `switch next` at `wholeStart r`. -/
theorem wholeWith_head (st : TState) (r : Bytes) :
    (∃ off e, ∀ lexW, wholeWith st lexW r = .err off e) ∨
    ∀ lexW, wholeWith st lexW r = lexW (wholeStart r) (r.drop (wholeStart r)) := by
  cases hd : r.drop (Wire.consumeWhitespace r) with
  | nil => exact .inl ⟨_, _, fun lexW => wholeWith_nil st lexW hd⟩
  | cons c rest =>
    by_cases hc : (c == 0x3A || c == 0x2C) = true
    · cases hd2 : rest.drop (Wire.consumeWhitespace rest) with
      | nil =>
        by_cases hb : (st.m.needDelim 0x22 != c) = true
        · exact .inl ⟨_, _, fun lexW => by rw [wholeWith_delim st lexW hd hc, hd2]; exact if_pos hb⟩
        · exact .inl ⟨_, _, fun lexW => by rw [wholeWith_delim st lexW hd hc, hd2]; exact if_neg hb⟩
      | cons c1 rest1 =>
        by_cases hb : (st.m.needDelim (normKind c1) != c) = true
        · exact .inl ⟨_, _, fun lexW => by rw [wholeWith_delim st lexW hd hc, hd2]; exact if_pos hb⟩
        · refine .inr fun lexW => ?_
          rw [wholeWith_delim st lexW hd hc, hd2, wholeStart_delim r c rest hd hc, Nat.add_assoc, ← List.drop_drop, hd,
            Nat.add_comm 1, List.drop_succ_cons, hd2]
          exact if_neg hb
    · have hc' : (c == 0x3A || c == 0x2C) = false := Bool.eq_false_iff.2 hc
      rw [wholeStart_plain r c rest hd hc', hd]
      by_cases hb : (st.m.needDelim (normKind c) != 0) = true
      · exact .inl ⟨_, _, fun lexW => by rw [wholeWith_plain st lexW hd hc']; exact if_pos hb⟩
      · exact .inr fun lexW => by rw [wholeWith_plain st lexW hd hc']; exact if_neg hb

theorem wholeWith_err (st : TState) (r : Bytes) (off : Nat) (e : Wire.Err)
    (h : wholeWith st (fun p _ => TRes.tok p st) r = .err off e) (lexW : Nat → Bytes → TRes) :
    wholeWith st lexW r = .err off e := by
  rcases wholeWith_head st r with ⟨off', e', hall⟩ | hall
  · rw [← h, hall, hall]
  · rw [hall] at h
    cases h

theorem wholeWith_tok (st : TState) (r : Bytes) (n : Nat) (st' : TState)
    (h : wholeWith st (fun p _ => TRes.tok p st) r = .tok n st') (lexW : Nat → Bytes → TRes) :
    n = wholeStart r ∧ wholeWith st lexW r = lexW n (r.drop n) := by
  rcases wholeWith_head st r with ⟨off, e, hall⟩ | hall
  · rw [hall] at h
    cases h
  · rw [hall] at h
    injection h with hn _
    subst hn
    exact ⟨rfl, hall lexW⟩

/-- what the cache may hold: the transient fault, the error every whole-input read call reports at this point, or
the position at which every whole-input read call lexes -/
def CacheOk (p : PState) (ws : WState) : Prop :=
  (∀ e, p.peekErr = some e → e = .fault ∨ (∀ lexW : TState → Nat → Bytes → TRes, wholeReadWith lexW ws = (e, ws))) ∧
  (p.peekErr = none → p.peekPos ≠ 0 → ∃ (start : Nat) (c : UInt8) (vt : Bytes),
    p.peekPos = p.s.w.prevEnd + start ∧ p.s.w.unread.drop start = c :: vt ∧ start = wholeStart ws.r ∧
    (∀ lexW : Nat → Bytes → TRes, wholeWith ws.st lexW ws.r = lexW start (ws.r.drop start)))

/-- `Sim` for the decoder with its peek cache -/
def SimP (p : PState) (ws : WState) : Prop := Sim p.s ws ∧ CacheOk p ws

theorem cacheOk_empty (s : SState) (ws : WState) : CacheOk { s := s } ws :=
  ⟨by intro e h; simp at h, by intro _ h; simp at h⟩

theorem simP_init (es : List Event) : SimP { s := init es } { r := avail es } :=
  ⟨sim_init es, cacheOk_empty _ _⟩

theorem peekKind_sim (p : PState) (ws : WState) (h : SimP p ws) :
    SimP (peekKind p).2 ws ∧
    ((peekKind p).2.peekErr ≠ some .fault → (peekKind p).1 = wholePeek ws) ∧
    Consumed p.s.events (peekKind p).2.s.events ((peekKind p).2.peekErr == some .fault) := by
  obtain ⟨hsim0, hc1, hc2⟩ := h
  unfold peekKind
  by_cases hcache : (p.peekErr.isNone && p.peekPos != 0) = true
  · rw [if_pos hcache]
    simp only [Bool.and_eq_true, Option.isNone_iff_eq_none, bne_iff_ne, ne_eq] at hcache
    obtain ⟨start, c, vt, e1, e2, e3, e4⟩ := hc2 hcache.1 hcache.2
    refine ⟨⟨hsim0, hc1, hc2⟩, ?_, ?_⟩
    · intro _
      obtain ⟨h1, h2, h3, h4, h5, h6⟩ := hsim0
      have hk : kindAt p.s.w.buf p.peekPos = normKind c := by
        have : p.s.w.buf.drop p.peekPos = c :: vt := by
          rw [e1, ← List.drop_drop]; exact e2
        simp [kindAt, this]
      have hlt : start < p.s.w.unread.length := lt_of_drop_cons e2
      have hw := e4 (fun q _ => TRes.tok q ws.st)
      simp only [wholePeek, hw]
      rw [← e3, h5, kindAt_append _ _ start hlt, hk]
      simp [kindAt, e2]
    · rw [hcache.1]; exact Consumed.refl _
  · rw [if_neg hcache]
    have h0 := invalidate_facts p.s.w hsim0.1 hsim0.2.1
    have hst : ws.st = p.s.st := hsim0.2.2.2.1
    have hr : ws.r = (Window.invalidate p.s.w).unread ++ avail p.s.events := by rw [h0.1]; exact hsim0.2.2.2.2.1
    have hscan := scanWith_ok p.s.st (fun u pos es f => SRes.res (.tok pos p.s.st) pos u es f) (fun q _ => TRes.tok q p.s.st)
      (peekLex_ok p.s.st) (Window.invalidate p.s.w).unread p.s.events
    simp only
    generalize scanWith p.s.st (fun u pos es f => SRes.res (.tok pos p.s.st) pos u es f) (Window.invalidate p.s.w).unread
      p.s.events = S at hscan ⊢
    cases S with
    | fault u' es' =>
      refine ⟨⟨(commit_sim hsim0 h0 true hscan.same hscan.len).1, ?_, ?_⟩, fun hne => absurd rfl hne, hscan.cons⟩
      · intro e he; injection he with he; exact Or.inl he.symm
      · intro hn; cases hn
    | res r start u' es' f =>
      obtain ⟨g0, A, g4⟩ := hscan
      obtain ⟨hsim, c1, hoff, hTu⟩ := commit_sim hsim0 h0 f A.same A.len
      have hw : wholeWith ws.st (fun q _ => TRes.tok q ws.st) ws.r = r := by rw [hst, hr]; exact g0.symm
      cases r with
      | err off e =>
        refine ⟨⟨hsim, ?_, ?_⟩, ?_, A.cons⟩
        · intro e' he'
          injection he' with he'
          right
          intro lexW
          simp only [wholeReadWith, wholeWith_err ws.st ws.r off e hw (lexW ws.st)]
          rw [← he', hoff]
        · intro hn; cases hn
        · intro _; simp [wholePeek, hw]
      | tok n st' =>
        obtain ⟨t1, _, _, t4⟩ := g4 n st' rfl
        have hstart : wholeStart ws.r = start := by rw [hr]; exact t1.symm
        obtain ⟨cc, vv, hdd⟩ := drop_cons_of_lt u' start t4
        refine ⟨⟨hsim, ?_, ?_⟩, ?_, A.cons⟩
        · intro e' he'; cases he'
        · intro _ _
          refine ⟨start, cc, vv, rfl, by rw [← c1] at hdd; exact hdd, hstart.symm, ?_⟩
          intro lexW
          obtain ⟨hn, hx⟩ := wholeWith_tok ws.st ws.r n st' hw lexW
          rw [hx, hn, hstart]
        · intro _
          simp only [wholePeek, hw]
          rw [hstart, hTu, kindAt_append u' _ start t4]

theorem readCached_nf (lex : TState → Bytes → Nat → List Event → Bool → SRes) (lexW : TState → Nat → Bytes → TRes)
    (span : UInt8 → Bool)
    (hlex : ∀ st, LexSim (lex st) (lexW st))
    (s : SState) (ws : WState) (h : Sim s ws) (hn : NoFault s.events) (start : Nat) (c : UInt8) (vt : Bytes)
    (hd : s.w.unread.drop start = c :: vt) (hst0 : start = wholeStart ws.r)
    (hw : wholeWith ws.st (lexW ws.st) ws.r = lexW ws.st start (ws.r.drop start)) :
    StepNF (readCached lex span s start) (wholeReadWith lexW ws) := by
  rw [readCached_eq lex span s start (hlex s.st s.w.unread start s.events false c vt hd)]
  exact stepNF_of_sim hn (finish_sim lexW span s ws h s.w ⟨rfl, rfl, rfl, h.1, h.2.1⟩ _
    (cached_scanOk lex lexW hlex s ws h start c vt hd hst0 hw))

/-- a step of the extended script on a reader that cannot fault -/
def StepNFP (r : OutP × PState) (rw : OutP × WState) : Prop :=
  r.1 = rw.1 ∧ SimP r.2 rw.2 ∧ NoFault r.2.s.events ∧ r.2.peekErr ≠ some .fault

theorem readP_nf (plain : SState → Out × SState) (lex : TState → Bytes → Nat → List Event → Bool → SRes)
    (lexW : TState → Nat → Bytes → TRes) (span : UInt8 → Bool)
    (hlex : ∀ st, LexSim (lex st) (lexW st))
    (p : PState) (ws : WState) (hplain : Sim p.s ws → NoFault p.s.events → StepNF (plain p.s) (wholeReadWith lexW ws))
    (h : SimP p ws) (hn : NoFault p.s.events) (hpf : p.peekErr ≠ some .fault) :
    (readP plain lex span p).1 = (wholeReadWith lexW ws).1 ∧ SimP (readP plain lex span p).2 (wholeReadWith lexW ws).2 ∧
    NoFault (readP plain lex span p).2.s.events ∧ (readP plain lex span p).2.peekErr ≠ some .fault := by
  obtain ⟨hsim, hc1, hc2⟩ := h
  unfold readP
  cases hpe : p.peekErr with
  | some e =>
    simp only
    rcases hc1 e hpe with hf | hall
    · rw [hpe, hf] at hpf; exact absurd rfl hpf
    · rw [hall lexW]
      exact ⟨rfl, ⟨hsim, cacheOk_empty _ _⟩, hn, by simp⟩
  | none =>
    simp only
    by_cases hpp : (p.peekPos != 0) = true
    · rw [if_pos hpp]
      obtain ⟨start, c, vt, e1, e2, e3, e4⟩ := hc2 hpe (by simpa using hpp)
      have hst : p.peekPos - p.s.w.prevEnd = start := by omega
      rw [hst]
      obtain ⟨ho, hs', hn'⟩ := readCached_nf lex lexW span hlex p.s ws hsim hn start c vt e2 e3 (e4 (lexW ws.st))
      exact ⟨ho, ⟨hs', cacheOk_empty _ _⟩, hn', by simp⟩
    · rw [if_neg hpp]
      obtain ⟨ho, hs', hn'⟩ := hplain hsim hn
      exact ⟨ho, ⟨hs', cacheOk_empty _ _⟩, hn', by simp⟩

theorem callP_nf (o : VOpts) (c : CallP) (p : PState) (ws : WState) (h : SimP p ws) (hn : NoFault p.s.events)
    (hpf : p.peekErr ≠ some .fault) : StepNFP (callP o c p) (wholeCallP o c ws) := by
  cases c with
  | readToken =>
    have r := readP_nf (readToken o) (lexS o) (lexToken o) (fun k => k == 0x22 || k == 0x30) (fun st => lexS_ok o st) p ws (fun hs hn => readToken_nf o p.s ws hs hn) h hn hpf
    exact ⟨congrArg OutP.out r.1, r.2.1, r.2.2.1, r.2.2.2⟩
  | readValue =>
    have hf : fuelFor (p.s.w.unread ++ avail p.s.events) = fuelFor ws.r := by rw [h.1.2.2.2.2.1]
    have r := readP_nf (readValue o) (valS o (fuelFor ws.r)) (valW o (fuelFor ws.r)) (fun _ => true)
      (fun st => valS_ok o (fuelFor ws.r) st) p ws
      (fun hs hn => readValue_nf o p.s ws hs hn) h hn hpf
    simp only [StepNFP, callP, wholeCallP, readValueP, wholeReadValue]
    rw [hf]
    exact ⟨congrArg OutP.out r.1, r.2.1, r.2.2.1, r.2.2.2⟩
  | skipValue =>
    obtain ⟨ho, hs', hn'⟩ := skipValue_nf o p.s ws h.1 hn
    exact ⟨by simp only [callP, wholeCallP]; rw [ho], ⟨hs', cacheOk_empty _ _⟩, hn', by simp [callP]⟩
  | peekKind =>
    obtain ⟨hsp, hk, hc⟩ := peekKind_sim p ws h
    obtain ⟨hf, hn'⟩ := noFault_of_consumed hc hn
    exact ⟨by simp only [callP, wholeCallP]; rw [hk (ne_of_beq_false hf)], hsp, hn', ne_of_beq_false hf⟩

/-- `sim_peek_full` (C05): scripts over ReadToken / ReadValue / SkipValue / PeekKind -/
theorem scriptP_sim (o : VOpts) (cs : List CallP) : ∀ (p : PState) (ws : WState), SimP p ws → NoFault p.s.events →
    p.peekErr ≠ some .fault → runScriptP o cs p = wholeScriptP o cs ws := by
  induction cs with
  | nil => intros; rfl
  | cons c cs ih =>
    intro p ws h hn hpf
    obtain ⟨ho, hs', hn', hpf'⟩ := callP_nf o c p ws h hn hpf
    simp only [runScriptP, wholeScriptP]
    rw [ho, ih _ _ hs' hn' hpf']

/-- `fault_stutter_peek` (C05): a fault during PeekKind is cached with the decoders still at the same point; the next
ReadToken / ReadValue returns it, clears the cache and leaves the decoders at the same point -/
theorem peek_fault_stutter (o : VOpts) (p : PState) (ws : WState) (h : SimP p ws)
    (hf : (peekKind p).2.peekErr = some .fault) :
    SimP (peekKind p).2 ws ∧ (peekKind p).2.s.events.length < p.s.events.length ∧
    (readTokenP o (peekKind p).2).1 = .fault ∧ SimP (readTokenP o (peekKind p).2).2 ws ∧
    (readValueP o (peekKind p).2).1 = .fault ∧ SimP (readValueP o (peekKind p).2).2 ws := by
  obtain ⟨hsp, _, hc⟩ := peekKind_sim p ws h
  have hc' : Consumed _ _ true := beq_iff_eq.2 hf ▸ hc
  refine ⟨hsp, hc'.length_lt, ?_, ?_, ?_, ?_⟩
  · simp only [readTokenP, readP, hf]
  · simp only [readTokenP, readP, hf]; exact ⟨hsp.1, cacheOk_empty _ _⟩
  · simp only [readValueP, readP, hf]
  · simp only [readValueP, readP, hf]; exact ⟨hsp.1, cacheOk_empty _ _⟩

end JsonV.Model.Stream
