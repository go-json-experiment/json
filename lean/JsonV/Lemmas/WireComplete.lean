/-
Completeness of the value-path validator (Model/Validate.lean) w.r.t. the grammar `JValue`
(Spec/Grammar.lean): every value of the grammar instance selected by the options is accepted,
whatever follows it, provided a number is followed by a delimiter (whitespace, `,`, `]`, `}`) or the end
of input — which is what the grammar guarantees in every position a value can occur.
-/
import JsonV.Lemmas.WireValue

namespace JsonV.Lemmas.WireComplete
open JsonV JsonV.Model JsonV.Model.Wire JsonV.Model.Validate JsonV.Spec.Grammar
open JsonV.Lemmas.WireBasic JsonV.Lemmas.WireNumber JsonV.Lemmas.WireString JsonV.Lemmas.WireValue

def isDelim (c : UInt8) : Bool := isWs c || c == 0x2C || c == 0x5D || c == 0x7D

/-- what follows a value is nothing or starts with a delimiter -/
def DelimHead (rest : Bytes) : Prop := ∀ c t, rest = c :: t → isDelim c = true

theorem delimHead_nil : DelimHead [] := by intro c t h; cases h
theorem delimHead_cons (c : UInt8) (t : Bytes) (h : isDelim c = true) : DelimHead (c :: t) := by
  intro c' t' h'; cases h'; exact h

theorem delim_other (c : UInt8) (h : isDelim c = true) : cls c = .other := by
  simp only [isDelim, isWs, Bool.or_eq_true, beq_iff_eq] at h
  rcases h with (((((h | h) | h) | h) | h) | h) | h <;> subst h <;> rfl

/-- what follows the value `v` does not extend it: only numbers are not self-terminating, so the condition is
that a number followed by a byte `c` is not a prefix of any number ("maximal munch") -/
def Follow (v rest : Bytes) : Prop := JNumber v → ∀ c t, rest = c :: t → ¬ NumPrefix (v ++ [c])

theorem step_other (s : St) : step s .other = .dead := by cases s <;> rfl

theorem follow_of_delim (v rest : Bytes) (h : DelimHead rest) : Follow v rest := by
  intro _ c t hr
  have hc := delim_other c (h c t hr)
  rw [numPrefix_iff_live, run_append]
  simp [run, δ, hc, step_other]

theorem follow_nil (v : Bytes) : Follow v [] := by intro _ c t h; cases h

/-- the bytes a value can start with -/
def isStart (c : UInt8) : Bool :=
  let k := normKind c
  k == 0x6E || k == 0x66 || k == 0x74 || k == 0x22 || k == 0x30 || k == 0x7B || k == 0x5B

theorem start_facts (c : UInt8) (h : isStart c = true) :
    isWs c = false ∧ (c == 0x5D) = false ∧ (c == 0x7D) = false ∧ (c == 0x2C) = false ∧ (c == 0x3A) = false := by
  have ne (b : UInt8) (hb : isStart b = false) : (c == b) = false :=
    beq_eq_false_iff_ne.2 fun e => by rw [e, hb] at h; cases h
  refine ⟨?_, ne _ (by decide), ne _ (by decide), ne _ (by decide), ne _ (by decide)⟩
  rw [isWs, ne 0x20 (by decide), ne 0x09 (by decide), ne 0x0D (by decide), ne 0x0A (by decide)]
  rfl

theorem ws_exact (w tail : Bytes) (hw : JWs w) (ht : ∀ c t, tail = c :: t → isWs c = false) :
    consumeWhitespace (w ++ tail) = w.length := by
  symm
  apply ws_unique (w ++ tail) w.length (by simp)
  · simpa using hw
  · intro c r h
    simp only [List.drop_left] at h
    rw [← isWs_iff]
    simp [ht c r h]

theorem ws_then_start (w : Bytes) (c : UInt8) (t : Bytes) (hw : JWs w) (hc : isStart c = true) :
    consumeWhitespace (w ++ c :: t) = w.length := by
  apply ws_exact _ _ hw
  intro c' t' h
  rw [← (List.cons.inj h).1]
  exact (start_facts c hc).1

theorem literal_complete (lit rest : Bytes) (hl : lit ≠ []) : valueLiteral lit (lit ++ rest) = (lit.length, .ok) := by
  rw [valueLiteral_eq _ _ hl]
  exact (literal_ok_iff _ _ _).2 ⟨rfl, List.prefix_append _ _⟩

theorem number_complete (v rest : Bytes) (h : JNumber v) (hd : Follow v rest) :
    consumeNumber (v ++ rest) = (v.length, .ok) :=
  consumeNumber_append h (hd h)

theorem valueNumber_complete (v rest : Bytes) (h : JNumber v) (hd : Follow v rest) :
    valueNumber (v ++ rest) = (v.length, .ok) :=
  (valueNumber_ok_iff _ _).2 (number_complete v rest h hd)

theorem valueString_complete (o : VOpts) (p rest : Bytes) (h : JString (!o.allowInvalidUTF8) p) :
    ∃ fl, valueString o (p ++ rest) = (p.length, fl, .ok) := by
  rw [valueString_eq_consumeString]
  exact consumeString_complete (p ++ rest) _ p.length (by simp) (by simpa using h)

/-- `consumeValue` accepts `v`, whatever input follows it that does not extend it (`Follow`), given enough fuel -/
def CV (o : VOpts) (d : Nat) (v : Bytes) : Prop :=
  ∀ rest fuel, Follow v rest → 3 * (v ++ rest).length + 1 ≤ fuel →
    consumeValue o fuel (d + 1) (v ++ rest) = (v.length, .ok)

/-- `v` begins with a byte that can start a value -/
def Starts (v : Bytes) : Prop := ∃ c t, v = c :: t ∧ isStart c = true

theorem delimHead_ws_sep (w2 : Bytes) (sep : UInt8) (tail : Bytes) (hw : JWs w2) (hs : isDelim sep = true) :
    DelimHead (w2 ++ sep :: tail) := by
  cases w2 with
  | nil => exact delimHead_cons _ _ hs
  | cons c t =>
    apply delimHead_cons
    have := (isWs_iff c).2 (hw c (by simp))
    simp [isDelim, this]

theorem elem_facts (o : VOpts) (d f : Nat) (w1 val w2 : Bytes) (sep : UInt8) (tail : Bytes)
    (hw1 : JWs w1) (hw2 : JWs w2) (hcv : CV o (d + 1) val) (hst : Starts val)
    (hsep : isDelim sep = true) (hsepw : isWs sep = false)
    (hfuel : 3 * (val ++ (w2 ++ sep :: tail)).length + 1 ≤ f) :
    consumeWhitespace (w1 ++ (val ++ (w2 ++ sep :: tail))) = w1.length ∧
    consumeValue o f (d + 2) (val ++ (w2 ++ sep :: tail)) = (val.length, .ok) ∧
    consumeWhitespace (w2 ++ sep :: tail) = w2.length := by
  obtain ⟨c, t, rfl, hc⟩ := hst
  refine ⟨?_, ?_, ?_⟩
  · exact ws_then_start w1 c _ hw1 hc
  · exact hcv _ f (follow_of_delim _ _ (delimHead_ws_sep w2 sep tail hw2 hsep)) hfuel
  · apply ws_exact _ _ hw2
    intro c' t' h
    simp only [List.cons.injEq] at h
    rw [← h.1]; exact hsepw

theorem valueThen_err (o : VOpts) (f depth : Nat) (close : UInt8) (base : Nat) (next : Bytes → Nat × Err)
    (w : Bytes) (c : UInt8) (t : Bytes) (k : Nat) (e : Err) (hw : JWs w) (hc : isStart c = true)
    (hcv : consumeValue o f depth (c :: t) = (k, e)) (hne : e ≠ .ok) :
    valueThen o f depth close base (w ++ c :: t) next = (base + w.length + k, e) := by
  have hne' : (e != .ok) = true := by simpa using hne
  simp only [valueThen, ws_then_start w c t hw hc, List.drop_left, hcv, hne', if_true]

theorem valueThen_value (o : VOpts) (d f : Nat) (close : UInt8) (base : Nat) (next : Bytes → Nat × Err)
    (w1 val w2 : Bytes) (sep : UInt8) (tail : Bytes) (hw1 : JWs w1) (hw2 : JWs w2) (hcv : CV o (d + 1) val) (hst : Starts val)
    (hsep : isDelim sep = true) (hsepw : isWs sep = false)
    (hfuel : 3 * (val ++ (w2 ++ sep :: tail)).length + 1 ≤ f) :
    valueThen o f (d + 2) close base (w1 ++ (val ++ (w2 ++ sep :: tail))) next =
      (let b := base + w1.length + val.length + w2.length
       if sep == 0x2C then addOff (b + 1) (next tail) else if sep == close then (b + 1, .ok) else (b, .invalidChar)) := by
  obtain ⟨h1, h2, h3⟩ := elem_facts o d f w1 val w2 sep tail hw1 hw2 hcv hst hsep hsepw hfuel
  obtain ⟨c, t, rfl, -⟩ := hst
  have hd2 : (c :: (t ++ (w2 ++ sep :: tail))).drop (c :: t).length = w2 ++ sep :: tail := List.drop_left (l₁ := c :: t)
  rw [List.cons_append] at h1 h2
  simp only [valueThen, List.cons_append, h1, List.drop_left, h2, hd2, h3]
  simp

theorem fuel_cons {b : UInt8} {t : Bytes} {f : Nat} (h : 3 * (b :: t).length + 2 ≤ f + 1) : 3 * t.length + 2 ≤ f := by
  rw [List.length_cons] at h
  omega

theorem fuel_member {w1 name w2 w3 v : Bytes} {c f : Nat}
    (h : 3 * (w1 ++ (name ++ (w2 ++ 0x3A :: (w3 ++ v)))).length + c ≤ f) : 3 * v.length + c ≤ f :=
  fuel_suffix ⟨w1 ++ name ++ w2 ++ 0x3A :: w3, by simp⟩ h

/-- past an opening bracket, with the two calls it costs -/
theorem fuel_bracket {b : UInt8} {t : Bytes} {fuel : Nat} (h : 3 * (b :: t).length + 1 ≤ fuel) :
    ∃ f, fuel = f + 2 ∧ 3 * t.length + 2 ≤ f := by
  rw [List.length_cons] at h
  exact ⟨fuel - 2, by omega, by omega⟩

theorem fuel_succ {n fuel : Nat} (h : n + 2 ≤ fuel) : ∃ f, fuel = f + 1 := ⟨fuel - 1, by omega⟩

/-- what the induction knows of an element value -/
abbrev Done (o : VOpts) (d : Nat) (v : Bytes) : Prop := JV o d v ∧ CV o d v ∧ Starts v

theorem elems_complete (o : VOpts) (d : Nat) {t : Bytes} (ht : JElems (Done o (d + 1)) t) :
    ∀ rest fuel, 3 * (t ++ rest).length + 2 ≤ fuel → arrayLoop o fuel (d + 2) (t ++ rest) = (t.length, .ok) := by
  induction ht with
  | last w1 v w2 h1 hv h2 =>
    intro rest fuel hf
    obtain ⟨f, rfl⟩ := fuel_succ hf
    simp only [List.append_assoc, List.cons_append, List.nil_append] at hf ⊢
    rw [arrayLoop_succ, valueThen_value o d f 0x5D 0 _ w1 v w2 0x5D rest h1 h2 hv.2.1 hv.2.2 (by decide) (by decide)
      (Nat.le_of_succ_le_succ (fuel_suffix (List.suffix_append _ _) hf))]
    simp [Nat.add_assoc]
  | cons w1 v w2 t h1 hv h2 _ ih =>
    intro rest fuel hf
    obtain ⟨f, rfl⟩ := fuel_succ hf
    simp only [List.append_assoc, List.cons_append] at hf ⊢
    rw [arrayLoop_succ, valueThen_value o d f 0x5D 0 _ w1 v w2 0x2C _ h1 h2 hv.2.1 hv.2.2 (by decide) (by decide)
      (Nat.le_of_succ_le_succ (fuel_suffix (List.suffix_append _ _) hf)),
      ih rest f (fuel_cons (b := 0x2C) (fuel_suffix (by simp [List.suffix_append_of_suffix]) hf))]
    simp [addOff]
    omega

theorem not_ws_quote : isWs 0x22 = false := by decide
theorem not_ws_colon : isWs 0x3A = false := by decide

theorem objectLoop_member (o : VOpts) (f depth : Nat) (names : List Bytes) (w1 name w2 rest : Bytes)
    (hw1 : JWs w1) (hstr : JString (G o).strict name) (hw2 : JWs w2)
    (hdup : o.allowDup = true ∨ nameKey o name ∉ names) :
    objectLoop o (f + 1) depth names (w1 ++ (name ++ (w2 ++ 0x3A :: rest))) =
      valueThen o f depth 0x7D (w1.length + name.length + w2.length + 1) rest
        (objectLoop o f depth (if o.allowDup then names else names ++ [nameKey o name])) := by
  generalize hC : w2 ++ 0x3A :: rest = C
  obtain ⟨fl, hvs⟩ := valueString_complete o name C hstr
  have hkey : unescapedName ((name ++ C).take name.length) fl = nameKey o name := by
    have := valueString_take o (name ++ C) name.length fl hvs
    simp only [List.take_left'] at this ⊢
    unfold nameKey; rw [this]
  obtain ⟨c0, nt, hnt⟩ : ∃ c0 nt, name ++ C = c0 :: nt := by
    obtain ⟨body, -, rfl⟩ := hstr; exact ⟨_, _, rfl⟩
  have f1 : consumeWhitespace (w1 ++ (name ++ C)) = w1.length := by
    apply ws_exact _ _ hw1
    obtain ⟨body, -, rfl⟩ := hstr
    intro c t h; rw [← (List.cons.inj h).1]; exact not_ws_quote
  have f2 : consumeWhitespace C = w2.length := by
    rw [← hC]; apply ws_exact _ _ hw2
    intro c t h; rw [← (List.cons.inj h).1]; exact not_ws_colon
  have h3 : (!o.allowDup && names.contains (nameKey o name)) = false := by
    rcases hdup with h | h <;> simp [h]
  rw [objectLoop_nameThen]
  simp only [nameThen, f1, List.drop_left]
  rw [hnt] at hvs hkey ⊢
  simp only [hvs, hkey, h3]
  simp only [← hnt, List.drop_left', f2]
  rw [← hC, List.drop_left]
  simp

theorem member_step (o : VOpts) (d f : Nat) (names : List Bytes) (w1 name w2 w3 val w4 : Bytes) (sep : UInt8) (tail : Bytes)
    (hok : MemOk o (w1, name, w2, w3, val, w4)) (hcv : CV o (d + 1) val) (hst : Starts val)
    (hsep : isDelim sep = true) (hsepw : isWs sep = false)
    (hdup : o.allowDup = true ∨ nameKey o name ∉ names)
    (hfuel : 3 * (val ++ (w4 ++ sep :: tail)).length + 1 ≤ f) :
    objectLoop o (f + 1) (d + 2) names (w1 ++ (name ++ (w2 ++ 0x3A :: (w3 ++ (val ++ (w4 ++ sep :: tail)))))) =
      (let base := w1.length + name.length + w2.length + 1 + w3.length + val.length + w4.length
       if sep == 0x2C then
         addOff (base + 1) (objectLoop o f (d + 2) (if o.allowDup then names else names ++ [nameKey o name]) tail)
       else if sep == 0x7D then (base + 1, .ok)
       else (base, .invalidChar)) := by
  obtain ⟨hw1, hstr, hw2, hw3, hw4⟩ := hok
  rw [objectLoop_member o f (d + 2) names w1 name w2 _ hw1 hstr hw2 hdup,
    valueThen_value o d f 0x7D _ _ w3 val w4 sep tail hw3 hw4 hcv hst hsep hsepw hfuel]

/-- `names`, what the loop has stored, may be any list of names seen before: the grammar only asks that no later name be among
them -/
theorem members_complete (o : VOpts) (d : Nat) {seen : List Bytes} {t : Bytes}
    (ht : JMembers (JString (G o).strict) (Done o (d + 1)) (nameKey o) o.allowDup seen t) :
    ∀ names, (o.allowDup = true ∨ ∀ k, k ∈ names → k ∈ seen) → ∀ rest fuel, 3 * (t ++ rest).length + 2 ≤ fuel →
      objectLoop o fuel (d + 2) names (t ++ rest) = (t.length, .ok) := by
  induction ht with
  | last seen w1 name w2 w3 v w4 h1 hn h2 h3 hv h4 hk =>
    intro names hsub rest fuel hf
    obtain ⟨f, rfl⟩ := fuel_succ hf
    simp only [List.append_assoc, List.cons_append, List.nil_append] at hf ⊢
    rw [member_step o d f names w1 name w2 w3 v w4 0x7D rest ⟨h1, hn, h2, h3, h4⟩ hv.2.1 hv.2.2 (by decide) (by decide)
      (hk.elim .inl fun hk => hsub.imp_right fun hs hm => hk (hs _ hm)) (Nat.le_of_succ_le_succ (fuel_member hf))]
    simp
    omega
  | cons seen w1 name w2 w3 v w4 t h1 hn h2 h3 hv h4 hk _ ih =>
    intro names hsub rest fuel hf
    obtain ⟨f, rfl⟩ := fuel_succ hf
    simp only [List.append_assoc, List.cons_append] at hf ⊢
    rw [member_step o d f names w1 name w2 w3 v w4 0x2C _ ⟨h1, hn, h2, h3, h4⟩ hv.2.1 hv.2.2 (by decide) (by decide)
      (hk.elim .inl fun hk => hsub.imp_right fun hs hm => hk (hs _ hm)) (Nat.le_of_succ_le_succ (fuel_member hf)),
      ih _ (hsub.imp_right fun hs k hm => ?_) rest f
        (fuel_cons (b := 0x2C) (fuel_suffix (by simp [List.suffix_append_of_suffix]) (fuel_member hf)))]
    · simp [addOff]
      omega
    · split at hm
      · exact .tail _ (hs k hm)
      · rcases List.mem_append.1 hm with hm | hm
        · exact .tail _ (hs k hm)
        · rw [List.mem_singleton.1 hm]; exact .head _

theorem bracketThen_eq (depth : Nat) (close b : UInt8) (r1 : Bytes) (loop : Bytes → Nat × Err) (c : UInt8) (rest : Bytes)
    (hdepth : (depth == maxNestingDepth + 1) = false) (h : r1.drop (consumeWhitespace r1) = c :: rest) :
    bracketThen depth close (b :: r1) loop =
      if c == close then (1 + consumeWhitespace r1 + 1, .ok) else addOff (1 + consumeWhitespace r1) (loop (c :: rest)) := by
  simp [bracketThen, hdepth, h]

theorem consumeArray_eq (o : VOpts) (f depth : Nat) (r1 : Bytes) (c : UInt8) (rest : Bytes)
    (hdepth : (depth == maxNestingDepth + 1) = false) (h : r1.drop (consumeWhitespace r1) = c :: rest) :
    consumeArray o (f + 1) depth (0x5B :: r1) =
      if c == 0x5D then (1 + consumeWhitespace r1 + 1, .ok)
      else addOff (1 + consumeWhitespace r1) (arrayLoop o f (depth + 1) (c :: rest)) :=
  consumeArray_succ .. ▸ bracketThen_eq _ _ _ _ _ c rest hdepth h

theorem consumeObject_eq (o : VOpts) (f depth : Nat) (r1 : Bytes) (c : UInt8) (rest : Bytes)
    (hdepth : (depth == maxNestingDepth + 1) = false) (h : r1.drop (consumeWhitespace r1) = c :: rest) :
    consumeObject o (f + 1) depth (0x7B :: r1) =
      if c == 0x7D then (1 + consumeWhitespace r1 + 1, .ok)
      else addOff (1 + consumeWhitespace r1) (objectLoop o f (depth + 1) [] (c :: rest)) :=
  consumeObject_succ .. ▸ bracketThen_eq _ _ _ _ _ c rest hdepth h

theorem depth_ok (d : Nat) (h : d < maxNestingDepth) : (d + 1 == maxNestingDepth + 1) = false := by
  simp; omega

theorem bracketThen_inside {d : Nat} (hlt : d < maxNestingDepth) (close b : UInt8) (loop : Bytes → Nat × Err) {w : Bytes}
    {c : UInt8} {x : Bytes} (hw : JWs w) (hcw : isWs c = false) (hc : (c == close) = false) :
    bracketThen (d + 1) close (b :: (w ++ c :: x)) loop = addOff (1 + w.length) (loop (c :: x)) := by
  have hws : consumeWhitespace (w ++ c :: x) = w.length := ws_exact _ _ hw fun c' t' h => (List.cons.inj h).1 ▸ hcw
  rw [bracketThen_eq _ _ _ _ _ c x (depth_ok d hlt) (by rw [hws, List.drop_left]), if_neg (by simp [hc]), hws]

theorem bracketThen_empty {d : Nat} (hlt : d < maxNestingDepth) (close b : UInt8) (w rest : Bytes) (loop : Bytes → Nat × Err)
    (hw : JWs w) (hc : isWs close = false) :
    bracketThen (d + 1) close (b :: (w ++ close :: rest)) loop = ((b :: (w ++ [close])).length, .ok) := by
  have hws : consumeWhitespace (w ++ close :: rest) = w.length :=
    ws_exact _ _ hw fun c t h => (List.cons.inj h).1 ▸ hc
  rw [bracketThen_eq _ _ _ _ _ close rest (depth_ok d hlt) (by rw [hws, List.drop_left]), if_pos (beq_self_eq_true _), hws]
  simp
  omega

theorem cv_literal (o : VOpts) (d : Nat) {c : UInt8} {t : Bytes} (h : LitKind c (c :: t)) :
    CV o d (c :: t) ∧ Starts (c :: t) := by
  refine ⟨?_, c, t, rfl, ?_⟩
  · intro rest fuel _ hf
    cases fuel with
    | zero => omega
    | succ f =>
      rw [List.cons_append, consumeValue_lit o f (d + 1) (t ++ rest) h]
      exact literal_complete (c :: t) rest (by simp)
  · rcases h with ⟨hk, -⟩ | ⟨hk, -⟩ | ⟨hk, -⟩ <;> simp [isStart, hk]

theorem value_complete (o : VOpts) (d : Nat) (v : Bytes)
    (h : JValue (G o) maxNestingDepth (nameKey o) d v) : CV o d v ∧ Starts v := by
  refine JValue.cons_induction (P := fun d v => CV o d v ∧ Starts v) ?null ?true ?false ?num ?str ?emptyArr ?arr ?emptyObj ?obj h
  case null => intro d; exact cv_literal o d (.inl ⟨by decide, rfl⟩)
  case true => intro d; exact cv_literal o d (.inr (.inr ⟨by decide, rfl⟩))
  case false => intro d; exact cv_literal o d (.inr (.inl ⟨by decide, rfl⟩))
  case num =>
    intro d p hp
    obtain ⟨c, t, rfl, hk⟩ := jnumber_head p hp
    refine ⟨?_, c, t, rfl, by simp [isStart, hk]⟩
    intro rest fuel hd hf
    cases fuel with
    | zero => omega
    | succ f =>
      have := valueNumber_complete (c :: t) rest hp hd
      simp only [List.cons_append] at this ⊢
      rw [consumeValue_num o f (d + 1) _ hk]
      exact this
  case str =>
    intro d p hp
    have hp' : JString (!o.allowInvalidUTF8) p := hp
    obtain ⟨body, hj, rfl⟩ := hp'
    refine ⟨?_, 0x22, _, rfl, by decide⟩
    intro rest fuel _ hf
    cases fuel with
    | zero => omega
    | succ f =>
      obtain ⟨fl, hvs⟩ := valueString_complete o (0x22 :: (body ++ [0x22])) rest hp
      simp only [List.cons_append, List.append_assoc, List.nil_append] at hvs ⊢
      rw [consumeValue_str (c := 0x22) _ _ _ _ rfl]
      simp [hvs]
  case emptyArr =>
    intro d w hlt hw
    refine ⟨?_, 0x5B, _, rfl, by decide⟩
    intro rest fuel _ hf
    match fuel, hf with
    | f + 2, hf =>
      simp only [List.cons_append, List.append_assoc, List.nil_append]
      rw [consumeValue_arr (c := 0x5B) _ _ _ _ rfl, consumeArray_succ, bracketThen_empty hlt _ _ w rest _ hw (by decide)]
    | 0, hf => omega
    | 1, hf => simp at hf
  case arr =>
    intro d t hlt ht
    refine ⟨?_, 0x5B, _, rfl, by decide⟩
    intro rest fuel _ hf
    -- the blanks behind the bracket are skipped by `consumeArray`, the loop starts at the first value
    obtain ⟨w, t', hw, rfl, ht', v, x, hv, rfl⟩ := ht.exists_ws
    obtain ⟨c, tv, rfl, hc⟩ := hv.2.2
    rw [List.cons_append] at hf
    obtain ⟨f, rfl, hf'⟩ := fuel_bracket hf
    have e : (0x5B :: (w ++ ((c :: tv) ++ x))) ++ rest = 0x5B :: (w ++ c :: (tv ++ x ++ rest)) := by simp
    rw [e, consumeValue_arr (c := 0x5B) _ _ _ _ rfl, consumeArray_succ,
      bracketThen_inside hlt 0x5D _ _ hw (start_facts c hc).1 (start_facts c hc).2.1,
      show c :: (tv ++ x ++ rest) = ((c :: tv) ++ x) ++ rest by simp,
      elems_complete o d ht' rest f (fuel_suffix ⟨w, by simp⟩ hf')]
    simp [addOff]
    omega
  case emptyObj =>
    intro d w hlt hw
    refine ⟨?_, 0x7B, _, rfl, by decide⟩
    intro rest fuel _ hf
    match fuel, hf with
    | f + 2, hf =>
      simp only [List.cons_append, List.append_assoc, List.nil_append]
      rw [consumeValue_obj (c := 0x7B) _ _ _ _ rfl, consumeObject_succ, bracketThen_empty hlt _ _ w rest _ hw (by decide)]
    | 0, hf => omega
    | 1, hf => simp at hf
  case obj =>
    intro d t hlt ht
    refine ⟨?_, 0x7B, _, rfl, by decide⟩
    intro rest fuel _ hf
    obtain ⟨w, t', hw, rfl, ht', n, x, ⟨body, -, rfl⟩, rfl⟩ := ht.exists_ws
    rw [List.cons_append] at hf
    obtain ⟨f, rfl, hf'⟩ := fuel_bracket hf
    have e : (0x7B :: (w ++ ((0x22 :: (body ++ [0x22])) ++ x))) ++ rest = 0x7B :: (w ++ 0x22 :: (body ++ [0x22] ++ x ++ rest)) := by
      simp
    rw [e, consumeValue_obj (c := 0x7B) _ _ _ _ rfl, consumeObject_succ,
      bracketThen_inside hlt 0x7D _ _ hw not_ws_quote (by decide),
      show 0x22 :: (body ++ [0x22] ++ x ++ rest) = ((0x22 :: (body ++ [0x22])) ++ x) ++ rest by simp,
      members_complete o d ht' [] (.inr nofun) rest f (fuel_suffix ⟨w, by simp⟩ hf')]
    simp [addOff]
    omega

theorem delimHead_ws (w : Bytes) (hw : JWs w) : DelimHead w := by
  cases w with
  | nil => exact delimHead_nil
  | cons c t =>
    apply delimHead_cons
    have := (isWs_iff c).2 (hw c (by simp))
    simp [isDelim, this]

theorem readValueTop_start (o : VOpts) (fuel : Nat) (w : Bytes) (c : UInt8) (t : Bytes) (hw : JWs w) (hc : isStart c = true) :
    readValueTop o fuel (w ++ c :: t) = addOff w.length (consumeValue o fuel 1 (c :: t)) := by
  have h := (start_facts c hc).2.2.2
  simp only [readValueTop, ws_then_start w c t hw hc, List.drop_left, h.1, h.2, Bool.or_self, Bool.false_eq_true, if_false]

theorem readValueTop_complete (o : VOpts) (fuel : Nat) (w v rest : Bytes) (hw : JWs w)
    (hv : JValue (G o) maxNestingDepth (nameKey o) 0 v) (hd : Follow v rest)
    (hf : 3 * (v ++ rest).length + 1 ≤ fuel) :
    readValueTop o fuel (w ++ (v ++ rest)) = (w.length + v.length, .ok) := by
  obtain ⟨hcv, c, t, rfl, hc⟩ := value_complete o 0 v hv
  rw [List.cons_append, readValueTop_start o fuel w c _ hw hc, ← List.cons_append, hcv rest fuel hd hf]
  rfl

theorem validText_complete (o : VOpts) (b : Bytes) (h : JText (G o) maxNestingDepth (nameKey o) b) :
    validText o b = (b.length, .ok) := by
  obtain ⟨w1, v, w2, hw1, hv, hw2, rfl⟩ := h
  have hr := readValueTop_complete o (fuelFor (w1 ++ v ++ w2)) w1 v w2 hw1 hv (follow_of_delim _ _ (delimHead_ws w2 hw2))
    (fuel_suffix ⟨w1, by simp⟩ (Nat.le_add_right _ 3))
  have happ : w1 ++ v ++ w2 = w1 ++ (v ++ w2) := by simp
  unfold validText
  rw [happ] at hr ⊢
  rw [hr]
  have hdrop : (w1 ++ (v ++ w2)).drop (w1.length + v.length) = w2 := by
    rw [← List.append_assoc, ← List.length_append]; simp
  have hws : consumeWhitespace w2 = w2.length := by
    have := ws_exact w2 [] hw2 (by intro c t h; cases h)
    simpa using this
  simp [hdrop, hws]
  omega

theorem readValueTop_ws (o : VOpts) (fuel : Nat) (w : Bytes) (hw : JWs w) : readValueTop o fuel w = (w.length, .ioEOF) := by
  have hws : consumeWhitespace w = w.length := by
    have := ws_exact w [] hw (by intro c t h; cases h); simpa using this
  unfold readValueTop
  simp [hws]

theorem streamLoop_complete (o : VOpts) (vfuel : Nat) (b : Bytes)
    (h : JStream (G o) maxNestingDepth (nameKey o) b) :
    ∀ fuel cnt base, 3 * b.length + 1 ≤ vfuel → b.length + 1 ≤ fuel →
      ∃ k, streamLoop o vfuel fuel b cnt base = (cnt + k, base + b.length, .ioEOF) := by
  induction h with
  | done w hw =>
    intro fuel cnt base _ hf
    obtain ⟨f, rfl⟩ : ∃ f, fuel = f + 1 := ⟨fuel - 1, by omega⟩
    exact ⟨0, streamLoop_err (readValueTop_ws o vfuel w hw) nofun f cnt base⟩
  | next w v rest hw hv hmax _ ih =>
    intro fuel cnt base hvf hf
    obtain ⟨f, rfl⟩ : ∃ f, fuel = f + 1 := ⟨fuel - 1, by omega⟩
    rw [List.append_assoc] at hvf hf ⊢
    have hr := readValueTop_complete o vfuel w v rest hw hv hmax (fuel_suffix ⟨w, rfl⟩ hvf)
    have hpos := (readValueTop_pos hr).1
    have hdrop : (w ++ (v ++ rest)).drop (w.length + v.length) = rest := by
      rw [← List.append_assoc, ← List.length_append]; exact List.drop_left
    obtain ⟨k, hk⟩ := ih f (cnt + 1) (base + (w.length + v.length)) (fuel_suffix ⟨w ++ v, by simp⟩ hvf)
      (by simp only [List.length_append] at hf; omega)
    refine ⟨k + 1, ?_⟩
    rw [streamLoop_ok hr, hdrop, hk]
    simp only [List.length_append]
    refine Prod.ext ?_ (Prod.ext ?_ rfl) <;> simp only <;> omega

theorem stream_complete (o : VOpts) (b : Bytes) (h : JStream (G o) maxNestingDepth (nameKey o) b) :
    ∃ cnt, stream o b = (cnt, b.length, .ioEOF) := by
  obtain ⟨k, hk⟩ := streamLoop_complete o (fuelFor b) b h (b.length + 1) 0 0 (by simp [fuelFor]) (Nat.le_refl _)
  exact ⟨k, by simpa [stream] using hk⟩

end JsonV.Lemmas.WireComplete
