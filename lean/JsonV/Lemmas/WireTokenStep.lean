/-
One ReadToken (Model/TokenLoop.lean `readToken`) in normal form: what is skipped before the token (`gap`), what the scanners make
of the token (`scan`), and what the decoder state makes of a scanned token (`offer`).  `readToken_eq` and `lexToken_eq` are where
`readToken`, `lexToken`, `feed`, `feedString` are opened for the whole-input decoder.  The last section, in namespace `Position`,
says what one ReadToken may return (`ReadOutcome`): C16's positions and the fuel of the ReadToken loop are read off it.
-/
import JsonV.Model.TokenLoop
import JsonV.Lemmas.WireFuel
import JsonV.Lemmas.StateRefine

namespace JsonV.Lemmas.WireTokenStep
open JsonV JsonV.Model JsonV.Model.Wire JsonV.Model.Validate JsonV.Model.TokenLoop JsonV.Spec.Grammar
open JsonV.Spec JsonV.Spec.PDA
open JsonV.Lemmas.WireBasic JsonV.Lemmas.WireValue JsonV.Lemmas.WireFuel JsonV.Lemmas.StateRefine

/-- what the scanners make of the token at the head of the input -/
inductive Scan
  /-- a token of kind `k` in the first `n` bytes (`fl`: the flags of a string) -/
  | tok (k : Kind) (n : Nat) (fl : ValueFlags)
  /-- no token: class `e` at offset `n` -/
  | bad (n : Nat) (e : Err)

/-- the answer `(n, e)` of a scanner for tokens of kind `k` -/
def Scan.of (k : Kind) (fl : ValueFlags) (n : Nat) (e : Err) : Scan := if e != .ok then .bad n e else .tok k n fl

/-- the `switch next` of ReadToken without the decoder state: the four brackets are tokens of one byte -/
def scan (o : VOpts) (r : Bytes) : Scan :=
  match r with
  | [] => .bad 0 .bug
  | c :: _ =>
    let k := normKind c
    if k == 0x6E then .of .lit {} (valueLiteral litNull r).1 (valueLiteral litNull r).2
    else if k == 0x66 then .of .lit {} (valueLiteral litFalse r).1 (valueLiteral litFalse r).2
    else if k == 0x74 then .of .lit {} (valueLiteral litTrue r).1 (valueLiteral litTrue r).2
    else if k == 0x22 then .of .str (valueString o r).2.1 (valueString o r).1 (valueString o r).2.2
    else if k == 0x30 then .of .num {} (valueNumber r).1 (valueNumber r).2
    else if k == 0x7B then .tok .beginObj 1 {}
    else if k == 0x7D then .tok .endObj 1 {}
    else if k == 0x5B then .tok .beginArr 1 {}
    else if k == 0x5D then .tok .endArr 1 {}
    else .bad 0 .invalidChar

theorem ite_of {α : Sort _} {P : α → Prop} {c : Prop} [Decidable c] {a b : α} (ha : c → P a) (hb : ¬ c → P b) :
    P (if c then a else b) := by
  split
  · exact ha ‹_›
  · exact hb ‹_›

theorem ite_eq_app {α β : Sort _} (f : β → α) {c : Prop} [Decidable c] {a b : α} {s t : β} (ha : a = f s) (hb : ¬ c → b = f t) :
    (if c then a else b) = f (if c then s else t) := by
  split
  · exact ha
  · exact hb ‹_›

/-- a property of every answer of `scan` on `c :: tl`, from its four sources: the answer of one of the three scanners (by
the class of `c`), a bracket, a byte that starts no token -/
theorem scan_ind (o : VOpts) (c : UInt8) (tl : Bytes) (P : Scan → Prop)
    (hlit : ∀ l, LitKind c l → P (.of .lit {} (valueLiteral l (c :: tl)).1 (valueLiteral l (c :: tl)).2))
    (hstr : c = 0x22 → P (.of .str (valueString o (c :: tl)).2.1 (valueString o (c :: tl)).1 (valueString o (c :: tl)).2.2))
    (hnum : normKind c = 0x30 → P (.of .num {} (valueNumber (c :: tl)).1 (valueNumber (c :: tl)).2))
    (hbr : ∀ k : Kind, c = k.byte → k.opening = true ∨ k.closing = true → P (.tok k 1 {}))
    (hbad : normKind c = 0 → P (.bad 0 .invalidChar)) : P (scan o (c :: tl)) := by
  have self {k : UInt8} (h : (normKind c == k) = true) (h30 : k ≠ 0x30) (h0 : k ≠ 0) : c = k :=
    normKind_eq_self (beq_iff_eq.1 h) h30 h0
  refine ite_of (fun h => hlit _ (.inl ⟨beq_iff_eq.1 h, rfl⟩)) fun h1 => ?_
  refine ite_of (fun h => hlit _ (.inr (.inl ⟨beq_iff_eq.1 h, rfl⟩))) fun h2 => ?_
  refine ite_of (fun h => hlit _ (.inr (.inr ⟨beq_iff_eq.1 h, rfl⟩))) fun h3 => ?_
  refine ite_of (fun h => hstr (self h (by decide) (by decide))) fun h4 => ?_
  refine ite_of (fun h => hnum (beq_iff_eq.1 h)) fun h5 => ?_
  refine ite_of (fun h => hbr .beginObj (self h (by decide) (by decide)) (.inl rfl)) fun h6 => ?_
  refine ite_of (fun h => hbr .endObj (self h (by decide) (by decide)) (.inr rfl)) fun h7 => ?_
  refine ite_of (fun h => hbr .beginArr (self h (by decide) (by decide)) (.inl rfl)) fun h8 => ?_
  refine ite_of (fun h => hbr .endArr (self h (by decide) (by decide)) (.inr rfl)) fun h9 => hbad ?_
  rcases normKind_cases c with h | h | ⟨h, hc⟩
  · exact absurd (beq_iff_eq.2 h) h5
  · exact h
  · rw [h] at h1 h2 h3 h4 h6 h7 h8 h9
    rcases hc with rfl | rfl | rfl | rfl | rfl | rfl | rfl | rfl <;> simp at h1 h2 h3 h4 h6 h7 h8 h9

theorem Scan.of_tok {k k' : Kind} {fl fl' : ValueFlags} {n n' : Nat} {e : Err} (h : Scan.of k fl n e = .tok k' n' fl') :
    e = .ok ∧ k' = k ∧ n' = n ∧ fl' = fl := by
  unfold Scan.of at h
  split at h
  · cases h
  · rename_i he; cases h; exact ⟨by simpa using he, rfl, rfl, rfl⟩

theorem Scan.of_bad {k : Kind} {fl : ValueFlags} {n n' : Nat} {e e' : Err} (h : Scan.of k fl n e = .bad n' e') :
    e' = e ∧ n' = n ∧ e ≠ .ok := by
  unfold Scan.of at h
  split at h
  · rename_i he; cases h; exact ⟨rfl, rfl, by simpa using he⟩
  · cases h

theorem scan_tok {o : VOpts} {r : Bytes} {k : Kind} {n : Nat} {fl : ValueFlags} (h : scan o r = .tok k n fl) :
    1 ≤ n ∧ n ≤ r.length := by
  cases r with
  | nil => cases h
  | cons c tl =>
    revert h
    refine scan_ind o c tl (fun s => s = .tok k n fl → 1 ≤ n ∧ n ≤ (c :: tl).length) ?_ ?_ ?_ ?_ ?_
    · intro l hl h
      obtain ⟨he, -, rfl, -⟩ := Scan.of_tok h
      exact valueLiteral_len hl.ne_nil (Prod.ext rfl he)
    · intro _ h
      obtain ⟨he, -, rfl, -⟩ := Scan.of_tok h
      exact valueString_len (Prod.ext rfl (Prod.ext rfl he))
    · intro _ h
      obtain ⟨he, -, rfl, -⟩ := Scan.of_tok h
      exact valueNumber_len (Prod.ext rfl he)
    · intro k' _ _ h
      cases h
      exact ⟨Nat.le_refl 1, Nat.succ_le_succ (Nat.zero_le _)⟩
    · intro _ h; cases h

theorem scan_bad {o : VOpts} {r : Bytes} {n : Nat} {e : Err} (h : scan o r = .bad n e) : e ≠ .ok ∧ ¬ Bad e := by
  cases r with
  | nil => cases h; exact ⟨nofun, by rintro (h | h) <;> cases h⟩
  | cons c tl =>
    revert h
    refine scan_ind o c tl (fun s => s = .bad n e → e ≠ .ok ∧ ¬ Bad e) ?_ ?_ ?_ ?_ ?_
    · intro l _ h; obtain ⟨rfl, -, he⟩ := Scan.of_bad h; exact ⟨he, valueLiteral_no_fuel l _⟩
    · intro _ h; obtain ⟨rfl, -, he⟩ := Scan.of_bad h; exact ⟨he, valueString_no_fuel o _⟩
    · intro _ h; obtain ⟨rfl, -, he⟩ := Scan.of_bad h; exact ⟨he, valueNumber_no_fuel _⟩
    · intro k' _ _ h; cases h
    · intro _ h; cases h; exact ⟨nofun, by rintro (h | h) <;> cases h⟩

theorem scan_kind {o : VOpts} {c : UInt8} {tl : Bytes} {k : Kind} {n : Nat} {fl : ValueFlags}
    (h : scan o (c :: tl) = .tok k n fl) :
    c = k.byte ∨ ((k = .lit ∨ k = .num) ∧ ∀ k' : Kind, k' ≠ .lit → k' ≠ .num → c ≠ k'.byte) := by
  -- a bracket or a quote is its own class, and that is none of the four classes of scalars
  have scalar {x : UInt8} (hx : normKind c = x) (hc : x = 0x6E ∨ x = 0x66 ∨ x = 0x74 ∨ x = 0x30) :
      ∀ k' : Kind, k' ≠ .lit → k' ≠ .num → c ≠ k'.byte := by
    intro k' h1 h2 hc'
    have : normKind k'.byte = k'.byte ∧ k'.byte ≠ 0x6E ∧ k'.byte ≠ 0x66 ∧ k'.byte ≠ 0x74 ∧ k'.byte ≠ 0x30 := by
      cases k' <;> first | exact absurd rfl h1 | exact absurd rfl h2 | decide
    rw [hc', this.1] at hx
    rcases hc with rfl | rfl | rfl | rfl
    · exact this.2.1 hx
    · exact this.2.2.1 hx
    · exact this.2.2.2.1 hx
    · exact this.2.2.2.2 hx
  revert h
  refine scan_ind o c tl (fun s => s = .tok k n fl → _) ?_ ?_ ?_ ?_ ?_
  · intro l hl h
    obtain ⟨-, rfl, -, -⟩ := Scan.of_tok h
    refine .inr ⟨.inl rfl, ?_⟩
    rcases hl with ⟨hk, -⟩ | ⟨hk, -⟩ | ⟨hk, -⟩
    · exact scalar hk (.inl rfl)
    · exact scalar hk (.inr (.inl rfl))
    · exact scalar hk (.inr (.inr (.inl rfl)))
  · intro hc h; obtain ⟨-, rfl, -, -⟩ := Scan.of_tok h; exact .inl hc
  · intro hk h
    obtain ⟨-, rfl, -, -⟩ := Scan.of_tok h
    exact .inr ⟨.inr rfl, scalar hk (.inr (.inr (.inr rfl)))⟩
  · intro k' hc _ h; cases h; exact .inl hc
  · intro _ h; cases h

theorem scan_start {o : VOpts} {c : UInt8} {tl : Bytes} {k : Kind} {n : Nat} {fl : ValueFlags}
    (h : scan o (c :: tl) = .tok k n fl) : isWs c = false ∧ (c == 0x3A || c == 0x2C) = false := by
  have hk : normKind c ≠ 0 := by
    intro hk
    rw [show scan o (c :: tl) = .bad 0 .invalidChar by simp [scan, hk]] at h
    cases h
  refine ⟨?_, ?_⟩
  · cases hw : isWs c
    · rfl
    · simp only [isWs, Bool.or_eq_true, beq_iff_eq] at hw
      rcases hw with ((rfl | rfl) | rfl) | rfl <;> exact absurd (by decide) hk
  · cases hd : (c == 0x3A || c == 0x2C)
    · rfl
    · simp only [Bool.or_eq_true, beq_iff_eq] at hd
      rcases hd with rfl | rfl <;> exact absurd (by decide) hk

/-- what `consumeValue` makes of the answer of `scan`: a scalar is the value; a bracket opens a container or is refused -/
def valueOf (obj arr : Nat × Err) : Scan → Nat × Err
  | .bad n e => (n, e)
  | .tok .beginObj _ _ => obj
  | .tok .beginArr _ _ => arr
  | .tok .endObj _ _ => (0, .mismatchDelim)
  | .tok .endArr _ _ => (0, .invalidChar)
  | .tok _ n _ => (n, .ok)

theorem valueOf_of (obj arr : Nat × Err) (k : Kind) (hk : k = .lit ∨ k = .num ∨ k = .str) (fl : ValueFlags) (p : Nat × Err) :
    valueOf obj arr (.of k fl p.1 p.2) = p := by
  unfold Scan.of
  split
  · rfl
  · rename_i he
    have : p.2 = .ok := by simpa using he
    rcases hk with rfl | rfl | rfl <;> exact Prod.ext rfl this.symm

theorem consumeValue_scan (o : VOpts) (fuel D : Nat) (r : Bytes) :
    consumeValue o (fuel + 1) D r = valueOf (consumeObject o fuel D r) (consumeArray o fuel D r) (scan o r) := by
  cases r with
  | nil => simp only [consumeValue, scan, valueOf]
  | cons c t =>
    simp only [consumeValue, scan]
    have hs (k : Kind) (hk : k = .lit ∨ k = .num ∨ k = .str) (fl : ValueFlags) (p : Nat × Err) :
        p = valueOf (consumeObject o fuel D (c :: t)) (consumeArray o fuel D (c :: t)) (.of k fl p.1 p.2) :=
      (valueOf_of _ _ k hk fl p).symm
    refine ite_eq_app _ (hs .lit (.inl rfl) _ _) fun _ => ite_eq_app _ (hs .lit (.inl rfl) _ _) fun _ =>
      ite_eq_app _ (hs .lit (.inl rfl) _ _) fun _ => ite_eq_app _ (hs .str (.inr (.inr rfl)) _ (_, _)) fun _ =>
      ite_eq_app _ (hs .num (.inr (.inl rfl)) _ _) fun _ => ite_eq_app _ rfl fun h6 => ?_
    -- the two `switch`es list `[` and `}` in opposite order
    by_cases h7 : (normKind c == 0x5B) = true
    · have : (normKind c == 0x7D) = false := by rw [beq_iff_eq.1 h7]; decide
      simp only [h7, this, if_true, Bool.false_eq_true, if_false, valueOf]
    · by_cases h8 : (normKind c == 0x7D) = true
      · simp only [h7, h8, if_true, Bool.false_eq_true, if_false, valueOf]
      · by_cases h9 : (normKind c == 0x5D) = true
        · simp only [h7, h8, h9, if_true, Bool.false_eq_true, if_false, valueOf]
        · simp only [h7, h8, h9, Bool.false_eq_true, if_false, valueOf]

/-- what a token of kind `k` spelt `q` does to the namespaces: a member name is looked up and entered, a `{` opens a
namespace, a `}` drops one (all three only when duplicate names are refused) -/
def nsStep (o : VOpts) (st : TState) (k : Kind) (q : Bytes) (fl : ValueFlags) : Except Err (List (List Bytes)) :=
  match k with
  | .str =>
    if st.m.last.needObjectName && !o.allowDup then
      if !st.m.last.isValidNamespace then .error .invalidNamespace
      else if st.m.last.isActiveNamespace then
        match st.nss with
        | [] => .error .bug
        | names :: rest =>
          if names.contains (unescapedName q fl) then .error .dupName else .ok ((names ++ [unescapedName q fl]) :: rest)
      else .ok st.nss
    else .ok st.nss
  | .beginObj => .ok (if o.allowDup then st.nss else [] :: st.nss)
  | .endObj => .ok (if o.allowDup then st.nss else st.nss.drop 1)
  | _ => .ok st.nss

/-- a scanned token of kind `k` spelt `q` is offered to the decoder state: first the namespace, then the state machine -/
def offer (o : VOpts) (st : TState) (k : Kind) (q : Bytes) (fl : ValueFlags) : Except Err TState :=
  match nsStep o st k q fl with
  | .error e => .error e
  | .ok nss =>
    match smStep maxNestingDepth st.m k with
    | .error se => .error (smErr se)
    | .ok m' => .ok { m := m', nss := nss }

theorem offer_ok {o : VOpts} {st st' : TState} {k : Kind} {q : Bytes} {fl : ValueFlags} (h : offer o st k q fl = .ok st') :
    smStep maxNestingDepth st.m k = .ok st'.m ∧ nsStep o st k q fl = .ok st'.nss := by
  unfold offer at h
  cases hn : nsStep o st k q fl with
  | error e => rw [hn] at h; cases h
  | ok nss =>
    rw [hn] at h
    cases hs : smStep maxNestingDepth st.m k with
    | error se => rw [hs] at h; cases h
    | ok m' => rw [hs] at h; cases h; exact ⟨rfl, rfl⟩

theorem smErr_not_bad (e : SMErr) : ¬ Bad (smErr e) := by cases e <;> rintro (h | h) <;> cases h

theorem nsStep_err {o : VOpts} {st : TState} {k : Kind} {q : Bytes} {fl : ValueFlags} {e : Err}
    (h : nsStep o st k q fl = .error e) : e = .invalidNamespace ∨ e = .bug ∨ e = .dupName := by
  cases k <;> simp only [nsStep] at h <;> try cases h
  split at h
  · split at h
    · cases h; exact .inl rfl
    · split at h
      · split at h
        · cases h; exact .inr (.inl rfl)
        · split at h
          · cases h; exact .inr (.inr rfl)
          · cases h
      · cases h
  · cases h

theorem offer_err {o : VOpts} {st : TState} {k : Kind} {q : Bytes} {fl : ValueFlags} {e : Err}
    (h : offer o st k q fl = .error e) : ¬ Bad e := by
  unfold offer at h
  cases hn : nsStep o st k q fl with
  | error e' =>
    rw [hn] at h; cases h
    rcases nsStep_err hn with rfl | rfl | rfl <;> rintro (h | h) <;> cases h
  | ok nss =>
    rw [hn] at h
    cases hs : smStep maxNestingDepth st.m k with
    | error se => rw [hs] at h; cases h; exact smErr_not_bad se
    | ok m' => rw [hs] at h; cases h

/-- what ReadToken answers at `pos` once the token there has been scanned -/
def deliver (o : VOpts) (st : TState) (pos : Nat) (r : Bytes) : Scan → TRes
  | .bad n e => .err (pos + n) e
  | .tok k n fl =>
    match offer o st k (r.take n) fl with
    | .error e => .err pos e
    | .ok st' => .tok (pos + n) st'

theorem feed_eq (o : VOpts) (st : TState) (pos n : Nat) (k : Kind) (q : Bytes) (fl : ValueFlags)
    (hk : k = .lit ∨ k = .num ∨ k = .beginArr ∨ k = .endArr) :
    feed st pos n (smStep maxNestingDepth · k) =
      match offer o st k q fl with
      | .error e => .err pos e
      | .ok st' => .tok (pos + n) st' := by
  have hns : nsStep o st k q fl = .ok st.nss := by rcases hk with rfl | rfl | rfl | rfl <;> rfl
  simp only [feed, offer, hns]
  cases smStep maxNestingDepth st.m k <;> rfl

theorem feedString_eq (o : VOpts) (st : TState) (pos : Nat) (q : Bytes) (fl : ValueFlags) :
    feedString o st pos q fl =
      match offer o st .str q fl with
      | .error e => .err pos e
      | .ok st' => .tok (pos + q.length) st' := by
  have go (nss : List (List Bytes)) :
      (match st.m.appendString with
        | .error se => TRes.err pos (smErr se)
        | .ok m' => TRes.tok (pos + q.length) { m := m', nss := nss }) =
      (match (match smStep maxNestingDepth st.m .str with
          | .error se => (Except.error (smErr se) : Except Err TState)
          | .ok m' => Except.ok { m := m', nss := nss }) with
        | .error e => TRes.err pos e
        | .ok st' => TRes.tok (pos + q.length) st') := by
    show _ = (match (match st.m.appendString with
      | .error se => (Except.error (smErr se) : Except Err TState) | .ok m' => _) with | .error e => _ | .ok st' => _)
    cases st.m.appendString <;> rfl
  unfold feedString offer nsStep
  simp only
  by_cases h1 : st.m.last.needObjectName = true
  · by_cases h2 : o.allowDup = true
    · simp only [h1, h2, Bool.not_true, Bool.and_false, Bool.false_eq_true, if_false, if_true]; exact go _
    · have h2' : o.allowDup = false := by simpa using h2
      simp only [h1, h2', Bool.not_false, Bool.and_true, if_true]
      by_cases h3 : st.m.last.isValidNamespace = true
      · simp only [h3, Bool.not_true, Bool.false_eq_true, if_false]
        by_cases h4 : st.m.last.isActiveNamespace = true
        · simp only [h4, if_true]
          cases st.nss with
          | nil => rfl
          | cons names rest =>
            simp only
            by_cases h5 : names.contains (unescapedName q fl) = true
            · simp only [h5, if_true]
            · simp only [h5, Bool.false_eq_true, if_false]; exact go _
        · simp only [h4, Bool.false_eq_true, if_false]; exact go _
      · have h3' : st.m.last.isValidNamespace = false := by simpa using h3
        simp only [h3', Bool.not_false, if_true]
  · have h1' : st.m.last.needObjectName = false := by simpa using h1
    simp only [h1', Bool.false_and, Bool.false_eq_true, if_false]; exact go _

theorem lexToken_eq (o : VOpts) (st : TState) (pos : Nat) (r : Bytes) :
    lexToken o st pos r = deliver o st pos r (scan o r) := by
  cases r with
  | nil => rfl
  | cons c t =>
    have hof (k : Kind) (p : Nat × Err) (hk : k = .lit ∨ k = .num ∨ k = .beginArr ∨ k = .endArr) :
        (if p.2 != .ok then TRes.err (pos + p.1) p.2 else feed st pos p.1 (smStep maxNestingDepth · k)) =
          deliver o st pos (c :: t) (.of k {} p.1 p.2) := by
      unfold Scan.of
      split
      · rfl
      · exact feed_eq o st pos p.1 k _ _ hk
    have hbr (k : Kind) (hk : k = .lit ∨ k = .num ∨ k = .beginArr ∨ k = .endArr) :
        feed st pos 1 (smStep maxNestingDepth · k) = deliver o st pos (c :: t) (.tok k 1 {}) :=
      feed_eq o st pos 1 k _ _ hk
    have hstr : (match valueString o (c :: t) with
        | (n, fl, e) => if e != .ok then TRes.err (pos + n) e else feedString o st pos ((c :: t).take n) fl) =
        deliver o st pos (c :: t) (.of .str (valueString o (c :: t)).2.1 (valueString o (c :: t)).1 (valueString o (c :: t)).2.2) := by
      rcases hvs : valueString o (c :: t) with ⟨n, fl, e⟩
      simp only [Scan.of]
      split
      · rfl
      · rename_i he
        have he : e = .ok := by simpa using he
        subst he
        rw [feedString_eq]
        simp only [deliver, List.length_take, Nat.min_eq_left (valueString_len hvs).2]
    have hobj : (match st.m.pushObject maxNestingDepth with
        | .error se => TRes.err pos (smErr se)
        | .ok m' => .tok (pos + 1) { m := m', nss := if o.allowDup then st.nss else [] :: st.nss }) =
        deliver o st pos (c :: t) (.tok .beginObj 1 {}) := by
      simp only [deliver, offer, nsStep, smStep]
      cases Machine.pushObject maxNestingDepth st.m <;> rfl
    have hend : (match st.m.popObject with
        | .error se => TRes.err pos (smErr se)
        | .ok m' => .tok (pos + 1) { m := m', nss := if o.allowDup then st.nss else st.nss.drop 1 }) =
        deliver o st pos (c :: t) (.tok .endObj 1 {}) := by
      simp only [deliver, offer, nsStep, smStep]
      cases Machine.popObject st.m <;> rfl
    exact ite_eq_app _ (hof .lit _ (.inl rfl)) fun _ => ite_eq_app _ (hof .lit _ (.inl rfl)) fun _ =>
      ite_eq_app _ (hof .lit _ (.inl rfl)) fun _ => ite_eq_app _ hstr fun _ => ite_eq_app _ (hof .num _ (.inr (.inl rfl))) fun _ =>
      ite_eq_app _ hobj fun _ => ite_eq_app _ hend fun _ => ite_eq_app _ (hbr .beginArr (.inr (.inr (.inl rfl)))) fun _ =>
      ite_eq_app _ (hbr .endArr (.inr (.inr (.inr rfl)))) fun _ => rfl

/-- what ReadToken skips: blanks, then possibly one `:` or `,` and blanks again -/
structure Gap where
  /-- the blanks at the head of the input: where a delimiter error is reported -/
  w : Nat
  /-- the delimiter found (0: none) -/
  dl : UInt8
  /-- where the token starts -/
  pos : Nat

/-- the gap at the head of `r`: a `:` or `,` counts only where the first run of blanks ends -/
def gap (r : Bytes) : Gap :=
  match r.drop (consumeWhitespace r) with
  | [] => ⟨consumeWhitespace r, 0, consumeWhitespace r⟩
  | c :: rest =>
    if c == 0x3A || c == 0x2C then ⟨consumeWhitespace r, c, consumeWhitespace r + 1 + consumeWhitespace rest⟩
    else ⟨consumeWhitespace r, 0, consumeWhitespace r⟩

theorem gap_nil {r : Bytes} (hd : r.drop (consumeWhitespace r) = []) :
    gap r = ⟨consumeWhitespace r, 0, consumeWhitespace r⟩ := by
  simp only [gap, hd]

theorem gap_plain {r : Bytes} {c : UInt8} {rest : Bytes} (hd : r.drop (consumeWhitespace r) = c :: rest)
    (hc : (c == 0x3A || c == 0x2C) = false) : gap r = ⟨consumeWhitespace r, 0, consumeWhitespace r⟩ := by
  simp only [gap, hd, hc, Bool.false_eq_true, if_false]

theorem gap_delim {r : Bytes} {c : UInt8} {rest : Bytes} (hd : r.drop (consumeWhitespace r) = c :: rest)
    (hc : (c == 0x3A || c == 0x2C) = true) :
    gap r = ⟨consumeWhitespace r, c, consumeWhitespace r + 1 + consumeWhitespace rest⟩ := by
  simp only [gap, hd, hc, if_true]

theorem drop_past_delim {r : Bytes} {a : Nat} {c : UInt8} {rest : Bytes} (hd : r.drop a = c :: rest) (m : Nat) :
    r.drop (a + 1 + m) = rest.drop m := by
  rw [Nat.add_assoc, List.drop_add_of_drop hd, Nat.add_comm 1, List.drop_succ_cons]

theorem readToken_eq (o : VOpts) (st : TState) (r : Bytes) :
    readToken o st r =
      match r.drop (gap r).pos with
      | [] =>
        if (gap r).dl = 0 then .err (gap r).w (if st.m.depth == 1 then .ioEOF else .eof)
        else if st.m.needDelim 0x22 != (gap r).dl then .err (gap r).w .invalidChar else .err (gap r).pos .eof
      | c :: tl =>
        if st.m.needDelim (normKind c) != (gap r).dl then .err (gap r).w .invalidChar
        else deliver o st (gap r).pos (c :: tl) (scan o (c :: tl)) := by
  unfold readToken
  simp only
  cases hd : r.drop (consumeWhitespace r) with
  | nil => rw [gap_nil hd]; simp only [hd, if_true]
  | cons c rest =>
    simp only
    by_cases hc : (c == 0x3A || c == 0x2C) = true
    · have hne : c ≠ 0 := by rintro rfl; simp at hc
      rw [gap_delim hd hc, if_pos hc]
      simp only [drop_past_delim hd, hne, if_false]
      cases rest.drop (consumeWhitespace rest) with
      | nil => rfl
      | cons c1 rest1 => simp only [lexToken_eq]
    · rw [gap_plain hd (by simpa using hc), if_neg hc]
      simp only [hd, lexToken_eq]

theorem gap_spec (r : Bytes) :
    (gap r).w ≤ (gap r).pos ∧ (gap r).pos ≤ r.length ∧ JWs (r.take (gap r).w) ∧
    (((gap r).dl = 0 ∧ (gap r).pos = (gap r).w) ∨
     (((gap r).dl == 0x3A || (gap r).dl == 0x2C) = true ∧ ∃ w', JWs w' ∧
        r.take (gap r).pos = r.take (gap r).w ++ (gap r).dl :: w')) ∧
    ∀ c t, r.drop (gap r).pos = c :: t → isWs c = false ∧ ((gap r).dl = 0 → (c == 0x3A || c == 0x2C) = false) := by
  have hw := ws_take r
  have hle := ws_le r
  have stop {x : Bytes} {c : UInt8} {t : Bytes} (h : x.drop (consumeWhitespace x) = c :: t) : isWs c = false := by
    have := ws_stop x c t h; rw [← isWs_iff] at this; simpa using this
  cases hd : r.drop (consumeWhitespace r) with
  | nil =>
    rw [gap_nil hd]
    exact ⟨Nat.le_refl _, hle, hw, .inl ⟨rfl, rfl⟩, fun c t h => by rw [hd] at h; cases h⟩
  | cons c rest =>
    have hl := len_of_drop r _ c rest hd
    by_cases hc : (c == 0x3A || c == 0x2C) = true
    · rw [gap_delim hd hc]
      have hle' := ws_le rest
      refine ⟨by show consumeWhitespace r ≤ _ + 1 + _; omega, by show _ + 1 + _ ≤ _; omega, hw, .inr ⟨hc, _, ws_take rest, ?_⟩, ?_⟩
      · show r.take (_ + 1 + _) = _
        rw [Nat.add_assoc, List.take_add, hd, Nat.add_comm 1, List.take_succ_cons]
      · intro c1 t1 h
        rw [show (Gap.mk _ c (consumeWhitespace r + 1 + consumeWhitespace rest)).pos = _ from rfl, drop_past_delim hd] at h
        exact ⟨stop h, fun h0 => by rw [show c = 0 from h0] at hc; simp at hc⟩
    · rw [gap_plain hd (by simpa using hc)]
      refine ⟨Nat.le_refl _, hle, hw, .inl ⟨rfl, rfl⟩, ?_⟩
      intro c1 t1 h
      rw [show (Gap.mk (consumeWhitespace r) 0 (consumeWhitespace r)).pos = _ from rfl, hd] at h
      cases h
      exact ⟨stop hd, fun _ => by simpa using hc⟩

end JsonV.Lemmas.WireTokenStep

namespace JsonV.Lemmas.Position
open JsonV JsonV.Model JsonV.Model.Wire JsonV.Model.Validate JsonV.Model.TokenLoop JsonV.Spec JsonV.Spec.PDA
open JsonV.Spec.Grammar JsonV.Lemmas.StateRefine JsonV.Lemmas.WireBasic JsonV.Lemmas.WireValue JsonV.Lemmas.WireFuel
open JsonV.Lemmas.WireTokenStep

/-- Every byte is white space, `:` or `,`.  The number of separators is not bounded. -/
def Blank (p : Bytes) : Prop := ∀ c ∈ p, WsByte c ∨ c = 0x3A ∨ c = 0x2C

theorem blank_nil : Blank [] := by intro c hc; simp at hc
theorem blank_append {a b : Bytes} (ha : Blank a) (hb : Blank b) : Blank (a ++ b) := by
  intro c hc; rcases List.mem_append.mp hc with h | h; exact ha c h; exact hb c h
theorem blank_ws {a : Bytes} (h : JWs a) : Blank a := fun c hc => Or.inl (h c hc)

/-- The lexer that `lexToken` runs on a token starting with byte `c`: consumed length and verdict
(`none`: a delimiter or an invalid first byte — nothing is lexed). -/
def lexer (o : VOpts) (r : Bytes) : Option (Nat × Err) :=
  match r with
  | [] => none
  | c :: _ =>
    let k := normKind c
    if k == 0x6E then some (valueLiteral litNull r)
    else if k == 0x66 then some (valueLiteral litFalse r)
    else if k == 0x74 then some (valueLiteral litTrue r)
    else if k == 0x22 then some ((valueString o r).1, (valueString o r).2.2)
    else if k == 0x30 then some (valueNumber r)
    else none

theorem lexer_of_str (o : VOpts) {c : UInt8} (t : Bytes) (hk : normKind c = 0x22) :
    lexer o (c :: t) = some ((valueString o (c :: t)).1, (valueString o (c :: t)).2.2) := by
  simp [lexer, hk]

theorem lexer_of_num (o : VOpts) {c : UInt8} (t : Bytes) (hk : normKind c = 0x30) :
    lexer o (c :: t) = some (valueNumber (c :: t)) := by
  simp [lexer, hk]

/-- What `ReadToken` may return on unread input `r` in machine state `m`: one state-machine operation and an
offset within `r`; or an error, never the model's out-of-fuel class, whose offset is separated from the start of `r` only by
`Blank` bytes, or lies where the lexer gave up inside the token that starts after such bytes. -/
def ReadOutcome (o : VOpts) (m : Machine) (r : Bytes) : TRes → Prop
  | .tok n st' => ∃ k, smStep maxNestingDepth m k = .ok st'.m ∧ n ≤ r.length
  | .err k e => e ≠ .fuel ∧ (Blank (r.take k) ∨
      ∃ pos n, Blank (r.take pos) ∧ lexer o (r.drop pos) = some (n, e) ∧ e ≠ .ok ∧ k = pos + n)

theorem scan_bad_lexer {o : VOpts} {r : Bytes} {n : Nat} {e : Err} (h : scan o r = .bad n e) :
    lexer o r = some (n, e) ∨ n = 0 := by
  cases r with
  | nil => cases h; exact .inr rfl
  | cons c t =>
    revert h
    have hof (k : Kind) (fl : ValueFlags) (p : Nat × Err) : Scan.of k fl p.1 p.2 = .bad n e → some p = some (n, e) ∨ n = 0 :=
      fun h => by obtain ⟨rfl, rfl, -⟩ := Scan.of_bad h; exact .inl rfl
    -- the two `switch`es side by side; `lexer` stops after the five kinds that have a scanner
    have both {c : Prop} [Decidable c] {s t : Scan} {l m : Option (Nat × Err)}
        (ha : s = .bad n e → l = some (n, e) ∨ n = 0) (hb : t = .bad n e → m = some (n, e) ∨ n = 0) :
        (if c then s else t) = .bad n e → (if c then l else m) = some (n, e) ∨ n = 0 := by
      split <;> assumption
    refine both (hof _ _ _) <| both (hof _ _ _) <| both (hof _ _ _) <| both (hof .str _ (_, _)) <| both (hof _ _ _) ?_
    have tail {c : Prop} [Decidable c] {s t : Scan} (ha : s = .bad n e → n = 0) (hb : t = .bad n e → n = 0) :
        (if c then s else t) = .bad n e → n = 0 := by
      split <;> assumption
    intro h
    right
    revert h
    refine tail ?_ (tail ?_ (tail ?_ (tail ?_ ?_))) <;> intro h <;> cases h
    rfl

theorem readToken_outcome (o : VOpts) (st : TState) (r : Bytes) : ReadOutcome o st.m r (readToken o st r) := by
  obtain ⟨hwp, hpl, hw, hdl, -⟩ := gap_spec r
  have hbw : Blank (r.take (gap r).w) := blank_ws hw
  have hbp : Blank (r.take (gap r).pos) := by
    rcases hdl with ⟨-, h⟩ | ⟨hd, w', hw', h⟩
    · rw [h]; exact hbw
    · rw [h]
      refine blank_append hbw (fun x hx => ?_)
      rcases List.mem_cons.1 hx with rfl | hx
      · simp only [Bool.or_eq_true, beq_iff_eq] at hd; exact .inr hd
      · exact .inl (hw' x hx)
  rw [readToken_eq]
  cases hd : r.drop (gap r).pos with
  | nil =>
    exact ite_of (fun _ => ⟨by split <;> nofun, .inl hbw⟩) fun _ => ite_of (fun _ => ⟨nofun, .inl hbw⟩) fun _ => ⟨nofun, .inl hbp⟩
  | cons c tl =>
    refine ite_of (fun _ => ⟨nofun, .inl hbw⟩) fun _ => ?_
    cases hs : scan o (c :: tl) with
    | bad n e =>
      refine ⟨not_bad_fuel (scan_bad hs).2, ?_⟩
      rcases scan_bad_lexer hs with hl | rfl
      · exact .inr ⟨_, n, hbp, hd ▸ hl, (scan_bad hs).1, rfl⟩
      · exact .inl hbp
    | tok k n fl =>
      simp only [deliver]
      cases ho : offer o st k ((c :: tl).take n) fl with
      | error e => exact ⟨not_bad_fuel (offer_err ho), .inl hbp⟩
      | ok st' =>
        refine ⟨k, (offer_ok ho).1, ?_⟩
        have := len_of_drop r _ c tl hd
        have := (scan_tok hs).2
        rw [List.length_cons] at this; omega

end JsonV.Lemmas.Position
