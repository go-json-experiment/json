/-
C10 lemmas: jsonwire.ReformatNumber in closed form for every flag combination, stated with `numValue` and `shortInt`.  These two
and `maxExactIntegerDigits_eq` are declared here in namespace `JsonV.Lemmas.CanonAtom`, the name under which C10's and C13's
statements use them, because Lemmas/CanonAtom.lean imports this file.
-/
import JsonV.Model.Canon

namespace JsonV.Lemmas.CanonAtom
open JsonV JsonV.Model.Number JsonV.Canon

/-- The float64 value a literal is replaced by: `ParseFloat`, −0 → 0, ±Inf → ±MaxFloat64 (encode.go:280-288). -/
def numValue (fp : FloatCodec) (lit : Bytes) : Fl :=
  let fv := fp.parse lit
  if fv.isZero then { fv with neg := false } else if fv.inf then maxFloat64 fv.neg else fv

/-- The literals `ReformatNumber` copies verbatim under Canonicalize: integers (no `.`, `e`, `E`) shorter than
`maxExactIntegerDigits` characters, except `-0`. -/
def shortInt (lit : Bytes) : Bool :=
  !(lit == [45, 48]) && !(lit.any (fun c => c == 46 || c == 101 || c == 69)) &&
    decide (lit.length < maxExactIntegerDigits)

theorem maxExactIntegerDigits_eq : maxExactIntegerDigits = 16 := rfl

end JsonV.Lemmas.CanonAtom

namespace JsonV.Lemmas.NumReformat
open JsonV JsonV.Model.Number JsonV.Canon JsonV.Lemmas.CanonAtom

/-- The decision of `ReformatNumber` to copy the consumed number verbatim:
flags off; or (not `-0`) a float literal without CanonicalizeRawFloats; or (not `-0`) an integer literal without
CanonicalizeRawInts or shorter than 16 characters. -/
def verbatimB (ci cf : Bool) (lit : Bytes) : Bool :=
  !(ci || cf) ||
    (!(lit == [45, 48]) &&
      (if lit.any (fun c => c == 46 || c == 101 || c == 69) then !cf
       else !ci || decide (lit.length < maxExactIntegerDigits)))

theorem reformat_cases (fp : FloatCodec) (ci cf : Bool) (lit : Bytes) :
    reformatNumber fp.parse fp.append ci cf lit =
      if verbatimB ci cf lit then lit else fp.append (numValue fp lit) := by
  unfold reformatNumber verbatimB numValue
  by_cases h0 : (ci || cf) = true
  · by_cases h1 : lit = [45, 48]
    · subst h1; simp [h0]
    · by_cases h2 : (lit.any fun c => c == 46 || c == 101 || c == 69) = true
      · cases cf <;> simp [h0, h1, h2]
      · by_cases h3 : lit.length < maxExactIntegerDigits
        · simp [h0, h1, h2, h3]
        · cases ci <;> simp [h0, h1, h2, h3]
  · simp [h0]

theorem ite_cases {α : Sort _} (P : α → Prop) {c : Prop} [Decidable c] {a b : α} (ha : P a) (hb : P b) :
    P (if c then a else b) := by
  by_cases h : c
  · rwa [if_pos h]
  · rwa [if_neg h]

theorem reformat_or (pf : Bytes → Fl) (af : Fl → Bytes) (ci cf : Bool) (lit : Bytes) :
    reformatNumber pf af ci cf lit = lit ∨ ∃ f, reformatNumber pf af ci cf lit = af f :=
  ite_cases (fun r => r = lit ∨ ∃ f, r = af f) (Or.inl rfl)
    (ite_cases (fun r => r = lit ∨ ∃ f, r = af f) (Or.inl rfl) (Or.inr ⟨_, rfl⟩))

theorem verbatimB_off (lit : Bytes) : verbatimB false false lit = true := by simp [verbatimB]

theorem verbatimB_on (lit : Bytes) : verbatimB true true lit = shortInt lit := by
  simp only [verbatimB, shortInt, Bool.or_self, Bool.not_true, Bool.false_or]
  by_cases h2 : (lit.any fun c => c == 46 || c == 101 || c == 69) = true
  · simp [h2]
  · simp [h2]

theorem reformat_idem (fp : FloatCodec)
    (hre : ∀ lit, numValue fp (fp.append (numValue fp lit)) = numValue fp lit) (ci cf : Bool) (lit : Bytes) :
    reformatNumber fp.parse fp.append ci cf (reformatNumber fp.parse fp.append ci cf lit) =
      reformatNumber fp.parse fp.append ci cf lit := by
  rw [reformat_cases fp ci cf lit]
  by_cases hv : verbatimB ci cf lit = true
  · rw [if_pos hv, reformat_cases, if_pos hv]
  · rw [if_neg hv, reformat_cases]
    by_cases hv2 : verbatimB ci cf (fp.append (numValue fp lit)) = true
    · rw [if_pos hv2]
    · rw [if_neg hv2, hre lit]

end JsonV.Lemmas.NumReformat
