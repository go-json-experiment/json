/-
Lemmas for C16: positions on the token-path model of slice C01 (Model/TokenLoop.lean), from what one ReadToken may return
(`Position.ReadOutcome`, `readToken_outcome` in Lemmas/WireTokenStep.lean): every successful ReadToken applies exactly one
state-machine operation and consumes a prefix of the unread input; a failing ReadToken reports either an offset that is
separated from the last token only by white space and separator bytes (`Blank`; how many separators is not counted), or an
offset inside a token that the lexer rejected.
-/
import JsonV.Model.TokenLoop
import JsonV.Model.Pointer
import JsonV.Lemmas.StateRun
import JsonV.Lemmas.WireTokenStep

namespace JsonV.Lemmas.Position
open JsonV JsonV.Model JsonV.Model.Wire JsonV.Model.Validate JsonV.Model.TokenLoop JsonV.Spec JsonV.Spec.PDA
open JsonV.Spec.Grammar JsonV.Lemmas.StateRefine JsonV.Lemmas.StateRun
open JsonV.Lemmas.WireTokenStep

/-- `k` successive successful `ReadToken` calls: final state, `InputOffset` and the unread input
(`none`: one of the calls failed). -/
def reads (o : VOpts) : Nat → TState → Bytes → Nat → Option (TState × Nat × Bytes)
  | 0, st, r, off => some (st, off, r)
  | k + 1, st, r, off =>
    match readToken o st r with
    | .tok n st' => reads o k st' (r.drop n) (off + n)
    | .err _ _ => none

theorem reads_spec (o : VOpts) (k : Nat) : ∀ (st : TState) (r : Bytes) (off : Nat) (st' : TState) (off' : Nat) (rest : Bytes),
    reads o k st r off = some (st', off', rest) →
    ∃ ks, ks.length = k ∧ smRun maxNestingDepth st.m ks = .ok st'.m ∧
      off ≤ off' ∧ off' - off ≤ r.length ∧ rest = r.drop (off' - off) := by
  induction k with
  | zero =>
    intro st r off st' off' rest h
    simp only [reads, Option.some.injEq, Prod.mk.injEq] at h
    obtain ⟨rfl, rfl, rfl⟩ := h
    exact ⟨[], rfl, rfl, Nat.le_refl _, by simp, by simp⟩
  | succ k ih =>
    intro st r off st' off' rest h
    simp only [reads] at h
    split at h
    · rename_i n st1 hrt
      obtain ⟨kd, hkd, hn⟩ : ReadOutcome o st.m r (.tok n st1) := hrt ▸ readToken_outcome o st r
      obtain ⟨ks, hlen, hrun, h1, h2, h3⟩ := ih _ _ _ _ _ _ h
      refine ⟨kd :: ks, by simp [hlen], by simp [smRun, hkd, hrun], by omega, ?_, ?_⟩
      · simp only [List.length_drop] at h2; omega
      · rw [h3, List.drop_drop]; congr 1; omega
    · cases h

/-- `StackIndex` computed from the frames of the token-level grammar (outermost first). -/
def frameIndex (fs : Frames) (i : Nat) : Option (UInt8 × Nat) :=
  (fs.reverse[i]?).map fun f =>
    (if i = 0 then 0 else match f with | .obj _ => 0x7b | .arr _ => 0x5b, f.count)

theorem stackIndex_abs (m : Machine) (i : Nat) : Pointer.stackIndex m i = frameIndex (abs m) i := by
  unfold Pointer.stackIndex frameIndex
  have hrev : (abs m).reverse = m.stack.map absE ++ [absE m.last] := by simp [abs]
  rw [hrev]
  have hE : ∀ e : Entry, ((if i > 0 ∧ e.isObject then (0x7b : UInt8) else if i > 0 ∧ e.isArray then 0x5b else 0), e.length) =
      ((if i = 0 then (0 : UInt8) else match absE e with | .obj _ => 0x7b | .arr _ => 0x5b), (absE e).count) := by
    intro e
    rw [count_abs, StateEntry.isArray_not]
    by_cases hi : i = 0
    · simp [hi]
    · have : i > 0 := by omega
      cases ho : e.isObject <;> simp [hi, this, absE, ho]
  by_cases h1 : i = m.stack.length
  · subst h1
    simp [hE]
  · rw [if_neg h1]
    by_cases h2 : i < m.stack.length
    · rw [List.getElem?_append_left (by simpa using h2)]
      simp [List.getElem?_map, hE]
      cases m.stack[i]? <;> simp
    · have h3 : m.stack.length < i := by omega
      rw [List.getElem?_eq_none (by omega), List.getElem?_eq_none (by simp; omega)]
      rfl

theorem reads_kinds (o : VOpts) (k : Nat) (hk : k < 2^61) (b : Bytes) (st : TState) (off : Nat) (rest : Bytes)
    (h : reads o k {} b 0 = some (st, off, rest)) :
    ∃ ks, ks.length = k ∧ smRun maxNestingDepth Machine.init ks = .ok st.m ∧
      PDA.run maxNestingDepth PDA.init ks = some (abs st.m) ∧ off ≤ b.length ∧ rest = b.drop off := by
  obtain ⟨ks, hlen, hrun, _, h2, h3⟩ := reads_spec o k _ _ _ _ _ _ h
  have hR := run_refines (max := maxNestingDepth) ks (inv_init maxNestingDepth) (by omega)
  rw [abs_init, show smRun maxNestingDepth Machine.init ks = .ok st.m from hrun] at hR
  exact ⟨ks, hlen, hrun, hR.1, h2, h3⟩

/-- **index_spec / offset_spec** (C16) on the token-path model: after `k` successful `ReadToken` calls the kinds read are viable,
`StackDepth` / `StackIndex(i)` read off the machine are those of the grammar frames of that history, and `InputOffset` is the
length of the consumed prefix. -/
theorem index_offset_spec (o : VOpts) (k : Nat) (hk : k < 2^61) (b : Bytes) (st : TState) (off : Nat) (rest : Bytes)
    (h : reads o k {} b 0 = some (st, off, rest)) :
    (∃ ks fs, ks.length = k ∧ PDA.run maxNestingDepth PDA.init ks = some fs ∧ Viable maxNestingDepth ks ∧
      Pointer.stackDepth st.m = PDA.depth fs ∧ (∀ i, Pointer.stackIndex st.m i = frameIndex fs i) ∧
      st.m.depth + ks.countP Kind.closing = 1 + ks.countP Kind.opening) ∧
    off ≤ b.length ∧ rest = b.drop off ∧ b = b.take off ++ rest ∧ (b.take off).length = off := by
  obtain ⟨ks, hlen, _, hrun, hoff, hrest⟩ := reads_kinds o k hk b st off rest h
  refine ⟨⟨ks, abs st.m, hlen, hrun, by rw [Viable, hrun]; rfl, ?_, stackIndex_abs st.m, ?_⟩, hoff, hrest, ?_, ?_⟩
  · rw [Pointer.stackDepth, PDA.depth, depth_abs]
  · rw [depth_abs]; exact run_length hrun
  · rw [hrest, List.take_append_drop]
  · rw [List.length_take]; omega

/-- **err_viable (partial)** (C16): after `k` tokens `ReadToken` fails at offset `kk` of the unread input (as passed to
`wrapSyntacticError`).  The kinds read are viable, and the bytes from `InputOffset` to the error offset are `Blank`, unless the
error comes out of the lexer of the next token, `n` bytes inside it. -/
theorem err_viable_partial (o : VOpts) (k : Nat) (hk : k < 2^61) (b : Bytes) (st : TState) (off : Nat) (rest : Bytes)
    (h : reads o k {} b 0 = some (st, off, rest)) (kk : Nat) (e : Err) (herr : readToken o st rest = .err kk e) :
    (∃ ks, ks.length = k ∧ Viable maxNestingDepth ks ∧ smRun maxNestingDepth Machine.init ks = .ok st.m) ∧
    b.take (off + kk) = b.take off ++ (b.drop off).take kk ∧
    (Blank ((b.drop off).take kk) ∨
      ∃ pos n, Blank ((b.drop off).take pos) ∧ lexer o (b.drop (off + pos)) = some (n, e) ∧ e ≠ .ok ∧ kk = pos + n) := by
  obtain ⟨ks, hlen, hsm, hrun, _, hrest⟩ := reads_kinds o k hk b st off rest h
  refine ⟨⟨ks, hlen, by rw [Viable, hrun]; rfl, hsm⟩, List.take_add, ?_⟩
  have hout : ReadOutcome o st.m rest (.err kk e) := herr ▸ readToken_outcome o st rest
  rw [hrest] at hout
  simpa only [ReadOutcome, List.drop_drop] using hout.2

end JsonV.Lemmas.Position
