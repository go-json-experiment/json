/-
Association lists (`alookup`, `aset`, `akeys`) and
induction principles for the nested inductives `JTree` / `GoType` with membership-style hypotheses.
-/
import JsonV.Model.Unmarshal
import JsonV.Lemmas.Basics

namespace JsonV.Lemmas.Merge
open JsonV JsonV.Spec JsonV.Model

section Assoc
variable {α : Type}

theorem nodupB_iff (l : List Bytes) : nodupB l = true ↔ l.Nodup := by
  induction l with
  | nil => simp [nodupB]
  | cons a r ih => simp [nodupB, ih, List.nodup_cons]

theorem akeys_cons (p : Bytes × α) (r : List (Bytes × α)) : akeys (p :: r) = p.1 :: akeys r := rfl

theorem akeys_append (a b : List (Bytes × α)) : akeys (a ++ b) = akeys a ++ akeys b := by
  simp [akeys]

theorem alookup_none_iff (n : Bytes) (ms : List (Bytes × α)) : alookup n ms = none ↔ n ∉ akeys ms := by
  induction ms with
  | nil => simp [alookup, akeys]
  | cons p r ih =>
    obtain ⟨k, v⟩ := p
    by_cases h : k = n
    · simp [alookup, akeys, h]
    · simp [alookup, akeys_cons, h, ih, Ne.symm h]

theorem ahas_iff (n : Bytes) (ms : List (Bytes × α)) : ahas n ms = true ↔ n ∈ akeys ms := by
  have h := alookup_none_iff n ms
  rw [ahas]
  cases hl : alookup n ms <;> simp_all

theorem ahas_false_iff (n : Bytes) (ms : List (Bytes × α)) : ahas n ms = false ↔ n ∉ akeys ms := by
  rw [← ahas_iff]; cases ahas n ms <;> simp

theorem alookup_mem {n : Bytes} {v : α} {ms : List (Bytes × α)} (h : alookup n ms = some v) : (n, v) ∈ ms := by
  induction ms with
  | nil => simp [alookup] at h
  | cons p r ih =>
    obtain ⟨k, w⟩ := p
    by_cases hk : k = n
    · simp [alookup, hk] at h; subst h; subst hk; exact List.mem_cons_self
    · simp [alookup, hk] at h; exact List.mem_cons_of_mem _ (ih h)

theorem mem_akeys_of_mem {n : Bytes} {v : α} {ms : List (Bytes × α)} (h : (n, v) ∈ ms) : n ∈ akeys ms := by
  unfold akeys; exact List.mem_map.2 ⟨(n, v), h, rfl⟩

theorem alookup_of_mem {n : Bytes} {v : α} {ms : List (Bytes × α)} (hnd : (akeys ms).Nodup) (h : (n, v) ∈ ms) :
    alookup n ms = some v := by
  induction ms with
  | nil => cases h
  | cons p r ih =>
    obtain ⟨k, w⟩ := p
    rw [akeys_cons, List.nodup_cons] at hnd
    rcases List.mem_cons.1 h with e | e
    · cases e; simp [alookup]
    · have : k ≠ n := fun hk => hnd.1 (hk ▸ mem_akeys_of_mem e)
      simp [alookup, this, ih hnd.2 e]

theorem alookup_aset_same (n : Bytes) (v : α) (m : List (Bytes × α)) : alookup n (aset n v m) = some v := by
  induction m with
  | nil => simp [aset, alookup]
  | cons p r ih =>
    obtain ⟨k, w⟩ := p
    by_cases hk : k = n
    · simp [aset, hk, alookup]
    · simp [aset, hk, alookup, ih]

theorem alookup_aset_ne {k n : Bytes} (h : k ≠ n) (v : α) (m : List (Bytes × α)) :
    alookup n (aset k v m) = alookup n m := by
  induction m with
  | nil => simp [aset, alookup, h]
  | cons p r ih =>
    obtain ⟨k', w⟩ := p
    by_cases hk : k' = k
    · subst hk; simp [aset, alookup, h]
    · by_cases hn : k' = n
      · subst hn; simp [aset, hk, alookup]
      · simp [aset, hk, alookup, hn, ih]

theorem akeys_aset (n : Bytes) (v : α) (m : List (Bytes × α)) :
    akeys (aset n v m) = if (akeys m).contains n then akeys m else akeys m ++ [n] := by
  induction m with
  | nil => rfl
  | cons p r ih =>
    obtain ⟨k, w⟩ := p
    rw [aset, akeys_cons, List.contains_cons]
    by_cases hk : k = n
    · rw [if_pos hk, hk, beq_self_eq_true, Bool.true_or, if_pos rfl]; rfl
    · rw [if_neg hk, akeys_cons, ih, beq_false_of_ne (Ne.symm hk), Bool.false_or]
      by_cases hc : (akeys r).contains n = true
      · rw [if_pos hc, if_pos hc]
      · rw [if_neg hc, if_neg hc]; rfl

theorem nodup_akeys_aset (n : Bytes) (v : α) (m : List (Bytes × α)) (h : (akeys m).Nodup) :
    (akeys (aset n v m)).Nodup := by
  rw [akeys_aset]
  by_cases hc : (akeys m).contains n = true
  · rw [if_pos hc]; exact h
  · rw [if_neg hc]; exact List.nodup_concat h fun hm => hc (List.contains_iff_mem.2 hm)

theorem aext {a b : List (Bytes × α)} (hk : akeys a = akeys b) (hnd : (akeys a).Nodup)
    (hl : ∀ n, alookup n a = alookup n b) : a = b := by
  induction a generalizing b with
  | nil => cases b with | nil => rfl | cons q s => cases hk
  | cons p r ih =>
    cases b with
    | nil => cases hk
    | cons q s =>
      obtain ⟨k, v⟩ := p
      obtain ⟨k', v'⟩ := q
      obtain ⟨rfl, hk2⟩ : k = k' ∧ akeys r = akeys s := List.cons.inj hk
      rw [akeys_cons, List.nodup_cons] at hnd
      have hv : v = v' := by simpa [alookup] using hl k
      subst hv
      refine congrArg _ (ih hk2 hnd.2 fun n => ?_)
      by_cases hn : k = n
      · subst hn
        rw [(alookup_none_iff k r).2 hnd.1, (alookup_none_iff k s).2 (hk2 ▸ hnd.1)]
      · simpa [alookup, hn] using hl n

end Assoc

theorem eq_null_of_isNull {j : JTree} (h : j.isNull = true) : j = .null := by
  cases j <;> first | rfl | cases h

theorem JTree.induct {P : JTree → Prop}
    (hnull : P .null) (hbool : ∀ b, P (.bool b)) (hnum : ∀ l, P (.num l)) (hstr : ∀ s, P (.str s))
    (harr : ∀ xs, (∀ x ∈ xs, P x) → P (.arr xs))
    (hobj : ∀ ms : List (Bytes × JTree), (∀ n x, (n, x) ∈ ms → P x) → P (.obj ms)) : ∀ j, P j := by
  intro j
  refine JTree.rec (motive_1 := P) (motive_2 := fun xs => ∀ x ∈ xs, P x)
    (motive_3 := fun ms => ∀ n x, (n, x) ∈ ms → P x) (motive_4 := fun p => P p.2)
    hnull hbool hnum hstr harr hobj ?_ ?_ ?_ ?_ ?_ j
  · intro x hx; cases hx
  · intro h t ih1 ih2 x hx
    cases List.mem_cons.1 hx with
    | inl e => exact e ▸ ih1
    | inr e => exact ih2 x e
  · intro n x hx; cases hx
  · intro h t ih1 ih2 n x hx
    cases List.mem_cons.1 hx with
    | inl e => subst e; exact ih1
    | inr e => exact ih2 n x e
  · intro _ _ ih; exact ih

theorem GoType.induct {P : GoType → Prop}
    (hbool : P .bool) (hint : ∀ b, P (.int b)) (huint : ∀ b, P (.uint b)) (hfloat : P .float64)
    (hstring : P .string) (hslice : ∀ t, P t → P (.slice t)) (harray : ∀ n t, P t → P (.array n t))
    (hmap : ∀ t, P t → P (.map t)) (hptr : ∀ t, P t → P (.ptr t))
    (hstruct : ∀ fs : List (Bytes × GoType), (∀ n t, (n, t) ∈ fs → P t) → P (.struct fs))
    (hany : P .any) : ∀ T, P T := by
  intro T
  refine GoType.rec (motive_1 := P) (motive_2 := fun fs => ∀ n t, (n, t) ∈ fs → P t)
    (motive_3 := fun p => P p.2)
    hbool hint huint hfloat hstring hslice harray hmap hptr hstruct hany ?_ ?_ ?_ T
  · intro n x hx; cases hx
  · intro h t ih1 ih2 n x hx
    cases List.mem_cons.1 hx with
    | inl e => subst e; exact ih1
    | inr e => exact ih2 n x e
  · intro _ _ ih; exact ih

end JsonV.Lemmas.Merge
