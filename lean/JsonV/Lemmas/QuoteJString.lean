/-
For C02, from the C11 model: AppendQuote's output is a string of C01's grammar in the strict sense, hence accepted in
full by ConsumeString, for EVERY EscapeForHTML / EscapeForJS / AllowInvalidUTF8 combination and every input: it is a
literal with a meaning (`QuoteLiteral.appendQuote_literal`), and such a literal is a strict `JString`.
-/
import JsonV.Lemmas.GlueQuote
import JsonV.Lemmas.QuoteGrammar

namespace JsonV.Lemmas.QuoteJString
open JsonV JsonV.Model.Quote JsonV.Lemmas.QuoteGrammar

theorem appendQuote_is_jstring (f : QFlags) (v : Bool) (s : Bytes) : JsonV.Spec.Grammar.JString v (appendQuote f s).1 :=
  ⟨_, jchars_mono (jchars_of_unescapes (QuoteLiteral.quoteLoop_unescapes f.html f.js s)) v, rfl⟩

theorem consumeString_appendQuote (v : Bool) (f : QFlags) (s : Bytes) :
    ∃ nc, consumeString v (appendQuote f s).1 = ((appendQuote f s).1.length, Err.ok, nc) :=
  (GlueQuote.consumeString_grammar _ v _).mpr ⟨Nat.le_refl _, by rw [List.take_length]; exact appendQuote_is_jstring f v s⟩

end JsonV.Lemmas.QuoteJString
