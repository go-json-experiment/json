/-
The meaning spec's parsers (`Spec/Meaning.lean`) without unfolding them: for each parser the forward equations of one step
(`parseValue_obj`, `parseMembers_member`, …) and one inversion lemma saying what a successful run looks like (`…_some`), so
that proofs about accepted texts case on the shape of the run; `parseTreeF_iff` for the whole text; and the depth of the
parts of a tree below an offset.
-/
import JsonV.Spec.Meaning

namespace JsonV.Lemmas.MeaningParse
open JsonV JsonV.Spec.Meaning

theorem lexScalar_some {b : Bytes} {t : MTree} {rest : Bytes} (h : lexScalar b = some (t, rest)) :
    (∃ r s, b = 0x22 :: r ∧ lexStr r = some (s, rest) ∧ t = .str s) ∨
    (stripPrefix litNull b = some rest ∧ t = .null) ∨
    (stripPrefix litTrue b = some rest ∧ t = .bool true) ∨
    (stripPrefix litFalse b = some rest ∧ t = .bool false) ∨
    (∃ l, lexNum b = some (l, rest) ∧ t = .num l) := by
  have lit {p : Bytes} {x : MTree} (h : (stripPrefix p b).map (fun r' => (x, r')) = some (t, rest)) :
      stripPrefix p b = some rest ∧ t = x := by
    cases hs : stripPrefix p b with
    | none => rw [hs] at h; cases h
    | some r' => rw [hs] at h; cases h; exact ⟨rfl, rfl⟩
  cases b with
  | nil => cases h
  | cons c r =>
    unfold lexScalar at h
    dsimp only at h
    by_cases h22 : c = 0x22
    · rw [if_pos h22] at h
      cases hl : lexStr r with
      | none => rw [hl] at h; cases h
      | some p => obtain ⟨s, r'⟩ := p; rw [hl] at h; cases h; exact .inl ⟨r, s, by rw [h22], hl, rfl⟩
    rw [if_neg h22] at h
    by_cases h6e : c = 0x6E
    · rw [if_pos h6e] at h; exact .inr (.inl (lit h))
    rw [if_neg h6e] at h
    by_cases h74 : c = 0x74
    · rw [if_pos h74] at h; exact .inr (.inr (.inl (lit h)))
    rw [if_neg h74] at h
    by_cases h66 : c = 0x66
    · rw [if_pos h66] at h; exact .inr (.inr (.inr (.inl (lit h))))
    rw [if_neg h66] at h
    cases hn : lexNum (c :: r) with
    | none => rw [hn] at h; cases h
    | some p => obtain ⟨l, r'⟩ := p; rw [hn] at h; cases h; exact .inr (.inr (.inr (.inr ⟨l, rfl, rfl⟩)))

theorem lexScalar_str (r : Bytes) : lexScalar (0x22 :: r) = (lexStr r).map fun p => (.str p.1, p.2) := by
  rw [lexScalar, if_pos rfl]
  cases lexStr r <;> rfl

theorem lexScalar_num {c : UInt8} (r : Bytes) (h22 : c ≠ 0x22) (h6e : c ≠ 0x6E) (h74 : c ≠ 0x74) (h66 : c ≠ 0x66) :
    lexScalar (c :: r) = (lexNum (c :: r)).map fun p => (.num p.1, p.2) := by
  rw [lexScalar, if_neg h22, if_neg h6e, if_neg h74, if_neg h66]
  cases lexNum (c :: r) <;> rfl

theorem parseValue_nil (n : Nat) : parseValue n [] = none := by cases n <;> rfl

theorem parseValue_scalar (n : Nat) {k : UInt8} (r : Bytes) (h7 : k ≠ 0x7B) (h5 : k ≠ 0x5B) :
    parseValue (n+1) (k :: r) = lexScalar (k :: r) := by
  rw [parseValue, if_neg h7, if_neg h5]

theorem parseValue_close (n : Nat) (t : Bytes) : parseValue n (0x5D :: t) = none := by
  cases n with
  | zero => rfl
  | succ n => rw [parseValue_scalar n t (by decide) (by decide)]; rfl

theorem parseValue_obj (n : Nat) {r : Bytes} {k' : UInt8} {r' : Bytes} (hs : skipWs r = k' :: r') :
    parseValue (n+1) (0x7B :: r) =
      if k' = 0x7D then some (.obj [], r') else (parseMembers n (k' :: r')).map fun p => (.obj p.1, p.2) := by
  rw [parseValue, if_pos rfl, hs]
  dsimp only
  cases parseMembers n (k' :: r') <;> rfl

theorem parseValue_arr (n : Nat) {r : Bytes} {k' : UInt8} {r' : Bytes} (hs : skipWs r = k' :: r') :
    parseValue (n+1) (0x5B :: r) =
      if k' = 0x5D then some (.arr [], r') else (parseElems n (k' :: r')).map fun p => (.arr p.1, p.2) := by
  rw [parseValue, if_neg (by decide), if_pos rfl, hs]
  dsimp only
  cases parseElems n (k' :: r') <;> rfl

theorem parseValue_succ_some {n : Nat} {b : Bytes} {t : MTree} {rest : Bytes}
    (h : parseValue (n+1) b = some (t, rest)) :
    (∃ r, b = 0x7B :: r ∧ skipWs r = 0x7D :: rest ∧ t = .obj []) ∨
    (∃ r k' r' ms, b = 0x7B :: r ∧ skipWs r = k' :: r' ∧ k' ≠ 0x7D ∧
      parseMembers n (k' :: r') = some (ms, rest) ∧ t = .obj ms) ∨
    (∃ r, b = 0x5B :: r ∧ skipWs r = 0x5D :: rest ∧ t = .arr []) ∨
    (∃ r k' r' xs, b = 0x5B :: r ∧ skipWs r = k' :: r' ∧ k' ≠ 0x5D ∧
      parseElems n (k' :: r') = some (xs, rest) ∧ t = .arr xs) ∨
    (∃ k r, b = k :: r ∧ k ≠ 0x7B ∧ k ≠ 0x5B ∧ lexScalar b = some (t, rest)) := by
  cases b with
  | nil => cases h
  | cons k r =>
    by_cases h7 : k = 0x7B
    · subst h7
      cases hs : skipWs r with
      | nil => rw [parseValue, if_pos rfl, hs] at h; cases h
      | cons k' r' =>
        rw [parseValue_obj n hs] at h
        by_cases h7d : k' = 0x7D
        · rw [if_pos h7d] at h; cases h; exact .inl ⟨r, rfl, by rw [hs, h7d], rfl⟩
        rw [if_neg h7d] at h
        obtain ⟨⟨ms, r''⟩, hm, hp⟩ := Option.map_eq_some_iff.mp h
        cases hp
        exact .inr (.inl ⟨r, k', r', ms, rfl, hs, h7d, hm, rfl⟩)
    by_cases h5 : k = 0x5B
    · subst h5
      cases hs : skipWs r with
      | nil => rw [parseValue, if_neg (by decide), if_pos rfl, hs] at h; cases h
      | cons k' r' =>
        rw [parseValue_arr n hs] at h
        by_cases h5d : k' = 0x5D
        · rw [if_pos h5d] at h; cases h; exact .inr (.inr (.inl ⟨r, rfl, by rw [hs, h5d], rfl⟩))
        rw [if_neg h5d] at h
        obtain ⟨⟨xs, r''⟩, hm, hp⟩ := Option.map_eq_some_iff.mp h
        cases hp
        exact .inr (.inr (.inr (.inl ⟨r, k', r', xs, rfl, hs, h5d, hm, rfl⟩)))
    rw [parseValue_scalar n r h7 h5] at h
    exact .inr (.inr (.inr (.inr ⟨k, r, rfl, h7, h5, h⟩)))

theorem parseMembers_member (n : Nat) {r name r1 r2 : Bytes} {v : MTree} {r3 : Bytes} {k4 : UInt8} {r4 : Bytes}
    (hl : lexStr r = some (name, r1)) (hs1 : skipWs r1 = 0x3A :: r2) (hv : parseValue n (skipWs r2) = some (v, r3))
    (hs3 : skipWs r3 = k4 :: r4) :
    parseMembers (n+1) (0x22 :: r) =
      if k4 = 0x2C then (parseMembers n (skipWs r4)).map fun p => ((name, v) :: p.1, p.2)
      else if k4 = 0x7D then some ([(name, v)], r4) else none := by
  rw [parseMembers, if_pos rfl, hl]
  dsimp only
  rw [hs1]
  dsimp only
  rw [if_pos rfl, hv]
  dsimp only
  rw [hs3]
  dsimp only
  cases parseMembers n (skipWs r4) <;> rfl

theorem parseMembers_succ_some {n : Nat} {b : Bytes} {ms : List (Bytes × MTree)} {rest : Bytes}
    (h : parseMembers (n+1) b = some (ms, rest)) :
    ∃ r name r1 r2 v r3 k4 r4, b = 0x22 :: r ∧ lexStr r = some (name, r1) ∧ skipWs r1 = 0x3A :: r2 ∧
      parseValue n (skipWs r2) = some (v, r3) ∧ skipWs r3 = k4 :: r4 ∧
      ((k4 = 0x2C ∧ ∃ ms', parseMembers n (skipWs r4) = some (ms', rest) ∧ ms = (name, v) :: ms') ∨
       (k4 = 0x7D ∧ ms = [(name, v)] ∧ rest = r4)) := by
  cases b with
  | nil => cases h
  | cons k r =>
    unfold parseMembers at h
    dsimp only at h
    by_cases hk : k ≠ 0x22
    · rw [if_neg hk] at h; cases h
    obtain rfl := Decidable.not_not.mp hk
    rw [if_pos rfl] at h
    cases hl : lexStr r with
    | none => rw [hl] at h; cases h
    | some p =>
      obtain ⟨name, r1⟩ := p
      rw [hl] at h
      dsimp only at h
      cases hs1 : skipWs r1 with
      | nil => rw [hs1] at h; cases h
      | cons k2 r2 =>
        rw [hs1] at h
        dsimp only at h
        by_cases h2 : k2 ≠ 0x3A
        · rw [if_neg h2] at h; cases h
        obtain rfl := Decidable.not_not.mp h2
        rw [if_pos rfl] at h
        cases hv : parseValue n (skipWs r2) with
        | none => rw [hv] at h; cases h
        | some q =>
          obtain ⟨v, r3⟩ := q
          rw [hv] at h
          dsimp only at h
          cases hs3 : skipWs r3 with
          | nil => rw [hs3] at h; cases h
          | cons k4 r4 =>
            rw [hs3] at h
            dsimp only at h
            refine ⟨r, name, r1, r2, v, r3, k4, r4, rfl, hl, hs1, hv, hs3, ?_⟩
            by_cases h4 : k4 = 0x2C
            · rw [if_pos h4] at h
              cases hm : parseMembers n (skipWs r4) with
              | none => rw [hm] at h; cases h
              | some q2 => obtain ⟨ms', r5⟩ := q2; rw [hm] at h; cases h; exact .inl ⟨h4, ms', rfl, rfl⟩
            rw [if_neg h4] at h
            by_cases h5 : k4 = 0x7D
            · rw [if_pos h5] at h; cases h; exact .inr ⟨h5, rfl, rfl⟩
            · rw [if_neg h5] at h; cases h

theorem parseElems_elem (n : Nat) {b : Bytes} {v : MTree} {r3 : Bytes} {k4 : UInt8} {r4 : Bytes}
    (hv : parseValue n b = some (v, r3)) (hs3 : skipWs r3 = k4 :: r4) :
    parseElems (n+1) b =
      if k4 = 0x2C then (parseElems n (skipWs r4)).map fun p => (v :: p.1, p.2)
      else if k4 = 0x5D then some ([v], r4) else none := by
  rw [parseElems, hv]
  dsimp only
  rw [hs3]
  dsimp only
  cases parseElems n (skipWs r4) <;> rfl

theorem parseElems_succ_some {n : Nat} {b : Bytes} {xs : List MTree} {rest : Bytes}
    (h : parseElems (n+1) b = some (xs, rest)) :
    ∃ v r3 k4 r4, parseValue n b = some (v, r3) ∧ skipWs r3 = k4 :: r4 ∧
      ((k4 = 0x2C ∧ ∃ xs', parseElems n (skipWs r4) = some (xs', rest) ∧ xs = v :: xs') ∨
       (k4 = 0x5D ∧ xs = [v] ∧ rest = r4)) := by
  unfold parseElems at h
  cases hv : parseValue n b with
  | none => rw [hv] at h; cases h
  | some q =>
    obtain ⟨v, r3⟩ := q
    rw [hv] at h
    dsimp only at h
    cases hs3 : skipWs r3 with
    | nil => rw [hs3] at h; cases h
    | cons k4 r4 =>
      rw [hs3] at h
      dsimp only at h
      refine ⟨v, r3, k4, r4, rfl, hs3, ?_⟩
      by_cases h4 : k4 = 0x2C
      · rw [if_pos h4] at h
        cases hm : parseElems n (skipWs r4) with
        | none => rw [hm] at h; cases h
        | some q2 => obtain ⟨xs', r5⟩ := q2; rw [hm] at h; cases h; exact .inl ⟨h4, xs', rfl, rfl⟩
      rw [if_neg h4] at h
      by_cases h5 : k4 = 0x5D
      · rw [if_pos h5] at h; cases h; exact .inr ⟨h5, rfl, rfl⟩
      · rw [if_neg h5] at h; cases h

theorem parseTreeF_iff {n : Nat} {b : Bytes} {t : MTree} :
    parseTreeF n b = some t ↔ ∃ rest, parseValue n (skipWs b) = some (t, rest) ∧ (skipWs rest).isEmpty = true := by
  unfold parseTreeF
  cases parseValue n (skipWs b) with
  | none => exact ⟨fun h => (nomatch h), fun ⟨_, h, _⟩ => (nomatch h)⟩
  | some q =>
    obtain ⟨t', r⟩ := q
    constructor
    · intro h
      obtain ⟨hws, h⟩ := Option.ite_none_right_eq_some.mp h
      cases h
      exact ⟨r, rfl, hws⟩
    · rintro ⟨rest, h, hws⟩
      cases h
      exact if_pos hws

theorem depth_obj_le {d m : Nat} {ms : List (Bytes × MTree)} (h : d + (MTree.obj ms).depth ≤ m) :
    d < m ∧ d + 1 + depthMembers ms ≤ m := by
  simp only [MTree.depth] at h; omega

theorem depth_arr_le {d m : Nat} {xs : List MTree} (h : d + (MTree.arr xs).depth ≤ m) :
    d < m ∧ d + 1 + depthList xs ≤ m := by
  simp only [MTree.depth] at h; omega

theorem depthMembers_cons_le {d m : Nat} {name : Bytes} {v : MTree} {ms : List (Bytes × MTree)}
    (h : d + depthMembers ((name, v) :: ms) ≤ m) : d + v.depth ≤ m ∧ d + depthMembers ms ≤ m := by
  simp only [depthMembers] at h; omega

theorem depthList_cons_le {d m : Nat} {v : MTree} {xs : List MTree} (h : d + depthList (v :: xs) ≤ m) :
    d + v.depth ≤ m ∧ d + depthList xs ≤ m := by
  simp only [depthList] at h; omega

end JsonV.Lemmas.MeaningParse
