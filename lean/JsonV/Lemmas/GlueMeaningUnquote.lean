/-
The RFC 8259 meaning of a string literal in the two specifications: the function `Spec.Meaning.unescape` (C03) refines the
relation `Spec.StringSpec.StringLiteral` (C11), `stringLiteral_of_unescape`.  Hence what C11 proves of the model of
jsonwire.AppendUnquote (`GlueQuote.wire_unquote_meaning`) holds of every literal the meaning spec accepts: it is unquoted to
its meaning with a nil error.  One direction only: nothing is said here about literals the spec rejects.
-/
import JsonV.Lemmas.GlueMeaningStr
import JsonV.Lemmas.GlueQuote

namespace JsonV.Lemmas.GlueMeaningUnquote
open JsonV JsonV.Spec.Meaning JsonV.Model
open JsonV.Spec.StringSpec (StringLiteral)
open JsonV.Lemmas.GlueMeaningStr JsonV.Lemmas.MeaningStr

theorem stringLiteral_of_unescape {q s : Bytes} (h : unescape q = some s) : StringLiteral q s := by
  obtain ⟨r, rfl, hl⟩ := unescape_iff.mp h
  obtain ⟨body, rfl, hb⟩ := unescapes_of_strBody _ r s [] hl
  exact ⟨body, rfl, hb⟩

theorem unescape_eq_unquote (q s : Bytes) (h : unescape q = some s) : Wire.unquote q = (s, .ok) :=
  GlueQuote.wire_unquote_meaning q s (stringLiteral_of_unescape h)

end JsonV.Lemmas.GlueMeaningUnquote
