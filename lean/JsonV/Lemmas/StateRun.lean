/-
Run-level consequences of the refinement (Lemmas/StateRefine.lean): whole token sequences,
depth/length bookkeeping, delimiter and indentation characterisation.
-/
import JsonV.Lemmas.StateRefine
import JsonV.Lemmas.StateStep

namespace JsonV.Lemmas.StateRun
open JsonV.Model JsonV.Spec JsonV.Spec.PDA JsonV.Lemmas.StateEntry JsonV.Lemmas.StateRefine JsonV.Lemmas.StateStep

/-- The bottom frame is the virtual top-level array. -/
def BottomArr (fs : Frames) : Prop := ∃ n, fs.getLast? = some (.arr n)

theorem bottomArr_init : BottomArr PDA.init := ⟨0, rfl⟩

theorem bottomArr_bump {f : Frame} {rest : List Frame} (h : BottomArr (f :: rest)) :
    BottomArr (f.bump :: rest) := by
  cases rest with
  | nil =>
    obtain ⟨n, hn⟩ := h
    simp at hn; subst hn
    exact ⟨n + 1, rfl⟩
  | cons g r =>
    obtain ⟨n, hn⟩ := h
    exact ⟨n, by rw [List.getLast?_cons_cons] at hn ⊢; exact hn⟩

theorem bottomArr_push {f g : Frame} {rest : List Frame} (h : BottomArr (f :: rest)) :
    BottomArr (g :: f :: rest) := by
  obtain ⟨n, hn⟩ := h
  exact ⟨n, by rw [List.getLast?_cons_cons]; exact hn⟩

theorem bottomArr_pop {f g : Frame} {rest : List Frame} (h : BottomArr (f :: g :: rest)) :
    BottomArr (g :: rest) := by
  obtain ⟨n, hn⟩ := h
  exact ⟨n, by rw [List.getLast?_cons_cons] at hn; exact hn⟩

theorem step_value {max : Nat} {f : Frame} {r0 : List Frame} (k : Kind) (hf : f.needName = false)
    (hk : k = .lit ∨ k = .str ∨ k = .num) : step max (f :: r0) k = some (f.bump :: r0) := by
  rcases hk with rfl | rfl | rfl
  · exact step_iff.mpr (.lit hf)
  · exact step_iff.mpr .str
  · exact step_iff.mpr (.num hf)

theorem step_beginObj {max : Nat} {f : Frame} {r0 : List Frame} (hf : f.needName = false) (hl : r0.length < max) :
    step max (f :: r0) .beginObj = some (.obj 0 :: f.bump :: r0) := step_iff.mpr (.beginObj hf hl)

theorem step_beginArr {max : Nat} {f : Frame} {r0 : List Frame} (hf : f.needName = false) (hl : r0.length < max) :
    step max (f :: r0) .beginArr = some (.arr 0 :: f.bump :: r0) := step_iff.mpr (.beginArr hf hl)

theorem step_endObj {max n : Nat} {g : Frame} {r : List Frame} (hn : n % 2 = 0) :
    step max (.obj n :: g :: r) .endObj = some (g :: r) := step_iff.mpr (.endObj hn)

theorem step_endArr {max n : Nat} {g : Frame} {r : List Frame} : step max (.arr n :: g :: r) .endArr = some (g :: r) :=
  rfl

theorem step_shape {max : Nat} {fs fs' : Frames} {k : Kind} (h : step max fs k = some fs') :
    ∃ f rest, fs = f :: rest ∧
      ((k.opening = false ∧ k.closing = false ∧ fs' = f.bump :: rest) ∨
       (k.opening = true ∧ k.closing = false ∧ ∃ g, fs' = g :: f.bump :: rest) ∨
       (k.opening = false ∧ k.closing = true ∧ ∃ g rest', rest = g :: rest' ∧ fs' = rest)) := by
  cases step_iff.mp h
  case beginObj | beginArr => exact ⟨_, _, rfl, .inr (.inl ⟨rfl, rfl, _, rfl⟩)⟩
  case endObj | endArr => exact ⟨_, _, rfl, .inr (.inr ⟨rfl, rfl, _, _, rfl, rfl⟩)⟩
  all_goals exact ⟨_, _, rfl, .inl ⟨rfl, rfl, rfl⟩⟩

theorem step_bottomArr {max : Nat} {fs fs' : Frames} {k : Kind}
    (h : step max fs k = some fs') (hb : BottomArr fs) : BottomArr fs' := by
  obtain ⟨f, rest, rfl, ⟨-, -, rfl⟩ | ⟨-, -, g, rfl⟩ | ⟨-, -, g, rest', rfl, rfl⟩⟩ := step_shape h
  · exact bottomArr_bump hb
  · exact bottomArr_push (bottomArr_bump hb)
  · exact bottomArr_pop hb

theorem step_length {max : Nat} {fs fs' : Frames} {k : Kind} (h : step max fs k = some fs') :
    fs'.length + (if k.closing then 1 else 0) = fs.length + (if k.opening then 1 else 0) := by
  obtain ⟨f, rest, rfl, ⟨ho, hc, rfl⟩ | ⟨ho, hc, g, rfl⟩ | ⟨ho, hc, g, rest', rfl, rfl⟩⟩ := step_shape h <;>
    rw [ho, hc] <;> rfl

theorem run_length {max : Nat} {ks : List Kind} : ∀ {fs fs' : Frames}, run max fs ks = some fs' →
    fs'.length + ks.countP Kind.closing = fs.length + ks.countP Kind.opening := by
  induction ks with
  | nil => intro fs fs' h; cases h; rfl
  | cons k ks ih =>
    intro fs fs' h
    simp only [run] at h
    split at h
    · rename_i fs1 h1
      have := step_length h1
      have := ih h
      rw [List.countP_cons, List.countP_cons]
      omega
    · cases h

theorem run_bottomArr {max : Nat} {ks : List Kind} : ∀ {fs fs' : Frames}, run max fs ks = some fs' →
    BottomArr fs → BottomArr fs' := by
  induction ks with
  | nil => intro fs fs' h hb; simp [run] at h; subst h; exact hb
  | cons k ks ih =>
    intro fs fs' h hb
    simp only [run] at h
    split at h
    · rename_i fs1 h1
      exact ih h (step_bottomArr h1 hb)
    · cases h

theorem run_refines {max : Nat} (ks : List Kind) : ∀ {b : Nat} {m : Machine}, Inv max b m →
    b + ks.length < 2^61 →
    match smRun max m ks with
    | .ok m' => run max (abs m) ks = some (abs m') ∧ Inv max (b + ks.length) m'
    | .error _ => run max (abs m) ks = none := by
  induction ks with
  | nil => intro b m h _; simp [smRun, run]; exact h
  | cons k ks ih =>
    intro b m h hb
    have hb1 : b + 1 < 2^61 := by simp at hb; omega
    simp only [smRun, run]
    rcases step_cases h hb1 k with ⟨m1, hk, hs1, hs2⟩ | ⟨e, hk, hs⟩ <;> rw [hk]
    · have := ih hs2 (by simp at hb ⊢; omega)
      simp only [hs1]
      cases hr : smRun max m1 ks with
      | error e => rw [hr] at this; exact this
      | ok m2 =>
        rw [hr] at this
        refine ⟨this.1, ?_⟩
        have h3 := this.2
        have : b + 1 + ks.length = b + (k :: ks).length := by simp; omega
        rw [this] at h3; exact h3
    · simp [hs]

/-- The byte `Machine.needDelim` returns for a delimiter of the specification (0 for none). -/
def delimByte : Delim → UInt8
  | .none => 0 | .colon => 0x3a | .comma => 0x2c

theorem byte_closing (k : Kind) : (k.byte == 0x7d || k.byte == 0x5d) = k.closing := by
  cases k <;> decide
theorem byte_not_closing (k : Kind) : (k.byte != 0x7d && k.byte != 0x5d) = !k.closing := by
  cases k <;> decide

theorem comma_abs (e : Entry) (k : Kind) :
    e.needImplicitComma k.byte = (!(absE e).needValue && decide ((absE e).count > 0) && !k.closing) := by
  simp only [Entry.needImplicitComma, Bool.and_assoc, byte_not_closing, needValue_abs, count_abs]

theorem needDelim_congr (m : Machine) (a b : UInt8)
    (h : (a != 0x7d && a != 0x5d) = (b != 0x7d && b != 0x5d)) : m.needDelim a = m.needDelim b := by
  simp only [Machine.needDelim, Entry.needImplicitComma, Bool.and_assoc, h]

theorem needDelim_abs {m : Machine} (hb : BottomArr (abs m)) (k : Kind) :
    m.needDelim k.byte = delimByte (delim (abs m) k) := by
  obtain ⟨s, l⟩ := m
  simp only [Machine.needDelim, Entry.needImplicitColon, comma_abs, ← needValue_abs]
  rcases List.eq_nil_or_concat s with hs | ⟨L, x, hs⟩
  · subst hs
    obtain ⟨n, hn⟩ := hb
    simp [abs] at hn
    simp [abs, delim, hn, Frame.needValue, delimByte]
  · rw [List.concat_eq_append] at hs; subst hs
    simp only [abs_push, delim]
    cases hv : (absE l).needValue <;> cases hc : k.closing <;>
      by_cases h0 : (absE l).count > 0 <;> simp [h0, delimByte]

theorem count_ne_zero_of_needValue {f : Frame} (hv : f.needValue = true) : f.count ≠ 0 := by
  intro h0
  cases f <;> simp_all [Frame.needValue, Frame.count]

theorem needIndent_abs (m : Machine) (k : Kind) : m.needIndent k.byte = indent (abs m) k := by
  obtain ⟨s, l⟩ := m
  simp only [Machine.needIndent, byte_closing, comma_abs, ← count_abs, Machine.depth]
  rcases List.eq_nil_or_concat s with hs | ⟨L, x, hs⟩
  · subst hs; simp [abs, indent]
  · rw [List.concat_eq_append] at hs; subst hs
    simp only [abs_push, indent]
    cases hv : (absE l).needValue <;> cases hc : k.closing <;>
      by_cases h0 : (absE l).count = 0 <;> simp [h0]
    exact count_ne_zero_of_needValue hv h0

theorem depth_abs (m : Machine) : m.depth = (abs m).length := by
  simp [Machine.depth, abs]

theorem last_length_abs (m : Machine) : m.last.length = ((abs m).head (by simp [abs])).count := by
  simp [abs, count_abs]

/-- Run a sequence; a rejected operation leaves the machine as it is (state.go: "If an error is
returned, the state is not mutated") and the run continues. -/
def smRunSkip (max : Nat) : Machine → List Kind → Machine
  | m, [] => m
  | m, k :: ks => match smStep max m k with
    | .ok m' => smRunSkip max m' ks
    | .error _ => smRunSkip max m ks

/-- The operations of a sequence that are accepted when it is run from `m`. -/
def smAccepted (max : Nat) : Machine → List Kind → List Kind
  | _, [] => []
  | m, k :: ks => match smStep max m k with
    | .ok m' => k :: smAccepted max m' ks
    | .error _ => smAccepted max m ks

theorem smRun_accepted (max : Nat) (ks : List Kind) : ∀ m : Machine,
    smRun max m (smAccepted max m ks) = .ok (smRunSkip max m ks) := by
  induction ks with
  | nil => intro m; rfl
  | cons k ks ih =>
    intro m
    cases h : smStep max m k with
    | ok m' => simp only [smAccepted, smRunSkip, smRun, h]; exact ih m'
    | error e => simp only [smAccepted, smRunSkip, h]; exact ih m

end JsonV.Lemmas.StateRun
