/-
Lemmas about duplicate detection in struct unmarshaling (C08): names resolving to declared fields are checked
with the `seenIdxs` bit set, all other names with the object's namespace.
-/
import JsonV.Lemmas.DupUintSet
import JsonV.Lemmas.DupNamespace

namespace JsonV.Lemmas.Dup
open JsonV JsonV.Model

/-- Field ids the names resolve to, in order. -/
def fieldIds {α : Type} (resolve : α → Option Nat) (names : List α) : List Nat := names.filterMap resolve

/-- Unquoted names that resolve to no declared field, in order. -/
def unknownNames {α : Type} (resolve : α → Option Nat) (unq : α → Bytes) (names : List α) : List Bytes :=
  (names.filter (fun n => (resolve n).isNone)).map unq

/-- One step of `seenAccepts`/`structAccepts`: reject if `b` (the name is already there), else go on with `x`. -/
theorem guard_iff {b x : Bool} {R : Prop} (h : x = true ↔ R) :
    (if (!b) = true then x else false) = true ↔ b = false ∧ R := by
  cases b
  · exact h.trans ⟨fun r => ⟨rfl, r⟩, And.right⟩
  · exact ⟨nofun, fun h => nomatch h.1⟩

theorem seenAccepts_iff {α : Type} (resolve : α → Option Nat) (names : List α) : ∀ (seen : UintSet),
    seenAccepts resolve names seen = true ↔
      (fieldIds resolve names).Nodup ∧ ∀ f ∈ fieldIds resolve names, bit seen f = false := by
  induction names with
  | nil => intro seen; simp [seenAccepts, fieldIds]
  | cons n rest ih =>
    intro seen
    unfold seenAccepts
    cases hr : resolve n with
    | none =>
      simp only [fieldIds, List.filterMap_cons, hr]
      exact ih seen
    | some f =>
      simp only [fieldIds, List.filterMap_cons, hr, insert_snd]
      rw [nodup_cons_forall (Q := fun g => bit (seen.insert f).1 g = false) fun g => by simp [bit_insert]]
      exact guard_iff (ih (seen.insert f).1)

theorem structAccepts_iff {α : Type} (resolve : α → Option Nat) (unq : α → Bytes) (names : List α) :
    ∀ (seen : UintSet) (ns : Namespace), WF ns →
    (structAccepts resolve unq names seen ns = true ↔
      ((fieldIds resolve names).Nodup ∧ ∀ f ∈ fieldIds resolve names, bit seen f = false) ∧
      ((unknownNames resolve unq names).Nodup ∧ ∀ u ∈ unknownNames resolve unq names, u ∉ ns.names)) := by
  induction names with
  | nil => intro seen ns _; simp [structAccepts, fieldIds, unknownNames]
  | cons n rest ih =>
    intro seen ns hwf
    unfold structAccepts
    cases hr : resolve n with
    | none =>
      obtain ⟨h1, h2, h3⟩ := insert_spec ns hwf (unq n)
      simp only [fieldIds, unknownNames, List.filterMap_cons, List.filter_cons, hr, Option.isNone_none, if_true,
        List.map_cons, h1]
      rw [nodup_cons_forall (Q := fun u => u ∉ (ns.insert (unq n)).1.names) fun u => by
        rw [h2]
        split
        · exact ⟨fun h => ⟨fun e => h (e ▸ ‹_›), h⟩, And.right⟩
        · rw [List.mem_append, List.mem_singleton]
          exact ⟨fun h => ⟨fun e => h (Or.inr e), fun e => h (Or.inl e)⟩, fun h e => e.elim h.2 h.1⟩]
      exact (guard_iff (ih seen _ h3)).trans (by rw [decide_eq_false_iff_not]; exact and_left_comm)
    | some f =>
      simp only [fieldIds, unknownNames, List.filterMap_cons, List.filter_cons, hr, Option.isNone_some,
        Bool.false_eq_true, if_false, insert_snd]
      rw [nodup_cons_forall (Q := fun g => bit (seen.insert f).1 g = false) fun g => by simp [bit_insert]]
      exact (guard_iff (ih (seen.insert f).1 ns hwf)).trans and_assoc.symm

end JsonV.Lemmas.Dup
