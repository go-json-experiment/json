/-
The literal model of AppendQuote's loop with the Go copy-span bookkeeping (`quoteIdxLoop`: indices
`i`, `n`, lazily flushed `dst`) equals the per-character model `quoteLoop` on every input.
-/
import JsonV.Lemmas.QuoteL

namespace JsonV.Lemmas.QuoteSpan
open JsonV JsonV.Model.Utf8 JsonV.Model.Quote JsonV.Lemmas.QuoteL

theorem slice_append (src : Bytes) (i n m : Nat) (h1 : i ≤ n) (h2 : n ≤ m) :
    slice src i n ++ slice src n m = slice src i m := by
  simp only [slice]
  have : m - i = (n - i) + (m - n) := by omega
  rw [this, List.take_add, List.drop_drop]
  congr 3; omega

theorem slice_self (src : Bytes) (n : Nat) : slice src n n = [] := by simp [slice]

theorem slice_step (src : Bytes) (n k : Nat) : slice src n (n + k) = (src.drop n).take k := by
  simp [slice]

theorem quoteLoop_cons (html js : Bool) (c : UInt8) (t : Bytes) :
    quoteLoop html js (c :: t) =
      ((quoteStep html js c t).1 ++ (quoteLoop html js ((c :: t).drop (quoteStep html js c t).2.1)).1,
       (quoteStep html js c t).2.2 || (quoteLoop html js ((c :: t).drop (quoteStep html js c t).2.1)).2) := by
  rw [quoteLoop]

/-- The index loop, started anywhere with a pending span `src[i:n]`, finishes like the per-character loop. -/
theorem quoteIdxLoop_eq (html js : Bool) (src : Bytes) (fuel i n : Nat) (dst : Bytes) (inv : Bool)
    (hin : i ≤ n) (hn : n ≤ src.length) (hf : src.length - n ≤ fuel) :
    quoteIdxLoop html js src fuel i n dst inv =
      (dst ++ slice src i n ++ (quoteLoop html js (src.drop n)).1, inv || (quoteLoop html js (src.drop n)).2) := by
  induction fuel generalizing i n dst inv with
  | zero =>
    have : src.drop n = [] := List.drop_eq_nil_of_le (by omega)
    simp [quoteIdxLoop, this, quoteLoop]
  | succ fuel ih =>
    rw [quoteIdxLoop]
    cases hd : src.drop n with
    | nil => simp [quoteLoop]
    | cons c t =>
      have hlen : (c :: t).length = src.length - n := by rw [← hd, List.length_drop]
      have hdrop : ∀ k, src.drop (n + k) = (c :: t).drop k := fun k => by rw [← hd, List.drop_drop]
      -- an iteration either extends the pending span by the `k` bytes it consumed …
      have hcopy : ∀ k, 1 ≤ k → k ≤ (c :: t).length → quoteIdxLoop html js src fuel i (n + k) dst inv =
          (dst ++ slice src i n ++ ((c :: t).take k ++ (quoteLoop html js ((c :: t).drop k)).1),
            inv || (false || (quoteLoop html js ((c :: t).drop k)).2)) := by
        intro k h1 h2
        rw [ih i (n + k) dst inv (by omega) (by omega) (by omega), hdrop,
          ← slice_append src i n (n + k) hin (by omega), slice_step, hd, Bool.false_or, List.append_assoc,
          List.append_assoc, List.append_assoc]
      -- … or flushes the span and appends an escape
      have hesc : ∀ k esc inv' b, inv' = (inv || b) → 1 ≤ k → k ≤ (c :: t).length →
          quoteIdxLoop html js src fuel (n + k) (n + k) (dst ++ slice src i (n + k - k) ++ esc) inv' =
            (dst ++ slice src i n ++ (esc ++ (quoteLoop html js ((c :: t).drop k)).1),
              inv || (b || (quoteLoop html js ((c :: t).drop k)).2)) := by
        intro k esc inv' b hb h1 h2
        rw [ih _ _ _ _ (Nat.le_refl _) (by omega) (by omega), hdrop, slice_self, Nat.add_sub_cancel, List.append_nil,
          List.append_assoc, hb, Bool.or_assoc]
      have hp := decodeRune_pos c t
      have hle : (decodeRune (c :: t)).2 ≤ (c :: t).length := decodeRune_le _
      rw [quoteLoop_cons]
      by_cases h0 : c.toNat < runeSelf
      · rw [quoteStep_ascii html js t h0]
        simp only [if_pos h0]
        by_cases he : escapeASCII c.toNat = 0
        · rw [if_pos he, if_neg (fun h => h.1 he)]
          exact hcopy 1 (Nat.le_refl _) (by omega)
        · rw [if_neg he]
          by_cases hh : (!isHTMLChar c.toNat || html) = true
          · rw [if_pos hh, if_pos ⟨he, hh⟩]
            exact hesc 1 _ inv false (Bool.or_false inv).symm (Nat.le_refl _) (by omega)
          · rw [if_neg hh, if_neg (fun h => hh h.2)]
            exact hcopy 1 (Nat.le_refl _) (by omega)
      · simp only [if_neg h0]
        rcases decodeRune_high c t h0 with h1 | h1
        · have hinv : isInvalidUTF8 (decodeRune (c :: t)).1 (decodeRune (c :: t)).2 = false := by
            simp only [isInvalidUTF8, Bool.and_eq_false_iff, decide_eq_false_iff_not]; omega
          rw [quoteStep_multi html js h0 h1]
          simp only [hinv, Bool.false_eq_true, if_false]
          by_cases hj : ((decodeRune (c :: t)).1 = 0x2028 ∨ (decodeRune (c :: t)).1 = 0x2029) ∧ js = true
          · rw [if_neg (by omega), if_pos hj, if_pos hj]
            exact hesc _ _ inv false (Bool.or_false inv).symm hp hle
          · rw [if_neg hj, if_neg hj, ite_self]
            exact hcopy _ hp hle
        · rw [quoteStep_bad html js h0 h1]
          simp only [h1, isInvalidUTF8, runeError, decide_true, Bool.and_self, if_true]
          rw [if_neg (by decide)]
          exact hesc 1 _ true true (Bool.or_true inv).symm (Nat.le_refl _) (by omega)

theorem appendQuoteIdx_eq (f : QFlags) (src : Bytes) : appendQuoteIdx f src = appendQuote f src := by
  simp only [appendQuoteIdx, appendQuote]
  rw [quoteIdxLoop_eq f.html f.js src src.length 0 0 [0x22] false (Nat.le_refl _) (Nat.zero_le _) (by omega)]
  simp [slice_self]

end JsonV.Lemmas.QuoteSpan
