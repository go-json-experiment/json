/-
Two runs of the same calls under different flush decisions and writer behaviours stay in simulation — including
UnwriteEmptyObjectMember / UnwriteOnlyObjectMemberName calls, with the calling discipline of `runD` or without.
-/
import JsonV.Lemmas.FlushInvB

namespace JsonV.Model.Flush
open JsonV

/-- Token calls carry sane texts; the unwrite calls have no arguments. -/
def SaneCall : Op → Prop
  | .tok t ws => SaneTok t ws
  | _ => True

/-- Same frames, same stream, and both runs satisfy the shape invariant. -/
structure SimU (e₁ e₂ : Enc) : Prop where
  sim : Sim e₁ e₂
  inv₁ : InvS e₁ false
  inv₂ : InvS e₂ false

theorem simU_init (omitNL : Bool) : SimU { omitNL := omitNL } { omitNL := omitNL } :=
  ⟨Sim.refl _, invS_init _ _, invS_init _ _⟩

theorem step_simU {e₁ e₂ : Enc} (h : SimU e₁ e₂) (op : Op) (hs : SaneCall op) (s₁ s₂ : Sched) :
    SimU (step e₁ op s₁) (step e₂ op s₂) := by
  obtain ⟨hsim, h1, h2⟩ := h
  cases op with
  | tok t ws =>
    rcases write_sim hsim t ws with ⟨w1, w2⟩ | ⟨e₁', e₂', w1, w2, _⟩
    · rw [step_tok_none w1, step_tok_none w2]; exact ⟨hsim, h1, h2⟩
    · exact ⟨(step_tok_sim hsim h1.bottom t ws s₁ s₂).1, (invS_step_tok h1 hs w1 s₁).fresh,
        (invS_step_tok h2 hs w2 s₂).fresh⟩
  | unwriteEmpty => exact ⟨unwriteEmpty_sim hsim h1 h2, invS_unwriteEmpty h1, invS_unwriteEmpty h2⟩
  | unwriteName => exact ⟨unwriteName_sim hsim h1 h2, invS_unwriteName h1, invS_unwriteName h2⟩

theorem run_simU (l₁ l₂ : List (Op × Sched)) (e₁ e₂ : Enc) (h : SimU e₁ e₂)
    (hl : l₁.map Prod.fst = l₂.map Prod.fst) (hs : ∀ p ∈ l₁, SaneCall p.1) : SimU (run e₁ l₁) (run e₂ l₂) :=
  rel_run (R := SimU) (step := step) (fun _ => rfl) (fun _ _ _ _ => rfl)
    (fun _ _ op s₁ s₂ h hs => step_simU h op hs s₁ s₂) l₁ l₂ e₁ e₂ h hl hs

theorem stepD_eq (a : Enc × Bool) (op : Op) (s : Sched) :
    stepD a op s = if op = .unwriteEmpty ∧ a.2 = false then a else
      (step a.1 op s, match op with
        | .tok t ws => if (write a.1 t ws).isSome then t.valueEnd else a.2
        | _ => false) := by
  obtain ⟨e, f⟩ := a
  cases op with
  | tok t ws => cases hw : write e t ws <;> simp [stepD, step_tok_none, hw]
  | unwriteEmpty => cases f <;> simp [stepD]
  | unwriteName => simp [stepD]

/-- Which calls are skipped, and the flag, depend on the frames only, so two runs in simulation agree on them. -/
theorem stepD_simU {a b : Enc × Bool} (h : SimU a.1 b.1 ∧ a.2 = b.2) (op : Op) (hs : SaneCall op) (s₁ s₂ : Sched) :
    SimU (stepD a op s₁).1 (stepD b op s₂).1 ∧ (stepD a op s₁).2 = (stepD b op s₂).2 := by
  have hw : ∀ t ws, (write a.1 t ws).isSome = (write b.1 t ws).isSome := fun t ws => by
    rcases write_sim h.1.sim t ws with ⟨w1, w2⟩ | ⟨_, _, w1, w2, _⟩ <;> rw [w1, w2] <;> rfl
  rw [stepD_eq, stepD_eq, ← h.2]
  by_cases hc : op = .unwriteEmpty ∧ a.2 = false
  · rw [if_pos hc, if_pos hc]; exact h
  · rw [if_neg hc, if_neg hc]
    exact ⟨step_simU h.1 op hs s₁ s₂, by cases op <;> simp only [hw]⟩

theorem runD_sim (l₁ l₂ : List (Op × Sched)) (a b : Enc × Bool) (h : SimU a.1 b.1 ∧ a.2 = b.2)
    (hl : l₁.map Prod.fst = l₂.map Prod.fst) (hs : ∀ p ∈ l₁, SaneCall p.1) :
    SimU (runD a l₁).1 (runD b l₂).1 ∧ (runD a l₁).2 = (runD b l₂).2 :=
  rel_run (R := fun a b => SimU a.1 b.1 ∧ a.2 = b.2) (step := stepD) (fun _ => rfl) (fun _ _ _ _ => rfl)
    (fun _ _ op s₁ s₂ h hs => stepD_simU h op hs s₁ s₂) l₁ l₂ a b h hl hs

theorem stepD_delivered_prefix (a : Enc × Bool) (op : Op) (s : Sched) : a.1.delivered <+: (stepD a op s).1.delivered := by
  rw [stepD_eq]
  by_cases hc : op = .unwriteEmpty ∧ a.2 = false
  · rw [if_pos hc]; exact List.prefix_refl _
  · rw [if_neg hc]; exact step_delivered_prefix _ _ _

end JsonV.Model.Flush
