/-
The state a successful operation of the state machine (`Model/State`: push, pop, the scalar appends) returns, one lemma per
operation; a user that needs a test the call passed (DepthL, Props/C08) unfolds the operation with `guard_ok`.  (Despite the
file's name nothing here is about the Encoder model or the fragment model `Model/EncInv`.)
-/
import JsonV.Model.State

namespace JsonV.Lemmas.EncInvState
open JsonV JsonV.Model

/-- The operations are chains of refusals ending in one result: a successful call passed every test. -/
theorem guard_ok {ε α : Type} {c : Prop} [Decidable c] {e : ε} {x : Except ε α} {y : α} :
    (if c then .error e else x) = .ok y ↔ ¬ c ∧ x = .ok y := by
  by_cases hc : c
  · rw [if_pos hc]; exact ⟨nofun, fun h => absurd hc h.1⟩
  · rw [if_neg hc]; exact ⟨fun h => ⟨hc, h⟩, fun h => h.2⟩

theorem pushArray_ok {k : Nat} {m m' : Machine} (h : m.pushArray k = .ok m') :
    m' = { stack := m.stack ++ [m.last.increment], last := Entry.typeArray } := by
  simp only [Machine.pushArray, guard_ok, Except.ok.injEq] at h
  exact h.2.2.2.symm

theorem pushObject_ok {k : Nat} {m m' : Machine} (h : m.pushObject k = .ok m') :
    m' = { stack := m.stack ++ [m.last.increment], last := Entry.typeObject } := by
  simp only [Machine.pushObject, guard_ok, Except.ok.injEq] at h
  exact h.2.2.2.symm

theorem popArray_ok {m m' : Machine} (h : m.popArray = .ok m') :
    m.last.isArray = true ∧ ∃ x, m.stack.getLast? = some x ∧ m' = { stack := m.stack.dropLast, last := x } := by
  simp only [Machine.popArray, guard_ok] at h
  obtain ⟨h1, _, h⟩ := h
  cases hx : m.stack.getLast? with
  | none => rw [hx] at h; cases h
  | some x =>
    rw [hx] at h; cases h
    exact ⟨by simp at h1; exact h1.1, x, rfl, rfl⟩

theorem popObject_ok {m m' : Machine} (h : m.popObject = .ok m') :
    m.last.isObject = true ∧ ∃ x, m.stack.getLast? = some x ∧ m' = { stack := m.stack.dropLast, last := x } := by
  simp only [Machine.popObject, guard_ok] at h
  obtain ⟨h1, _, _, h⟩ := h
  cases hx : m.stack.getLast? with
  | none => rw [hx] at h; cases h
  | some x =>
    rw [hx] at h; cases h
    exact ⟨by simpa using h1, x, rfl, rfl⟩

theorem scalar_step (m m' : Machine) (h : m.appendLiteral = .ok m' ∨ m.appendString = .ok m' ∨ m.appendNumber = .ok m') :
    m'.stack = m.stack ∧ m'.last = m.last.increment := by
  have : m' = { m with last := m.last.increment } := by
    rcases h with h | h | h
    · simp only [Machine.appendLiteral, guard_ok, Except.ok.injEq] at h; exact h.2.2.symm
    · simp only [Machine.appendString, guard_ok, Except.ok.injEq] at h; exact h.2.symm
    · simp only [Machine.appendNumber, Machine.appendLiteral, guard_ok, Except.ok.injEq] at h; exact h.2.2.symm
  rw [this]; exact ⟨rfl, rfl⟩

theorem push_pop_array (k : Nat) (m m1 m2 : Machine) (e : Entry)
    (h1 : m.pushArray k = .ok m1) (h2 : Machine.popArray { stack := m1.stack, last := e } = .ok m2) :
    m2.stack = m.stack ∧ m2.last = m.last.increment := by
  obtain ⟨_, x, hx, rfl⟩ := popArray_ok h2
  rw [pushArray_ok h1] at hx ⊢
  simp only [List.getLast?_concat, Option.some.injEq] at hx
  subst hx
  exact ⟨List.dropLast_concat, rfl⟩

theorem push_pop_object (k : Nat) (m m1 m2 : Machine) (e : Entry)
    (h1 : m.pushObject k = .ok m1) (h2 : Machine.popObject { stack := m1.stack, last := e } = .ok m2) :
    m2.stack = m.stack ∧ m2.last = m.last.increment := by
  obtain ⟨_, x, hx, rfl⟩ := popObject_ok h2
  rw [pushObject_ok h1] at hx ⊢
  simp only [List.getLast?_concat, Option.some.injEq] at hx
  subst hx
  exact ⟨List.dropLast_concat, rfl⟩

end JsonV.Lemmas.EncInvState
