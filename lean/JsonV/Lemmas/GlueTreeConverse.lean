/-
Glue C12 ↔ C01, part 4 (converse): every text of the tree grammar `JText`, for any string mode and duplicate policy
(`GOpts`), is tokenized to the tokens of a tree whose strings are of that mode and whose names pass the duplicate test
(`text_tokenize_gen`; `text_tokenize` is the permissive instance).  By induction on the derivation, a container taken
first item first (`JValue.cons_induction`): build the tree and the layout.
-/
import JsonV.Lemmas.GlueTreeGrammar
import JsonV.Lemmas.GrammarL

namespace JsonV.Fmt
open JsonV.Canon JsonV.Lemmas.CanonNest JsonV.Spec.Grammar

theorem Layout.ws_append {ls : List Lex} {b : Bytes} (w : Bytes) (hw : JWs w) (h : Layout ls b) : Layout ls (w ++ b) := by
  induction w with
  | nil => exact h
  | cons c cs ih =>
    have hc : isWs c = true := (wsByte_iff c).mp (hw c (by simp))
    exact Layout.ws_cons c hc (ih (fun x hx => hw x (List.mem_cons_of_mem _ hx)))

theorem Layout.lex_cons (l : Lex) {ls : List Lex} {b : Bytes} (h : Layout ls b) : Layout (l :: ls) (l.bytes ++ b) := by
  have := Layout.cons [] l ls b rfl h
  simpa using this

section
variable (o : GOpts) (key : Bytes → Bytes)

/-- What the induction carries about the tokens `ts` of the tree(s) built so far and the outcomes `atoms`, `depth`,
`dup` of the three tests on them.  Lists of trees combine by `append`, with `&&` on the tests as in their definitions. -/
structure Side (ts : List Tok) (atoms depth dup : Bool) : Prop where
  atoms : atoms = true
  valid : ∀ k ∈ ts, k.valid = true
  depth : depth = true
  strs : StrsOK o ts
  dup : DupOK o dup

theorem Side.nil : Side o [] true true true :=
  ⟨rfl, fun _ h => (nomatch h), rfl, fun _ h => (nomatch h), Or.inr rfl⟩

theorem Side.cons {ts : List Tok} {a d p : Bool} (k : Tok) (hv : k.valid = true)
    (hs : ∀ raw, k = .str raw → JString o.strict raw) (h : Side o ts a d p) : Side o (k :: ts) a d p :=
  ⟨h.atoms, List.forall_mem_cons.mpr ⟨hv, h.valid⟩, h.depth,
   fun raw hk => (List.mem_cons.mp hk).elim (fun e => hs raw e.symm) (h.strs raw), h.dup⟩

theorem Side.append {ts ts' : List Tok} {a a' d d' p p' : Bool} (h : Side o ts a d p) (h' : Side o ts' a' d' p') :
    Side o (ts ++ ts') (a && a') (d && d') (p && p') :=
  ⟨by rw [h.atoms, h'.atoms]; rfl, fun k hk => (List.mem_append.mp hk).elim (h.valid k) (h'.valid k),
   by rw [h.depth, h'.depth]; rfl, fun raw hk => (List.mem_append.mp hk).elim (h.strs raw) (h'.strs raw),
   DupOK.mk_and h.dup h'.dup⟩

theorem Side.name {ts : List Tok} {a d p : Bool} {n : Bytes} (hn : JString o.strict n) (h : Side o ts a d p) :
    Side o (.str n :: ts) a d p :=
  h.cons o _ ((str_valid_iff n).mpr hn.mono) (fun raw e => by cases e; exact hn)

theorem Side.brackets {ts : List Tok} {a d p : Bool} (l r : Tok) (h : Side o ts a d p) (hl : l.valid = true := by rfl)
    (hr : r.valid = true := by rfl) (hls : ∀ raw, l ≠ .str raw := by nofun) (hrs : ∀ raw, r ≠ .str raw := by nofun) :
    Side o (l :: (ts ++ [r])) a d p := by
  have hts := h.append o ((Side.nil o).cons o r hr (fun raw e => absurd e (hrs raw)))
  simp only [Bool.and_true] at hts
  exact hts.cons o l hl (fun raw e => absurd e (hls raw))

/-- what the induction builds for a value `v` at depth `d`: a tree whose lexemes lay out as `v` -/
def Built (d : Nat) (v : Bytes) (t : JV) : Prop :=
  Side o t.toks (AtomsOK t) (depthOK t d) (dupT key t) ∧
  ∀ (R : List Lex) (X : Bytes), Layout R X → Layout (lexT t ++ R) (v ++ X)

theorem built_atom (d : Nat) (k : Tok) (hk : atomOK k = true) (hv : k.valid = true)
    (hs : ∀ raw, k = .str raw → JString o.strict raw) : Built o key d k.bytes (.atom k) :=
  ⟨by simpa only [JV.toks, AtomsOK, depthOK, dupT, hk] using Side.cons o k hv hs (Side.nil o),
   fun R X h => by simpa [lexT, Lex.bytes] using Layout.lex_cons (.tok k) h⟩

theorem build_elems (d : Nat) {t : Bytes} (h : JElems (fun v => ∃ tr, Built o key d v tr) t) :
    ∃ e es, Side o (toksL (e :: es)) (AtomsOKL (e :: es)) (depthOKL (e :: es) d) (dupL key (e :: es)) ∧
      ∀ (R : List Lex) (X : Bytes), Layout R X → Layout (lexL true (e :: es) ++ (.tok .ea :: R)) (t ++ X) := by
  induction h with
  | last w1 v w2 h1 hv h2 =>
    obtain ⟨tr, hs, hl⟩ := hv
    refine ⟨tr, [], hs.append o (Side.nil o), fun R X h => ?_⟩
    have := Layout.ws_append w1 h1 (hl _ _ (Layout.ws_append w2 h2 (Layout.lex_cons (.tok .ea) h)))
    simpa [lexL, sepLex, Lex.bytes, Tok.bytes, List.append_assoc] using this
  | cons w1 v w2 t h1 hv h2 _ ih =>
    obtain ⟨tr, hs, hl⟩ := hv
    obtain ⟨e, es, hes, hle⟩ := ih
    refine ⟨tr, e :: es, hs.append o hes, fun R X h => ?_⟩
    have := Layout.ws_append w1 h1 (hl _ _ (Layout.ws_append w2 h2 (Layout.lex_cons (.delim .comma) (hle R X h))))
    simpa [lexL, sepLex, Lex.bytes, Delim.bytes, List.append_assoc] using this

theorem build_members (d : Nat) {seen : List Bytes} {t : Bytes}
    (h : JMembers (JString o.strict) (fun v => ∃ tr, Built o key d v tr) key o.allowDup seen t) :
    ∃ m ms, Side o (toksM (m :: ms)) (AtomsOKM (m :: ms)) (depthOKM (m :: ms) d) (dupM key (m :: ms)) ∧
      (o.allowDup = true ∨ ((m :: ms).map fun p => key p.1).Nodup ∧ ∀ k ∈ (m :: ms).map (fun p => key p.1), k ∉ seen) ∧
      ∀ (R : List Lex) (X : Bytes), Layout R X → Layout (lexM true (m :: ms) ++ (.tok .eo :: R)) (t ++ X) := by
  induction h with
  | last seen w1 n w2 w3 v w4 h1 hn h2 h3 hv h4 hk =>
    obtain ⟨tr, hs, hl⟩ := hv
    refine ⟨(n, tr), [], Side.name o hn (hs.append o (Side.nil o)), hk.imp_right fun hk => ⟨by simp, by simpa using hk⟩,
      fun R X h => ?_⟩
    have hval := Layout.ws_append w3 h3 (hl _ _ (Layout.ws_append w4 h4 (Layout.lex_cons (.tok .eo) h)))
    have := Layout.ws_append w1 h1 (Layout.lex_cons (.tok (.str n)) (Layout.ws_append w2 h2 (Layout.lex_cons (.delim .colon) hval)))
    simpa [lexM, sepLex, Lex.bytes, Tok.bytes, Delim.bytes, List.append_assoc] using this
  | cons seen w1 n w2 w3 v w4 t h1 hn h2 h3 hv h4 hk _ ih =>
    obtain ⟨tr, hs, hl⟩ := hv
    obtain ⟨⟨n', x'⟩, ms, hms, hd, hle⟩ := ih
    refine ⟨(n, tr), (n', x') :: ms, Side.name o hn (hs.append o hms), ?_, fun R X h => ?_⟩
    · rcases hk with hk | hk
      · exact .inl hk
      · refine hd.imp_right fun ⟨hnd, hs⟩ => ⟨List.nodup_cons.mpr ⟨fun hm => hs _ hm (List.mem_cons_self ..), hnd⟩, ?_⟩
        exact List.forall_mem_cons.mpr ⟨hk, fun k hm hks => hs k hm (List.mem_cons_of_mem _ hks)⟩
    · have hval := Layout.ws_append w3 h3 (hl _ _ (Layout.ws_append w4 h4 (Layout.lex_cons (.delim .comma) (hle R X h))))
      have := Layout.ws_append w1 h1 (Layout.lex_cons (.tok (.str n)) (Layout.ws_append w2 h2 (Layout.lex_cons (.delim .colon) hval)))
      simpa [lexM, sepLex, Lex.bytes, Tok.bytes, Delim.bytes, List.append_assoc] using this

theorem build_value (d : Nat) (v : Bytes) (h : JValue o maxDepth key d v) : ∃ t, Built o key d v t := by
  refine h.cons_induction (P := fun d v => ∃ t, Built o key d v t)
    (null := fun d => ⟨_, built_atom o key d .null rfl rfl nofun⟩)
    (true := fun d => ⟨_, built_atom o key d .tru rfl rfl nofun⟩)
    (false := fun d => ⟨_, built_atom o key d .fls rfl rfl nofun⟩)
    (num := fun d p hp => ⟨_, built_atom o key d (.num p) rfl ((num_valid_iff p).mpr hp) nofun⟩)
    (str := fun d p hp => ⟨_, built_atom o key d (.str p) rfl ((str_valid_iff p).mpr hp.mono)
      (by intro raw e; cases e; exact hp)⟩)
    (emptyArr := fun d w hd hw => ?_) (arr := fun d t hd ht => ?_) (emptyObj := fun d w hd hw => ?_)
    (obj := fun d t hd ht => ?_)
  · refine ⟨.arr [], by simpa [JV.toks, toksL, AtomsOK, AtomsOKL, depthOK, depthOKL, dupT, dupL, hd] using (Side.nil o).brackets o .ba .ea, ?_⟩
    intro R X h
    have := Layout.lex_cons (.tok .ba) (Layout.ws_append w hw (Layout.lex_cons (.tok .ea) h))
    simpa [lexT, lexL, Lex.bytes, Tok.bytes, List.append_assoc] using this
  · obtain ⟨e, es, hes, hl⟩ := build_elems o key (d + 1) (ht.imp fun _ h => h.2)
    refine ⟨.arr (e :: es), by simpa [JV.toks, AtomsOK, depthOK, dupT, hd] using hes.brackets o .ba .ea, ?_⟩
    intro R X h
    have := Layout.lex_cons (.tok .ba) (hl R X h)
    simpa [lexT, Lex.bytes, Tok.bytes, List.append_assoc] using this
  · refine ⟨.obj [], by simpa [JV.toks, toksM, AtomsOK, AtomsOKM, depthOK, depthOKM, dupT, dupM, hd] using (Side.nil o).brackets o .bo .eo, ?_⟩
    intro R X h
    have := Layout.lex_cons (.tok .bo) (Layout.ws_append w hw (Layout.lex_cons (.tok .eo) h))
    simpa [lexT, lexM, Lex.bytes, Tok.bytes, List.append_assoc] using this
  · obtain ⟨m, ms, hms, hnd, hl⟩ := build_members o key (d + 1) (ht.imp (fun _ h => h) fun _ h => h.2)
    have hside := hms.brackets o .bo .eo
    have hside' : Side o _ _ _ _ :=
      { hside with dup := DupOK.mk_and ((dupOK_decide o).mpr (hnd.imp_right (·.1))) hside.dup }
    refine ⟨.obj (m :: ms), by simpa [JV.toks, AtomsOK, depthOK, dupT, hd] using hside', ?_⟩
    intro R X h
    have := Layout.lex_cons (.tok .bo) (hl R X h)
    simpa [lexT, Lex.bytes, Tok.bytes, List.append_assoc] using this

theorem text_tokenize_gen (b : Bytes) (h : JText o maxDepth key b) :
    ∃ t : JV, tokenize b = some t.toks ∧ AtomsOK t = true ∧ StrsOK o t.toks ∧ DupOK o (dupT key t) := by
  obtain ⟨w1, v, w2, hw1, hv, hw2, rfl⟩ := h
  obtain ⟨t, ⟨ht1, ht2, ht3, hts, htd⟩, ht4⟩ := build_value o key 0 v hv
  refine ⟨t, (tokenize_eq_some_iff _ _).mpr ⟨⟨ht2, by rw [accepts_tree t ht1]; exact ht3⟩, ?_⟩, ht1, hts, htd⟩
  rw [punct_top t ht1 ht3]
  have := Layout.ws_append w1 hw1 (ht4 [] w2 (Layout.nil w2 ((jws_iff w2).mp hw2)))
  simpa [List.append_assoc] using this

end

theorem text_tokenize (key : Bytes → Bytes) (b : Bytes) (h : JText ⟨false, true⟩ maxDepth key b) :
    ∃ ts, tokenize b = some ts := by
  obtain ⟨t, ht, _⟩ := text_tokenize_gen ⟨false, true⟩ key b h
  exact ⟨_, ht⟩

end JsonV.Fmt
