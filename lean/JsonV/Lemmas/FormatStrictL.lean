/-
Lemmas for the strict model (Model/FormatStrict.lean): the validation options are predicates on the token
list, hence invariant under re-rendering; under PreserveRawStrings without an escape option no token changes.
-/
import JsonV.Model.FormatStrict
import JsonV.Lemmas.FormatMain
import JsonV.Lemmas.GlueFormatStr
import JsonV.Lemmas.WireString

namespace JsonV.Fmt
open JsonV.Model JsonV.Spec.Grammar

theorem tokensOK_iff (o : FOpts) (ts : List Tok) :
    tokensOK o ts = true ↔ (∀ t ∈ ts, strOKV o t = true) ∧ (o.allowDup = true ∨ namesOK (nameKey o) ts = true) := by
  simp only [tokensOK, Bool.and_eq_true, List.all_eq_true, Bool.or_eq_true]

theorem tokenizeV_eq_some (o : FOpts) (b : Bytes) (ts : List Tok) :
    tokenizeV o b = some ts ↔ tokenize b = some ts ∧ tokensOK o ts = true := by
  unfold tokenizeV
  cases tokenize b with
  | none => simp
  | some ts' =>
    by_cases hk : tokensOK o ts' = true
    · simp only [hk, if_true, Option.some.injEq]
      exact ⟨fun e => ⟨e, e ▸ hk⟩, And.left⟩
    · simp only [hk, Bool.false_eq_true, if_false, Option.some.injEq, reduceCtorEq, false_iff]
      rintro ⟨rfl, h⟩
      exact hk h

theorem formatV_eq_some (o : FOpts) (b b' : Bytes) :
    formatV o b = some b' ↔ ∃ ts, tokenizeV o b = some ts ∧ render o.ws (ts.map (respellTok o)) = b' := by
  unfold formatV
  cases tokenizeV o b <;> simp

theorem render_tokenizeV (o : FOpts) (w : WsOpts) (hw : w.Blank) (ts : List Tok) (h : WellNested ts)
    (hk : tokensOK o ts = true) : tokenizeV o (render w ts) = some ts :=
  (tokenizeV_eq_some o _ ts).mpr ⟨render_tokenize w hw ts h, hk⟩

theorem respell_verbatim (o : FOpts) (hv : o.verbatim) (ts : List Tok) : ts.map (respellTok o) = ts := by
  obtain ⟨h1, h2, h3⟩ := hv
  have : ∀ t, respellTok o t = t := by
    intro t
    cases t <;> simp [respellTok, respellStr, h1, h2, h3]
  rw [show respellTok o = id from funext this, List.map_id]

theorem strictStr_iff (raw : Bytes) : strictStr raw = true ↔ JString true raw := by
  constructor
  · intro h
    simp only [strictStr, Bool.and_eq_true, beq_iff_eq] at h
    have := JsonV.Lemmas.WireString.consumeString_sound raw true raw.length (Wire.consumeString raw true).2.1
      (by rw [← h.2]; exact Prod.ext rfl (Prod.ext rfl h.1))
    simpa using this.2
  · intro h
    obtain ⟨f, hf⟩ := JsonV.Lemmas.WireString.consumeString_complete raw true raw.length (Nat.le_refl _) (by simpa using h)
    simp [strictStr, hf]

theorem strOKV_iff (o : FOpts) (raw : Bytes) (hv : (Tok.str raw).valid = true) :
    strOKV o (.str raw) = true ↔ JString (!o.allowInvalidUTF8) raw := by
  cases hu : o.allowInvalidUTF8 with
  | true => simpa [strOKV, hu] using (str_valid_iff raw).mp hv
  | false => simpa [strOKV, hu] using strictStr_iff raw

theorem strs_of_tokenizeV (o : FOpts) (b : Bytes) (ts : List Tok) (h : tokenizeV o b = some ts) :
    ∀ raw, Tok.str raw ∈ ts → JString (!o.allowInvalidUTF8) raw := by
  obtain ⟨ht, hk⟩ := (tokenizeV_eq_some o b ts).mp h
  exact fun raw hm => (strOKV_iff o raw ((wellNested_of_tokenize b ts ht).1 _ hm)).mp (((tokensOK_iff o ts).mp hk).1 _ hm)

end JsonV.Fmt
