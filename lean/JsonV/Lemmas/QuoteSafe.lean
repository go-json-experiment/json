/-
With EscapeForHTML the quote loop emits no raw `<` `>` `&`; with EscapeForJS it emits no raw U+2028 / U+2029
(for every input, well-formed or not); stated with `noHTML` and `hasLS`, defined here.
-/
import JsonV.Lemmas.QuoteL

namespace JsonV.Lemmas.QuoteSafe
open JsonV JsonV.Model.Utf8 JsonV.Model.Quote JsonV.Lemmas.QuoteL JsonV.Spec.StringSpec

theorem hexLower_ascii : ∀ n : Fin 16, (hexLower n.val).toNat < 0x80 ∧ isHTMLChar (hexLower n.val).toNat = false := by
  decide +kernel

theorem escaped_u16_mem (x : Nat) : ∀ b ∈ appendEscapedUTF16 x, b.toNat < 0x80 ∧ isHTMLChar b.toNat = false := by
  have h16 : ∀ n, _ := fun n => hexLower_ascii ⟨n % 16, Nat.mod_lt _ (by decide)⟩
  simp only [appendEscapedUTF16, List.forall_mem_cons]
  exact ⟨by decide, by decide, h16 _, h16 _, h16 _, h16 _, fun _ h => nomatch h⟩

theorem escaped_ascii_mem {c : Nat} {b : UInt8} (hb : b ∈ appendEscapedASCII c) :
    b.toNat < 0x80 ∧ isHTMLChar b.toNat = false := by
  rcases appendEscapedASCII_cases c with ⟨e, hx, hc⟩ | ⟨hx, -⟩
  · rw [hx] at hb
    simp only [List.mem_cons, List.not_mem_nil, or_false] at hb
    rcases hb with rfl | rfl
    · decide
    · rcases hc with ⟨hc | hc, rfl⟩ | ⟨-, rfl⟩ | ⟨-, rfl⟩ | ⟨-, rfl⟩ | ⟨-, rfl⟩ | ⟨-, rfl⟩ <;>
        first | decide | (rw [hc]; decide)
  · exact escaped_u16_mem _ b (hx ▸ hb)

theorem escaped_ls_mem {r : Nat} (h : r = 0x2028 ∨ r = 0x2029) {b : UInt8} (hb : b ∈ appendEscapedUnicode r) :
    b.toNat < 0x80 ∧ isHTMLChar b.toNat = false :=
  escaped_u16_mem r b (appendEscapedUnicode_bmp r (by omega) ▸ hb)

/-- no raw `<`, `>`, `&` -/
def noHTML (l : Bytes) : Prop := ∀ b ∈ l, isHTMLChar b.toNat = false

theorem noHTML_append {a b : Bytes} (ha : noHTML a) (hb : noHTML b) : noHTML (a ++ b) := by
  intro x hx; rcases List.mem_append.mp hx with h | h
  · exact ha x h
  · exact hb x h

theorem noHTML_take {l : Bytes} (n : Nat) (h : noHTML l) : noHTML (l.take n) :=
  fun b hb => h b (List.mem_of_mem_take hb)

theorem noHTML_of_high {l : Bytes} (h : ∀ b ∈ l, 0x80 ≤ b.toNat) : noHTML l := by
  intro b hb
  have := h b hb
  simp only [isHTMLChar, Bool.or_eq_false_iff, decide_eq_false_iff_not]; omega

theorem ne_of_noHTML {b : UInt8} (h : isHTMLChar b.toNat = false) : b ≠ 0x3c ∧ b ≠ 0x3e ∧ b ≠ 0x26 := by
  refine ⟨?_, ?_, ?_⟩ <;> (intro e; subst e; simp [isHTMLChar] at h)

theorem noHTML_fffd : noHTML utf8FFFD := by unfold noHTML; decide

theorem quoteStep_noHTML (js : Bool) (c : UInt8) (t : Bytes) : noHTML (quoteStep true js c t).1 := by
  by_cases h0 : c.toNat < runeSelf
  · rw [quoteStep_ascii true js t h0]
    simp only [Bool.or_true, and_true]
    by_cases he : escapeASCII c.toNat ≠ 0
    · rw [if_pos he]; exact fun b hb => (escaped_ascii_mem hb).2
    · rw [if_neg he]
      intro b hb
      obtain rfl := List.mem_singleton.mp hb
      -- a byte the table does not mark is not `<` `>` `&`
      have ht := escapeASCII_table ⟨b.toNat, h0⟩
      simp only at ht
      cases hh : isHTMLChar b.toNat
      · rfl
      · simp only [isHTMLChar, Bool.or_eq_true, decide_eq_true_eq] at hh
        exact absurd (ht.mpr (by omega)) (by omega)
  · rcases decodeRune_high c t h0 with h1 | h1
    · rw [quoteStep_multi true js h0 h1]
      split
      · rename_i hj; exact fun b hb => (escaped_ls_mem hj.1 hb).2
      · exact noHTML_of_high (decodeRune_take_high c t h0)
    · rw [quoteStep_bad true js h0 h1]; exact noHTML_fffd

theorem quoteLoop_noHTML (js : Bool) (s : Bytes) : noHTML (quoteLoop true js s).1 := by
  fun_induction quoteLoop true js s with
  | case1 => intro b hb; simp at hb
  | case2 c t st r ih => exact noHTML_append (quoteStep_noHTML js c t) ih

/-- A raw U+2028 (E2 80 A8) or U+2029 (E2 80 A9) occurs somewhere in `l`. -/
def hasLS : Bytes → Bool
  | [] => false
  | b :: t => (b == 0xE2 && (t.take 2 == [0x80, 0xA8] || t.take 2 == [0x80, 0xA9])) || hasLS t

theorem hasLS_skip {a : Bytes} (rest : Bytes) (h : ∀ b ∈ a, b ≠ 0xE2) : hasLS (a ++ rest) = hasLS rest := by
  induction a with
  | nil => rfl
  | cons x a ih =>
    have hx : (x == 0xE2) = false := by simpa using h x (by simp)
    simp only [List.cons_append, hasLS, hx, Bool.false_and, Bool.false_or]
    exact ih (fun b hb => h b (by simp [hb]))

theorem ne_E2_of_toNat_ne {b : UInt8} (h : b.toNat ≠ 0xE2) : b ≠ 0xE2 := by
  intro e; subst e; simp at h

theorem hasLS_take (c : UInt8) (t rest : Bytes) (h0 : ¬ c.toNat < runeSelf) (h1 : 1 < (decodeRune (c :: t)).2)
    (n1 : (decodeRune (c :: t)).1 ≠ 0x2028) (n2 : (decodeRune (c :: t)).1 ≠ 0x2029) :
    hasLS ((c :: t).take (decodeRune (c :: t)).2 ++ rest) = hasLS rest := by
  have hd := dec_sound (c :: t)
  generalize decodeRune (c :: t) = d at hd h1 n1 n2
  cases hd with
  | ascii h => simp at h1
  | short | illformed => simp at h1
  | @two _ b1 q lo hi hl hb1 hb2 =>
    have := leadInfo_size2 hl
    apply hasLS_skip; intro b hb
    simp only [List.take_succ_cons, List.take_zero, List.mem_cons, List.not_mem_nil, or_false] at hb
    rcases hb with rfl | rfl <;> apply ne_E2_of_toNat_ne <;> omega
  | @three _ b1 b2 q lo hi hl hb1 hb2 hc2 =>
    have := leadInfo_size3 hl
    rw [isCont_iff] at hc2
    have e1 : b1 ≠ 0xE2 := ne_E2_of_toNat_ne (by omega)
    have e2 : b2 ≠ 0xE2 := ne_E2_of_toNat_ne (by omega)
    simp only [List.take_succ_cons, List.take_zero, List.cons_append, List.nil_append, hasLS]
    have x1 : (b1 == 0xE2) = false := by simpa using e1
    have x2 : (b2 == 0xE2) = false := by simpa using e2
    simp only [x1, x2, Bool.false_and, Bool.false_or]
    by_cases hc : c = 0xE2
    · subst hc
      have k1 : ¬ (b1 = 0x80 ∧ b2 = 0xA8) := by
        rintro ⟨rfl, rfl⟩; simp at n1
      have k2 : ¬ (b1 = 0x80 ∧ b2 = 0xA9) := by
        rintro ⟨rfl, rfl⟩; simp at n2
      simp [k1, k2]
    · have : (c == 0xE2) = false := by simpa using hc
      simp [this]
  | @four _ b1 b2 b3 q lo hi hl hb1 hb2 hc2 hc3 =>
    have := leadInfo_size4 hl
    rw [isCont_iff] at hc2 hc3
    apply hasLS_skip; intro b hb
    simp only [List.take_succ_cons, List.take_zero, List.mem_cons, List.not_mem_nil, or_false] at hb
    rcases hb with rfl | rfl | rfl | rfl <;> apply ne_E2_of_toNat_ne <;> omega

theorem hasLS_skip_ascii {a : Bytes} (rest : Bytes) (h : ∀ b ∈ a, b.toNat < 0x80) : hasLS (a ++ rest) = hasLS rest :=
  hasLS_skip rest fun b hb => ne_E2_of_toNat_ne (Nat.ne_of_lt (Nat.lt_trans (h b hb) (by decide)))

theorem quoteStep_noLS (html : Bool) (c : UInt8) (t rest : Bytes) :
    hasLS ((quoteStep html true c t).1 ++ rest) = hasLS rest := by
  by_cases h0 : c.toNat < runeSelf
  · rw [quoteStep_ascii html true t h0]
    apply hasLS_skip_ascii
    split
    · exact fun b hb => (escaped_ascii_mem hb).1
    · intro b hb; rw [List.mem_singleton.mp hb]; exact h0
  · rcases decodeRune_high c t h0 with h1 | h1
    · rw [quoteStep_multi html true h0 h1]
      split
      · rename_i hj; exact hasLS_skip_ascii rest fun b hb => (escaped_ls_mem hj.1 hb).1
      · rename_i hj
        exact hasLS_take c t rest h0 h1 (fun e => hj ⟨.inl e, rfl⟩) (fun e => hj ⟨.inr e, rfl⟩)
    · rw [quoteStep_bad html true h0 h1]; exact hasLS_skip rest (by decide)

theorem quoteLoop_noLS (html : Bool) (s rest : Bytes) : hasLS ((quoteLoop html true s).1 ++ rest) = hasLS rest := by
  fun_induction quoteLoop html true s with
  | case1 => rfl
  | case2 c t st r ih => simp only [List.append_assoc]; rw [quoteStep_noLS, ih]

theorem take2_eq_iff_prefix (x y : UInt8) (t : Bytes) : t.take 2 = [x, y] ↔ [x, y] <+: t := by
  rw [List.prefix_iff_eq_take]; simp [eq_comm]

theorem hasLS_iff (l : Bytes) :
    hasLS l = true ↔ ([0xE2, 0x80, 0xA8] <:+: l ∨ [0xE2, 0x80, 0xA9] <:+: l) := by
  induction l with
  | nil => simp [hasLS]
  | cons b t ih =>
    simp only [hasLS, Bool.or_eq_true, Bool.and_eq_true, beq_iff_eq, ih, List.infix_cons_iff,
      List.cons_prefix_cons, take2_eq_iff_prefix]
    constructor
    · rintro (⟨rfl, h | h⟩ | h | h)
      · exact Or.inl (Or.inl ⟨rfl, h⟩)
      · exact Or.inr (Or.inl ⟨rfl, h⟩)
      · exact Or.inl (Or.inr h)
      · exact Or.inr (Or.inr h)
    · rintro ((⟨rfl, h⟩ | h) | (⟨rfl, h⟩ | h))
      · exact Or.inl ⟨rfl, Or.inl h⟩
      · exact Or.inr (Or.inl h)
      · exact Or.inl ⟨rfl, Or.inr h⟩
      · exact Or.inr (Or.inr h)

theorem not_infix_of_hasLS {l : Bytes} (h : hasLS l = false) :
    ¬ [0xE2, 0x80, 0xA8] <:+: l ∧ ¬ [0xE2, 0x80, 0xA9] <:+: l := by
  have hn := mt (hasLS_iff l).mpr (by rw [h]; exact Bool.false_ne_true)
  exact ⟨fun x => hn (.inl x), fun x => hn (.inr x)⟩

end JsonV.Lemmas.QuoteSafe
