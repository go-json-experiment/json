/-
One field of the entry being processed preserves the invariant of the search.  Beside `Inv` there is a second
part `Inv2`: index paths are pairwise different (in the history and in `allFields`), every queued entry is the
child of a handled field, `allFields` is ordered by depth, and every handled declaration is well-formed
(`GoodDecl`, from the absence of errors).
-/
import JsonV.Lemmas.FieldsInv

namespace JsonV.Lemmas.Fields
open JsonV JsonV.Model JsonV.Model.Fields JsonV.Spec.FieldRule

/-- Field `j` of struct `sid` is an embedded fallback (for the model). -/
def Fb (g : Graph) (sid : StructId) (j : Nat) : Prop := ∃ d, FieldAt g sid j d ∧ ∃ o, actOf d = .fallback o

/-- The second part of the invariant.  Suffixes: `ND` the index paths are pairwise different, `S` sound (what is there comes
from a handled field), `C` complete (every handled fallback field is there), `Sorted` ascending in depth.  `good`: every
handled declaration is a `GoodDecl`. -/
structure Inv2 (g : Graph) (P R : List QE) (cur : Option (QE × Nat)) (s : St) : Prop where
  histND : ((hist P R s).map (·.index)).Nodup
  queueS : ∀ e' ∈ s.queue, ∃ e j, Done P cur e j ∧ e'.index = e.index ++ [j]
  allND : (s.all.map (·.index)).Nodup
  allSorted : s.all.Pairwise (fun a b => a.depth ≤ b.depth)
  good : ∀ e j d, Done P cur e j → FieldAt g e.sid j d → GoodDecl d
  fbS : ∀ f ∈ s.fbs, ∃ e j, Done P cur e j ∧ Fb g e.sid j ∧ f.index = e.index ++ [j]
  fbC : ∀ e j, Done P cur e j → Fb g e.sid j → ∃ f ∈ s.fbs, f.index = e.index ++ [j]
  fbND : (s.fbs.map (·.index)).Nodup
  fbSorted : s.fbs.Pairwise (fun a b => a.depth ≤ b.depth)

/-- `Inv` (`a`) and `Inv2` (`b`) together. -/
structure Inv3 (g : Graph) (root : StructId) (k : Nat) (P R : List QE) (cur : Option (QE × Nat)) (s : St) : Prop where
  a : Inv g root k P R cur s
  b : Inv2 g P R cur s

variable {g : Graph} {root : StructId} {k : Nat} {P R' : List QE} {qe : QE} {i : Nat} {d : FieldDecl} {s : St}

theorem Inv2.orErr {P R cur} {s : St} (h : Inv2 g P R cur s) (e : Option Err) : Inv2 g P R cur (s.orErr e) := by
  rw [orErr_eq]
  exact ⟨h.histND, h.queueS, h.allND, h.allSorted, h.good, h.fbS, h.fbC, h.fbND, h.fbSorted⟩

theorem Inv3.orErr {P R cur} {s : St} (h : Inv3 g root k P R cur s) (e : Option Err) :
    Inv3 g root k P R cur (s.orErr e) :=
  ⟨h.a.orErr e, h.b.orErr e⟩

theorem Inv.depth_le {R cur} (h : Inv g root k P R cur s) : ∀ e ∈ hist P R s, e.index.length ≤ k + 1 := by
  intro e he
  simp only [hist, List.mem_append] at he
  rcases he with (he | he) | he
  · have := h.depthP e he; omega
  · have := h.depthR e he; omega
  · have := h.depthQ e he; omega

theorem qe_mem_hist : qe ∈ hist P (qe :: R') s := by simp [hist]

theorem nodup_map_append_short {α β : Type} (f : α → β) {l m : List α} (h : (l.map f).Nodup) (hm : m.length ≤ 1)
    (hx : ∀ a ∈ l, ∀ b ∈ m, f a ≠ f b) : ((l ++ m).map f).Nodup := by
  rw [List.map_append]
  refine List.pairwise_append_short h (by rw [List.length_map]; exact hm) ?_
  intro x hx' y hy
  obtain ⟨a, ha, rfl⟩ := List.mem_map.mp hx'
  obtain ⟨b, hb, rfl⟩ := List.mem_map.mp hy
  exact hx a ha b hb

theorem fresh (h2 : Inv2 g P (qe :: R') (some (qe, i)) s)
    {e : QE} {j : Nat} (hd : Done P (some (qe, i)) e j) : e.index ++ [j] ≠ qe.index ++ [i] := by
  intro heq
  obtain ⟨h1, h3⟩ := List.append_singleton_inj.mp heq
  rcases done_some.mp hd with hd | ⟨_, hj⟩
  · have hnd := h2.histND
    have hsplit : hist P (qe :: R') s = P ++ (qe :: (R' ++ s.queue)) := by simp [hist]
    rw [hsplit, List.map_append, List.nodup_append] at hnd
    exact hnd.2.2 _ (List.mem_map.mpr ⟨e, hd, rfl⟩) _ (List.mem_map.mpr ⟨qe, List.mem_cons_self .., rfl⟩) h1
  · omega

theorem Inv.done_depth (h : Inv g root k P (qe :: R') (some (qe, i)) s) {e : QE} {j : Nat}
    (hd : Done P (some (qe, i)) e j) : (e.index ++ [j]).length ≤ k + 1 := by
  rw [List.length_append]
  rcases done_some.mp hd with hd | ⟨rfl, _⟩
  · exact Nat.succ_le_succ (h.depthP e hd)
  · exact Nat.le_of_eq (congrArg (· + 1) (h.depthR e (List.mem_cons_self ..)))

/-- When the entry being processed is a repeated type (`visitChildren = false`), the embedded struct of its field
`i` is already in `seen`: the first occurrence of the type was processed before and queued it. -/
theorem Inv.seen_of_novisit (h : Inv g root k P (qe :: R') (some (qe, i)) s) (hf : FieldAt g qe.sid i d)
    {t : StructId} (ha : actOf d = .enqueue t) (hv : qe.visit = false) : t ∈ s.seen := by
  obtain ⟨e0, he0, hsid, hvis, _⟩ := h.firstW qe qe_mem_hist hv
  have hP : e0 ∈ P := by
    have hp := h.firstP
    have hsplit : hist P (qe :: R') s = P ++ (qe :: (R' ++ s.queue)) := by simp [hist]
    rw [hsplit] at hp he0
    rcases List.mem_append.mp he0 with hin | hin
    · exact hin
    · exfalso
      have hp2 := (List.pairwise_append.mp hp).2.1
      rcases List.mem_cons.mp hin with rfl | hin
      · rw [hv] at hvis; cases hvis
      · exact (List.pairwise_cons.mp hp2).1 e0 hin hvis hsid.symm
  obtain ⟨e', he', h1, _⟩ := h.kids e0 i t (Or.inl hP) hvis (hsid ▸ ⟨d, hf, ha⟩)
  exact h1 ▸ h.seenH e' he'

/-- Whatever the action, the state grows by at most one queue entry, one field and one fallback, all with the index path
of this field; what was true of the old elements stays true, and the new element is accounted for by field `i` being
handled now. -/
theorem Inv3.step (h : Inv3 g root k P (qe :: R') (some (qe, i)) s) (hf : FieldAt g qe.sid i d) (hgd : GoodDecl d) :
    Inv3 g root k P (qe :: R') (some (qe, i + 1)) (applyAction qe i (actOf d) s) := by
  obtain ⟨Q, A, F, lQ, lA, lF, hq, ha, hb, mQ, mA, mF, mS⟩ := applyAction_shape qe i (actOf d) s
  obtain ⟨h1, h2⟩ := h
  have hh : hist P (qe :: R') (applyAction qe i (actOf d) s) = hist P (qe :: R') s ++ Q := by
    unfold hist
    rw [hq]
    exact (List.append_assoc _ _ _).symm
  have hnew : (qe.index ++ [i]).length = k + 1 := by
    rw [List.length_append, h1.depthR qe (List.mem_cons_self ..)]
    rfl
  have all_ix : ∀ f ∈ s.all, f.index ≠ qe.index ++ [i] ∧ f.depth ≤ k + 1 := by
    intro f hfm
    obtain ⟨e, j, hd, _, hi⟩ := h1.allS f hfm
    exact ⟨hi ▸ fresh h2 hd, by unfold RField.depth; exact hi ▸ h1.done_depth hd⟩
  have fbs_ix : ∀ f ∈ s.fbs, f.index ≠ qe.index ++ [i] ∧ f.depth ≤ k + 1 := by
    intro f hfm
    obtain ⟨e, j, hd, _, hi⟩ := h2.fbS f hfm
    exact ⟨hi ▸ fresh h2 hd, by unfold RField.depth; exact hi ▸ h1.done_depth hd⟩
  have seenW' : ∀ t, t ∈ s.seen → ∃ e0 ∈ hist P (qe :: R') s ++ Q, e0.sid = t ∧ e0.visit = true := by
    intro t ht
    obtain ⟨e0, he0, h3⟩ := h1.seenW t ht
    exact ⟨e0, List.mem_append_left _ he0, h3⟩
  refine ⟨⟨h1.depthP, h1.depthR, ?_, ?_, ?_, ?_, ?_, ?_, ?_, ?_, ?_, ?_⟩, ⟨?_, ?_, ?_, ?_, ?_, ?_, ?_, ?_, ?_⟩⟩
  · intro e he
    rw [hq] at he
    rcases List.mem_append.mp he with he | he
    · exact h1.depthQ e he
    · obtain ⟨_, t, _, rfl⟩ := (mQ e).mp he
      exact hnew
  · intro t ht
    rw [hh]
    by_cases hc : t ∈ s.seen
    · exact seenW' t hc
    · have hact := ((mS t).mp ht).resolve_left hc
      cases hv : qe.visit with
      | false => exact absurd (h1.seen_of_novisit hf hact hv) hc
      | true =>
        refine ⟨_, List.mem_append_right _ ((mQ _).mpr ⟨hv, t, hact, rfl⟩), rfl, ?_⟩
        simpa using hc
  · intro e he
    rw [hh] at he
    rcases List.mem_append.mp he with he | he
    · exact (mS _).mpr (Or.inl (h1.seenH e he))
    · obtain ⟨_, t, hact, rfl⟩ := (mQ e).mp he
      exact (mS t).mpr (Or.inr hact)
  · intro e he hev
    rw [hh] at he ⊢
    rcases List.mem_append.mp he with he | he
    · obtain ⟨e0, he0, h3⟩ := h1.firstW e he hev
      exact ⟨e0, List.mem_append_left _ he0, h3⟩
    · obtain ⟨_, t, _, rfl⟩ := (mQ e).mp he
      obtain ⟨e0, he0, h3, h4⟩ := h1.seenW t (by simpa using hev)
      exact ⟨e0, List.mem_append_left _ he0, h3, h4, hnew ▸ h1.depth_le e0 he0⟩
  · rw [hh]
    refine List.pairwise_append_short h1.firstP lQ (fun a ha' b hb' hbv heq => ?_)
    obtain ⟨_, t, _, rfl⟩ := (mQ b).mp hb'
    have hnc : t ∉ s.seen := by simpa using hbv
    exact hnc ((show a.sid = t from heq) ▸ h1.seenH a ha')
  · intro e j t hd hev hkid
    rw [hh]
    rcases done_succ hd with hd | ⟨rfl, rfl⟩
    · obtain ⟨e', he', h3⟩ := h1.kids e j t hd hev hkid
      exact ⟨e', List.mem_append_left _ he', h3⟩
    · exact ⟨_, List.mem_append_right _ ((mQ _).mpr ⟨hev, t, actOf_unique hf hkid, rfl⟩), rfl, rfl⟩
  · intro e he
    rw [hh] at he
    rcases List.mem_append.mp he with he | he
    · exact h1.reach e he
    · obtain ⟨_, t, hact, rfl⟩ := (mQ e).mp he
      exact Reach.step (h1.reach qe qe_mem_hist) hf ((hgd.kind.1 t).mp hact)
  · intro e j o hd hm
    rw [ha]
    rcases done_succ hd with hd | ⟨rfl, rfl⟩
    · obtain ⟨f, hfm, h3⟩ := h1.memb e j o hd hm
      exact ⟨f, List.mem_append_left _ hfm, h3⟩
    · exact ⟨_, List.mem_append_right _ ((mA _).mpr ⟨o, actOf_unique hf hm, rfl⟩), rfl, rfl⟩
  · intro f hfm
    rw [ha] at hfm
    rcases List.mem_append.mp hfm with hfm | hfm
    · obtain ⟨e, j, hd, h3⟩ := h1.allS f hfm
      exact ⟨e, j, done_mono hd, h3⟩
    · obtain ⟨o, hact, rfl⟩ := (mA f).mp hfm
      exact ⟨qe, i, done_now, ⟨d, hf, hact⟩, rfl⟩
  · intro qe' i' hc
    cases hc
    exact ⟨R', rfl⟩
  · rw [hh]
    refine nodup_map_append_short QE.index h2.histND lQ (fun e' he' e he heq => ?_)
    obtain ⟨_, t, _, rfl⟩ := (mQ e).mp he
    -- an entry with a path of length `k + 1` sits in the queue, so it is the child of a handled field
    have hlen : e'.index.length = k + 1 := heq ▸ hnew
    simp only [hist, List.mem_append] at he'
    rcases he' with (he' | he') | he'
    · have := h1.depthP e' he'; omega
    · have := h1.depthR e' he'; omega
    · obtain ⟨e, j, hd, hi⟩ := h2.queueS e' he'
      exact fresh h2 hd (hi ▸ heq)
  · intro e' he'
    rw [hq] at he'
    rcases List.mem_append.mp he' with he' | he'
    · obtain ⟨e, j, hd, hi⟩ := h2.queueS e' he'
      exact ⟨e, j, done_mono hd, hi⟩
    · obtain ⟨_, t, _, rfl⟩ := (mQ e').mp he'
      exact ⟨qe, i, done_now, rfl⟩
  · rw [ha]
    refine nodup_map_append_short RField.index h2.allND lA (fun f hfm f' hf' => ?_)
    obtain ⟨o, _, rfl⟩ := (mA f').mp hf'
    exact (all_ix f hfm).1
  · rw [ha]
    refine List.pairwise_append_short h2.allSorted lA (fun f hfm f' hf' => ?_)
    obtain ⟨o, _, rfl⟩ := (mA f').mp hf'
    exact Nat.le_trans (all_ix f hfm).2 (Nat.le_of_eq hnew.symm)
  · intro e j d' hd hf'
    rcases done_succ hd with hd | ⟨rfl, rfl⟩
    · exact h2.good e j d' hd hf'
    · cases hf.symm.trans hf'
      exact hgd
  · intro f hfm
    rw [hb] at hfm
    rcases List.mem_append.mp hfm with hfm | hfm
    · obtain ⟨e, j, hd, h3⟩ := h2.fbS f hfm
      exact ⟨e, j, done_mono hd, h3⟩
    · obtain ⟨o, hact, rfl⟩ := (mF f).mp hfm
      exact ⟨qe, i, done_now, ⟨d, hf, o, hact⟩, rfl⟩
  · intro e j hd hfb
    rw [hb]
    rcases done_succ hd with hd | ⟨rfl, rfl⟩
    · obtain ⟨f, hfm, h3⟩ := h2.fbC e j hd hfb
      exact ⟨f, List.mem_append_left _ hfm, h3⟩
    · obtain ⟨d', hf', o, hact⟩ := hfb
      cases hf.symm.trans hf'
      exact ⟨_, List.mem_append_right _ ((mF _).mpr ⟨o, hact, rfl⟩), rfl⟩
  · rw [hb]
    refine nodup_map_append_short RField.index h2.fbND lF (fun f hfm f' hf' => ?_)
    obtain ⟨o, _, rfl⟩ := (mF f').mp hf'
    exact (fbs_ix f hfm).1
  · rw [hb]
    refine List.pairwise_append_short h2.fbSorted lF (fun f hfm f' hf' => ?_)
    obtain ⟨o, _, rfl⟩ := (mF f').mp hf'
    exact Nat.le_trans (fbs_ix f hfm).2 (Nat.le_of_eq hnew.symm)

end JsonV.Lemmas.Fields
