/-
The tokenizer of the C12 model, characterised declaratively (`tokenize_eq_some_iff`): a text is tokenized to `ts` exactly
when `ts` is well nested and the text is a blank layout of `ts` with the delimiters the grammar requires,
`Layout (punct [.top0] ts) b`.  Both halves of C12 at the model level follow: whatever the tokenizer returns is well nested
(`wellNested_of_tokenize`), and rendering with any blank layout loses nothing (`render_tokenize`).
-/
import JsonV.Lemmas.FormatPda

namespace JsonV.Fmt

/-- `b` consists of the lexemes `ls` in order, each preceded by arbitrary whitespace, followed by whitespace. -/
inductive Layout : List Lex → Bytes → Prop
  | nil (w : Bytes) : allWs w = true → Layout [] w
  | cons (w : Bytes) (l : Lex) (ls : List Lex) (b : Bytes) : allWs w = true → Layout ls b →
      Layout (l :: ls) (w ++ (l.bytes ++ b))

theorem Layout.ws_cons {ls : List Lex} {b : Bytes} (c : UInt8) (hc : isWs c = true) (h : Layout ls b) :
    Layout ls (c :: b) := by
  cases h with
  | nil _ hw => exact Layout.nil (c :: b) (by simp [allWs, hc] at hw ⊢; exact hw)
  | cons w l ls b hw hl =>
    have := Layout.cons (c :: w) l ls b (by simp [allWs, hc] at hw ⊢; exact hw) hl
    simpa using this

theorem Layout.headOK {ls : List Lex} {b : Bytes} (hl : Layout ls b)
    (h : ∀ l ∈ ls.head?, ∃ c cs, l.bytes = c :: cs ∧ isNumChar c = false) : headOK b := by
  cases hl with
  | nil w hw => simpa using headOK_ws_append hw headOK_nil
  | cons w l ls b hw _ =>
    obtain ⟨c, cs, e, hc⟩ := h l rfl
    refine headOK_ws_append hw ?_
    rw [e]
    intro x hx
    cases hx
    exact hc

theorem layout_pieces (o : WsOpts) (ho : o.Blank) : ∀ (ts : List Tok) (st : Stack),
    Layout (punct st ts) (flatWs (pieces o st ts)) := by
  intro ts
  induction ts with
  | nil => intro st; exact Layout.nil [] rfl
  | cons t ts ih =>
    intro st
    unfold pieces punct
    cases hs : step st t with
    | none => exact Layout.cons [] _ _ _ rfl (ih st)
    | some p =>
      obtain ⟨d, st'⟩ := p
      have := Layout.cons _ (.tok t) _ _ (allWs_wsBefore o ho st t) (ih st')
      cases d with
      | none => exact this
      | some d => exact Layout.cons [] _ _ _ rfl this

theorem mapTok_eq_some {f : Bytes → Tok} {x : Option (Bytes × Bytes)} {l : Lex} {r : Bytes} :
    mapTok f x = some (l, r) ↔ ∃ a, x = some (a, r) ∧ l = .tok (f a) := by
  cases x with
  | none => simp [mapTok]
  | some p =>
    obtain ⟨a0, r0⟩ := p
    simp only [mapTok, Option.some.injEq, Prod.mk.injEq]
    constructor
    · rintro ⟨rfl, rfl⟩; exact ⟨a0, ⟨rfl, rfl⟩, rfl⟩
    · rintro ⟨a, ⟨rfl, rfl⟩, rfl⟩; exact ⟨rfl, rfl⟩

/-- The byte tests of `lex1` are taken one at a time (`split` on the whole chain is slow to check). -/
theorem lex1_spec {b : Bytes} {l : Lex} {r : Bytes} (h : lex1 b = some (l, r)) :
    l.valid = true ∧ b = l.bytes ++ r := by
  cases b with
  | nil => cases h
  | cons c cs =>
    unfold lex1 at h
    dsimp only at h
    by_cases hnum : c = 0x2d ∨ isDigit c = true
    · rw [if_pos hnum] at h
      obtain ⟨a, hsn, rfl⟩ := mapTok_eq_some.mp h
      have := scanNum_append [] hsn headOK_nil
      exact ⟨by simpa [Lex.valid, Tok.valid] using this, scanNum_split hsn⟩
    rw [if_neg hnum] at h
    by_cases hq : c = 0x22
    · rw [if_pos hq] at h
      obtain ⟨a, hss, rfl⟩ := mapTok_eq_some.mp h
      have := scanStr_append [] hss
      refine ⟨by simpa [Lex.valid, Tok.valid, hq] using this, ?_⟩
      rw [scanStr_split hss]
      rfl
    rw [if_neg hq] at h
    by_cases hbo : c = 0x7b
    · rw [if_pos hbo] at h
      cases h
      exact ⟨rfl, by rw [hbo]; rfl⟩
    rw [if_neg hbo] at h
    by_cases heo : c = 0x7d
    · rw [if_pos heo] at h
      cases h
      exact ⟨rfl, by rw [heo]; rfl⟩
    rw [if_neg heo] at h
    by_cases hba : c = 0x5b
    · rw [if_pos hba] at h
      cases h
      exact ⟨rfl, by rw [hba]; rfl⟩
    rw [if_neg hba] at h
    by_cases hea : c = 0x5d
    · rw [if_pos hea] at h
      cases h
      exact ⟨rfl, by rw [hea]; rfl⟩
    rw [if_neg hea] at h
    by_cases hcomma : c = 0x2c
    · rw [if_pos hcomma] at h
      cases h
      exact ⟨rfl, by rw [hcomma]; rfl⟩
    rw [if_neg hcomma] at h
    by_cases hcolon : c = 0x3a
    · rw [if_pos hcolon] at h
      cases h
      exact ⟨rfl, by rw [hcolon]; rfl⟩
    rw [if_neg hcolon] at h
    by_cases hn : c = 0x6e
    · rw [if_pos hn] at h
      split at h
      · cases h
        exact ⟨rfl, by rw [hn]; rfl⟩
      · cases h
    rw [if_neg hn] at h
    by_cases ht : c = 0x74
    · rw [if_pos ht] at h
      split at h
      · cases h
        exact ⟨rfl, by rw [ht]; rfl⟩
      · cases h
    rw [if_neg ht] at h
    by_cases hf : c = 0x66
    · rw [if_pos hf] at h
      split at h
      · cases h
        exact ⟨rfl, by rw [hf]; rfl⟩
      · cases h
    rw [if_neg hf] at h
    cases h

theorem consL_eq_some {l : Lex} {x : Option (List Lex)} {ls : List Lex} :
    consL l x = some ls ↔ ∃ ls', ls = l :: ls' ∧ x = some ls' := by
  cases x <;> simp [consL, eq_comm]

theorem lexF_spec {n : Nat} {b : Bytes} {ls : List Lex} (h : lexF n b = some ls) :
    Layout ls b ∧ ∀ l ∈ ls, l.valid = true := by
  fun_induction lexF n b generalizing ls with
  | case1 => cases h
  | case2 =>
    cases h
    exact ⟨Layout.nil [] rfl, fun _ hl => nomatch hl⟩
  | case3 n c cs hc ih =>
    obtain ⟨hl, hv⟩ := ih h
    exact ⟨hl.ws_cons c hc, hv⟩
  | case4 n c cs hc l r h1 ih =>
    obtain ⟨ls', rfl, h'⟩ := consL_eq_some.mp h
    obtain ⟨hl, hv⟩ := ih h'
    obtain ⟨hvl, e⟩ := lex1_spec h1
    refine ⟨?_, List.forall_mem_cons.mpr ⟨hvl, hv⟩⟩
    rw [e]
    exact Layout.cons [] l ls' r rfl hl
  | case5 => cases h

/-- A number is followed by whitespace, a delimiter or a closing bracket, never by a number character. -/
theorem layout_head_after_value (ts : List Tok) (st : Stack) (b : Bytes)
    (hst : afterValue st) (hacc : accepts st ts = true) (hl : Layout (punct st ts) b) : headOK b := by
  refine hl.headOK fun l hl => ?_
  cases ts with
  | nil => cases hl
  | cons t ts =>
    obtain ⟨d, st', hs, _⟩ := accepts_cons hacc
    simp only [punct, hs] at hl
    cases d with
    | some d =>
      cases hl
      cases d <;> exact ⟨_, _, rfl, by decide⟩
    | none =>
      cases hl
      rcases step_after_value hst hs with rfl | rfl <;> exact ⟨_, _, rfl, by decide⟩

theorem lexF_layout_cons {l : Lex} {ls : List Lex} {b : Bytes} {n : Nat} (hl : Layout (l :: ls) b)
    (hn : b.length < n) (h1 : ∀ r, Layout ls r → lex1 (l.bytes ++ r) = some (l, r))
    (hf : ∀ r, ∃ c cs, l.bytes ++ r = c :: cs ∧ isWs c = false)
    (ih : ∀ r m, Layout ls r → r.length < m → lexF m r = some ls) : lexF n b = some (l :: ls) := by
  cases hl with
  | cons w _ _ r hw hr =>
    have hpos : 0 < (l.bytes ++ []).length := by
      obtain ⟨c, cs, e, _⟩ := hf []
      rw [e]
      exact Nat.succ_pos _
    simp only [List.length_append, List.length_nil] at hn hpos
    obtain ⟨m, rfl⟩ : ∃ m, n = (m + 1) + w.length := ⟨n - w.length - 1, by omega⟩
    rw [lexF_ws _ _ _ hw, lexF_lexeme l r m (h1 r hr) (hf r), ih r m hr (by omega)]
    rfl

theorem lex_layout : ∀ (ts : List Tok) (st : Stack) (b : Bytes) (n : Nat),
    accepts st ts = true → (∀ t ∈ ts, t.valid = true) → Layout (punct st ts) b → b.length < n →
    lexF n b = some (punct st ts) := by
  intro ts
  induction ts with
  | nil =>
    intro st b n _ _ hl hn
    cases hl with
    | nil _ hw => exact lexF_ws_only b n hw hn
  | cons t ts ih =>
    intro st b n hacc hval hl hn
    obtain ⟨d, st', hs, hacc'⟩ := accepts_cons hacc
    obtain ⟨hvt, hval'⟩ := List.forall_mem_cons.mp hval
    have htok : ∀ r m, Layout (.tok t :: punct st' ts) r → r.length < m →
        lexF m r = some (.tok t :: punct st' ts) := fun r m hr hm =>
      lexF_layout_cons hr hm
        (fun r' hr' => lex1_tok t r' hvt fun hnum => by
          cases t <;> cases hnum
          exact layout_head_after_value ts st' r' (afterValue_num hs) hacc' hr')
        (fun r' => tok_first_not_ws t r' hvt) (fun r' m' hr' => ih st' r' m' hacc' hval' hr')
    simp only [punct, hs] at hl ⊢
    cases d with
    | none => exact htok b n hl hn
    | some d => exact lexF_layout_cons hl hn (fun r _ => lex1_delim d r) (delim_first_not_ws d) htok

theorem tokenize_eq_some_iff (b : Bytes) (ts : List Tok) :
    tokenize b = some ts ↔ WellNested ts ∧ Layout (punct [.top0] ts) b := by
  constructor
  · intro h
    unfold tokenize at h
    split at h
    · rename_i ls hls
      obtain ⟨hacc, rfl⟩ := unpunct_spec h
      obtain ⟨hl, hv⟩ := lexF_spec hls
      exact ⟨⟨fun t ht => hv _ (tok_mem_punct _ ht), hacc⟩, hl⟩
    · cases h
  · rintro ⟨hw, hl⟩
    unfold tokenize lex
    rw [lex_layout ts [.top0] b _ hw.2 hw.1 hl (Nat.lt_succ_self _)]
    exact unpunct_punct ts _ hw.2

theorem wellNested_of_tokenize (b : Bytes) (ts : List Tok) (h : tokenize b = some ts) : WellNested ts :=
  ((tokenize_eq_some_iff b ts).mp h).1

theorem render_tokenize (o : WsOpts) (ho : o.Blank) (ts : List Tok) (h : WellNested ts) :
    tokenize (render o ts) = some ts :=
  (tokenize_eq_some_iff _ ts).mpr ⟨h, layout_pieces o ho ts _⟩

theorem tok_bytes_pos (t : Tok) (hv : t.valid = true) : 0 < t.bytes.length := by
  obtain ⟨c, cs, h, _⟩ := (tok_ws t hv).1
  rw [h]; exact Nat.succ_pos _

theorem delim_bytes_len (d : Delim) : d.bytes.length = 1 := by cases d <;> rfl

theorem lex1_shorter (b : Bytes) (l : Lex) (r : Bytes) (h : lex1 b = some (l, r)) : r.length < b.length := by
  obtain ⟨hv, hs⟩ := lex1_spec h
  have : 0 < l.bytes.length := by
    cases l with
    | tok t => exact tok_bytes_pos t hv
    | delim d => simp [Lex.bytes, delim_bytes_len]
  rw [hs, List.length_append]; omega

theorem lexF_fuel : ∀ (n m : Nat) (b : Bytes), b.length < n → b.length < m → lexF n b = lexF m b := by
  intro n
  induction n with
  | zero => intro m b h; omega
  | succ n ih =>
    intro m b hn hm
    obtain ⟨j, rfl⟩ : ∃ j, m = j + 1 := ⟨m - 1, by omega⟩
    cases b with
    | nil => rfl
    | cons c cs =>
      simp only [List.length_cons] at hn hm
      rw [lexF, lexF]
      split
      · exact ih j cs (by omega) (by omega)
      · split
        · rename_i l r h1
          have := lex1_shorter _ _ _ h1
          simp only [List.length_cons] at this
          rw [ih j r (by omega) (by omega)]
        · rfl

end JsonV.Fmt
