/-
Equations of `unm` and `unmAny` on each form of input, and the merge law: for `any` by induction on the tree, for every
type by induction on the type, from three ingredients per decoder `f` with zero value `z`: (N) `null` yields the zero
value, (R) a non-object input replaces: a success does not depend on the prior value, (K) after a successful non-null,
non-object input, an object input is rejected; and the merge law of the member loop (`objFold_merge`) for
object-into-object.
-/
import JsonV.Lemmas.MergeFold

namespace JsonV.Lemmas.Merge
open JsonV JsonV.Spec JsonV.Model

theorem merge_null_left (b : JTree) : JTree.merge .null b = b := rfl

theorem unmAnyM_eq (o : UOpts) (ms : List (Bytes × JTree)) (seen : List Bytes) (m : List (Bytes × GoVal)) :
    unmAnyM o ms seen m = objFold o (fun _ => some (unmAny o)) (fun _ => .nilIface) ms seen m := by
  induction ms generalizing seen m with
  | nil => rfl
  | cons p r ih =>
    obtain ⟨n, j⟩ := p
    simp only [unmAnyM, objFold]
    split
    · rfl
    · cases unmAny o j ((alookup n m).getD .nilIface) with
      | error e => rfl
      | ok v => exact ih _ _

theorem unmAnyL_eq (o : UOpts) (xs : List JTree) : unmAnyL o xs = elemsFresh (unmAny o) .nilIface xs := by
  induction xs with
  | nil => rfl
  | cons x r ih => simp only [unmAnyL, elemsFresh, ih]

/-! The equations of `unm` and `unmAny` hold by unfolding; they are stated with `Except.map` / `Except.bind`, so that a
successful call is taken apart with `Except.map_eq_ok` / `Except.bind_eq_ok`. -/

/-- Clause "a JSON null zeroes its destination", for every type and every prior value. -/
theorem unm_null (o : UOpts) (T : GoType) (v : GoVal) : unm o T .null v = .ok T.zero := by
  cases T <;> rfl

theorem unm_any_eq (o : UOpts) : unm o .any = unmAny o := rfl

theorem unm_slice_arr (o : UOpts) (t : GoType) (xs : List JTree) (p : GoVal) :
    unm o (.slice t) (.arr xs) p = (elemsFresh (unm o t) t.zero xs).map .sliceOf := by
  show (match elemsFresh (unm o t) t.zero xs with
    | .error e => .error e | .ok vs => .ok (.sliceOf vs) : Except Err GoVal) = _
  cases elemsFresh (unm o t) t.zero xs <;> rfl

theorem unm_array_arr (o : UOpts) (n : Nat) (t : GoType) (xs : List JTree) (p : GoVal) :
    unm o (.array n t) (.arr xs) p = (arrayElems o (unm o t) t.zero n xs).bind fun vs =>
      if xs.length != n && !o.arrayAnyLen then .error .arrayLen else .ok (.arrayOf vs) := by
  show (match arrayElems o (unm o t) t.zero n xs with
    | .error e => .error e
    | .ok vs => if xs.length != n && !o.arrayAnyLen then .error .arrayLen else .ok (.arrayOf vs)
    : Except Err GoVal) = _
  cases arrayElems o (unm o t) t.zero n xs <;> rfl

theorem unm_map_obj (o : UOpts) (t : GoType) (ms : List (Bytes × JTree)) (m0 : List (Bytes × GoVal)) :
    unm o (.map t) (.obj ms) (.mapOf m0) =
      (objFold o (fun _ => some (unm o t)) (fun _ => t.zero) ms [] m0).map .mapOf := by
  show (match objFold o (fun _ => some (unm o t)) (fun _ => t.zero) ms [] m0 with
    | .error e => .error e | .ok m => .ok (.mapOf m) : Except Err GoVal) = _
  cases objFold o (fun _ => some (unm o t)) (fun _ => t.zero) ms [] m0 <;> rfl

/-- A nil map is allocated first: it behaves like the empty map. -/
theorem unm_map_obj_nil (o : UOpts) (t : GoType) (ms : List (Bytes × JTree)) :
    unm o (.map t) (.obj ms) .nilMap =
      (objFold o (fun _ => some (unm o t)) (fun _ => t.zero) ms [] []).map .mapOf :=
  unm_map_obj o t ms []

theorem unm_struct_obj (o : UOpts) (fs : List (Bytes × GoType)) (ms : List (Bytes × JTree))
    (fvs : List (Bytes × GoVal)) :
    unm o (.struct fs) (.obj ms) (.structOf fvs) =
      (objFold o (fieldDec o fs) (fieldZero fs) ms [] fvs).map .structOf := by
  show (match objFold o (fieldDec o fs) (fieldZero fs) ms [] fvs with
    | .error e => .error e | .ok m => .ok (.structOf m) : Except Err GoVal) = _
  cases objFold o (fieldDec o fs) (fieldZero fs) ms [] fvs <;> rfl

theorem unm_ptr (o : UOpts) (t : GoType) (j : JTree) (p : GoVal) (hj : j.isNull = false) :
    unm o (.ptr t) j p =
      (match p with
       | .nilPtr => (match unm o t j t.zero with | .error e => .error e | .ok v => .ok (.ptrTo v))
       | .ptrTo v0 => (match unm o t j v0 with | .error e => .error e | .ok v => .ok (.ptrTo v))
       | _ => .error .illTyped) := by
  cases j with
  | null => cases hj
  | _ => rfl

theorem unm_ptr_to (o : UOpts) (t : GoType) (j : JTree) (v0 : GoVal) (hj : j.isNull = false) :
    unm o (.ptr t) j (.ptrTo v0) = (unm o t j v0).map .ptrTo := by
  rw [unm_ptr o t j _ hj]
  show (match unm o t j v0 with | .error e => .error e | .ok v => .ok (.ptrTo v) : Except Err GoVal) = _
  cases unm o t j v0 <;> rfl

/-- A nil pointer is given a zero pointee first. -/
theorem unm_ptr_nil (o : UOpts) (t : GoType) (j : JTree) :
    unm o (.ptr t) j .nilPtr = unm o (.ptr t) j (.ptrTo t.zero) := by
  cases j <;> rfl

theorem anyPrior_nil (o : UOpts) (j : JTree) (acc : GoVal → Bool) : anyPrior o j .nilIface acc = .ok () := rfl

theorem unmAny_nonobj (o : UOpts) (j : JTree) (p : GoVal) (hj : j.isObj = false) (hn : j.isNull = false) :
    unmAny o j p =
      (anyPrior o j p (match j with
        | .bool _ => isBoolV | .num _ => isFloatV | .str _ => isStrV | _ => isSliceV)).bind
        fun _ => unmAny o j .nilIface := by
  cases j with
  | null => cases hn
  | obj ms => cases hj
  | bool b => rw [unmAny]; cases anyPrior o (.bool b) p isBoolV <;> rfl
  | num l => rw [unmAny]; cases anyPrior o (.num l) p isFloatV <;> rfl
  | str s => rw [unmAny]; cases anyPrior o (.str s) p isStrV <;> rfl
  | arr xs => rw [unmAny]; cases anyPrior o (.arr xs) p isSliceV <;> rfl

theorem unmAny_arr (o : UOpts) (xs : List JTree) :
    unmAny o (.arr xs) .nilIface =
      (elemsFresh (unmAny o) .nilIface xs).map fun vs => .ifaceOf (.sliceOf vs) := by
  rw [← unmAnyL_eq]
  show (match unmAnyL o xs with
    | .error e => .error e | .ok vs => .ok (.ifaceOf (.sliceOf vs)) : Except Err GoVal) = _
  cases unmAnyL o xs <;> rfl

theorem unmAny_obj (o : UOpts) (ms : List (Bytes × JTree)) (m0 : List (Bytes × GoVal)) :
    unmAny o (.obj ms) (.ifaceOf (.mapOf m0)) =
      (objFold o (fun _ => some (unmAny o)) (fun _ => .nilIface) ms [] m0).map fun m => .ifaceOf (.mapOf m) := by
  rw [← unmAnyM_eq]
  show (match unmAnyM o ms [] m0 with
    | .error e => .error e | .ok m => .ok (.ifaceOf (.mapOf m)) : Except Err GoVal) = _
  cases unmAnyM o ms [] m0 <;> rfl

/-- A nil interface is given a fresh `map[string]any`. -/
theorem unmAny_obj_nil (o : UOpts) (ms : List (Bytes × JTree)) :
    unmAny o (.obj ms) .nilIface =
      (objFold o (fun _ => some (unmAny o)) (fun _ => .nilIface) ms [] []).map fun m => .ifaceOf (.mapOf m) :=
  unmAny_obj o ms []

/-! What a destination holds matters only through the entries (pointee) it contributes; a prior of the
wrong shape is an error whatever the options and the input. -/

theorem unm_map_obj_prior (t : GoType) (p : GoVal) :
    (∃ m0, ∀ o ms, unm o (.map t) (.obj ms) p =
      (objFold o (fun _ => some (unm o t)) (fun _ => t.zero) ms [] m0).map .mapOf) ∨
    ∀ o ms, unm o (.map t) (.obj ms) p = .error .illTyped := by
  cases p with
  | nilMap => exact .inl ⟨[], fun o ms => unm_map_obj_nil o t ms⟩
  | mapOf m0 => exact .inl ⟨m0, fun o ms => unm_map_obj o t ms m0⟩
  | _ => exact .inr fun _ _ => rfl

theorem unm_ptr_prior (t : GoType) (p : GoVal) :
    (∃ v0, ∀ o j, j.isNull = false → unm o (.ptr t) j p = (unm o t j v0).map .ptrTo) ∨
    ∀ o j, j.isNull = false → unm o (.ptr t) j p = .error .illTyped := by
  cases p with
  | nilPtr => exact .inl ⟨t.zero, fun o j hj => (unm_ptr_nil o t j).trans (unm_ptr_to o t j _ hj)⟩
  | ptrTo v0 => exact .inl ⟨v0, fun o j hj => unm_ptr_to o t j v0 hj⟩
  | _ => exact .inr fun o j hj => unm_ptr o t j _ hj

theorem unmAny_obj_prior (p : GoVal) :
    (∃ m0, ∀ o ms, unmAny o (.obj ms) p =
      (objFold o (fun _ => some (unmAny o)) (fun _ => .nilIface) ms [] m0).map fun m => .ifaceOf (.mapOf m)) ∨
    (∃ dv, ∀ o ms, unmAny o (.obj ms) p = .error (heldMismatch o (.obj ms) dv)) ∨
    ∀ o ms, unmAny o (.obj ms) p = .error .illTyped := by
  cases p with
  | nilIface => exact .inl ⟨[], fun o ms => unmAny_obj_nil o ms⟩
  | ifaceOf dv =>
    cases dv with
    | nilMap => exact .inl ⟨[], fun o ms => unmAny_obj_nil o ms⟩
    | mapOf m0 => exact .inl ⟨m0, fun o ms => unmAny_obj o ms m0⟩
    | _ => exact .inr (.inl ⟨_, fun _ _ => rfl⟩)
  | _ => exact .inr (.inr fun _ _ => rfl)

/-- The ingredients (N), (R), (K) of the header: with them the merge law holds whenever one of the two inputs
is not an object (`nonobj_case`). -/
structure Replaces (f : Dec) (z : GoVal) : Prop where
  null : ∀ v, f .null v = .ok z
  repl : ∀ j v v', j.isObj = false → f j v = .ok v' → f j z = .ok v'
  kill : ∀ j1 v1 ms2 r, j1.isObj = false → j1.isNull = false → f j1 z = .ok v1 → f (.obj ms2) v1 = .ok r → False

theorem nonobj_case {f : Dec} {z : GoVal} (H : Replaces f z) (a b : JTree) (v1 v2 : GoVal)
    (hab : a.isObj = false ∨ b.isObj = false) (h1 : f a z = .ok v1) (h2 : f b v1 = .ok v2) :
    f (JTree.merge a b) z = .ok v2 := by
  rw [merge_nonobj a b hab]
  cases hb : b.isObj with
  | false => exact H.repl b v1 v2 hb h2
  | true =>
    have ha : a.isObj = false := hab.resolve_right (by rw [hb]; exact Bool.noConfusion)
    cases hn : a.isNull with
    | true =>
      rw [eq_null_of_isNull hn, H.null] at h1
      cases h1
      exact h2
    | false =>
      cases b with
      | obj ms2 => exact (H.kill a v1 ms2 v2 ha hn h1 h2).elim
      | _ => cases hb

theorem Replaces.of_fresh {f : Dec} {z : GoVal} (hnull : ∀ v, f .null v = .ok z)
    (hfresh : ∀ j v v', f j v = f j v') (hobj : ∀ ms v r, f (.obj ms) v ≠ .ok r) : Replaces f z :=
  ⟨hnull, fun j v _ _ h => hfresh j v z ▸ h, fun _ v1 ms2 r _ _ _ h2 => hobj ms2 v1 r h2⟩

theorem Replaces.of_objOnly {f : Dec} {z : GoVal} (hnull : ∀ v, f .null v = .ok z)
    (honly : ∀ j v v', f j v = .ok v' → j.isObj = true ∨ j.isNull = true) : Replaces f z := by
  refine ⟨hnull, ?_, ?_⟩
  · intro j v v' hj h
    rcases honly j v v' h with ho | hn
    · rw [hj] at ho; cases ho
    · rw [eq_null_of_isNull hn, hnull] at h ⊢; exact h
  · intro j1 v1 ms2 r hj hn h1 _
    rcases honly j1 z v1 h1 with ho | hn'
    · rw [hj] at ho; cases ho
    · rw [hn] at hn'; cases hn'

theorem replaces_any (o : UOpts) : Replaces (unmAny o) .nilIface := by
  refine ⟨fun _ => rfl, ?_, ?_⟩
  · intro j v v' hj h
    cases hn : j.isNull with
    | true => rw [eq_null_of_isNull hn] at h ⊢; exact h
    | false =>
      rw [unmAny_nonobj o j v hj hn] at h
      obtain ⟨_, _, h⟩ := Except.bind_eq_ok.1 h
      exact h
  · intro j1 v1 ms2 r hj hn h1 h2
    cases j1 with
    | null => cases hn
    | obj ms => cases hj
    | arr xs =>
      rw [unmAny_arr] at h1
      obtain ⟨vs, _, rfl⟩ := Except.map_eq_ok.1 h1
      cases h2
    | _ => cases h1; cases h2

/-- The merge law of the decoder `f` with zero value `z` at a first input `j1`: decoding `j1` from `z` and then any `j2`
into the result is decoding `merge j1 j2` from `z`, both inputs without repeated names. -/
def MergeLawAt (f : Dec) (z : GoVal) (j1 : JTree) : Prop :=
  ∀ j2 : JTree, ∀ v1 v2 : GoVal, j1.dupFree = true → j2.dupFree = true →
    f j1 z = .ok v1 → f j2 v1 = .ok v2 → f (JTree.merge j1 j2) z = .ok v2

theorem MergeLawAt.of_fold {o : UOpts} {f : Dec} {z : GoVal} {dec : Bytes → Option Dec} {zf : Bytes → GoVal}
    {wrap : List (Bytes × GoVal) → GoVal} {m0 : List (Bytes × GoVal)}
    (hz : ∀ ms, f (.obj ms) z = (objFold o dec zf ms [] m0).map wrap)
    (hw : ∀ ms m, f (.obj ms) (wrap m) = (objFold o dec zf ms [] m).map wrap)
    (hnd0 : (akeys m0).Nodup) (hm0 : ∀ n, (alookup n m0).getD (zf n) = zf n)
    {ms1 ms2 : List (Bytes × JTree)} {v1 v2 : GoVal}
    (hd1 : (JTree.obj ms1).dupFree = true) (hd2 : (JTree.obj ms2).dupFree = true)
    (hML : ∀ n a, (n, a) ∈ ms1 → ∀ g, dec n = some g → MergeLawAt g (zf n) a)
    (h1 : f (.obj ms1) z = .ok v1) (h2 : f (.obj ms2) v1 = .ok v2) :
    f (JTree.merge (.obj ms1) (.obj ms2)) z = .ok v2 := by
  rw [dupFree_obj] at hd1 hd2
  rw [hz] at h1
  obtain ⟨m1, hf1, rfl⟩ := Except.map_eq_ok.1 h1
  rw [hw] at h2
  obtain ⟨m2, hf2, rfl⟩ := Except.map_eq_ok.1 h2
  rw [merge_obj, hz, objFold_merge hd1.1 hd2.1 hd1.2 hd2.2 hnd0 hm0
    (fun n a ha g hg b w1 w2 => hML n a ha g hg b w1 w2) hf1 hf2]
  rfl

theorem merge_law_any (o : UOpts) : ∀ a : JTree, MergeLawAt (unmAny o) .nilIface a := by
  intro a
  induction a using JTree.induct with
  | hobj ms1 ih =>
    intro b v1 v2 ha hb h1 h2
    cases b with
    | obj ms2 =>
      exact MergeLawAt.of_fold (unmAny_obj_nil o) (unmAny_obj o) List.nodup_nil (fun _ => rfl) ha hb
        (fun n a hma g hg => Option.some.inj hg ▸ ih n a hma) h1 h2
    | _ => exact nonobj_case (replaces_any o) _ _ v1 v2 (Or.inr rfl) h1 h2
  | _ => intro b v1 v2 _ _ h1 h2; exact nonobj_case (replaces_any o) _ _ v1 v2 (Or.inl rfl) h1 h2

theorem isObj_or_isNull_of_ok {f : Dec} (hf : ∀ j p, j.isObj = false → j.isNull = false → f j p = .error .kind)
    (j : JTree) (p v : GoVal) (h : f j p = .ok v) : j.isObj = true ∨ j.isNull = true := by
  cases ho : j.isObj with
  | true => exact .inl rfl
  | false =>
    cases hn : j.isNull with
    | true => exact .inr rfl
    | false => rw [hf j p ho hn] at h; cases h

theorem replaces_unm (o : UOpts) : ∀ T : GoType, Replaces (unm o T) T.zero := by
  intro T
  induction T using GoType.induct with
  | hbool | hint | huint | hfloat | hstring | hslice | harray =>
    exact .of_fresh (unm_null o _) (fun _ _ _ => rfl) (fun _ _ _ h => by cases h)
  | hmap | hstruct =>
    refine .of_objOnly (unm_null o _) (isObj_or_isNull_of_ok fun j p ho hn => ?_)
    cases j with
    | null => cases hn
    | obj ms => cases ho
    | _ => rfl
  | hany => exact replaces_any o
  | hptr t ih =>
    refine ⟨unm_null o _, ?_, ?_⟩
    · intro j v v' hj h
      cases hn : j.isNull with
      | true => rw [eq_null_of_isNull hn, unm_null] at h ⊢; exact h
      | false =>
        show unm o (.ptr t) j .nilPtr = .ok v'
        rcases unm_ptr_prior t v with ⟨v0, e⟩ | e <;> rw [e o j hn] at h
        · obtain ⟨w, hw, rfl⟩ := Except.map_eq_ok.1 h
          rw [unm_ptr_nil, unm_ptr_to o t j _ hn, ih.repl j v0 w hj hw]
          rfl
        · cases h
    · intro j1 v1 ms2 r hj hn h1 h2
      change unm o (.ptr t) j1 .nilPtr = .ok v1 at h1
      rw [unm_ptr_nil, unm_ptr_to o t j1 _ hn] at h1
      obtain ⟨w, hw, rfl⟩ := Except.map_eq_ok.1 h1
      rw [unm_ptr_to o t _ w rfl] at h2
      obtain ⟨w2, hw2, _⟩ := Except.map_eq_ok.1 h2
      exact ih.kill j1 w ms2 w2 hj hn hw hw2

theorem wfFields_iff (fs : List (Bytes × GoType)) :
    GoType.wfFields fs = true ↔ ∀ n t, (n, t) ∈ fs → t.wf = true := by
  rw [List.all_cons_iff (p := fun a => a.2.wf) rfl (fun _ _ => rfl) fs, Prod.forall]

theorem wf_struct (fs : List (Bytes × GoType)) :
    (GoType.struct fs).wf = true ↔ (akeys fs).Nodup ∧ ∀ n t, (n, t) ∈ fs → t.wf = true := by
  simp only [GoType.wf, Bool.and_eq_true, nodupB_iff, wfFields_iff]

theorem akeys_zeroFields (fs : List (Bytes × GoType)) : akeys (GoType.zeroFields fs) = akeys fs := by
  induction fs with
  | nil => rfl
  | cons p r ih => obtain ⟨n, t⟩ := p; simp [GoType.zeroFields, akeys_cons, ih]

theorem alookup_zeroFields (fs : List (Bytes × GoType)) (n : Bytes) :
    alookup n (GoType.zeroFields fs) = (alookup n fs).map GoType.zero := by
  induction fs with
  | nil => rfl
  | cons p r ih =>
    obtain ⟨k, t⟩ := p
    by_cases hk : k = n
    · simp [GoType.zeroFields, alookup, hk]
    · simp [GoType.zeroFields, alookup, hk, ih]

theorem fieldDec_eq (o : UOpts) (fs : List (Bytes × GoType)) (n : Bytes) :
    fieldDec o fs n = (alookup n fs).map (unm o) := by
  induction fs with
  | nil => rfl
  | cons p r ih =>
    obtain ⟨k, t⟩ := p
    rw [fieldDec, alookup]
    by_cases hk : k = n
    · rw [if_pos hk, if_pos hk]; rfl
    · rw [if_neg hk, if_neg hk]; exact ih

theorem fieldDec_some {o : UOpts} {fs : List (Bytes × GoType)} {n : Bytes} {f : Dec}
    (h : fieldDec o fs n = some f) : ∃ t, alookup n fs = some t ∧ f = unm o t := by
  rw [fieldDec_eq] at h
  obtain ⟨t, hl, rfl⟩ := Option.map_eq_some_iff.1 h
  exact ⟨t, hl, rfl⟩

theorem fieldDec_none {o : UOpts} {fs : List (Bytes × GoType)} {n : Bytes} :
    fieldDec o fs n = none ↔ n ∉ akeys fs := by
  rw [fieldDec_eq, Option.map_eq_none_iff, alookup_none_iff]

theorem fieldZero_getD (fs : List (Bytes × GoType)) (n : Bytes) :
    (alookup n (GoType.zeroFields fs)).getD (fieldZero fs n) = fieldZero fs n := by
  rw [alookup_zeroFields]
  unfold fieldZero
  cases alookup n fs <;> rfl

/-- `MergeLawAt` at every first input. -/
def MergeLawFor (f : Dec) (z : GoVal) : Prop := ∀ j1 : JTree, MergeLawAt f z j1

theorem law_of_obj {f : Dec} {z : GoVal} (H : Replaces f z)
    (hobj : ∀ ms1 ms2 v1 v2, (JTree.obj ms1).dupFree = true → (JTree.obj ms2).dupFree = true →
      f (.obj ms1) z = .ok v1 → f (.obj ms2) v1 = .ok v2 → f (JTree.merge (.obj ms1) (.obj ms2)) z = .ok v2) :
    MergeLawFor f z := by
  intro j1 j2 v1 v2 hd1 hd2 h1 h2
  cases j1 with
  | obj ms1 =>
    cases j2 with
    | obj ms2 => exact hobj ms1 ms2 v1 v2 hd1 hd2 h1 h2
    | _ => exact nonobj_case H _ _ v1 v2 (Or.inr rfl) h1 h2
  | _ => exact nonobj_case H _ _ v1 v2 (Or.inl rfl) h1 h2

theorem merge_law_unm (o : UOpts) : ∀ T : GoType, T.wf = true → MergeLawFor (unm o T) T.zero := by
  intro T
  induction T using GoType.induct with
  | hbool | hint | huint | hfloat | hstring | hslice | harray =>
    exact fun _ => law_of_obj (replaces_unm o _) (fun _ _ _ _ _ _ h1 => by cases h1)
  | hany => exact fun _ => merge_law_any o
  | hptr t ih =>
    intro hwf
    refine law_of_obj (replaces_unm o _) fun ms1 ms2 v1 v2 hd1 hd2 h1 h2 => ?_
    change unm o (.ptr t) _ .nilPtr = _ at h1 ⊢
    rw [unm_ptr_nil, unm_ptr_to o t _ _ rfl] at h1
    obtain ⟨w1, hw1, rfl⟩ := Except.map_eq_ok.1 h1
    rw [unm_ptr_to o t _ _ rfl] at h2
    obtain ⟨w2, hw2, rfl⟩ := Except.map_eq_ok.1 h2
    rw [unm_ptr_nil, unm_ptr_to o t _ _ rfl, ih hwf (.obj ms1) (.obj ms2) w1 w2 hd1 hd2 hw1 hw2]
    rfl
  | hmap t ih =>
    intro hwf
    refine law_of_obj (replaces_unm o _) fun ms1 ms2 v1 v2 hd1 hd2 h1 h2 => ?_
    exact MergeLawAt.of_fold (unm_map_obj_nil o t) (unm_map_obj o t) List.nodup_nil (fun _ => rfl) hd1 hd2
      (fun n a _ g hg => Option.some.inj hg ▸ ih hwf a) h1 h2
  | hstruct fs ih =>
    intro hwf
    rw [wf_struct] at hwf
    refine law_of_obj (replaces_unm o _) fun ms1 ms2 v1 v2 hd1 hd2 h1 h2 => ?_
    refine MergeLawAt.of_fold (fun ms => unm_struct_obj o fs ms _) (unm_struct_obj o fs)
      (akeys_zeroFields fs ▸ hwf.1) (fieldZero_getD fs) hd1 hd2 (fun n a _ g hg => ?_) h1 h2
    obtain ⟨t, hl, rfl⟩ := fieldDec_some hg
    have hz : fieldZero fs n = t.zero := by rw [fieldZero, hl]
    rw [hz]
    exact ih n t (alookup_mem hl) (hwf.2 n t (alookup_mem hl)) a

end JsonV.Lemmas.Merge
