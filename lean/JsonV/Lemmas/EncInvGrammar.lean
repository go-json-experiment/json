/-
C02: the tree theorem against the grammar of slice C01 — every well-formed `OutTree` of fragments renders to a `JValue`,
given only that `quote` returns `JString`s.  It is the recogniser-level tree theorem (`render_valid_aux`) read through the
soundness of the recogniser.
-/
import JsonV.Lemmas.EncInvSound
import JsonV.Lemmas.EncInvTree

namespace JsonV.Lemmas.EncInvGrammar
open JsonV JsonV.Spec.ValidJson JsonV.Spec.Grammar JsonV.Model.EncInv
open JsonV.Lemmas.EncInvSound JsonV.Lemmas.EncInvCompose JsonV.Lemmas.EncInvTree

theorem validString_iff_jstring (o : Opt) (s : Bytes) : validString o s = true ↔ JString o.strict s := by
  rw [validString_iff]
  constructor
  · rintro ⟨r, rfl, hr⟩
    obtain ⟨body, rfl, hb⟩ := strBody_sound _ _ _ hr
    exact ⟨body, hb, rfl⟩
  · rintro ⟨body, hb, rfl⟩
    exact ⟨_, rfl, strBody_chars hb []⟩

/-- A `quote` into the grammar's string literals, as the `Quoter` the recogniser-level theorems take. -/
def quoter (o : Opt) (quote : Bytes → Bytes) (hq : ∀ s, JString o.strict (quote s)) : Quoter o :=
  ⟨quote, fun s => (validString_iff_jstring o _).mpr (hq s)⟩

theorem render_jvalue (o : Opt) (quote : Bytes → Bytes) (hq : ∀ s, JString o.strict (quote s)) :
    ∀ (t : OutTree) (d : Nat), t.WellFormed o quote → d + t.depth ≤ o.maxDepth → JV o d (t.render quote) :=
  fun t d hw hd => validAt_sound o d _ (render_valid_aux o (quoter o quote hq) t d hw hd)

theorem renderMembers_jvalue (o : Opt) (quote : Bytes → Bytes) (hq : ∀ s, JString o.strict (quote s)) :
    ∀ (ms : List (Bytes × OutTree)) (d : Nat), wfMembers o quote ms → d + depthMembers ms ≤ o.maxDepth →
      ∀ m ∈ renderMembers quote ms, JString o.strict m.1 ∧ JV o d m.2 :=
  fun ms d hw hd m hm =>
    (renderMembers_valid o (quoter o quote hq) ms d hw hd m hm).imp (validString_iff_jstring o _).mp (validAt_sound o d _)

end JsonV.Lemmas.EncInvGrammar
