/-
The blank and literal scanners of Model/Resume.lean on extended input, and their refill loops on every chunking (C05).
-/
import JsonV.Model.Resume

namespace JsonV.Model.Resume

theorem consumeWhitespace_cons (c : UInt8) (r : Bytes) :
    consumeWhitespace (c :: r) = if isWs c then consumeWhitespace r + 1 else 0 :=
  rfl

theorem consumeWhitespace_eq (b : Bytes) : consumeWhitespace b = (b.takeWhile isWs).length := by
  induction b with
  | nil => rfl
  | cons c r ih =>
    rw [consumeWhitespace_cons, ih, List.takeWhile_cons, apply_ite List.length, List.length_cons, List.length_nil]

theorem consumeWhitespace_le (b : Bytes) : consumeWhitespace b ≤ b.length := by
  rw [consumeWhitespace_eq]
  exact (List.takeWhile_sublist isWs).length_le

theorem consumeWhitespace_append (b e : Bytes) :
    consumeWhitespace (b ++ e) =
      if consumeWhitespace b = b.length then b.length + consumeWhitespace e else consumeWhitespace b := by
  rw [consumeWhitespace_eq, consumeWhitespace_eq b, consumeWhitespace_eq e, List.takeWhile_append,
    apply_ite List.length, List.length_append]

theorem consumeWhitespace_drop (b : Bytes) (pos : Nat) (h : pos ≤ consumeWhitespace b) :
    pos + consumeWhitespace (b.drop pos) = consumeWhitespace b := by
  induction b generalizing pos with
  | nil =>
    rw [Nat.le_zero.mp h]
    rfl
  | cons c r ih =>
    cases pos with
    | zero => exact Nat.zero_add _
    | succ p =>
      rw [consumeWhitespace_cons] at h ⊢
      by_cases hc : isWs c = true
      · rw [if_pos hc] at h ⊢
        rw [List.drop_succ_cons, Nat.add_right_comm, ih p (Nat.le_of_succ_le_succ h)]
      · rw [if_neg hc] at h
        exact absurd h (Nat.not_succ_le_zero p)

theorem consumeWhitespaceChunks_nil (b : Bytes) (pos : Nat) (h : pos ≤ consumeWhitespace b) :
    consumeWhitespaceChunks b pos [] =
      if consumeWhitespace b = b.length then (consumeWhitespace b, .eof) else (consumeWhitespace b, .ok) := by
  rw [← consumeWhitespace_drop b pos h]
  rfl

theorem consumeWhitespaceChunks_cons (b c : Bytes) (cs : List Bytes) (pos : Nat) (h : pos ≤ consumeWhitespace b) :
    consumeWhitespaceChunks b pos (c :: cs) =
      if consumeWhitespace b = b.length then consumeWhitespaceChunks (b ++ c) (consumeWhitespace b) cs
      else (consumeWhitespace b, .ok) := by
  rw [← consumeWhitespace_drop b pos h]
  rfl

theorem consumeWhitespaceChunks_inv (cs : List Bytes) : ∀ (b : Bytes) (pos : Nat), pos ≤ consumeWhitespace b →
    consumeWhitespaceChunks b pos cs = consumeWhitespaceChunks (b ++ cs.flatten) 0 [] := by
  induction cs with
  | nil =>
    intro b pos h
    rw [List.flatten_nil, List.append_nil, consumeWhitespaceChunks_nil b pos h,
      consumeWhitespaceChunks_nil b 0 (Nat.zero_le _)]
  | cons c cs ih =>
    intro b pos h
    rw [consumeWhitespaceChunks_cons b c cs pos h]
    by_cases hfull : consumeWhitespace b = b.length
    · have hinv : consumeWhitespace b ≤ consumeWhitespace (b ++ c) := by
        rw [consumeWhitespace_append, if_pos hfull, hfull]
        exact Nat.le_add_right _ _
      rw [if_pos hfull, ih (b ++ c) _ hinv, List.flatten_cons, List.append_assoc]
    · -- the scan stopped inside `b`: no refill, and the later chunks change neither the stop nor the verdict
      have hlt : consumeWhitespace b < (b ++ (c :: cs).flatten).length := by
        rw [List.length_append]
        exact Nat.lt_of_lt_of_le (Nat.lt_of_le_of_ne (consumeWhitespace_le b) hfull) (Nat.le_add_right _ _)
      rw [if_neg hfull, consumeWhitespaceChunks_nil _ 0 (Nat.zero_le _), consumeWhitespace_append, if_neg hfull,
        if_neg (Nat.ne_of_lt hlt)]

theorem consumeLiteral_eof_len (b lit : Bytes) (h : (consumeLiteral b lit).2 = .eof) :
    (consumeLiteral b lit).1 = b.length := by
  induction b generalizing lit with
  | nil => cases lit <;> simp [consumeLiteral]
  | cons c r ih =>
    cases lit with
    | nil => simp [consumeLiteral] at h
    | cons l lit =>
      simp only [consumeLiteral] at h ⊢
      by_cases hc : (c != l) = true
      · simp [hc] at h
      · simp only [hc] at h ⊢
        simp only [Bool.false_eq_true, if_false] at h ⊢
        simp [ih lit h]

theorem consumeLiteral_stable (b lit e : Bytes) (h : (consumeLiteral b lit).2 ≠ .eof) :
    consumeLiteral (b ++ e) lit = consumeLiteral b lit := by
  induction b generalizing lit with
  | nil => cases lit <;> simp [consumeLiteral] at h ⊢
  | cons c r ih =>
    cases lit with
    | nil => simp [consumeLiteral]
    | cons l lit =>
      simp only [List.cons_append, consumeLiteral] at h ⊢
      by_cases hc : (c != l) = true
      · simp [hc]
      · simp only [hc, Bool.false_eq_true, if_false] at h ⊢
        rw [ih lit h]

theorem consumeLiteralChunks_eq (cs : List Bytes) : ∀ (b lit : Bytes),
    consumeLiteralChunks b lit cs = consumeLiteral (b ++ cs.flatten) lit := by
  induction cs with
  | nil => intro b lit; simp [consumeLiteralChunks]
  | cons c cs ih =>
    intro b lit
    simp only [consumeLiteralChunks]
    by_cases h : (consumeLiteral b lit).2 = .eof
    · rw [if_pos h, ih]; simp [List.append_assoc]
    · rw [if_neg h, consumeLiteral_stable b lit _ h]

end JsonV.Model.Resume
