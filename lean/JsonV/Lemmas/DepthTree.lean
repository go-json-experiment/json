/-
C20 — the depth limit of the value path for ARBITRARY texts (trees with siblings), on the model of
`decoderState.consumeValue/consumeArray/consumeObject` (Model/Validate.lean) and the grammar `JValue`, whose nesting limit is a
parameter (so "nesting ≤ k" is `JValue … k …`, `jvalue_mono`).  A context `Ctx o d p` is a chain of opened containers with complete
earlier siblings; after one, an opening bracket is refused with errMaxDepth at its own offset WHATEVER follows, well-formed or not
(`ctx_refused`), and every value of the grammar that exceeds the limit is a context, a bracket and a remainder
(`exceeds_has_ctx`).  Props/C20.lean is stated with `exceeds_has_ctx` and `validText_ctx`.
-/
import JsonV.Lemmas.WireComplete

namespace JsonV.Lemmas.DepthTree
open JsonV JsonV.Model JsonV.Model.Wire JsonV.Model.Validate JsonV.Spec.Grammar
open JsonV.Lemmas.WireBasic JsonV.Lemmas.WireValue JsonV.Lemmas.WireComplete

theorem jvalue_mono {o : GOpts} {M M' : Nat} {key : Bytes → Bytes} (h : M ≤ M') {d : Nat} {v : Bytes}
    (hv : JValue o M key d v) : JValue o M' key d v :=
  hv.mono h (fun _ _ h => h) (.inr ⟨rfl, fun _ _ _ => rfl⟩)

theorem jtext_mono {o : GOpts} {M M' : Nat} {key : Bytes → Bytes} (h : M ≤ M') {b : Bytes}
    (hb : JText o M key b) : JText o M' key b := by
  obtain ⟨w1, v, w2, h1, hv, h2, rfl⟩ := hb
  exact ⟨w1, v, w2, h1, jvalue_mono h hv, h2, rfl⟩

theorem open_at_limit (o : VOpts) (f : Nat) (c : UInt8) (hc : c = 0x5B ∨ c = 0x7B) (rest : Bytes) :
    consumeValue o (f + 2) (maxNestingDepth + 1) (c :: rest) = (0, .maxDepth) := by
  rcases hc with rfl | rfl
  · rw [consumeValue_arr (c := 0x5B) _ _ _ _ rfl, consumeArray, if_pos (by simp)]
  · rw [consumeValue_obj (c := 0x7B) _ _ _ _ rfl, consumeObject, if_pos (by simp)]

/-- elements, each followed by its comma -/
def sepd (pre : List (Bytes × Bytes × Bytes)) : Bytes := (pre.map fun e => elemBytes e ++ [0x2C]).flatten

theorem sepd_cons (e : Bytes × Bytes × Bytes) (pre : List (Bytes × Bytes × Bytes)) (x : Bytes) :
    sepd (e :: pre) ++ x = e.1 ++ (e.2.1 ++ (e.2.2 ++ 0x2C :: (sepd pre ++ x))) := by
  simp [sepd, elemBytes, List.append_assoc]

theorem sepd_cons_len (e : Bytes × Bytes × Bytes) (pre : List (Bytes × Bytes × Bytes)) :
    (sepd (e :: pre)).length = e.1.length + e.2.1.length + e.2.2.length + 1 + (sepd pre).length := by
  simp [sepd, elemBytes]; omega

/-- what the refused element looks like to the loop: it starts like a value and `consumeValue`
answers `(k, e)`, `e ≠ ok`, on it for every sufficient fuel -/
def Refused (o : VOpts) (depth : Nat) (q : Bytes) (k : Nat) (e : Err) : Prop :=
  Starts q ∧ e ≠ .ok ∧ ∀ f, 3 * q.length + 1 ≤ f → consumeValue o f depth q = (k, e)

theorem arrayLoop_ctx (o : VOpts) (d : Nat) : ∀ (pre : List (Bytes × Bytes × Bytes)),
    (∀ e ∈ pre, JWs e.1 ∧ JWs e.2.2) → (∀ e ∈ pre, CV o (d + 1) e.2.1 ∧ Starts e.2.1) →
    ∀ (w1 q : Bytes) (k : Nat) (e : Err) (fuel : Nat), JWs w1 → Refused o (d + 2) q k e →
      3 * (sepd pre ++ (w1 ++ q)).length + 2 ≤ fuel →
      arrayLoop o fuel (d + 2) (sepd pre ++ (w1 ++ q)) = ((sepd pre).length + w1.length + k, e) := by
  intro pre
  induction pre with
  | nil =>
    intro _ _ w1 q k e fuel hw1 hq hfuel
    obtain ⟨f, rfl⟩ := fuel_succ hfuel
    rw [show sepd [] ++ (w1 ++ q) = w1 ++ q from rfl] at hfuel ⊢
    obtain ⟨⟨c, t, rfl, hc⟩, hne, hcv⟩ := hq
    rw [arrayLoop_succ, valueThen_err o f (d + 2) 0x5D 0 _ w1 c t k e hw1 hc
      (hcv f (Nat.le_of_succ_le_succ (fuel_suffix (List.suffix_append _ _) hfuel))) hne]
    simp [sepd]
  | cons e0 pre ih =>
    intro hws hvals w1 q k e fuel hw1 hq hfuel
    obtain ⟨f, rfl⟩ := fuel_succ hfuel
    obtain ⟨a, val, b⟩ := e0
    have hw := hws _ List.mem_cons_self
    have hv := hvals _ List.mem_cons_self
    rw [sepd_cons] at hfuel ⊢
    rw [sepd_cons_len]
    have hft : 3 * (sepd pre ++ (w1 ++ q)).length + 2 ≤ f :=
      fuel_cons (b := 0x2C) (fuel_suffix (by simp [List.suffix_append_of_suffix]) hfuel)
    rw [arrayLoop_succ, valueThen_value o d f 0x5D 0 _ a val b 0x2C _ hw.1 hw.2 hv.1 hv.2 (by decide) (by decide)
        (Nat.le_of_succ_le_succ (fuel_suffix (List.suffix_append _ _) hfuel)),
      ih (fun x hx => hws x (List.mem_cons_of_mem _ hx)) (fun x hx => hvals x (List.mem_cons_of_mem _ hx))
        w1 q k e f hw1 hq hft]
    simp only [beq_self_eq_true, if_true, addOff, Prod.mk.injEq, and_true]
    omega

/-- members, each followed by its comma -/
def sepdM (pre : List Mem) : Bytes := (pre.map fun m => memBytes m ++ [0x2C]).flatten

theorem sepdM_cons (a nm b c3 val w4 : Bytes) (pre : List Mem) (x : Bytes) :
    sepdM ((a, nm, b, c3, val, w4) :: pre) ++ x =
      a ++ (nm ++ (b ++ 0x3A :: (c3 ++ (val ++ (w4 ++ 0x2C :: (sepdM pre ++ x)))))) := by
  simp [sepdM, memBytes, List.append_assoc]

theorem sepdM_cons_len (a nm b c3 val w4 : Bytes) (pre : List Mem) :
    (sepdM ((a, nm, b, c3, val, w4) :: pre)).length =
      a.length + nm.length + b.length + 1 + c3.length + val.length + w4.length + 1 + (sepdM pre).length := by
  simp [sepdM, memBytes]; omega

theorem not_mem_of_nodup {x : Bytes} {names rest : List Bytes} (h : (names ++ x :: rest).Nodup) : x ∉ names :=
  fun hmem => (List.nodup_append.1 h).2.2 x hmem x List.mem_cons_self rfl

theorem objectLoop_ctx (o : VOpts) (d : Nat) : ∀ (pre : List Mem),
    (∀ m ∈ pre, MemOk o m) → (∀ m ∈ pre, CV o (d + 1) m.2.2.2.2.1 ∧ Starts m.2.2.2.2.1) →
    ∀ (names : List Bytes) (w1 name w2 w3 q : Bytes) (k : Nat) (e : Err) (fuel : Nat),
      JWs w1 → JString (G o).strict name → JWs w2 → JWs w3 → Refused o (d + 2) q k e →
      (o.allowDup = true ∨ (names ++ (pre.map fun m => nameKey o m.2.1) ++ [nameKey o name]).Nodup) →
      3 * (sepdM pre ++ (w1 ++ (name ++ (w2 ++ 0x3A :: (w3 ++ q))))).length + 2 ≤ fuel →
      objectLoop o fuel (d + 2) names (sepdM pre ++ (w1 ++ (name ++ (w2 ++ 0x3A :: (w3 ++ q))))) =
        ((sepdM pre).length + w1.length + name.length + w2.length + 1 + w3.length + k, e) := by
  intro pre
  induction pre with
  | nil =>
    intro _ _ names w1 name w2 w3 q k e fuel hw1 hstr hw2 hw3 hq hnod hfuel
    obtain ⟨f, rfl⟩ := fuel_succ hfuel
    rw [show sepdM [] ++ (w1 ++ (name ++ (w2 ++ 0x3A :: (w3 ++ q)))) = w1 ++ (name ++ (w2 ++ 0x3A :: (w3 ++ q))) from rfl]
      at hfuel ⊢
    obtain ⟨⟨c, t, rfl, hc⟩, hne, hcv⟩ := hq
    rw [objectLoop_member o f (d + 2) names w1 name w2 _ hw1 hstr hw2
        (hnod.imp_right fun h => not_mem_of_nodup (List.append_assoc .. ▸ h)),
      valueThen_err o f (d + 2) 0x7D _ _ w3 c t k e hw3 hc (hcv f (Nat.le_of_succ_le_succ (fuel_member hfuel))) hne]
    simp [sepdM]
  | cons m pre ih =>
    intro hok hvals names w1 name w2 w3 q k e fuel hw1 hstr hw2 hw3 hq hnod hfuel
    obtain ⟨f, rfl⟩ := fuel_succ hfuel
    obtain ⟨a, nm, b, c3, val, w4⟩ := m
    have hv := hvals _ List.mem_cons_self
    rw [sepdM_cons] at hfuel ⊢
    rw [sepdM_cons_len]
    have hnod' : o.allowDup = true ∨
        ((if o.allowDup = true then names else names ++ [nameKey o nm]) ++
          (pre.map fun m => nameKey o m.2.1) ++ [nameKey o name]).Nodup := by
      cases ha : o.allowDup with
      | true => exact Or.inl rfl
      | false =>
        exact Or.inr (by simpa [List.append_assoc] using hnod.resolve_left (by rw [ha]; nofun))
    generalize htl : sepdM pre ++ (w1 ++ (name ++ (w2 ++ 0x3A :: (w3 ++ q)))) = tl at hfuel ⊢
    have hfv : 3 * (val ++ (w4 ++ 0x2C :: tl)).length + 1 ≤ f := Nat.le_of_succ_le_succ (fuel_member hfuel)
    have hft : 3 * tl.length + 2 ≤ f :=
      fuel_cons (b := 0x2C) (fuel_suffix (by simp [List.suffix_append_of_suffix]) (fuel_member hfuel))
    rw [member_step o d f names a nm b c3 val w4 0x2C tl (hok _ List.mem_cons_self) hv.1 hv.2 (by decide) (by decide)
        (hnod.imp_right fun h => not_mem_of_nodup (List.append_assoc .. ▸ h)) hfv]
    subst htl
    simp only [beq_self_eq_true, if_true]
    rw [ih (fun x hx => hok x (List.mem_cons_of_mem _ hx)) (fun x hx => hvals x (List.mem_cons_of_mem _ hx))
        (if o.allowDup = true then names else names ++ [nameKey o nm]) w1 name w2 w3 q k e f hw1 hstr hw2 hw3 hq hnod' hft]
    simp only [addOff, Prod.mk.injEq, and_true]
    omega

/-- `Ctx o d p`: `p` leads from "about to read a value at nesting `d`" (= `d` enclosing containers) to
"about to read a value at nesting maxNestingDepth", through containers whose earlier siblings are complete. -/
inductive Ctx (o : VOpts) : Nat → Bytes → Prop
  | here : Ctx o maxNestingDepth []
  | arr (d : Nat) (pre : List (Bytes × Bytes × Bytes)) (w1 p : Bytes) : d < maxNestingDepth →
      (∀ e ∈ pre, JWs e.1 ∧ JWs e.2.2) → (∀ e ∈ pre, JV o (d + 1) e.2.1) → JWs w1 → Ctx o (d + 1) p →
      Ctx o d (0x5B :: (sepd pre ++ (w1 ++ p)))
  | obj (d : Nat) (pre : List Mem) (w1 name w2 w3 p : Bytes) : d < maxNestingDepth →
      (∀ m ∈ pre, MemOk o m) → (∀ m ∈ pre, JV o (d + 1) m.2.2.2.2.1) →
      JWs w1 → JString (G o).strict name → JWs w2 → JWs w3 →
      (o.allowDup = true ∨ ((pre.map fun m => nameKey o m.2.1) ++ [nameKey o name]).Nodup) → Ctx o (d + 1) p →
      Ctx o d (0x7B :: (sepdM pre ++ (w1 ++ (name ++ (w2 ++ 0x3A :: (w3 ++ p))))))

theorem ctx_le {o : VOpts} {d : Nat} {p : Bytes} (h : Ctx o d p) : d ≤ maxNestingDepth := by
  cases h <;> omega

theorem ctx_head {o : VOpts} {d : Nat} {p : Bytes} (h : Ctx o d p) (c : UInt8) (hc : c = 0x5B ∨ c = 0x7B) (rest : Bytes) :
    Starts (p ++ c :: rest) := by
  cases h with
  | here => rcases hc with rfl | rfl <;> exact ⟨_, _, rfl, by decide⟩
  | arr => exact ⟨_, _, rfl, by decide⟩
  | obj => exact ⟨_, _, rfl, by decide⟩

/-- `consumeArray` skips the blanks after the bracket itself, so the loop is entered at the first element's value: hence the two
cases of `pre` -/
theorem consumeArray_ctx (o : VOpts) (d f : Nat) (pre : List (Bytes × Bytes × Bytes)) (w1 q : Bytes) (k : Nat) (e : Err)
    (hlt : d < maxNestingDepth) (hws : ∀ e ∈ pre, JWs e.1 ∧ JWs e.2.2)
    (hvals : ∀ e ∈ pre, CV o (d + 1) e.2.1 ∧ Starts e.2.1) (hw1 : JWs w1) (hq : Refused o (d + 2) q k e)
    (hfuel : 3 * (sepd pre ++ (w1 ++ q)).length + 2 ≤ f) :
    consumeArray o (f + 1) (d + 1) (0x5B :: (sepd pre ++ (w1 ++ q))) = (1 + ((sepd pre).length + w1.length + k), e) := by
  rw [consumeArray_succ]
  cases pre with
  | nil =>
    obtain ⟨c, t, rfl, hc⟩ := hq.1
    have := arrayLoop_ctx o d [] nofun nofun [] (c :: t) k e f JWs.nil hq
      (fuel_suffix (List.suffix_append w1 _) hfuel)
    rw [show sepd [] ++ (w1 ++ c :: t) = w1 ++ c :: t from rfl,
      bracketThen_inside hlt 0x5D _ _ hw1 (start_facts c hc).1 (start_facts c hc).2.1]
    rw [show sepd [] ++ ([] ++ c :: t) = c :: t from rfl] at this
    rw [this]
    simp [addOff, sepd]
    omega
  | cons e0 pre' =>
    obtain ⟨a, val, b⟩ := e0
    obtain ⟨ha, hb⟩ := hws _ (.head _)
    obtain ⟨hcv, c, t, rfl, hc⟩ := hvals _ (.head _)
    have := arrayLoop_ctx o d (([], c :: t, b) :: pre') (List.forall_mem_cons.2 ⟨⟨JWs.nil, hb⟩, fun x hx => hws x (.tail _ hx)⟩)
      (List.forall_mem_cons.2 ⟨⟨hcv, c, t, rfl, hc⟩, fun x hx => hvals x (.tail _ hx)⟩) w1 q k e f hw1 hq
      (by rw [sepd_cons] at hfuel ⊢; exact fuel_suffix (List.suffix_append a _) hfuel)
    rw [sepd_cons, List.cons_append, bracketThen_inside hlt 0x5D _ _ ha (start_facts c hc).1 (start_facts c hc).2.1]
    rw [sepd_cons, List.nil_append, List.cons_append] at this
    rw [this]
    simp only [addOff, sepd_cons_len, List.length_nil, Prod.mk.injEq, and_true]
    omega

theorem consumeObject_ctx (o : VOpts) (d f : Nat) (pre : List Mem) (w1 name w2 w3 q : Bytes) (k : Nat) (e : Err)
    (hlt : d < maxNestingDepth) (hok : ∀ m ∈ pre, MemOk o m)
    (hvals : ∀ m ∈ pre, CV o (d + 1) m.2.2.2.2.1 ∧ Starts m.2.2.2.2.1)
    (hw1 : JWs w1) (hstr : JString (G o).strict name) (hw2 : JWs w2) (hw3 : JWs w3) (hq : Refused o (d + 2) q k e)
    (hnod : o.allowDup = true ∨ ((pre.map fun m => nameKey o m.2.1) ++ [nameKey o name]).Nodup)
    (hfuel : 3 * (sepdM pre ++ (w1 ++ (name ++ (w2 ++ 0x3A :: (w3 ++ q))))).length + 2 ≤ f) :
    consumeObject o (f + 1) (d + 1) (0x7B :: (sepdM pre ++ (w1 ++ (name ++ (w2 ++ 0x3A :: (w3 ++ q)))))) =
      (1 + ((sepdM pre).length + w1.length + name.length + w2.length + 1 + w3.length + k), e) := by
  rw [consumeObject_succ]
  cases pre with
  | nil =>
    obtain ⟨body, -, rfl⟩ := (id hstr : JString (!o.allowInvalidUTF8) name)
    have := objectLoop_ctx o d [] nofun nofun [] [] _ w2 w3 q k e f JWs.nil hstr hw2 hw3 hq hnod
      (fuel_suffix (List.suffix_append w1 _) hfuel)
    rw [show sepdM [] ++ (w1 ++ (0x22 :: (body ++ [0x22]) ++ (w2 ++ 0x3A :: (w3 ++ q)))) =
        w1 ++ 0x22 :: (body ++ [0x22] ++ (w2 ++ 0x3A :: (w3 ++ q))) from rfl,
      bracketThen_inside hlt 0x7D _ _ hw1 not_ws_quote (by decide)]
    rw [show sepdM [] ++ ([] ++ (0x22 :: (body ++ [0x22]) ++ (w2 ++ 0x3A :: (w3 ++ q)))) =
        0x22 :: (body ++ [0x22] ++ (w2 ++ 0x3A :: (w3 ++ q))) from rfl] at this
    rw [this]
    simp [addOff, sepdM]
    omega
  | cons m0 pre' =>
    obtain ⟨a, nm, b, c3, val, w4⟩ := m0
    obtain ⟨ha, hnm, hb, hc3, hw4⟩ := hok _ (.head _)
    obtain ⟨body, -, rfl⟩ := (id hnm : JString (!o.allowInvalidUTF8) nm)
    have := objectLoop_ctx o d (([], 0x22 :: (body ++ [0x22]), b, c3, val, w4) :: pre')
      (List.forall_mem_cons.2 ⟨⟨JWs.nil, hnm, hb, hc3, hw4⟩, fun x hx => hok x (.tail _ hx)⟩)
      (List.forall_mem_cons.2 ⟨hvals (a, _, b, c3, val, w4) (.head _), fun x hx => hvals x (.tail _ hx)⟩) [] w1 name w2 w3 q k e f hw1 hstr
      hw2 hw3 hq hnod (by rw [sepdM_cons] at hfuel ⊢; exact fuel_suffix (List.suffix_append a _) hfuel)
    rw [sepdM_cons, List.cons_append, bracketThen_inside hlt 0x7D _ _ ha not_ws_quote (by decide)]
    rw [sepdM_cons, List.nil_append, List.cons_append] at this
    rw [this]
    simp only [addOff, sepdM_cons_len, List.length_nil, Prod.mk.injEq, and_true]
    omega

theorem ctx_refused (o : VOpts) : ∀ {d : Nat} {p : Bytes}, Ctx o d p →
    ∀ (c : UInt8) (rest : Bytes) (fuel : Nat), (c = 0x5B ∨ c = 0x7B) → 3 * (p ++ c :: rest).length + 1 ≤ fuel →
      consumeValue o fuel (d + 1) (p ++ c :: rest) = (p.length, .maxDepth) := by
  intro d p h
  induction h with
  | here =>
    intro c rest fuel hc hf
    obtain ⟨f, rfl, -⟩ := fuel_bracket hf
    exact open_at_limit o f c hc rest
  | arr d pre w1 p hlt hws hvals hw1 hctx ih =>
    intro c rest fuel hc hf
    have hq : Refused o (d + 2) (p ++ c :: rest) p.length .maxDepth :=
      ⟨ctx_head hctx c hc rest, nofun, fun f hf' => ih c rest f hc hf'⟩
    rw [List.cons_append, List.append_assoc, List.append_assoc] at hf ⊢
    obtain ⟨f, rfl, hf'⟩ := fuel_bracket hf
    rw [consumeValue_arr (c := 0x5B) _ _ _ _ rfl, consumeArray_ctx o d f pre w1 _ _ _ hlt hws
      (fun e he => value_complete o (d + 1) e.2.1 (hvals e he)) hw1 hq hf']
    simp only [List.length_cons, List.length_append, Prod.mk.injEq, and_true]
    omega
  | obj d pre w1 name w2 w3 p hlt hok hvals hw1 hstr hw2 hw3 hnod hctx ih =>
    intro c rest fuel hc hf
    have hq : Refused o (d + 2) (p ++ c :: rest) p.length .maxDepth :=
      ⟨ctx_head hctx c hc rest, nofun, fun f hf' => ih c rest f hc hf'⟩
    simp only [List.cons_append, List.append_assoc] at hf ⊢
    obtain ⟨f, rfl, hf'⟩ := fuel_bracket hf
    rw [consumeValue_obj (c := 0x7B) _ _ _ _ rfl, consumeObject_ctx o d f pre w1 name w2 w3 _ _ _ hlt hok
      (fun m hm => value_complete o (d + 1) m.2.2.2.2.1 (hvals m hm)) hw1 hstr hw2 hw3 hq hnod hf']
    simp only [List.length_cons, List.length_append, Prod.mk.injEq, and_true]
    omega

theorem split_first {α : Type} (P : α → Prop) : ∀ (l : List α), ¬ (∀ x ∈ l, P x) →
    ∃ pre e post, l = pre ++ e :: post ∧ (∀ x ∈ pre, P x) ∧ ¬ P e
  | [], h => absurd nofun h
  | a :: l, h => by
    by_cases ha : P a
    · obtain ⟨pre, e, post, rfl, hpre, he⟩ := split_first P l fun hl => h (List.forall_mem_cons.2 ⟨ha, hl⟩)
      exact ⟨a :: pre, e, post, rfl, List.forall_mem_cons.2 ⟨ha, hpre⟩, he⟩
    · exact ⟨[], a, l, rfl, nofun, ha⟩

theorem ctx_at_limit (o : VOpts) {d : Nat} (hd : d ≤ maxNestingDepth) (hlt : ¬ d < maxNestingDepth) (c : UInt8)
    (hc : c = 0x5B ∨ c = 0x7B) (rest : Bytes) :
    ∃ p c' rest', c :: rest = p ++ c' :: rest' ∧ Ctx o d p ∧ (c' = 0x5B ∨ c' = 0x7B) := by
  obtain rfl : d = maxNestingDepth := Nat.le_antisymm hd (Nat.le_of_not_lt hlt)
  exact ⟨[], c, rest, rfl, .here, hc⟩

theorem exceeds_has_ctx (o : VOpts) (M : Nat) : ∀ {d : Nat} {v : Bytes}, JValue (G o) M (nameKey o) d v →
    d ≤ maxNestingDepth → ¬ JV o d v →
    ∃ p c rest, v = p ++ c :: rest ∧ Ctx o d p ∧ (c = 0x5B ∨ c = 0x7B) := by
  intro d v hv
  induction hv with
  | null d => intro _ hn; exact absurd (.null d) hn
  | true d => intro _ hn; exact absurd (.true d) hn
  | false d => intro _ hn; exact absurd (.false d) hn
  | num d p hp => intro _ hn; exact absurd (.num d p hp) hn
  | str d p hp => intro _ hn; exact absurd (.str d p hp) hn
  | emptyArr d w _ hw =>
    intro hd hn
    exact ctx_at_limit o hd (fun hlt => hn (.emptyArr d w hlt hw)) _ (Or.inl rfl) _
  | emptyObj d w _ hw =>
    intro hd hn
    exact ctx_at_limit o hd (fun hlt => hn (.emptyObj d w hlt hw)) _ (Or.inr rfl) _
  | arr d elems _ hne hws _ ih =>
    intro hd hn
    by_cases hlt : d < maxNestingDepth
    · obtain ⟨pre, e, post, rfl, hpre, he⟩ := split_first (fun e : Bytes × Bytes × Bytes => JV o (d + 1) e.2.1) elems
        fun hall => hn (.arr d elems hlt hne hws hall)
      obtain ⟨p', c, rest', hval, hctx, hc⟩ := ih e (by simp) hlt he
      obtain ⟨y, hy⟩ := joinSep_split (fun e : Bytes × Bytes × Bytes => e.1 ++ e.2.1 ++ e.2.2) pre e post
      refine ⟨0x5B :: (sepd pre ++ (e.1 ++ p')), c, rest' ++ (e.2.2 ++ (y ++ [0x5D])), ?_,
        .arr d pre e.1 p' hlt (fun x hx => hws x (by simp [hx])) hpre (hws e (by simp)).1 hctx, hc⟩
      rw [hy, hval]
      simp [sepd, elemBytes, List.append_assoc]
    · exact ctx_at_limit o hd hlt _ (Or.inl rfl) _
  | obj d mems _ hne hok _ huniq ih =>
    intro hd hn
    by_cases hlt : d < maxNestingDepth
    · obtain ⟨pre, m, post, rfl, hpre, hm⟩ := split_first (fun m : Mem => JV o (d + 1) m.2.2.2.2.1) mems
        fun hall => hn (.obj d mems hlt hne hok hall huniq)
      obtain ⟨p', c, rest', hval, hctx, hc⟩ := ih m (by simp) hlt hm
      obtain ⟨y, hy⟩ := joinSep_split (fun m : Mem =>
        m.1 ++ m.2.1 ++ m.2.2.1 ++ [0x3A] ++ m.2.2.2.1 ++ m.2.2.2.2.1 ++ m.2.2.2.2.2) pre m post
      have hmok := hok m (by simp)
      have hnod : (G o).allowDup = true ∨ ((pre.map fun m => nameKey o m.2.1) ++ [nameKey o m.2.1]).Nodup :=
        huniq.imp_right fun h => by
          rw [List.map_append, List.map_cons, List.append_cons] at h
          exact (List.nodup_append.1 h).1
      refine ⟨0x7B :: (sepdM pre ++ (m.1 ++ (m.2.1 ++ (m.2.2.1 ++ 0x3A :: (m.2.2.2.1 ++ p'))))), c,
        rest' ++ (m.2.2.2.2.2 ++ (y ++ [0x7D])), ?_,
        .obj d pre m.1 m.2.1 m.2.2.1 m.2.2.2.1 p' hlt (fun x hx => hok x (by simp [hx])) hpre
          hmok.1 hmok.2.1 hmok.2.2.1 hmok.2.2.2.1 hnod hctx, hc⟩
      rw [hy, hval]
      simp [sepdM, memBytes, List.append_assoc]
    · exact ctx_at_limit o hd hlt _ (Or.inr rfl) _

theorem validText_ctx (o : VOpts) (w p : Bytes) (c : UInt8) (rest : Bytes) (hw : JWs w) (hctx : Ctx o 0 p)
    (hc : c = 0x5B ∨ c = 0x7B) :
    validText o (w ++ (p ++ c :: rest)) = (w.length + p.length, .maxDepth) := by
  obtain ⟨c', t', hq, hcw⟩ := ctx_head hctx c hc rest
  have hcv := ctx_refused o hctx c rest (fuelFor (w ++ (p ++ c :: rest))) hc (by simp [fuelFor]; omega)
  unfold validText
  rw [hq] at hcv ⊢
  rw [readValueTop_start o _ w c' t' hw hcw, hcv]
  rfl

end JsonV.Lemmas.DepthTree
