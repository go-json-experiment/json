/-
ConsumeStringResumable of Model/Resume.lean (C05): resuming at the saved offset with the saved flags over
an extended buffer gives what a scan from scratch gives.  One iteration of the scanner is a table over the classification
of Lemmas/QuoteHead.lean (`strStep_eq`), so what appended input does to an iteration is a fact about `headOf`
(`headOf_append`), read through the table (`rsOf_extends`).
-/
import JsonV.Model.Resume
import JsonV.Lemmas.Utf8L
import JsonV.Lemmas.QuoteHead
import JsonV.Lemmas.JStringL

namespace JsonV.Model.Resume
open JsonV JsonV.Model JsonV.Lemmas.QuoteHead JsonV.Spec.Grammar

namespace VFlags
theorem join_assoc (f g h : VFlags) : (f.join g).join h = f.join (g.join h) := by
  simp [join, Bool.or_assoc]
theorem join_comm (f g : VFlags) : f.join g = g.join f := by
  simp [join, Bool.or_comm]
theorem join_self (f : VFlags) : f.join f = f := by
  simp [join]
theorem join_none (f : VFlags) : f.join .none = f := by
  simp [join, none]
theorem none_join (f : VFlags) : VFlags.none.join f = f := by
  simp [join, none]
end VFlags

theorem hexVal_spec (c : UInt8) : hexVal c = hexSpec c := by
  simp only [hexVal, hexSpec_ranges, Bool.and_eq_true, decide_eq_true_eq, UInt8.le_iff_toNat_le, UInt8.toNat_ofNat]

theorem hexVal_quote (c : UInt8) : hexVal c = Quote.hexVal c.toNat := by
  simp only [hexVal, Quote.hexVal, Bool.and_eq_true, decide_eq_true_eq, UInt8.le_iff_toNat_le, UInt8.toNat_ofNat]
  refine ite_congr rfl (fun _ => rfl) fun _ => ite_congr rfl (fun h => ?_) fun _ =>
    ite_congr rfl (fun h => ?_) fun _ => rfl <;>
  exact congrArg some ((Nat.add_comm ..).trans (Nat.add_sub_assoc h.1 10).symm)

theorem parseHex4_quote (a b c d : UInt8) : parseHex4 a b c d = Quote.parseHexUint16 [a, b, c, d] := by
  simp only [parseHex4, Quote.parseHexUint16, hexVal_quote]
  cases Quote.hexVal a.toNat <;> cases Quote.hexVal b.toNat <;> cases Quote.hexVal c.toNat <;>
    cases Quote.hexVal d.toNat <;> rfl

theorem noEscape_quote (c : UInt8) : noEscape c = Quote.noEscape c.toNat := by
  rw [Bool.eq_iff_iff]
  simp only [noEscape, Quote.noEscape, Bool.and_eq_true, decide_eq_true_eq, bne_iff_ne, ne_eq, UInt8.lt_iff_toNat_lt,
    UInt8.le_iff_toNat_le, ← UInt8.toNat_inj]
  rfl

theorem ite_or_false {p q : Prop} [Decidable p] [Decidable q] (x : Bool) :
    (if p ∨ q then false else x) = if p then false else if q then false else x := by
  by_cases p <;> by_cases q <;> simp [*]

theorem prefixAux_quote (lower : Bool) (i : Nat) (b : Bytes) :
    hasEscapedUTF16PrefixAux lower i b = Quote.hasEscapedUTF16PrefixAux lower i b := by
  induction b generalizing i with
  | nil => rfl
  | cons c r ih =>
    rw [hasEscapedUTF16PrefixAux, Quote.hasEscapedUTF16PrefixAux, ih]
    -- the tests of the two models, one a Boolean disjunction on bytes, one a chain of propositions on numbers, read alike
    simp only [prefixBad, Quote.isHexDigit, hexVal_quote, Bool.or_eq_true, Bool.and_eq_true, beq_iff_eq, bne_iff_ne, ne_eq,
      Bool.not_eq_true', decide_eq_true_eq, Bool.and_eq_false_iff, decide_eq_false_iff_not, UInt8.le_iff_toNat_le,
      ← UInt8.toNat_inj, UInt8.toNat_ofNat, or_assoc, ite_or_false, ge_iff_le, Option.isNone_iff_eq_none,
      Option.not_isSome, and_assoc, Classical.not_and_iff_not_or_not]

theorem prefix_quote (b : Bytes) (lower : Bool) : hasEscapedUTF16Prefix b lower = Quote.hasEscapedUTF16Prefix b lower :=
  prefixAux_quote lower 0 b

theorem canon_quote (v1 : Nat) (h0 h1 h2 h3 : UInt8) :
    uEscNonCanonical v1 h0 h1 h2 h3 = Quote.escNonCanon v1 [h0, h1, h2, h3] := by
  simp only [uEscNonCanonical, Quote.escNonCanon, Quote.hasUpperHex, isUpperHexLetter, List.any_cons, List.any_nil,
    Bool.or_false, Bool.or_eq_true, beq_iff_eq, UInt8.le_iff_toNat_le, UInt8.toNat_ofNat, Bool.or_assoc]

/-- ConsumeStringResumable's iteration. -/
def rsOf (v : Bool) : Head → Step
  | .plain _ => .adv 0 .none
  | .close _ => .done
  | .multi _ k => .adv (k - 1) .none
  | .simple e _ => .adv 1 ⟨true, decide (e.toNat = 0x2f)⟩
  | .uni _ nc => .adv 5 ⟨true, nc⟩
  | .pair _ _ nc => if v then .adv 11 ⟨true, nc⟩ else .adv 5 ⟨true, nc⟩
  | .loneEOF _ nc => if v then .stop ⟨true, nc⟩ .eof else .adv 5 ⟨true, nc⟩
  | .lone _ nc => if v then .stop .nvnc .invalidEscape else .adv 5 ⟨true, nc⟩
  | .bad _ => if v then .stop .nvnc .invalidUTF8 else .adv 0 .nvnc
  | .eof e => .stop ⟨e, false⟩ .eof
  | .badEscape => .stop .nvnc .invalidEscape
  | .ctrl | .bug => .stop .nvnc .invalidChar

/-- Without validateUTF8 the scanner does not look behind a surrogate escape. -/
theorem rsOf_false_headSurr (v1 : Nat) (nc : Bool) (rest : Bytes) :
    rsOf false (headSurr v1 nc rest) = .adv 5 ⟨true, nc⟩ := by
  unfold headSurr
  split
  · split
    · simp only [apply_ite (rsOf false)]; split; rfl; split <;> rfl
    · rfl
  · split <;> rfl

theorem lowSurrogateStep_eq (v1 : Nat) (nc : Bool) (rest : Bytes) :
    lowSurrogateStep v1 ⟨true, nc⟩ rest = rsOf true (headSurr v1 nc rest) := by
  have hj : (⟨true, nc⟩ : VFlags).join .nc = .nvnc := by cases nc <;> rfl
  rcases six_or_short rest with ⟨b0, b1, g1, g2, g3, g4, t, rfl⟩ | hno
  · simp only [lowSurrogateStep, headSurr, parseHex4_quote, hj]
    cases Quote.parseHexUint16 [g1, g2, g3, g4] with
    | none => exact ite_self _
    | some v2 =>
      simp only [apply_ite (rsOf true), Bool.or_eq_true, bne_iff_ne, ne_eq, beq_iff_eq]
      rfl
  · rw [headSurr_short hno, apply_ite (rsOf true), ← prefix_quote]
    rcases rest with _ | ⟨b0, _ | ⟨b1, _ | ⟨l0, _ | ⟨l1, _ | ⟨l2, _ | ⟨l3, rest⟩⟩⟩⟩⟩⟩
    iterate 6 (simp only [lowSurrogateStep, hj]; rfl)
    simp only [List.length_cons] at hno; omega

theorem escStep_u (v : Bool) (r2 : Bytes) :
    escStep (0x75 :: r2) v = rsOf v (headU (0x5c :: 0x75 :: r2)) := by
  rcases six_or_short (0x5c :: 0x75 :: r2) with ⟨_, _, h1, h2, h3, h4, rest, heq⟩ | hno
  · obtain ⟨-, -, rfl⟩ : _ ∧ _ ∧ r2 = _ := by simpa only [List.cons.injEq] using heq
    simp only [escStep, headU, parseHex4_quote, canon_quote]
    rw [if_neg (by decide), if_neg (by decide), if_pos (by decide)]
    cases Quote.parseHexUint16 [h1, h2, h3, h4] with
    | none => rfl
    | some v1 =>
      simp only [apply_ite (rsOf v)]
      cases v
      · simp only [rsOf_false_headSurr, Bool.false_and, Bool.false_eq_true, if_false]; exact (ite_self _).symm
      · simp only [Bool.true_and, lowSurrogateStep_eq]; rfl
  · rw [headU_short hno, apply_ite (rsOf v), ← prefix_quote]
    rcases r2 with _ | ⟨h0, _ | ⟨h1, _ | ⟨h2, _ | ⟨h3, r6⟩⟩⟩⟩
    iterate 4 (simp only [escStep]; rw [if_neg (by decide), if_neg (by decide), if_pos (by decide)]; rfl)
    simp only [List.length_cons] at hno; omega

theorem escStep_eq (v : Bool) : ∀ r1, escStep r1 v = rsOf v (headEsc (0x5c :: r1))
  | [] => rfl
  | e :: r2 => by
    rcases headEsc_cases 0x5c e r2 with ⟨w, hm, he⟩ | ⟨rfl, he⟩ | ⟨hn, he⟩
    · rw [he]
      exact simple_cases (P := fun e w => escStep (e :: r2) v = rsOf v (.simple e w)) hm rfl rfl rfl rfl rfl rfl rfl rfl
    · rw [he]; exact escStep_u v r2
    · simp only [he, escStep, isSimpleEscape, Bool.or_eq_true, beq_iff_eq, ← UInt8.toNat_inj, UInt8.toNat_ofNat]
      rw [if_neg (by omega), if_neg (by omega), if_neg (by omega)]
      rfl

theorem strStep_eq (c : UInt8) (r1 : Bytes) (v : Bool) : strStep c r1 v = rsOf v (headOf (c :: r1)) := by
  simp only [strStep, headOf, apply_ite (rsOf v), noEscape_quote, beq_iff_eq]
  refine ite_congr rfl (fun _ => rfl) fun _ => ite_congr rfl (fun _ => rfl) fun _ => ite_congr rfl (fun _ => rfl) fun h1 =>
    ite_congr rfl (fun h5 => ?_) fun _ => ite_congr rfl (fun _ => rfl) fun _ => (ite_self _).symm
  -- a rune of width 1 that is the backslash is the byte 0x5c
  obtain rfl : c = 0x5c := by
    rcases Utf8.decodeRune_narrow c r1 h1 with ⟨_, h⟩ | h <;> rw [h] at h5
    · exact UInt8.toNat_inj.mp h5
    · cases h5
  exact escStep_eq v r1

/-- an answer of `headEsc`: every one of them makes the scanner join stringNonVerbatim -/
def IsEsc : Head → Prop
  | .simple .. | .uni .. | .pair .. | .lone .. | .loneEOF .. | .badEscape => True
  | .eof esc => esc = true
  | _ => False

/-- What the head of an input can become once more input is appended. -/
inductive Grows : Head → Head → Prop
  | refl (h : Head) : Grows h h
  | close (a b : Bool) : Grows (.close a) (.close b)
  /-- the input ended between two characters or inside a UTF-8 sequence -/
  | eof (h : Head) : Grows (.eof false) h
  /-- the input ended inside an escape sequence -/
  | esc {h : Head} : IsEsc h → Grows (.eof true) h
  /-- the input ended inside what could still become the second half of a surrogate pair -/
  | pair (v1 v2 : Nat) (nc : Bool) : Grows (.loneEOF v1 nc) (.pair v1 v2 nc)
  | lone (v1 : Nat) (nc : Bool) : Grows (.loneEOF v1 nc) (.lone v1 nc)

theorem Grows.ite {c : Prop} [Decidable c] {a a' b b' : Head} (h1 : c → Grows a a') (h2 : ¬ c → Grows b b') :
    Grows (if c then a else b) (if c then a' else b') := by
  by_cases h : c
  · rw [if_pos h, if_pos h]; exact h1 h
  · rw [if_neg h, if_neg h]; exact h2 h

theorem prefixAux_append (lower : Bool) (i : Nat) (p q : Bytes) :
    hasEscapedUTF16PrefixAux lower i (p ++ q) =
      (hasEscapedUTF16PrefixAux lower i p && hasEscapedUTF16PrefixAux lower (i + p.length) q) := by
  induction p generalizing i with
  | nil => simp [hasEscapedUTF16PrefixAux]
  | cons c r ih =>
    simp only [List.cons_append, hasEscapedUTF16PrefixAux, ih, List.length_cons, Nat.add_comm r.length 1,
      Nat.add_assoc]
    cases prefixBad lower i c <;> simp

theorem prefix_take_append {lower : Bool} {p : Bytes} {n : Nat} (q : Bytes) (hn : p.length ≤ n)
    (h : hasEscapedUTF16Prefix p lower = false) : hasEscapedUTF16Prefix ((p ++ q).take n) lower = false := by
  rw [List.take_append, List.take_of_length_le hn, hasEscapedUTF16Prefix, prefixAux_append,
    ← hasEscapedUTF16Prefix, h, Bool.false_and]

theorem parseHex4_spec (a b c d : UInt8) : parseHex4 a b c d = hex4Spec a b c d := by
  simp only [parseHex4, hexVal_spec, hex4Spec]
  cases hexSpec a <;> cases hexSpec b <;> cases hexSpec c <;> cases hexSpec d <;> rfl

theorem prefix_six {h0 h1 h2 h3 : UInt8} (a0 : HexDigit h0) (a1 : HexDigit h1) (a2 : HexDigit h2) (a3 : HexDigit h3)
    (lower : Bool) :
    hasEscapedUTF16Prefix [0x5C, 0x75, h0, h1, h2, h3] lower =
      (!(lower && h0 != 0x64 && h0 != 0x44) &&
       !(lower && !(0x63 ≤ h1 && h1 ≤ 0x66) && !(0x43 ≤ h1 && h1 ≤ 0x46))) := by
  simp only [hasEscapedUTF16Prefix, hasEscapedUTF16PrefixAux, prefixBad, hexVal_spec,
    hexSpec_of a0, hexSpec_of a1, hexSpec_of a2, hexSpec_of a3, Option.isNone_some,
    Bool.and_false, Bool.or_false, bne_self_eq_false, Nat.reduceBEq, Bool.false_and, Bool.true_and, Bool.false_or,
    Nat.reduceAdd, Bool.false_eq_true, if_false, Nat.reduceLeDiff, decide_false, Bool.if_false_left,
    Bool.if_true_right, Bool.decide_eq_true]

theorem parseHex4_prefix {h0 h1 h2 h3 : UInt8} {v1 : Nat} (hp : parseHex4 h0 h1 h2 h3 = some v1) :
    hasEscapedUTF16Prefix [0x5C, 0x75, h0, h1, h2, h3] false = true := by
  obtain ⟨a0, a1, a2, a3, _⟩ := hex4Spec_eq_some.mp (parseHex4_spec .. ▸ hp)
  rw [prefix_six a0 a1 a2 a3]; rfl

/-- a low surrogate is `DC00..DFFF`: first digit `d`, second digit `c..f` -/
theorem low_surrogate_prefix {l0 l1 l2 l3 : UInt8} {v2 : Nat} (hp : parseHex4 l0 l1 l2 l3 = some v2)
    (hl : Utf8.isLowSurrogate v2 = true) :
    hasEscapedUTF16Prefix [0x5C, 0x75, l0, l1, l2, l3] true = true := by
  obtain ⟨a0, a1, a2, a3, rfl⟩ := hex4Spec_eq_some.mp (parseHex4_spec .. ▸ hp)
  have b0 := hexValue_lt a0
  have b1 := hexValue_lt a1
  have b2 := hexValue_lt a2
  have b3 := hexValue_lt a3
  have hl := isLowSurrogate_iff.mp hl
  simp only [LowSurrogate, hex4Value] at hl
  obtain ⟨e0, e1⟩ : hexValue l0 = 13 ∧ 12 ≤ hexValue l1 := by omega
  rw [prefix_six a0 a1 a2 a3]
  simp only [HexDigit, hexValue, UInt8.le_iff_toNat_le, UInt8.toNat_ofNat, Nat.reducePow, Nat.reduceMod] at a0 a1 e0 e1
  simp [UInt8.le_iff_toNat_le, ← UInt8.toNat_inj]
  constructor
  · split at e0 <;> try split at e0
    all_goals omega
  · split at e1 <;> try split at e1
    all_goals omega

theorem utf16DecodeRune_ne_error {v1 v2 : Nat} (h : Utf8.utf16DecodeRune v1 v2 ≠ Utf8.runeError) :
    Utf8.isLowSurrogate v2 = true :=
  isLowSurrogate_iff.mpr (utf16DecodeRune_ok_iff.mp (beq_eq_false_iff_ne.mpr h)).2

theorem headSurr_cases (v1 : Nat) (nc : Bool) (L : Bytes) :
    headSurr v1 nc L = .lone v1 nc ∨
    hasEscapedUTF16Prefix (L.take 6) true = true ∧
      (L.length < 6 ∧ headSurr v1 nc L = .loneEOF v1 nc ∨
       6 ≤ L.length ∧ ∃ v2, headSurr v1 nc L = .pair v1 v2 nc) := by
  rcases six_or_short L with ⟨b0, b1, l0, l1, l2, l3, t, rfl⟩ | hl
  · simp only [headSurr, List.take_succ_cons, List.take_zero, ← parseHex4_quote]
    cases hp : parseHex4 l0 l1 l2 l3 with
    | none => exact .inl rfl
    | some v2 =>
      by_cases hb : b0 ≠ 0x5c ∨ b1 ≠ 0x75
      · exact .inl (if_pos hb)
      by_cases hd : Utf8.utf16DecodeRune v1 v2 = Utf8.runeError
      · exact .inl ((if_neg hb).trans (if_pos hd))
      · obtain ⟨rfl, rfl⟩ : b0 = 0x5c ∧ b1 = 0x75 := by simpa only [not_or, ne_eq, Decidable.not_not] using hb
        exact .inr ⟨low_surrogate_prefix hp (utf16DecodeRune_ne_error hd),
          .inr ⟨by simp, v2, (if_neg hb).trans (if_neg hd)⟩⟩
  · rw [headSurr_short hl, List.take_of_length_le (by omega), ← prefix_quote]
    by_cases hp : hasEscapedUTF16Prefix L true = true
    · exact .inr ⟨hp, .inl ⟨hl, if_pos hp⟩⟩
    · exact .inl (if_neg hp)

theorem headSurr_append (v1 : Nat) (nc : Bool) (r6 e : Bytes) : Grows (headSurr v1 nc r6) (headSurr v1 nc (r6 ++ e)) := by
  rcases six_or_short r6 with ⟨b0, b1, l0, l1, l2, l3, t, rfl⟩ | hl
  · exact .refl _
  · rw [headSurr_short hl, ← prefix_quote]
    by_cases hp : hasEscapedUTF16Prefix r6 true = true
    · rw [if_pos hp]
      rcases headSurr_cases v1 nc (r6 ++ e) with ht | ⟨_, ⟨_, ht⟩ | ⟨_, v2, ht⟩⟩ <;> rw [ht]
      · exact .lone v1 nc
      · exact .refl _
      · exact .pair v1 v2 nc
    · rw [if_neg hp]
      rcases headSurr_cases v1 nc (r6 ++ e) with ht | ⟨hp', _⟩
      · rw [ht]; exact .refl _
      · rw [prefix_take_append e (by omega) (by simpa using hp)] at hp'
        cases hp'

theorem headSurr_isEsc (v1 : Nat) (nc : Bool) (L : Bytes) : IsEsc (headSurr v1 nc L) := by
  rcases headSurr_cases v1 nc L with ht | ⟨_, ⟨_, ht⟩ | ⟨_, v2, ht⟩⟩ <;> rw [ht] <;> trivial

theorem headU_bad {t : Bytes} (h : hasEscapedUTF16Prefix ((0x5C :: 0x75 :: t).take 6) false = false) :
    headU (0x5c :: 0x75 :: t) = .badEscape := by
  rcases six_or_short (0x5c :: 0x75 :: t) with ⟨_, _, h0, h1, h2, h3, r6, heq⟩ | hl
  · obtain ⟨-, -, rfl⟩ : _ ∧ _ ∧ t = _ := by simpa only [List.cons.injEq] using heq
    simp only [headU, ← parseHex4_quote]
    cases hp : parseHex4 h0 h1 h2 h3 with
    | none => rfl
    | some v1 =>
      simp only [List.take_succ_cons, List.take_zero, parseHex4_prefix hp] at h
      cases h
  · rw [List.take_of_length_le (by omega)] at h
    rw [headU_short hl, ← prefix_quote, h]; rfl

theorem headU_isEsc (src : Bytes) : IsEsc (headU src) := by
  unfold headU
  split
  · split
    · trivial
    · split
      · exact headSurr_isEsc ..
      · trivial
  · split <;> trivial

theorem headU_append (t e : Bytes) : Grows (headU (0x5c :: 0x75 :: t)) (headU (0x5c :: 0x75 :: (t ++ e))) := by
  rcases six_or_short (0x5c :: 0x75 :: t) with ⟨_, _, h0, h1, h2, h3, r6, heq⟩ | hl
  · obtain ⟨-, -, rfl⟩ : _ ∧ _ ∧ t = _ := by simpa only [List.cons.injEq] using heq
    simp only [headU, List.cons_append]
    cases Quote.parseHexUint16 [h0, h1, h2, h3] with
    | none => exact .refl _
    | some v1 => exact .ite (fun _ => headSurr_append ..) fun _ => .refl _
  · rw [headU_short hl, ← prefix_quote]
    by_cases hp : hasEscapedUTF16Prefix (0x5C :: 0x75 :: t) false = true
    · rw [if_pos hp]; exact .esc (headU_isEsc _)
    · rw [if_neg hp, headU_bad]
      · exact .refl _
      · exact prefix_take_append (p := 0x5C :: 0x75 :: t) (n := 6) e (by omega) (by simpa using hp)

theorem headEsc_isEsc (src : Bytes) : IsEsc (headEsc src) := by
  match src with
  | [] | [_] => trivial
  | c0 :: c1 :: t =>
    rcases headEsc_cases c0 c1 t with ⟨w, _, he⟩ | ⟨_, he⟩ | ⟨_, he⟩ <;> rw [he]
    · trivial
    · exact headU_isEsc _
    · trivial

theorem headEsc_append : ∀ t e : Bytes, Grows (headEsc (0x5c :: t)) (headEsc (0x5c :: (t ++ e)))
  | [], _ => .esc (headEsc_isEsc _)
  | c1 :: t, e => by
    by_cases hu : c1 = 0x75
    · subst hu; exact headU_append t e
    · have (t : Bytes) : headEsc (0x5c :: c1 :: t) = headEsc [0x5c, c1] := by
        have hu' : ¬ c1.toNat = 0x75 := fun h => hu (UInt8.toNat_inj.mp h)
        simp only [headEsc, if_neg hu']
      rw [List.cons_append, this t, this (t ++ e)]
      exact .refl _

theorem headOf_not_full {c : UInt8} {t : Bytes} (hfull : Utf8.fullRune (c :: t) = false) : headOf (c :: t) = .eof false := by
  obtain ⟨sz, lo, hi, hl, _⟩ := Utf8.fullRune_eq_false_iff.mp hfull
  rw [headOf_high t (Utf8.leadInfo_not_ascii hl), Utf8.decodeRune_of_not_full c t hfull, hfull]
  rfl

theorem headOf_append : ∀ r e : Bytes, Grows (headOf r) (headOf (r ++ e))
  | [], _ => .eof _
  | c :: t, e => by
    by_cases hfull : Utf8.fullRune (c :: t) = true
    · have hd : Utf8.decodeRune (c :: (t ++ e)) = Utf8.decodeRune (c :: t) :=
        Utf8.decodeRune_append_of_full (c :: t) e hfull
      have hf : Utf8.fullRune (c :: (t ++ e)) = Utf8.fullRune (c :: t) :=
        (Utf8.fullRune_append (c :: t) e hfull).trans hfull.symm
      simp only [headOf, List.cons_append, hd, hf]
      refine .ite (fun _ => .refl _) fun _ => .ite (fun _ => .close _ _) fun _ => .ite (fun _ => ?_) fun h1 =>
        .ite (fun h5 => ?_) fun _ => .refl _
      · rw [← List.cons_append, List.take_append_of_le_length (Utf8.decodeRune_le _)]; exact .refl _
      · obtain rfl : c = 0x5c := by
          rcases Utf8.decodeRune_narrow c t h1 with ⟨_, h⟩ | h <;> rw [h] at h5
          · exact UInt8.toNat_inj.mp h5
          · cases h5
        exact headEsc_append t e
    · rw [headOf_not_full (by simpa using hfull)]; exact .eof _

/-- flags joined by one loop iteration -/
def Step.flags : Step → VFlags
  | .adv _ g => g
  | .done => .none
  | .stop g _ => g

theorem length_drop_lt_cons (c : UInt8) (r1 : Bytes) (k : Nat) : (r1.drop k).length < (c :: r1).length := by
  rw [List.length_drop, List.length_cons]; exact Nat.lt_succ_of_le (Nat.sub_le _ _)

theorem strLoop_nil (n : Nat) (f : VFlags) (v : Bool) : strLoop [] n f v = (n, f, .eof) := by
  unfold strLoop; rfl

theorem strLoop_cons (c : UInt8) (r1 : Bytes) (n : Nat) (f : VFlags) (v : Bool) :
    strLoop (c :: r1) n f v =
      match strStep c r1 v with
      | .adv k g => strLoop (r1.drop k) (n + k + 1) (f.join g) v
      | .done => (n + 1, f, .ok)
      | .stop g e => (n, f.join g, e) := by
  rw [strLoop]; rfl

/-- What the step `s` of a loop iteration can become once input is appended: a definitive step stays as it is;
io.ErrUnexpectedEOF reported with flags `g` gives way to any step whose flags absorb `g`. -/
def Step.Extends (s t : Step) : Prop := t = s ∨ ∃ g, s = .stop g .eof ∧ g.join t.flags = t.flags

theorem Step.Extends.eq {s t : Step} (h : s.Extends t) (hs : ∀ g, s ≠ .stop g .eof) : t = s :=
  h.elim id fun ⟨g, hg, _⟩ => absurd hg (hs g)

theorem Step.Extends.absorb {g : VFlags} {t : Step} (h : (Step.stop g .eof).Extends t) :
    g.join t.flags = t.flags := by
  rcases h with rfl | ⟨g', hg, h⟩
  · exact VFlags.join_self g
  · cases hg; exact h

theorem join_absorb_of_nv (x : VFlags) (h : x.nonVerbatim = true) : VFlags.nv.join x = x := by
  cases x; simp_all [VFlags.join, VFlags.nv]

theorem rsOf_extends (v : Bool) {h h' : Head} (hg : Grows h h') : (rsOf v h).Extends (rsOf v h') := by
  cases hg with
  | refl | close => exact .inl rfl
  | eof h' => exact .inr ⟨.none, rfl, VFlags.none_join _⟩
  | @esc h' he =>
    refine .inr ⟨.nv, rfl, join_absorb_of_nv _ ?_⟩
    cases h' <;> cases v <;> first | exact he.elim | exact he | rfl
  | pair v1 v2 nc =>
    cases v
    · exact .inl rfl
    · exact .inr ⟨_, rfl, VFlags.join_self _⟩
  | lone v1 nc =>
    cases v
    · exact .inl rfl
    · exact .inr ⟨_, rfl, by cases nc <;> rfl⟩

theorem strStep_extends (c : UInt8) (r1 e : Bytes) (v : Bool) :
    (strStep c r1 v).Extends (strStep c (r1 ++ e) v) := by
  rw [strStep_eq, strStep_eq]; exact rsOf_extends v (headOf_append (c :: r1) e)

theorem strStep_adv_le (c : UInt8) (r1 : Bytes) (v : Bool) (k : Nat) (g : VFlags) (h : strStep c r1 v = .adv k g) :
    k ≤ r1.length := by
  have hsz := Utf8.decodeRune_le (c :: r1)
  rw [strStep_eq] at h
  have hs := headOf_shape (c :: r1)
  generalize headOf (c :: r1) = hd at h hs
  cases hs <;> cases v <;> cases h <;> simp only [List.length_cons] at hsz ⊢ <;> omega

theorem strLoop_absorb (c : UInt8) (r : Bytes) (n : Nat) (f g : VFlags) (v : Bool)
    (h : g.join (strStep c r v).flags = (strStep c r v).flags) :
    strLoop (c :: r) n (f.join g) v = strLoop (c :: r) n f v := by
  rw [strLoop_cons, strLoop_cons]
  cases hs : strStep c r v with
  | adv k g2 =>
    simp only [hs, Step.flags] at h ⊢
    rw [VFlags.join_assoc, h]
  | done =>
    simp only [hs, Step.flags, VFlags.join_none] at h ⊢
    rw [h, VFlags.join_none]
  | stop g2 e2 =>
    simp only [hs, Step.flags] at h ⊢
    rw [VFlags.join_assoc, h]

theorem strLoop_append (r : Bytes) : ∀ (n0 : Nat) (f : VFlags) (v : Bool) (n : Nat) (f' : VFlags) (err : Err),
    strLoop r n0 f v = (n, f', err) →
    ∃ p s, r = p ++ s ∧ n = n0 + p.length ∧
      ∀ e, strLoop (r ++ e) n0 f v = if err = .eof then strLoop (s ++ e) n f' v else (n, f', err) := by
  induction hlen : r.length using Nat.strongRecOn generalizing r with
  | ind len ih =>
    intro n0 f v n f' err h
    cases r with
    | nil =>
      rw [strLoop_nil] at h
      cases h
      exact ⟨[], [], rfl, rfl, fun _ => (if_pos rfl).symm⟩
    | cons c r1 =>
      rw [strLoop_cons] at h
      have hext := fun e => strStep_extends c r1 e v
      cases hs : strStep c r1 v with
      | adv k g =>
        rw [hs] at h hext
        have hk := strStep_adv_le c r1 v k g hs
        obtain ⟨p, s, hr, hn, h3⟩ :=
          ih _ (hlen ▸ length_drop_lt_cons c r1 k) (r1.drop k) rfl (n0 + k + 1) (f.join g) v n f' err h
        refine ⟨c :: (r1.take k ++ p), s, ?_, ?_, fun e => ?_⟩
        · rw [List.cons_append, List.append_assoc, ← hr, List.take_append_drop]
        · rw [hn, List.length_cons, List.length_append, List.length_take_of_le hk]
          simp only [Nat.add_assoc, Nat.add_comm 1]
        · rw [List.cons_append, strLoop_cons, (hext e).eq (fun _ => nofun)]
          simp only
          rw [List.drop_append_of_le_length hk]
          exact h3 e
      | done =>
        rw [hs] at h hext
        cases h
        refine ⟨[c], r1, rfl, rfl, fun e => ?_⟩
        rw [List.cons_append, strLoop_cons, (hext e).eq (fun _ => nofun), if_neg nofun]
      | stop g err' =>
        rw [hs] at h hext
        cases h
        refine ⟨[], c :: r1, rfl, rfl, fun e => ?_⟩
        by_cases he : err = .eof
        · -- what was joined before the early return is joined again by the repeated iteration
          subst he
          rw [if_pos rfl]
          exact (strLoop_absorb c (r1 ++ e) n0 f g v (hext e).absorb).symm
        · rw [if_neg he, List.cons_append, strLoop_cons, (hext e).eq (fun g' hg => he (by cases hg; rfl))]

theorem consumeStringResumable_cons (f : VFlags) (c : UInt8) (r : Bytes) (v : Bool) :
    consumeStringResumable f (c :: r) 0 v = if c == 0x22 then strLoop r 1 f v else (0, f, .invalidChar) := rfl

/-- `str_resume` (C05): after io.ErrUnexpectedEOF with resume offset `n` and flags `f'`, resuming at `n` with `f'` over
any extension `b ++ e` returns what a scan of `b ++ e` from scratch with the original flags returns. -/
theorem str_resume_eq (f : VFlags) (b e : Bytes) (v : Bool) (n : Nat) (f' : VFlags)
    (h : consumeStringResumable f b 0 v = (n, f', .eof)) :
    consumeStringResumable f' (b ++ e) n v = consumeStringResumable f (b ++ e) 0 v := by
  cases b with
  | nil => cases h; rfl
  | cons c r =>
    rw [consumeStringResumable_cons] at h
    rw [List.cons_append, consumeStringResumable_cons]
    by_cases hq : (c == 0x22) = true
    · rw [if_pos hq] at h ⊢
      obtain ⟨p, s, rfl, rfl, h3⟩ := strLoop_append r 1 f v n f' .eof h
      rw [h3 e, if_pos rfl, consumeStringResumable, if_pos (Nat.add_pos_left Nat.one_pos p.length), Nat.add_comm 1,
        List.drop_succ_cons, List.append_assoc, List.drop_left]
    · rw [if_neg hq] at h; cases h

theorem str_stable (f : VFlags) (b e : Bytes) (v : Bool)
    (h : (consumeStringResumable f b 0 v).2.2 ≠ .eof) :
    consumeStringResumable f (b ++ e) 0 v = consumeStringResumable f b 0 v := by
  cases b with
  | nil => exact absurd rfl h
  | cons c r =>
    rw [consumeStringResumable_cons] at h
    rw [List.cons_append, consumeStringResumable_cons, consumeStringResumable_cons]
    by_cases hq : (c == 0x22) = true
    · rw [if_pos hq] at h
      obtain ⟨_, _, _, _, h3⟩ := strLoop_append r 1 f v _ _ _ rfl
      rw [if_pos hq, if_pos hq, h3 e, if_neg h]
    · rw [if_neg hq, if_neg hq]

/-- `(n, f')` is as good as a fresh start (with the original flags `f`) on every extension of `b` -/
def StrFresh (f : VFlags) (v : Bool) (b : Bytes) (n : Nat) (f' : VFlags) : Prop :=
  ∀ e, consumeStringResumable f' (b ++ e) n v = consumeStringResumable f (b ++ e) 0 v

theorem consumeStringChunks_inv (f : VFlags) (v : Bool) (cs : List Bytes) :
    ∀ (b : Bytes) (n : Nat) (f' : VFlags), StrFresh f v b n f' →
    consumeStringChunks f' b n v cs = consumeStringResumable f (b ++ cs.flatten) 0 v := by
  induction cs with
  | nil => intro b n f' h; have := h []; simpa [consumeStringChunks] using this
  | cons c cs ih =>
    intro b n f' h
    have h0 := h []
    simp only [List.append_nil] at h0
    simp only [consumeStringChunks, h0]
    by_cases heof : (consumeStringResumable f b 0 v).2.2 = .eof
    · rw [if_pos heof]
      have hfresh : StrFresh f v (b ++ c) (consumeStringResumable f b 0 v).1 (consumeStringResumable f b 0 v).2.1 := by
        intro e
        have := str_resume_eq f b (c ++ e) v _ _ (by rw [← heof])
        simpa [List.append_assoc] using this
      rw [ih (b ++ c) _ _ hfresh]
      simp [List.append_assoc]
    · rw [if_neg heof, str_stable f b _ v heof]

/-- `chunk_indep` (C05) for strings -/
theorem str_chunk_indep (f : VFlags) (v : Bool) (c : Bytes) (cs : List Bytes) :
    consumeStringChunks f c 0 v cs = consumeStringResumable f (c ++ cs.flatten) 0 v :=
  consumeStringChunks_inv f v cs c 0 f (fun _ => rfl)

/-- The `default: panic("BUG: unhandled character")` arm of ConsumeStringResumable (decode.go:246) is unreachable:
a rune of width ≤ 1 that is none of the earlier cases is a control character, which the model's last branch reports
as an invalid character. -/
theorem strStep_default_unreachable (c : UInt8) (r1 : Bytes)
    (hn : noEscape c = false) (hq : (c == 0x22) = false)
    (h2 : ¬ (Utf8.decodeRune (c :: r1)).2 > 1)
    (h5 : ((Utf8.decodeRune (c :: r1)).1 == 0x5C) = false)
    (hre : ((Utf8.decodeRune (c :: r1)).1 == Utf8.runeError) = false) :
    (Utf8.decodeRune (c :: r1)).1 < 0x20 := by
  rcases Utf8.decodeRune_narrow c r1 h2 with ⟨h0, h⟩ | h <;> rw [h] at h5 hre ⊢
  · exact ctrl_of_ascii h0 (by simp [← noEscape_quote, hn]) (ne_of_beq_false hq) (ne_of_beq_false h5)
  · cases hre

end JsonV.Model.Resume
