/-
Lemmas for C17 (dispatch order): the composed wrappers of `Model/Dispatch.lean` evaluate to the
documented first-applicable order.
-/
import JsonV.Model.Dispatch

namespace JsonV.Lemmas.DispatchL
open JsonV.Model JsonV.Model.Dispatch

theorem callFns_collect (isBase implI : Bool) (beh : Behav) (ctx : Ctx) (fnc : Arshaler) (fns : List FnSpec) :
    callFns beh ctx fnc (collect isBase implI fns) =
      documentedFns isBase implI beh ctx.lvl ctx.m (fnc ctx) fns := by
  induction fns with
  | nil => simp [collect, callFns, documentedFns]
  | cons f fs ih =>
    unfold collect documentedFns
    by_cases hc : castableTo isBase implI f.target = true
    · by_cases hs : f.maySkip = true
      · simp only [hc, hs, Bool.not_true, Bool.false_eq_true, ↓reduceIte, callFns, fnResult, Bool.false_and]
        cases beh (Cand.fn f.id ctx.lvl) ctx.m <;> simp [ih]
      · have hs' : f.maySkip = false := by simpa using hs
        simp only [hc, hs', Bool.not_true, Bool.not_false, Bool.false_eq_true, ↓reduceIte, callFns, fnResult, Bool.true_and]
        cases beh (Cand.fn f.id ctx.lvl) ctx.m <;> simp
    · have hc' : castableTo isBase implI f.target = false := by simpa using hc
      simp only [hc', Bool.not_false, ↓reduceIte]
      exact ih

theorem lookup_eq (fns : List FnSpec) (isBase implI : Bool) (beh : Behav) (fnc : Arshaler) (ctx : Ctx) :
    lookup fns isBase implI beh fnc ctx = documentedFns isBase implI beh ctx.lvl ctx.m (fnc ctx) fns := by
  rw [← callFns_collect]
  unfold lookup
  by_cases he : (collect isBase implI fns).isEmpty = true
  · simp only [he, ↓reduceIte]
    have : collect isBase implI fns = [] := by simpa using he
    simp [this, callFns]
  · simp [he]

/-- The shape the six method wrappers share: a method that is not implemented, or that legacy semantics hide
(`hide`), leaves the previous arshaler in place; otherwise it is called, final or falling through. -/
theorem wrap_eq {w prev : Arshaler} {r : Recv} {k : Meth} {sk hide : Bool} {beh : Behav} {ctx : Ctx}
    (hw : w ctx = if !r.implements.2 || (ctx.legacy && hide) then prev ctx
      else if sk then callOrPrev (beh (.meth k ctx.lvl) ctx.m) (.meth k ctx.lvl) (prev ctx)
      else callFinal (beh (.meth k ctx.lvl) ctx.m) (.meth k ctx.lvl)) :
    w ctx = tryMeth (if ctx.legacy && hide then .absent else r) k sk beh ctx.lvl ctx.m (prev ctx) := by
  rw [hw]
  cases hh : ctx.legacy && hide
  · cases r <;> cases sk <;> simp [tryMeth, Recv.implements, Recv.present, callFinal, callOrPrev] <;>
      cases beh (.meth k ctx.lvl) ctx.m <;> rfl
  · simp [tryMeth, Recv.present]

theorem wrapMarshalText_eq (r : Recv) (beh : Behav) (prev : Arshaler) (ctx : Ctx) :
    wrapMarshalText r beh prev ctx =
      tryMeth (if ctx.legacy && (r.implements.1 && ctx.forcedAddr) then .absent else r)
        .tx false beh ctx.lvl ctx.m (prev ctx) :=
  wrap_eq (by cases r <;> rfl)

theorem wrapAppendText_eq (r : Recv) (beh : Behav) (prev : Arshaler) (ctx : Ctx) :
    wrapAppendText r beh prev ctx =
      tryMeth (if ctx.legacy && (r.implements.1 && ctx.forcedAddr) then .absent else r)
        .ap false beh ctx.lvl ctx.m (prev ctx) :=
  wrap_eq (by cases r <;> rfl)

theorem wrapMarshalJSON_eq (r : Recv) (beh : Behav) (prev : Arshaler) (ctx : Ctx) :
    wrapMarshalJSON r beh prev ctx =
      tryMeth (if ctx.legacy && ((r.implements.1 && ctx.forcedAddr) || ctx.m.last.needObjectName) then .absent else r)
        .js false beh ctx.lvl ctx.m (prev ctx) :=
  wrap_eq (by cases r <;> rfl)

theorem wrapMarshalJSONTo_eq (r : Recv) (beh : Behav) (prev : Arshaler) (ctx : Ctx) :
    wrapMarshalJSONTo r beh prev ctx =
      tryMeth (if ctx.legacy && ((r.implements.1 && ctx.forcedAddr) || ctx.m.last.needObjectName) then .absent else r)
        .to true beh ctx.lvl ctx.m (prev ctx) :=
  wrap_eq (by cases r <;> rfl)

/-- Whatever the options, the method arshaler of a named type tries the methods in the documented order; legacy
semantics only hide some of them. -/
theorem makeMethodMarshaler_eq (ms : MethodSet) (beh : Behav) (fncs : Arshaler) (ctx : Ctx) :
    makeMethodMarshaler .named ms beh fncs ctx =
      documentedMethodsM
        ⟨if ctx.legacy && ((ms.to.implements.1 && ctx.forcedAddr) || ctx.m.last.needObjectName) then .absent else ms.to,
         if ctx.legacy && ((ms.js.implements.1 && ctx.forcedAddr) || ctx.m.last.needObjectName) then .absent else ms.js,
         if ctx.legacy && (ms.ap.implements.1 && ctx.forcedAddr) then .absent else ms.ap,
         if ctx.legacy && (ms.tx.implements.1 && ctx.forcedAddr) then .absent else ms.tx⟩ beh ctx.lvl ctx.m (fncs ctx) := by
  simp only [makeMethodMarshaler, documentedMethodsM, reduceCtorEq, or_self, ↓reduceIte]
  rw [wrapMarshalJSONTo_eq, wrapMarshalJSON_eq, wrapAppendText_eq, wrapMarshalText_eq]

theorem makeMethodMarshaler_named (ms : MethodSet) (beh : Behav) (fncs : Arshaler) (ctx : Ctx) (h : ctx.legacy = false) :
    makeMethodMarshaler .named ms beh fncs ctx = documentedMethodsM ms beh ctx.lvl ctx.m (fncs ctx) := by
  rw [makeMethodMarshaler_eq]
  simp only [h, Bool.false_and, Bool.false_eq_true, ↓reduceIte]

theorem makeMethodMarshaler_ptr (ms : MethodSet) (beh : Behav) (fncs : Arshaler) :
    makeMethodMarshaler .pointer ms beh fncs = fncs := by simp [makeMethodMarshaler]

theorem makeMethodMarshaler_iface (ms : MethodSet) (beh : Behav) (fncs : Arshaler) :
    makeMethodMarshaler .iface ms beh fncs = fncs := by simp [makeMethodMarshaler]

theorem documentedMethodsM_none (beh : Behav) (lvl : Nat) (m : Machine) (d : Outcome) :
    documentedMethodsM {} beh lvl m d = d := by
  simp [documentedMethodsM, tryMeth, Recv.present]

theorem wrapUnmarshalText_eq (r : Recv) (beh : Behav) (prev : Arshaler) (ctx : Ctx) :
    wrapUnmarshalText r beh prev ctx = tryUText r beh ctx.lvl ctx.m ctx.inNull ctx.inStr (prev ctx) := by
  cases r <;> simp [wrapUnmarshalText, tryUText, Recv.implements, Recv.present, Outcome.error]

theorem wrapUnmarshalJSON_eq (r : Recv) (beh : Behav) (prev : Arshaler) (ctx : Ctx) :
    wrapUnmarshalJSON r beh prev ctx =
      tryMeth (if ctx.legacy && ctx.m.last.needObjectName then .absent else r) .uj false beh ctx.lvl ctx.m (prev ctx) :=
  wrap_eq (by cases r <;> rfl)

theorem wrapUnmarshalJSONFrom_eq (r : Recv) (beh : Behav) (prev : Arshaler) (ctx : Ctx) :
    wrapUnmarshalJSONFrom r beh prev ctx =
      tryMeth (if ctx.legacy && ctx.m.last.needObjectName then .absent else r) .frm true beh ctx.lvl ctx.m (prev ctx) :=
  wrap_eq (by cases r <;> rfl)

theorem makeMethodUnmarshaler_eq (ms : UMethodSet) (beh : Behav) (fncs : Arshaler) (ctx : Ctx) :
    makeMethodUnmarshaler .named ms beh fncs ctx =
      documentedMethodsU
        ⟨if ctx.legacy && ctx.m.last.needObjectName then .absent else ms.frm,
         if ctx.legacy && ctx.m.last.needObjectName then .absent else ms.uj, ms.utx⟩
        beh ctx.lvl ctx.m ctx.inNull ctx.inStr (fncs ctx) := by
  simp only [makeMethodUnmarshaler, documentedMethodsU, reduceCtorEq, or_self, ↓reduceIte]
  rw [wrapUnmarshalJSONFrom_eq, wrapUnmarshalJSON_eq, wrapUnmarshalText_eq]

theorem makeMethodUnmarshaler_named (ms : UMethodSet) (beh : Behav) (fncs : Arshaler) (ctx : Ctx) (h : ctx.legacy = false) :
    makeMethodUnmarshaler .named ms beh fncs ctx =
      documentedMethodsU ms beh ctx.lvl ctx.m ctx.inNull ctx.inStr (fncs ctx) := by
  rw [makeMethodUnmarshaler_eq]
  simp only [h, Bool.false_and, Bool.false_eq_true, ↓reduceIte]

theorem makeMethodUnmarshaler_ptr (ms : UMethodSet) (beh : Behav) (fncs : Arshaler) :
    makeMethodUnmarshaler .pointer ms beh fncs = fncs := by simp [makeMethodUnmarshaler]

theorem makeMethodUnmarshaler_iface (ms : UMethodSet) (beh : Behav) (fncs : Arshaler) :
    makeMethodUnmarshaler .iface ms beh fncs = fncs := by simp [makeMethodUnmarshaler]

theorem documentedMethodsU_none (beh : Behav) (lvl : Nat) (m : Machine) (a b : Bool) (d : Outcome) :
    documentedMethodsU {} beh lvl m a b d = d := by
  simp [documentedMethodsU, tryMeth, tryUText, Recv.present]

theorem marshalLevels_eq_documented (maxDepth : Nat) (ms : MethodSet) (fns : List FnSpec) (beh : Behav)
    (levels : List Level) : ∀ (i : Nat) (m : Machine),
    marshalLevels maxDepth ms fns beh false levels i m = documentedMarshal maxDepth ms fns beh levels i m := by
  induction levels with
  | nil => intro i m; simp [marshalLevels, documentedMarshal]
  | cons l rest ih =>
    intro i m
    unfold marshalLevels documentedMarshal
    simp only [lookup_eq]
    congr 1
    cases hk : l.kind with
    | base =>
      simp only [Level.tkind, Level.methodsM, hk]
      rw [makeMethodMarshaler_named _ _ _ _ rfl]
    | ptr | iface =>
      simp only [Level.tkind, hk, makeMethodMarshaler_ptr, makeMethodMarshaler_iface, ih]
    | cont =>
      simp only [Level.tkind, Level.methodsM, hk]
      rw [makeMethodMarshaler_named _ _ _ _ rfl, documentedMethodsM_none]
      simp only [ih]

theorem unmarshalLevels_eq_documented (maxDepth : Nat) (ms : UMethodSet) (fns : List FnSpec) (beh : Behav)
    (levels : List Level) : ∀ (i : Nat) (m : Machine),
    unmarshalLevels maxDepth ms fns beh false levels i m = documentedUnmarshal maxDepth ms fns beh levels i m := by
  induction levels with
  | nil => intro i m; simp [unmarshalLevels, documentedUnmarshal]
  | cons l rest ih =>
    intro i m
    unfold unmarshalLevels documentedUnmarshal
    simp only [lookup_eq]
    congr 1
    cases hk : l.kind with
    | base =>
      simp only [Level.tkind, Level.methodsU, hk]
      rw [makeMethodUnmarshaler_named _ _ _ _ rfl]
    | ptr | iface =>
      simp only [Level.tkind, hk, makeMethodUnmarshaler_ptr, makeMethodUnmarshaler_iface, ih]
    | cont =>
      simp only [Level.tkind, Level.methodsU, hk]
      rw [makeMethodUnmarshaler_named _ _ _ _ rfl, documentedMethodsU_none]
      simp only [ih]

/-- Every invocation recorded in `o` satisfies `P`. -/
def All (P : Cand → Prop) (o : Outcome) : Prop := ∀ c ∈ o.trace, P c

variable {P : Cand → Prop}

theorem all_nil (r : Res) : All P ⟨[], r⟩ := fun _ h => nomatch h
theorem all_one {c : Cand} (r : Res) (h : P c) : All P ⟨[c], r⟩ := fun _ hc => List.mem_singleton.mp hc ▸ h
theorem all_after {c : Cand} {o : Outcome} (h : P c) (ho : All P o) : All P (o.after c) :=
  fun _ hc => (List.mem_cons.mp hc).elim (· ▸ h) (ho _)

theorem callFinal_all {r : CallResult} {c : Cand} (h : P c) : All P (callFinal r c) := by
  cases r <;> exact all_one _ h

theorem documentedFns_all {isBase implI : Bool} {beh : Behav} {lvl : Nat} {m : Machine} {rest : Outcome}
    (hrest : All P rest) (hfn : ∀ id, P (.fn id lvl)) : ∀ fns, All P (documentedFns isBase implI beh lvl m rest fns)
  | [] => hrest
  | f :: fs => by
    unfold documentedFns
    split
    · exact documentedFns_all hrest hfn fs
    · split
      · exact all_one _ (hfn _)
      · exact all_one _ (hfn _)
      · split
        · exact all_after (hfn _) (documentedFns_all hrest hfn fs)
        · exact all_one _ (hfn _)

theorem tryMeth_all {r : Recv} {k : Meth} {sk : Bool} {beh : Behav} {lvl : Nat} {m : Machine} {next : Outcome}
    (hnext : All P next) (hm : P (.meth k lvl)) : All P (tryMeth r k sk beh lvl m next) := by
  unfold tryMeth
  split
  · exact hnext
  · split
    · exact all_one _ hm
    · exact all_one _ hm
    · split
      · exact all_after hm hnext
      · exact all_one _ hm

theorem tryUText_all {r : Recv} {beh : Behav} {lvl : Nat} {m : Machine} {a b : Bool} {next : Outcome}
    (hnext : All P next) (hm : P (.meth .utx lvl)) : All P (tryUText r beh lvl m a b next) := by
  unfold tryUText
  split
  · exact hnext
  · split
    · exact all_nil _
    · split
      · exact all_nil _
      · exact callFinal_all hm

theorem makeMethodMarshaler_all (k : TKind) (ms : MethodSet) (beh : Behav) (fncs : Arshaler) (ctx : Ctx)
    (hf : All P (fncs ctx)) (hm : k = .named → ∀ mk, P (.meth mk ctx.lvl)) : All P (makeMethodMarshaler k ms beh fncs ctx) := by
  cases k
  case named =>
    rw [makeMethodMarshaler_eq]
    exact tryMeth_all (tryMeth_all (tryMeth_all (tryMeth_all hf (hm rfl _)) (hm rfl _)) (hm rfl _)) (hm rfl _)
  all_goals exact hf

theorem makeMethodUnmarshaler_all (k : TKind) (ms : UMethodSet) (beh : Behav) (fncs : Arshaler) (ctx : Ctx)
    (hf : All P (fncs ctx)) (hm : k = .named → ∀ mk, P (.meth mk ctx.lvl)) : All P (makeMethodUnmarshaler k ms beh fncs ctx) := by
  cases k
  case named =>
    rw [makeMethodUnmarshaler_eq]
    exact tryMeth_all (tryMeth_all (tryUText_all hf (hm rfl _)) (hm rfl _)) (hm rfl _)
  all_goals exact hf

theorem makeMethodMarshaler_noMethods (k : TKind) (beh : Behav) (fncs : Arshaler) :
    makeMethodMarshaler k {} beh fncs = fncs := by
  unfold makeMethodMarshaler
  split
  · rfl
  · simp [wrapMarshalJSONTo, wrapMarshalJSON, wrapAppendText, wrapMarshalText, Recv.implements]

theorem makeMethodUnmarshaler_noMethods (k : TKind) (beh : Behav) (fncs : Arshaler) :
    makeMethodUnmarshaler k {} beh fncs = fncs := by
  unfold makeMethodUnmarshaler
  split
  · rfl
  · simp [wrapUnmarshalJSONFrom, wrapUnmarshalJSON, wrapUnmarshalText, Recv.implements]

/-- A method invocation `c` recorded while handling `levels` (whose first level has index `i`) happens at a level
that is the type `T` itself. -/
def MethAtBase (levels : List Level) (i : Nat) (c : Cand) : Prop :=
  ∀ k l, c = .meth k l → i ≤ l ∧ ∃ lv, levels[l - i]? = some lv ∧ lv.kind = .base

theorem MethAtBase.cons {l : Level} {rest : List Level} {i : Nat} {c : Cand} (h : MethAtBase rest (i + 1) c) :
    MethAtBase (l :: rest) i c := by
  intro k l' hc
  obtain ⟨hle, lv, hlv, hb⟩ := h k l' hc
  refine ⟨by omega, lv, ?_, hb⟩
  have : l' - i = (l' - (i + 1)) + 1 := by omega
  rw [this, List.getElem?_cons_succ]
  exact hlv

theorem methAtBase_here (l : Level) (rest : List Level) (i : Nat) :
    (∀ id, MethAtBase (l :: rest) i (.fn id i)) ∧
    (∀ mk, l.kind = .base → MethAtBase (l :: rest) i (.meth mk i)) :=
  ⟨fun _ _ _ h => (nomatch h), fun _ hb _ _ h => by cases h; exact ⟨Nat.le_refl _, l, by simp, hb⟩⟩

theorem marshal_methods_at_base (maxDepth : Nat) (ms : MethodSet) (fns : List FnSpec) (beh : Behav) (legacy : Bool) :
    ∀ (levels : List Level) (i : Nat) (m : Machine),
    All (MethAtBase levels i) (marshalLevels maxDepth ms fns beh legacy levels i m)
  | [], _, _ => all_nil _
  | l :: rest, i, m => by
    have ih (m') : All (MethAtBase (l :: rest) i) (marshalLevels maxDepth ms fns beh legacy rest (i + 1) m') :=
      fun c hc => (marshal_methods_at_base maxDepth ms fns beh legacy rest (i + 1) m' c hc).cons
    unfold marshalLevels
    rw [lookup_eq]
    refine documentedFns_all ?_ (methAtBase_here l rest i).1 fns
    -- `T` itself: its methods are at this level; a pointer or interface is no named type; a container has no methods
    cases hkind : l.kind <;> simp only [Level.tkind, Level.methodsM, hkind]
    · exact makeMethodMarshaler_all _ _ _ _ _ (by split <;> exact all_nil _) fun _ mk => (methAtBase_here l rest i).2 mk hkind
    · refine makeMethodMarshaler_all _ _ _ _ _ ?_ (fun h => nomatch h)
      split
      · split <;> exact all_nil _
      · exact ih _
    · refine makeMethodMarshaler_all _ _ _ _ _ ?_ (fun h => nomatch h)
      split
      · split <;> exact all_nil _
      · exact ih _
    · rw [makeMethodMarshaler_noMethods]
      split
      · split
        · exact all_nil _
        · exact ih _
      · exact all_nil _

theorem unmarshal_methods_at_base (maxDepth : Nat) (ms : UMethodSet) (fns : List FnSpec) (beh : Behav) (legacy : Bool) :
    ∀ (levels : List Level) (i : Nat) (m : Machine),
    All (MethAtBase levels i) (unmarshalLevels maxDepth ms fns beh legacy levels i m)
  | [], _, _ => all_nil _
  | l :: rest, i, m => by
    have ih (m') : All (MethAtBase (l :: rest) i) (unmarshalLevels maxDepth ms fns beh legacy rest (i + 1) m') :=
      fun c hc => (unmarshal_methods_at_base maxDepth ms fns beh legacy rest (i + 1) m' c hc).cons
    unfold unmarshalLevels
    rw [lookup_eq]
    refine documentedFns_all ?_ (methAtBase_here l rest i).1 fns
    cases hkind : l.kind <;> simp only [Level.tkind, Level.methodsU, hkind]
    · exact makeMethodUnmarshaler_all _ _ _ _ _ (by split <;> exact all_nil _) fun _ mk => (methAtBase_here l rest i).2 mk hkind
    · refine makeMethodUnmarshaler_all _ _ _ _ _ ?_ (fun h => nomatch h)
      split
      · exact all_nil _
      · exact ih _
    · refine makeMethodUnmarshaler_all _ _ _ _ _ ?_ (fun h => nomatch h)
      split
      · exact all_nil _
      · exact ih _
    · rw [makeMethodUnmarshaler_noMethods]
      split
      · exact ih _
      · exact all_nil _

/-- The level with `forcedAddr` set to `b`. -/
def setForced (b : Bool) (l : Level) : Level := { l with forcedAddr := b }

theorem documentedMarshal_forced (maxDepth : Nat) (ms : MethodSet) (fns : List FnSpec) (beh : Behav) (b : Bool)
    (levels : List Level) : ∀ (i : Nat) (m : Machine),
    documentedMarshal maxDepth ms fns beh (levels.map (setForced b)) i m = documentedMarshal maxDepth ms fns beh levels i m := by
  induction levels with
  | nil => intro i m; rfl
  | cons l rest ih =>
    intro i m
    cases l with
    | mk kind isNil pre dfltOk forced inNull inStr =>
      simp only [List.map_cons, setForced]
      unfold documentedMarshal
      simp only [Level.isBase, ih]

theorem tryMeth_skip (r : Recv) (k : Meth) (beh : Behav) (lvl : Nat) (m : Machine) (next : Outcome)
    (hp : r.present = true) (hb : beh (.meth k lvl) m = .skip) :
    tryMeth r k true beh lvl m next = next.after (.meth k lvl) := by
  simp [tryMeth, hp, hb]

theorem tryMeth_absent (k : Meth) (s : Bool) (beh : Behav) (lvl : Nat) (m : Machine) (next : Outcome) :
    tryMeth .absent k s beh lvl m next = next := by
  simp [tryMeth, Recv.present]

end JsonV.Lemmas.DispatchL
