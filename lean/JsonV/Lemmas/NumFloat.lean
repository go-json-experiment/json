/-
C10 lemmas: jsonwire.AppendFloat (strconv %e/%f layout of the shortest digits + the e-0X clean-up)
is the ECMA-262 Number::toString layout (−0 kept).
-/
import JsonV.Model.Number
import JsonV.Spec.Ecma

namespace JsonV.Lemmas.NumFloat
open JsonV JsonV.Model.Number JsonV.Spec.Ecma

/-- Well-formed shortest decomposition `0.d₁…d_k × 10^n`: decimal digits, no leading zero digit,
zero is `([], 0)`, and the exponent has at most three digits (true of every float64 and float32). -/
def WFD (ds : List Nat) (n : Int) : Prop :=
  (∀ d ∈ ds, d < 10) ∧ ds.head? ≠ some 0 ∧ (ds = [] → n = 0) ∧ -1000 < n - 1 ∧ n - 1 < 1000

theorem dig_eq : digitByte = dig := rfl

theorem frac_inside (ds : List Nat) (a : Nat) (ha : a ≤ ds.length) :
    (List.range (ds.length - a)).map (fun (i : Nat) =>
        let j : Int := (a : Int) + (i : Int)
        if 0 ≤ j ∧ j < (ds.length : Int) then digitByte (ds.getD j.toNat 0) else 48)
      = (ds.drop a).map digitByte := by
  apply List.ext_getElem
  · rw [List.length_map, List.length_range, List.length_map, List.length_drop]
  · intro i h1 h2
    rw [List.length_map, List.length_range] at h1
    have hi : a + i < ds.length := Nat.add_lt_of_lt_sub' h1
    simp only [List.getElem_map, List.getElem_range, List.getElem_drop, ← Int.natCast_add, Int.toNat_natCast]
    rw [if_pos ⟨Int.natCast_nonneg _, Int.ofNat_lt.2 hi⟩, List.getD_eq_getElem?_getD, List.getElem?_eq_getElem hi]
    rfl

theorem frac_leading (ds : List Nat) (z : Nat) :
    (List.range (ds.length + z)).map (fun (i : Nat) =>
        let j : Int := -(z : Int) + (i : Int)
        if 0 ≤ j ∧ j < (ds.length : Int) then digitByte (ds.getD j.toNat 0) else 48)
      = List.replicate z 48 ++ ds.map digitByte := by
  apply List.ext_getElem
  · rw [List.length_map, List.length_range, List.length_append, List.length_replicate, List.length_map, Nat.add_comm]
  · intro i h1 h2
    rw [List.length_map, List.length_range] at h1
    simp only [List.getElem_map, List.getElem_range]
    by_cases hi : i < z
    · rw [if_neg (fun h => by omega), List.getElem_append_left (by rwa [List.length_replicate]), List.getElem_replicate]
    · obtain ⟨k, rfl⟩ := Nat.exists_eq_add_of_le (Nat.le_of_not_lt hi)
      have hk : k < ds.length := by omega
      have hj : -(z : Int) + ((z + k : Nat) : Int) = (k : Nat) := by omega
      rw [hj, if_pos ⟨Int.natCast_nonneg _, Int.ofNat_lt.2 hk⟩, List.getElem_append_right (by rw [List.length_replicate]; omega)]
      simp only [List.length_replicate, Nat.add_sub_cancel_left, List.getElem_map, Int.toNat_natCast]
      rw [List.getD_eq_getElem?_getD, List.getElem?_eq_getElem hk]
      rfl

theorem decimal_lt10 (e : Nat) (h : e < 10) : decimal e = [e] := by
  rw [decimal, dif_pos h]

theorem decimal_lt100 (e : Nat) (h1 : 10 ≤ e) (h2 : e < 100) : decimal e = [e / 10, e % 10] := by
  rw [decimal, dif_neg (by omega), decimal_lt10 _ (by omega)]; rfl

theorem decimal_lt1000 (e : Nat) (h1 : 100 ≤ e) (h2 : e < 1000) : decimal e = [e / 100, e / 10 % 10, e % 10] := by
  rw [decimal, dif_neg (by omega), decimal_lt100 _ (by omega) (by omega), Nat.div_div_eq_div_mul]
  rfl

/-- The exponent part `e±ddd` of steps 9 and 10, for the decimal exponent `x = n − 1`. -/
def expText (x : Int) : Bytes := [101] ++ (if x < 0 then [45] else [43]) ++ (decimal x.natAbs).map dig

/-- `// Clean up e-09 to e-9`: only a text ending in `e-0X` changes. -/
theorem cleanExp_append (P : Bytes) (e m z x : UInt8) :
    cleanExp (P ++ [e, m, z, x]) = if (e == 101 && m == 45 && z == 48) = true then P ++ [e, m, x] else P ++ [e, m, z, x] := by
  simp [cleanExp]

/-- The exponent part printed by fmtE, after the clean-up, in the two ranges where the exponent form is used. -/
theorem exp_part (P : Bytes) (x : Int) (hx : x ≤ -7 ∨ 21 ≤ x) (hlo : -1000 < x) (hhi : x < 1000) :
    cleanExp (P ++ [101] ++
      ((if x < 0 then (45 : UInt8) else 43) ::
        (if x.natAbs < 10 then [48, digitByte x.natAbs]
         else if x.natAbs < 100 then [digitByte (x.natAbs / 10), digitByte (x.natAbs % 10)]
         else [digitByte (x.natAbs / 100), digitByte (x.natAbs / 10 % 10), digitByte (x.natAbs % 10)])))
    = P ++ expText x := by
  have hq : ∀ q : Fin 10, 1 ≤ q.val → (dig q.val == 48) = false := by decide
  rw [expText, dig_eq]
  by_cases hneg : x < 0
  · simp only [hneg, if_true]
    by_cases h10 : x.natAbs < 10
    · rw [if_pos h10, decimal_lt10 _ h10, List.append_assoc, List.append_assoc]
      exact cleanExp_append P 101 45 48 _
    · by_cases h100 : x.natAbs < 100
      · rw [if_neg h10, if_pos h100, decimal_lt100 _ (Nat.le_of_not_lt h10) h100, List.append_assoc, List.append_assoc]
        refine (cleanExp_append P 101 45 _ _).trans (if_neg ?_)
        rw [hq ⟨x.natAbs / 10, (Nat.div_lt_iff_lt_mul (by decide)).2 h100⟩
          ((Nat.le_div_iff_mul_le (by decide)).2 (Nat.le_of_not_lt h10))]
        decide
      · rw [if_neg h10, if_neg h100, decimal_lt1000 _ (Nat.le_of_not_lt h100) (by omega), List.append_assoc _ [45], ← List.append_assoc P]
        exact (cleanExp_append (P ++ [101]) 45 _ _ _).trans (if_neg (by simp))
  · simp only [hneg, if_false]
    have h10 : ¬ x.natAbs < 10 := by omega
    by_cases h100 : x.natAbs < 100
    · rw [if_neg h10, if_pos h100, decimal_lt100 _ (Nat.le_of_not_lt h10) h100, List.append_assoc, List.append_assoc]
      exact cleanExp_append P 101 43 _ _
    · rw [if_neg h10, if_neg h100, decimal_lt1000 _ (Nat.le_of_not_lt h100) (by omega), List.append_assoc _ [43], ← List.append_assoc P]
      exact (cleanExp_append (P ++ [101]) 43 _ _ _).trans (if_neg (by simp))

theorem layout_zero (neg : Bool) : appendFloat neg [] 0 = numberToString neg [] 0 := by
  cases neg <;> decide

/-- The sign: `-` or nothing. -/
def sgn (neg : Bool) : Bytes := if neg then [45] else []

theorem numberToString_eq (neg : Bool) (ds : List Nat) (n : Int) : numberToString neg ds n = sgn neg ++ layout ds n := rfl

theorem ecma_int (ds : List Nat) (n : Int) (hne : ds ≠ []) (hA : (ds.length : Int) ≤ n) (h2 : n ≤ 21) :
    layout ds n = ds.map dig ++ zeros (n - ds.length).toNat := by
  unfold layout
  dsimp only
  rw [if_neg hne, if_pos ⟨hA, h2⟩]

theorem ecma_point (ds : List Nat) (n : Int) (hne : ds ≠ []) (hA : ¬ (ds.length : Int) ≤ n) (hB : 0 < n) (h2 : n ≤ 21) :
    layout ds n = (ds.take n.toNat).map dig ++ [46] ++ (ds.drop n.toNat).map dig := by
  unfold layout
  dsimp only
  rw [if_neg hne, if_neg (fun h => hA h.1), if_pos ⟨hB, h2⟩]

theorem ecma_small (ds : List Nat) (n : Int) (hne : ds ≠ []) (h1 : -6 < n) (hB : n ≤ 0) :
    layout ds n = [48, 46] ++ zeros (-n).toNat ++ ds.map dig := by
  have hk : 0 < ds.length := List.length_pos_iff.2 hne
  unfold layout
  dsimp only
  rw [if_neg hne, if_neg (by omega), if_neg (by omega), if_pos ⟨h1, hB⟩]

theorem ecma_exp (d : Nat) (r : List Nat) (n : Int) (h : n ≤ -6 ∨ 21 < n) :
    layout (d :: r) n = [dig d] ++ (if r = [] then [] else 46 :: r.map dig) ++ expText (n - 1) := by
  unfold layout
  dsimp only
  rw [if_neg (List.cons_ne_nil d r), if_neg (fun hh => by omega), if_neg (fun hh => by omega), if_neg (fun hh => by omega)]
  cases r with
  | nil => rfl
  | cons a t => rw [if_neg (by simp), if_neg (List.cons_ne_nil a t)]; rfl

theorem go_plain (neg : Bool) (ds : List Nat) (n : Int) (_hne : ds ≠ []) (h1 : -6 < n) (h2 : n ≤ 21) :
    appendFloat neg ds n = fmtF neg ds n ((ds.length : Int) - n).toNat := by
  have hu : useExp ds n = false := by
    simp only [useExp, Bool.and_eq_false_iff, Bool.not_eq_false', Bool.or_eq_false_iff, decide_eq_false_iff_not]
    right; omega
  simp only [appendFloat, hu, Bool.false_eq_true, if_false, strconvShortest]

theorem go_exp (neg : Bool) (ds : List Nat) (n : Int) (hne : ds ≠ []) (h : n ≤ -6 ∨ 21 < n) :
    appendFloat neg ds n = cleanExp (fmtE neg ds n (ds.length - 1)) := by
  have hu : useExp ds n = true := by
    simp only [useExp, Bool.and_eq_true, Bool.not_eq_true', Bool.or_eq_true, decide_eq_true_eq]
    refine ⟨by simpa using hne, ?_⟩
    omega
  simp only [appendFloat, hu, if_true, strconvShortest]

theorem layout_plain (neg : Bool) (ds : List Nat) (n : Int) (hne : ds ≠ []) (h1 : -6 < n) (h2 : n ≤ 21) :
    appendFloat neg ds n = numberToString neg ds n := by
  have hk : 0 < ds.length := List.length_pos_iff.2 hne
  rw [go_plain neg ds n hne h1 h2]
  by_cases hB : 0 < n
  · obtain ⟨a, rfl⟩ := Int.eq_ofNat_of_zero_le (Int.le_of_lt hB)
    have hprec : ((ds.length : Int) - (a : Int)).toNat = ds.length - a := Int.toNat_sub _ _
    simp only [fmtF, hprec, gt_iff_lt, hB, if_true, Int.toNat_natCast]
    by_cases hA : ds.length ≤ a
    · -- integer, padded with zeros
      rw [numberToString_eq, ecma_int ds a hne (Int.ofNat_le.2 hA) h2, Nat.sub_eq_zero_of_le hA, if_neg (Nat.lt_irrefl 0),
        Nat.min_eq_left hA, List.take_length, Int.toNat_sub a ds.length, List.append_nil]
      rfl
    · -- point inside the digits
      have hlt : a < ds.length := Nat.lt_of_not_le hA
      rw [numberToString_eq, ecma_point ds a hne (fun h => hA (Int.ofNat_le.1 h)) hB h2, if_pos (Nat.sub_pos_of_lt hlt),
        Nat.min_eq_right (Nat.le_of_lt hlt), Nat.sub_self, List.replicate_zero, List.append_nil,
        frac_inside ds a (Nat.le_of_lt hlt), Int.toNat_natCast, dig_eq]
      simp only [sgn, List.append_assoc, List.cons_append, List.nil_append]
  · -- 0.000ddd
    rw [numberToString_eq, ecma_small ds n hne h1 (Int.not_lt.1 hB)]
    obtain ⟨z, rfl⟩ : ∃ z : Nat, n = -(z : Int) := ⟨(-n).toNat, by omega⟩
    have hprec : ((ds.length : Int) - -(z : Int)).toNat = ds.length + z := by omega
    simp only [fmtF, hprec, gt_iff_lt, hB, if_false, if_pos (Nat.add_pos_left hk z)]
    rw [frac_leading ds z]
    simp [sgn, dig_eq, zeros]

theorem layout_exp (neg : Bool) (ds : List Nat) (n : Int) (hne : ds ≠ []) (h : n ≤ -6 ∨ 21 < n)
    (hlo : -1000 < n - 1) (hhi : n - 1 < 1000) :
    appendFloat neg ds n = numberToString neg ds n := by
  obtain ⟨d, r, rfl⟩ := List.exists_cons_of_ne_nil hne
  have hx : n - 1 ≤ -7 ∨ 21 ≤ n - 1 := by omega
  rw [go_exp neg _ n hne h, numberToString_eq, ecma_exp d r n h, ← List.append_assoc, ← List.append_assoc,
    ← exp_part _ (n - 1) hx hlo hhi]
  cases r with
  | nil => rfl
  | cons a t =>
    have hm : min (d :: a :: t).length ((d :: a :: t).length - 1 + 1) = (d :: a :: t).length := Nat.min_self _
    have hz : (d :: a :: t).length - 1 + 1 - max (d :: a :: t).length 1 = 0 := by simp
    have hnd : ((d :: a :: t).length == 0) = false := rfl
    simp only [fmtE, show (d :: a :: t).length - 1 > 0 from Nat.succ_pos _, if_true, hm, List.take_length, hz, hnd,
      List.replicate_zero, List.append_nil, List.drop_one, List.tail_cons, Bool.false_eq_true, if_false,
      if_neg (List.cons_ne_nil a t), dig_eq, sgn, List.append_assoc, List.cons_append, List.nil_append]

theorem appendFloat_eq_ecma (neg : Bool) (ds : List Nat) (n : Int) (h : WFD ds n) :
    appendFloat neg ds n = numberToString neg ds n := by
  obtain ⟨_, _, hz, hlo, hhi⟩ := h
  by_cases hne : ds = []
  · subst hne; rw [hz rfl]; exact layout_zero neg
  · by_cases hp : -6 < n ∧ n ≤ 21
    · exact layout_plain neg ds n hne hp.1 hp.2
    · exact layout_exp neg ds n hne (by omega) hlo hhi

end JsonV.Lemmas.NumFloat
