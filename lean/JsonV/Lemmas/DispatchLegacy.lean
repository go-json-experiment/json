/-
Lemmas for C17: a memo table answers as the function it caches (`memoRun_spec`, for `cache_indep`), and under legacy semantics the
method arshalers are the documented ones on the method set that `legacyVisible` leaves (for `legacy_decision_table`).
-/
import JsonV.Model.Dispatch
import JsonV.Lemmas.DispatchL

namespace JsonV.Lemmas.DispatchLegacy
open JsonV.Model JsonV.Model.Dispatch JsonV.Lemmas.DispatchL

/-- Every entry of the table is what `compute` gives for its key. -/
def MemoOK {κ α : Type} (compute : κ → α) (cache : Memo κ α) : Prop := ∀ t v, cache t = some v → v = compute t

theorem memoOK_empty {κ α : Type} (compute : κ → α) : MemoOK compute (Memo.empty : Memo κ α) := by
  intro t v h; cases h

theorem memoLookup_spec {κ α : Type} [DecidableEq κ] (compute : κ → α) (cache : Memo κ α) (t : κ) (h : MemoOK compute cache) :
    (memoLookup compute cache t).1 = compute t ∧ MemoOK compute (memoLookup compute cache t).2 := by
  unfold memoLookup
  cases hc : cache t with
  | some v => exact ⟨h t v hc, h⟩
  | none =>
    refine ⟨rfl, ?_⟩
    intro t' v hv
    simp only at hv
    split at hv
    · rename_i ht; cases hv; rw [ht]
    · exact h t' v hv

theorem memoRun_spec {κ α : Type} [DecidableEq κ] (compute : κ → α) (ts : List κ) :
    ∀ cache, MemoOK compute cache → (memoRun compute cache ts).1 = ts.map compute ∧ MemoOK compute (memoRun compute cache ts).2 := by
  induction ts with
  | nil => intro cache h; exact ⟨rfl, h⟩
  | cons t ts ih =>
    intro cache h
    obtain ⟨h1, h2⟩ := memoLookup_spec compute cache t h
    obtain ⟨h3, h4⟩ := ih _ h2
    simp only [memoRun, List.map_cons]
    exact ⟨by rw [h1, h3], h4⟩

theorem legacyVisible_eq (r : Recv) (forcedAddr hideAtName : Bool) :
    r.legacyVisible forcedAddr hideAtName = if (r.implements.1 && forcedAddr) || hideAtName then .absent else r := by
  cases r <;> rfl

theorem legacy_makeMethodMarshaler (ms : MethodSet) (beh : Behav) (fncs : Arshaler) (ctx : Ctx) (h : ctx.legacy = true) :
    makeMethodMarshaler .named ms beh fncs ctx =
      documentedMethodsM (ms.legacy ctx.forcedAddr ctx.m.last.needObjectName) beh ctx.lvl ctx.m (fncs ctx) := by
  rw [makeMethodMarshaler_eq]
  simp only [h, Bool.true_and, MethodSet.legacy, legacyVisible_eq, Bool.or_false]

theorem legacy_makeMethodUnmarshaler (ms : UMethodSet) (beh : Behav) (fncs : Arshaler) (ctx : Ctx) (h : ctx.legacy = true) :
    makeMethodUnmarshaler .named ms beh fncs ctx =
      documentedMethodsU (ms.legacy ctx.m.last.needObjectName) beh ctx.lvl ctx.m ctx.inNull ctx.inStr (fncs ctx) := by
  rw [makeMethodUnmarshaler_eq]
  simp only [h, Bool.true_and, UMethodSet.legacy, legacyVisible_eq, Bool.and_false, Bool.false_or]

end JsonV.Lemmas.DispatchLegacy
