/-
Helper lemmas for C19, struct level: `jsonopts.Struct.Join` is right-biased map override.
-/
import JsonV.Model.Opts
import JsonV.Spec.OptMap
import JsonV.Lemmas.FlagsL

namespace JsonV.Lemmas.OptsL
open JsonV.Model JsonV.Spec JsonV.Lemmas.FlagsL

theorem has_eq_false_bit (fs : Flags) (M : BitVec 64) (i : Nat) (h : fs.has M = false)
    (hM : M.getLsbD i = true) : fs.presence.getLsbD i = false := by
  unfold Flags.has at h
  have h0 : fs.presence &&& M = 0#64 := by simpa [bne] using h
  have := congrArg (fun x => x.getLsbD i) h0
  simpa [hM] using this

theorem slot_flag (k : Slot) : k.flag = flagBit k.idx := by cases k <;> decide

theorem slot_idx_lt (k : Slot) : k.idx < 64 := by cases k <;> decide
theorem slot_idx_ne_zero (k : Slot) : k.idx ≠ 0 := by cases k <;> decide

theorem has_slot (fs : Flags) (k : Slot) : fs.has k.flag = fs.presence.getLsbD k.idx := by
  rw [slot_flag]; exact has_bit fs k.idx (slot_idx_lt k)

theorem nonBoolean_bit (k : Slot) : F.nonBoolean.getLsbD k.idx = true := by cases k <;> decide

theorem lookup_set_boolsMap (fs : Flags) (w : BitVec 64) (i : Nat) :
    (fs.set w).lookup i = (boolsMap w i).orElse fun _ => fs.lookup i := by
  rw [lookup_set, boolsMap]; split <;> rfl

theorem boolsMap_two (a b : Nat) (ha : a < 64) (hb : b < 64) (ha0 : a ≠ 0) (hb0 : b ≠ 0) (v : Bool) (i : Nat) :
    boolsMap (flagBit a ||| flagBit b ||| (if v then 1#64 else 0#64)) i = if i = a ∨ i = b then some v else none := by
  simp only [boolsMap, BitVec.getLsbD_or, flagBit_getLsbD a _ ha, flagBit_getLsbD b _ hb, getLsbD_ite, one_bit]
  by_cases h : i = a ∨ i = b
  · have h0 : i ≠ 0 := by omega
    simp [h, h0, ha0.symm, hb0.symm]
  · have h1 : i ≠ a ∧ i ≠ b := by omega
    simp [h1]

theorem boolsMap_one (a : Nat) (ha : a < 64) (ha0 : a ≠ 0) (v : Bool) (i : Nat) :
    boolsMap (flagBit a ||| (if v then 1#64 else 0#64)) i = if i = a then some v else none := by
  simpa using boolsMap_two a a ha ha ha0 ha0 v i

/-! The `Bools` words that `Struct.Join` sets (`w_*`), by their bits. -/

theorem w_fts (b : Bool) : F.formatTagSupported ||| (if b then one else 0#64) = flagBit 29 ||| (if b then 1#64 else 0#64) := by
  cases b <;> decide
theorem w_indent : F.multiline ||| F.indent ||| one = flagBit 11 ||| flagBit 14 ||| (if true then 1#64 else 0#64) := by decide
theorem w_indentPrefix : F.multiline ||| F.indentPrefix ||| one = flagBit 11 ||| flagBit 15 ||| (if true then 1#64 else 0#64) := by decide
theorem w_byteLimit : F.byteLimit ||| one = flagBit 16 ||| (if true then 1#64 else 0#64) := by decide
theorem w_depthLimit : F.depthLimit ||| one = flagBit 17 ||| (if true then 1#64 else 0#64) := by decide
theorem w_marshalers : F.marshalers ||| one = flagBit 25 ||| (if true then 1#64 else 0#64) := by decide
theorem w_unmarshalers : F.unmarshalers ||| one = flagBit 26 ||| (if true then 1#64 else 0#64) := by decide

theorem abs_joinOne_flag (dst : Struct) (o : Opt) (ho : JsonV.Spec.Opt.WF o) (i : Nat) :
    (abs (dst.joinOne o)).flag i = ((abs dst).override (optMap o)).flag i := by
  cases o with
  | nil => rfl
  | bools f => exact lookup_set_boolsMap ..
  | formatTagSupport b => exact (lookup_set_boolsMap ..).trans (by rw [w_fts, boolsMap_one 29 (by decide) (by decide)]; rfl)
  | indent s => exact (lookup_set_boolsMap ..).trans (by rw [w_indent, boolsMap_two 11 14 (by decide) (by decide) (by decide) (by decide)]; rfl)
  | indentPrefix s => exact (lookup_set_boolsMap ..).trans (by rw [w_indentPrefix, boolsMap_two 11 15 (by decide) (by decide) (by decide) (by decide)]; rfl)
  | byteLimit n => exact (lookup_set_boolsMap ..).trans (by rw [w_byteLimit, boolsMap_one 16 (by decide) (by decide)]; rfl)
  | depthLimit n => exact (lookup_set_boolsMap ..).trans (by rw [w_depthLimit, boolsMap_one 17 (by decide) (by decide)]; rfl)
  | marshalers p => exact (lookup_set_boolsMap ..).trans (by rw [w_marshalers, boolsMap_one 25 (by decide) (by decide)]; rfl)
  | unmarshalers p => exact (lookup_set_boolsMap ..).trans (by rw [w_unmarshalers, boolsMap_one 26 (by decide) (by decide)]; rfl)
  | struct src =>
    have hw : src.flags.WF := ho
    simp only [Struct.joinOne, abs, OptMap.override, optMap]
    split <;> exact lookup_join _ _ hw i

theorem slotVal_copySlots (d src : Struct) (k : Slot) :
    slotVal (d.copySlots src) k = if src.flags.has k.flag then slotVal src k else slotVal d k := by
  cases k <;> exact apply_ite ..

theorem abs_slot_set (dst s' : Struct) (w : BitVec 64) (k0 : Slot) (v : Val) (hf : s'.flags = dst.flags.set w)
    (hw : ∀ k : Slot, w.getLsbD k.idx = decide (k = k0))
    (hv : ∀ k, slotVal s' k = if k = k0 then v else slotVal dst k) (k : Slot) :
    (abs s').slot k = (if k = k0 then some v else none).orElse fun _ => (abs dst).slot k := by
  simp only [abs, hf, set_presence_bit, hw, hv, decide_eq_true (slot_idx_ne_zero k), Bool.and_true]
  by_cases h : k = k0 <;> simp [h]

theorem abs_slot_keep (dst s' : Struct) (w : BitVec 64) (hf : s'.flags = dst.flags.set w)
    (hw : ∀ k : Slot, w.getLsbD k.idx = false) (hv : ∀ k, slotVal s' k = slotVal dst k) (k : Slot) :
    (abs s').slot k = (abs dst).slot k := by
  simp only [abs, hf, set_presence_bit, hw, hv, Bool.false_and, Bool.or_false]

theorem abs_joinOne_slot (dst : Struct) (o : Opt) (ho : JsonV.Spec.Opt.WF o) (k : Slot) :
    (abs (dst.joinOne o)).slot k = ((abs dst).override (optMap o)).slot k := by
  cases o with
  | nil => rfl
  | bools f => exact abs_slot_keep dst _ f rfl ho (fun k => by cases k <;> rfl) k
  | formatTagSupport b =>
    exact abs_slot_keep dst _ _ rfl (fun k => by cases k <;> cases b <;> decide) (fun k => by cases k <;> rfl) k
  | struct src =>
    have hd : slotVal { dst with flags := dst.flags.join src.flags } k = slotVal dst k := by cases k <;> rfl
    have hp (d : Struct) : (abs d).slot k = if d.flags.presence.getLsbD k.idx then some (slotVal d k) else none := rfl
    simp only [Struct.joinOne, OptMap.override, optMap]
    split
    · rw [hp (Struct.copySlots ..), slotVal_copySlots, has_slot, hd]
      show (if (dst.flags.join src.flags).presence.getLsbD k.idx then _ else _) = _
      rw [join_presence_bit, hp, hp]
      cases src.flags.presence.getLsbD k.idx <;> simp
    · next hnb =>
      have hz := has_eq_false_bit src.flags _ _ (by simpa using hnb) (nonBoolean_bit k)
      rw [hp { dst with flags := _ }, hd]
      show (if (dst.flags.join src.flags).presence.getLsbD k.idx then _ else _) = _
      rw [join_presence_bit, hp, hp, hz]
      simp
  | _ => exact abs_slot_set dst _ _ _ _ rfl (fun k => by cases k <;> decide) (fun k => by cases k <;> rfl) k

theorem OptMap.ext' (m n : OptMap) (h1 : ∀ i, m.flag i = n.flag i) (h2 : ∀ k, m.slot k = n.slot k) : m = n := by
  cases m; cases n
  simp only [OptMap.mk.injEq]
  exact ⟨funext h1, funext h2⟩

theorem abs_joinOne (dst : Struct) (o : Opt) (ho : JsonV.Spec.Opt.WF o) :
    abs (dst.joinOne o) = (abs dst).override (optMap o) :=
  OptMap.ext' _ _ (abs_joinOne_flag dst o ho) (abs_joinOne_slot dst o ho)

theorem abs_join (dst : Struct) (srcs : List Opt) (h : ∀ o ∈ srcs, JsonV.Spec.Opt.WF o) :
    abs (dst.join srcs) = srcs.foldl (fun m o => m.override (optMap o)) (abs dst) := by
  induction srcs generalizing dst with
  | nil => rfl
  | cons o os ih =>
    simp only [Struct.join, List.foldl_cons]
    have := ih (dst.joinOne o) (fun o' ho' => h o' (List.mem_cons_of_mem _ ho'))
    simp only [Struct.join] at this
    rw [this, abs_joinOne dst o (h o List.mem_cons_self)]

theorem abs_default : abs ({} : Struct) = OptMap.empty := by
  apply OptMap.ext' <;> intro x <;> simp [abs, OptMap.empty, Flags.lookup, Flags.empty]

theorem override_empty (m : OptMap) : m.override OptMap.empty = m := by
  apply OptMap.ext' <;> intro x <;> simp [OptMap.override, OptMap.empty]

theorem override_assoc (a b c : OptMap) : (a.override b).override c = a.override (b.override c) := by
  apply OptMap.ext' <;> intro x <;> simp only [OptMap.override] <;>
    (first | (cases c.flag x <;> simp) | (cases c.slot x <;> simp))

theorem empty_override (m : OptMap) : OptMap.empty.override m = m := by
  apply OptMap.ext' <;> intro x <;> simp only [OptMap.override, OptMap.empty] <;>
    (first | (cases m.flag x <;> simp) | (cases m.slot x <;> simp))

theorem foldl_override (m : OptMap) (ys : List Opt) :
    ys.foldl (fun m o => m.override (optMap o)) m =
      m.override (ys.foldl (fun m o => m.override (optMap o)) OptMap.empty) := by
  induction ys generalizing m with
  | nil => simp [override_empty]
  | cons y ys ih =>
    simp only [List.foldl_cons]
    rw [ih (m.override (optMap y)), ih (OptMap.empty.override (optMap y)), empty_override, override_assoc]

theorem abs_join_override (dst : Struct) (srcs : List Opt) (h : ∀ o ∈ srcs, JsonV.Spec.Opt.WF o) :
    abs (dst.join srcs) = (abs dst).override (joinSpec srcs) :=
  (abs_join dst srcs h).trans (foldl_override _ srcs)

theorem join_append (dst : Struct) (xs ys : List Opt) : dst.join (xs ++ ys) = (dst.join xs).join ys :=
  List.foldl_append ..

theorem join_singleton (dst : Struct) (o : Opt) : dst.join [o] = dst.joinOne o := rfl

theorem wf_joinOne (dst : Struct) (o : Opt) (hd : dst.flags.WF) (ho : JsonV.Spec.Opt.WF o) :
    (dst.joinOne o).flags.WF := by
  cases o with
  | nil => exact hd
  | struct src =>
    simp only [Struct.joinOne]
    split <;> exact wf_join _ _ hd ho
  | _ => exact wf_set _ _ hd

theorem wf_join_struct (dst : Struct) (srcs : List Opt) (hd : dst.flags.WF)
    (h : ∀ o ∈ srcs, JsonV.Spec.Opt.WF o) : (dst.join srcs).flags.WF := by
  induction srcs generalizing dst with
  | nil => exact hd
  | cons o os ih =>
    exact ih (dst.joinOne o) (wf_joinOne dst o hd (h o List.mem_cons_self))
      (fun o' ho' => h o' (List.mem_cons_of_mem _ ho'))

end JsonV.Lemmas.OptsL
