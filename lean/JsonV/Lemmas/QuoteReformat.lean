/-
ReformatString.  A literal the strict scanner accepts has a meaning (Lemmas/QuoteGrammar.lean) and AppendUnquote returns it
(`consume_strict_meaning`); the PreserveRawStrings loop with the escape options on, run over such a literal, yields a
literal with the same meaning that the loop leaves unchanged (`preserve_shape`, `preserve_strict`); the outcomes of
`reformatString` by flag (`reformatString_cases`); without PreserveRawStrings they are one: AppendQuote of the literal's text
(`reformatString_requote`).
-/
import JsonV.Lemmas.GlueQuote
import JsonV.Lemmas.QuoteGrammar
import JsonV.Lemmas.QuotePreserve

namespace JsonV.Lemmas.QuoteReformat
open JsonV JsonV.Model.Utf8 JsonV.Model.Quote JsonV.Lemmas.QuoteL JsonV.Spec.StringSpec JsonV.Lemmas.QuoteSpec JsonV.Lemmas.QuoteWf
open JsonV.Spec.Grammar JsonV.Lemmas.QuoteGrammar JsonV.Lemmas.QuotePreserve JsonV.Lemmas.QuoteMeaning

/-- bytes the loop never rewrites: ASCII other than `<` `>` `&` -/
def Inert (b : UInt8) : Prop := b.toNat < runeSelf ∧ isHTMLChar b.toNat = false

theorem inert_of_hex {x : UInt8} (hd : HexDigit x) : Inert x := by
  simp only [HexDigit, UInt8.le_iff_toNat_le] at hd
  have h8 : x.toNat < 0x80 ∧ x.toNat ≠ 0x3c ∧ x.toNat ≠ 0x3e ∧ x.toNat ≠ 0x26 := by
    rcases hd with ⟨h1, h2⟩ | ⟨h1, h2⟩ | ⟨h1, h2⟩ <;> (simp at h1 h2; omega)
  exact ⟨h8.1, by simp [isHTMLChar, h8.2]⟩

theorem inert_of_simple (e v : UInt8) (h : (e, v) ∈ simpleEscapes) : Inert e := by
  simp only [simpleEscapes, List.mem_cons, Prod.mk.injEq, List.not_mem_nil, or_false] at h
  rcases h with ⟨rfl, _⟩ | ⟨rfl, _⟩ | ⟨rfl, _⟩ | ⟨rfl, _⟩ | ⟨rfl, _⟩ | ⟨rfl, _⟩ | ⟨rfl, _⟩ | ⟨rfl, _⟩ <;>
    (unfold Inert; decide)

theorem inert_hex4 {a b c d : UInt8} {v : Nat} (h : hex4 a b c d = some v) : Inert a ∧ Inert b ∧ Inert c ∧ Inert d := by
  obtain ⟨ha, hb, hc, hd, -⟩ := hexDigit_of_hex4 h
  exact ⟨inert_of_hex ha, inert_of_hex hb, inert_of_hex hc, inert_of_hex hd⟩

theorem inert_5c : Inert 0x5c := by unfold Inert; decide
theorem inert_75 : Inert 0x75 := by unfold Inert; decide
theorem inert_22 : Inert 0x22 := by unfold Inert; decide

theorem consume_strict_meaning (src : Bytes) (n : Nat) (nc : Bool) (h : consumeString true src = (n, Err.ok, nc)) :
    ∃ body m junk, src = 0x22 :: (body ++ 0x22 :: junk) ∧ n = body.length + 2 ∧ Unescapes body m ∧
      appendUnquote (src.take n) = (m, Err.ok) := by
  obtain ⟨hn, hj⟩ := (JsonV.Lemmas.GlueQuote.consumeString_grammar src true n).mp ⟨nc, h⟩
  obtain ⟨body, hb, htake, hsrc, hlen⟩ := hj.of_take hn
  obtain ⟨m, hu⟩ := unescapes_of_jchars body hb
  exact ⟨body, m, src.drop n, hsrc, hlen, hu, by rw [htake]; exact appendUnquote_meaning _ m ⟨body, rfl, hu⟩⟩

/-- At `p`, with at least `p.length` bytes to go, the loop emits `out` and goes on behind `p`, whatever follows. -/
def Emits (html js : Bool) (p out : Bytes) : Prop :=
  ∀ (rest : Bytes) (k : Nat), preserveLoop html js (p.length + k) (p ++ rest) = out ++ preserveLoop html js k rest

/-- `l` passes through the PreserveRawStrings loop unchanged, whatever follows -/
def Fixed (html js : Bool) (l : Bytes) : Prop := Emits html js l l

theorem fixed_nil (html js : Bool) : Fixed html js [] := by intro rest k; simp
theorem fixed_append {html js : Bool} {a b : Bytes} (ha : Fixed html js a) (hb : Fixed html js b) : Fixed html js (a ++ b) := by
  intro rest k
  rw [List.append_assoc, List.length_append, Nat.add_assoc, ha, hb, List.append_assoc]
theorem fixed_inert {html js : Bool} {l : Bytes} (hl : ∀ b ∈ l, Inert b) : Fixed html js l := by
  intro rest k
  induction l with
  | nil => simp
  | cons b l ih =>
    have hb := hl b (by simp)
    have : (b :: l).length + k = (l.length + k) + 1 := by simp; omega
    rw [this, List.cons_append, PL_ascii_plain html js _ b _ hb.1 (by simp [hb.2])]
    rw [ih (fun x hx => hl x (by simp [hx]))]
    rfl

theorem fixed_u4 {html js : Bool} {a b c d : UInt8} {v : Nat} (h : hex4 a b c d = some v) :
    Fixed html js [0x5c, 0x75, a, b, c, d] := by
  obtain ⟨ia, ib, ic, id⟩ := inert_hex4 h
  refine fixed_inert ?_
  simp only [List.forall_mem_cons]
  exact ⟨inert_5c, inert_75, ia, ib, ic, id, fun _ h => nomatch h⟩

theorem emits_ascii {html js : Bool} (c : UInt8) (h0 : c.toNat < runeSelf) :
    Emits html js [c] (if (isHTMLChar c.toNat && html) = true then appendEscapedASCII c.toNat else [c]) := by
  intro rest k
  rw [show [c].length + k = k + 1 from Nat.add_comm _ _]
  by_cases hh : (isHTMLChar c.toNat && html) = true
  · rw [if_pos hh]; exact PL_ascii_esc html js k c rest h0 hh
  · rw [if_neg hh]; exact PL_ascii_plain html js k c rest h0 (by simpa using hh)

theorem emits_multi {html js : Bool} (c : UInt8) (p' : Bytes) (r : Nat) (h0 : ¬ c.toNat < runeSelf)
    (hdt : ∀ q, decodeRune (c :: (p' ++ q)) = (r, (c :: p').length)) :
    Emits html js (c :: p') (if (r = 0x2028 ∨ r = 0x2029) ∧ js = true then appendEscapedUnicode r else c :: p') := by
  intro rest k
  have hdrop : List.drop (c :: p').length (c :: (p' ++ rest)) = rest := by
    rw [← List.cons_append]; exact List.drop_left
  have hsub : p'.length + k + 1 - (c :: p').length = k := by simp
  rw [show (c :: p').length + k = (p'.length + k) + 1 by simp; omega, List.cons_append]
  by_cases hj : (r = 0x2028 ∨ r = 0x2029) ∧ js = true
  · rw [if_pos hj, PL_multi_esc html js _ c _ h0 (by rw [hdt]; exact hj), hdt, hdrop, hsub]
  · rw [if_neg hj, PL_multi_plain html js _ c _ h0 (by rw [hdt]; exact hj), hdt, hdrop, hsub]
    have hmin : min (c :: p').length (p'.length + k + 1) = (c :: p').length := by simp
    rw [hmin, ← List.cons_append, List.take_left]

theorem appendEscapedASCII_html {n : Nat} (h : isHTMLChar n = true) : appendEscapedASCII n = appendEscapedUTF16 n := by
  simp only [isHTMLChar, Bool.or_eq_true, decide_eq_true_eq] at h
  rcases h with (rfl | rfl) | rfl <;> rfl

theorem shape_cons {html js : Bool} {p out rest tb : Bytes} (hp : Emits html js p out)
    (hout : ∀ junk, preserveLoop html js (rest.length + 1) (rest ++ 0x22 :: junk) = tb ++ [0x22]) (junk : Bytes) :
    preserveLoop html js ((p ++ rest).length + 1) ((p ++ rest) ++ 0x22 :: junk) = (out ++ tb) ++ [0x22] := by
  rw [List.length_append, Nat.add_assoc, List.append_assoc, hp, hout, List.append_assoc]

theorem PL_quote (html js : Bool) (k : Nat) (t : Bytes) :
    preserveLoop html js (k + 1) (0x22 :: t) = 0x22 :: preserveLoop html js k t :=
  PL_ascii_plain html js k 0x22 t inert_22.1 (by rw [inert_22.2]; rfl)

theorem preserve_shape (html js : Bool) {body m : Bytes} (h : Unescapes body m) :
    ∃ tb, (∀ junk, preserveLoop html js (body.length + 1) (body ++ 0x22 :: junk) = tb ++ [0x22]) ∧
      Fixed html js tb ∧ Unescapes tb m := by
  induction h with
  | nil =>
    refine ⟨[], fun junk => ?_, fixed_nil html js, Unescapes.nil⟩
    rw [List.length_nil, Nat.zero_add, List.nil_append, PL_quote, preserveLoop_zero]; rfl
  | @unescaped p rest m r hd hp hi h20 hq hb hrest ih =>
    obtain ⟨tb, hout, hfix, hun⟩ := ih
    rcases unescaped_cases hd hp hi with ⟨c, rfl, h0, rfl⟩ | ⟨c, p', rfl, h0, h1⟩
    · have he := emits_ascii (html := html) (js := js) c h0
      by_cases hh : (isHTMLChar c.toNat && html) = true
      · -- `<` `>` `&` under EscapeForHTML becomes `\u00XX`
        have hc : isHTMLChar c.toNat = true := (Bool.and_eq_true_iff.mp hh).1
        rw [if_pos hh, appendEscapedASCII_html hc] at he
        refine ⟨_, shape_cons he hout, fixed_append (fixed_inert (QuoteSafe.escaped_u16_mem _)) hfix, ?_⟩
        have := unescapes_u16 c.toNat (Nat.lt_trans h0 (by decide)) (by simp [isSurrogate]; simp only [runeSelf] at h0; omega) hun
        rwa [encodeRune_ascii h0, UInt8.ofNat_toNat] at this
      · rw [if_neg hh] at he
        exact ⟨_, shape_cons he hout, fixed_append he hfix, Unescapes.unescaped hd (by simp) hi h20 hq hb hun⟩
    · have hlen : (decodeRune (c :: p')).2 = (c :: p').length := by rw [hd]
      have hdt : ∀ q, decodeRune (c :: (p' ++ q)) = (r, (c :: p').length) := by
        intro q
        have := decodeRune_take_append (c :: p') q h1
        rwa [hlen, List.take_length, hd] at this
      have he := emits_multi (html := html) (js := js) c p' r h0 hdt
      by_cases hj : (r = 0x2028 ∨ r = 0x2029) ∧ js = true
      · -- U+2028 / U+2029 under EscapeForJS becomes `\u2028` / `\u2029`
        have hr16 : r < 0x10000 := by omega
        rw [if_pos hj, appendEscapedUnicode_bmp _ hr16] at he
        refine ⟨_, shape_cons he hout, fixed_append (fixed_inert (QuoteSafe.escaped_u16_mem r)) hfix, ?_⟩
        have hen := encodeRune_decodeRune c p' (by omega)
        rw [hd, List.take_length] at hen
        have := unescapes_u16 r hr16 (by simp [isSurrogate]; omega) hun
        rwa [hen] at this
      · rw [if_neg hj] at he
        exact ⟨_, shape_cons he hout, fixed_append he hfix, Unescapes.unescaped hd (by simp) hi h20 hq hb hun⟩
  | @simple e' v rest m hmem _ ih =>
    obtain ⟨tb, hout, hfix, hun⟩ := ih
    have hl : Fixed html js [0x5c, e'] := by
      refine fixed_inert ?_
      simp only [List.forall_mem_cons]
      exact ⟨inert_5c, inert_of_simple _ v hmem, fun _ h => nomatch h⟩
    exact ⟨_, shape_cons hl hout, fixed_append hl hfix, Unescapes.simple hmem hun⟩
  | @unicode a b c d v rest m h4 hs _ ih =>
    obtain ⟨tb, hout, hfix, hun⟩ := ih
    exact ⟨_, shape_cons (fixed_u4 h4) hout, fixed_append (fixed_u4 h4) hfix, Unescapes.unicode h4 hs hun⟩
  | @pair a b c d a' b' c' d' hi lo rest m h1 h2 hh hl _ ih =>
    obtain ⟨tb, hout, hfix, hun⟩ := ih
    have hl12 : Fixed html js ([0x5c, 0x75, a, b, c, d] ++ [0x5c, 0x75, a', b', c', d']) :=
      fixed_append (fixed_u4 h1) (fixed_u4 h2)
    exact ⟨_, shape_cons hl12 hout, fixed_append hl12 hfix, Unescapes.pair h1 h2 hh hl hun⟩

/-- Over a literal the strict scanner accepts, the loop's output is again a strict literal, is a fixed point of the loop and unquotes
to the same text (C11 `preserve_is_jstring`, `preserve_idem`, `preserve_unquote`). -/
theorem preserve_strict (html js : Bool) (src : Bytes) (n : Nat) (nc : Bool) (h : consumeString true src = (n, Err.ok, nc)) :
    let out := preserveLoop html js n src
    JsonV.Spec.Grammar.JString true out ∧
    (∀ junk, preserveLoop html js out.length (out ++ junk) = out) ∧
    appendUnquote out = appendUnquote (src.take n) := by
  obtain ⟨body, m, junk, hsrc, hn, hu, hm⟩ := consume_strict_meaning src n nc h
  obtain ⟨tb, hout, hfix, hun⟩ := preserve_shape html js hu
  have hO : preserveLoop html js n src = 0x22 :: (tb ++ [0x22]) := by
    rw [hsrc, hn, PL_quote, hout]
  simp only [hO]
  refine ⟨jstring_of_unescapes hun, fun junk' => ?_, ?_⟩
  · have hl : (0x22 :: (tb ++ [0x22])).length = (tb.length + 1) + 1 := by simp
    have e : (tb ++ [0x22]) ++ junk' = tb ++ 0x22 :: junk' := by simp
    rw [hl, List.cons_append, PL_quote, e]
    have := hfix (0x22 :: junk') 1
    rw [this, PL_quote, preserveLoop_zero]
  · rw [hm]; exact appendUnquote_meaning _ m ⟨tb, rfl, hun⟩

theorem reformatString_cases (f : QFlags) (src : Bytes) :
    (consumeString (!f.allowInvalid) src).2.1 ≠ .ok ∧
      reformatString f src = ([], (consumeString (!f.allowInvalid) src).1, (consumeString (!f.allowInvalid) src).2.1) ∨
    (consumeString (!f.allowInvalid) src).2.1 = .ok ∧
      ((f.html || f.js) = false ∧ ((consumeString (!f.allowInvalid) src).2.2 = false ∨ f.preserve = true) ∧
        reformatString f src = (src.take (consumeString (!f.allowInvalid) src).1, (consumeString (!f.allowInvalid) src).1, .ok) ∨
      (f.html || f.js) = true ∧ f.preserve = true ∧
        reformatString f src =
          (preserveLoop f.html f.js (consumeString (!f.allowInvalid) src).1 src, (consumeString (!f.allowInvalid) src).1, .ok) ∨
      f.preserve = false ∧
        reformatString f src =
          ((appendQuote f (appendUnquote (src.take (consumeString (!f.allowInvalid) src).1)).1).1,
            (consumeString (!f.allowInvalid) src).1, .ok)) := by
  rw [reformatString]
  generalize consumeString (!f.allowInvalid) src = cs
  by_cases he : cs.2.1 ≠ .ok
  · exact .inl ⟨he, if_pos he⟩
  refine .inr ⟨Decidable.not_not.mp he, ?_⟩
  simp only [if_neg he]
  by_cases hv : (!(f.html || f.js) && (!cs.2.2 || f.preserve)) = true
  · rw [if_pos hv]
    simp only [Bool.and_eq_true, Bool.not_eq_true', Bool.or_eq_true] at hv
    exact .inl ⟨hv.1, hv.2, rfl⟩
  rw [if_neg hv]
  cases hp : f.preserve
  · exact .inr (.inr ⟨rfl, by simp⟩)
  · refine .inr (.inl ⟨?_, rfl, by simp⟩)
    cases hh : (f.html || f.js)
    · exact absurd (by rw [hh, hp]; simp) hv
    · rfl

/-- The verbatim copy is taken exactly when the literal already is AppendQuote of its text: there is no escape option then, and a
canonical literal is the RFC 8785 spelling of its own text. -/
theorem reformatString_requote (f : QFlags) (hp : f.preserve = false) (raw : Bytes) (nc : Bool)
    (hc : consumeString (!f.allowInvalid) raw = (raw.length, Err.ok, nc)) :
    (reformatString f raw).1 = (appendQuote f (appendUnquote raw).1).1 := by
  rcases reformatString_cases f raw with ⟨he, -⟩ | ⟨-, ⟨hx, hnc, h⟩ | ⟨-, hx, -⟩ | ⟨-, h⟩⟩
  · rw [hc] at he; exact absurd rfl he
  · rw [h, hc, List.take_length]
    rw [hc, hp] at hnc
    have hf : f.html = false ∧ f.js = false := by simpa using hx
    have hq : (appendQuote f (appendUnquote raw).1).1 = canonQuote (appendUnquote raw).1 := by
      simp only [appendQuote, canonQuote, hf.1, hf.2, quoteLoop_canon]
    rw [hq]
    exact (QuoteCanon.consumeString_canonical_iff _ raw ⟨by rw [hc], by rw [hc]⟩).mp
      (by rw [hc]; exact hnc.resolve_right Bool.false_ne_true)
  · rw [hp] at hx; cases hx
  · rw [h, hc, List.take_length]

end JsonV.Lemmas.QuoteReformat
