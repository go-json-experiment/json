/-
Histories of `WriteToken` and `WriteValue` calls in any order: the token history of a script, the specification-level
run (`Emits`) that every accepted script follows (`runOps_emits`), and the lifting of the single-call theorems.  A script
of tokens alone is the special case `ts.map .tok`.
-/
import JsonV.Lemmas.EncRaw
import JsonV.Lemmas.EncNoop

namespace JsonV.Lemmas.EncOps
open JsonV JsonV.Model JsonV.Model.Encoder JsonV.Spec JsonV.Spec.PDA JsonV.Spec.Render JsonV.Spec.Names
open JsonV.Lemmas.StateRefine JsonV.Lemmas.StateRun JsonV.Lemmas.EncRender JsonV.Lemmas.EncIff
open JsonV.Lemmas.EncValue JsonV.Lemmas.EncRaw JsonV.Lemmas.EncNoop

/-- The tokens one call contributes to the history. -/
def opToks (o : Opts) : Call → List Tok
  | .tok t => [t]
  | .val v => valueToks o v

/-- The token history of a script of calls. -/
def histToks (o : Opts) : List Call → List Tok
  | [] => []
  | c :: cs => opToks o c ++ histToks o cs

/-- Run a script all of whose calls have to be accepted. -/
def runOps : Enc → List Call → Option Enc
  | e, [] => some e
  | e, c :: cs =>
    match doCall e c with
    | (e', none) => runOps e' cs
    | (_, some _) => none

/-- What a script charges to the element counter's headroom: a token may bump the innermost count once, a raw
container value twice (opening and closing). -/
def cost : List Call → Nat
  | [] => 0
  | .tok _ :: cs => cost cs + 1
  | .val _ :: cs => cost cs + 2

theorem cost_le : ∀ cs : List Call, cost cs ≤ 2 * cs.length
  | [] => Nat.le_refl _
  | .tok _ :: cs => by have := cost_le cs; simp only [cost, List.length_cons]; omega
  | .val _ :: cs => by have := cost_le cs; simp only [cost, List.length_cons]; omega

theorem runOps_toks (ts : List Tok) : ∀ e, runOps e (ts.map .tok) = runToks e ts := by
  induction ts with
  | nil => intro e; rfl
  | cons t ts ih => intro e; simp only [List.map_cons, runOps, runToks, doCall]; split <;> simp [*]

theorem histToks_toks (o : Opts) : ∀ ts : List Tok, histToks o (ts.map .tok) = ts
  | [] => rfl
  | t :: ts => by simp [histToks, opToks, histToks_toks o ts]

theorem cost_toks : ∀ ts : List Tok, cost (ts.map .tok) = ts.length
  | [] => rfl
  | t :: ts => by simp [cost, cost_toks ts]

theorem trackRun_run {o : Opts} (ts : List Tok) : ∀ {fs fs' : Frames} {ns ns' : List (List Bytes)},
    trackRun o fs ns ts = some (fs', ns') →
    PDA.run o.maxDepth fs (ts.map kindOf) = some fs' ∧ track o (fs, ns) ts = (fs', ns') := by
  induction ts with
  | nil => intro fs fs' ns ns' h; simp [trackRun] at h; obtain ⟨h1, h2⟩ := h; subst h1 h2; exact ⟨rfl, rfl⟩
  | cons t ts ih =>
    intro fs fs' ns ns' h
    simp only [trackRun] at h
    cases hs : step o.maxDepth fs (kindOf t) with
    | none => rw [hs] at h; cases h
    | some fs1 =>
      rw [hs] at h
      have := ih h
      simp only [List.map_cons, PDA.run, track, hs]
      exact this

theorem run_append_some {max : Nat} {a b : List Kind} : ∀ {fs fs1 fs2 : Frames},
    PDA.run max fs a = some fs1 → PDA.run max fs1 b = some fs2 → PDA.run max fs (a ++ b) = some fs2 := by
  induction a with
  | nil => intro fs fs1 fs2 h1 h2; simp [PDA.run] at h1; subst h1; exact h2
  | cons k a ih =>
    intro fs fs1 fs2 h1 h2
    simp only [PDA.run, List.cons_append] at h1 ⊢
    cases hs : step max fs k with
    | none => rw [hs] at h1; cases h1
    | some f1 => rw [hs] at h1; simp only; exact ih h1 h2

theorem cost_cons (c : Call) (cs : List Call) : cost (c :: cs) = cost [c] + cost cs := by
  cases c <;> simp only [cost] <;> omega

theorem doCall_emits {o : Opts} {b : Nat} {fs : Frames} {ns : List (List Bytes)} {e e' : Enc}
    (hI : EncInv o b fs ns e) (c : Call) (hb : b + cost [c] < 2^61) (h : doCall e c = (e', none)) :
    ∃ out fs' ns', Emits o fs ns (opToks o c) out fs' ns' ∧ EncInv o (b + cost [c]) fs' ns' e' ∧
      e'.out = e.out ++ out := by
  cases c with
  | tok t =>
    have := writeToken_spec hI hb t
    rw [show writeToken e t = _ from h] at this
    obtain ⟨out, fs', hem, hI', hout⟩ := this
    exact ⟨out, fs', _, hem, hI', hout⟩
  | val v =>
    exact writeValue_emits hI hb v h

theorem runOps_emits (o : Opts) (cs : List Call) : ∀ {b : Nat} {fs : Frames} {ns : List (List Bytes)} {e e' : Enc},
    EncInv o b fs ns e → b + cost cs < 2^61 → runOps e cs = some e' →
    ∃ out fs' ns', Emits o fs ns (histToks o cs) out fs' ns' ∧ EncInv o (b + cost cs) fs' ns' e' ∧
      e'.out = e.out ++ out := by
  induction cs with
  | nil =>
    intro b fs ns e e' hI _ h
    cases h
    exact ⟨[], fs, ns, .nil _ _, hI, (List.append_nil _).symm⟩
  | cons c cs ih =>
    intro b fs ns e e' hI hlen h
    simp only [runOps] at h
    rw [cost_cons] at hlen ⊢
    rcases hc : doCall e c with ⟨e1, _ | err⟩
    · rw [hc] at h
      obtain ⟨out1, fs1, ns1, hem1, hI1, hout1⟩ := doCall_emits hI c (by omega) hc
      obtain ⟨out2, fs2, ns2, hem2, hI2, hout2⟩ := ih hI1 (by omega) h
      exact ⟨_, fs2, ns2, hem1.append hem2, Nat.add_assoc .. ▸ hI2, by rw [hout2, hout1, List.append_assoc]⟩
    · rw [hc] at h; cases h

theorem runOps_new (o : Opts) (cs : List Call) (e : Enc) (hlen : cost cs < 2^61)
    (h : runOps (Encoder.new o) cs = some e) :
    ∃ fs ns, EncInv o (cost cs) fs ns e ∧
      PDA.run o.maxDepth PDA.init ((histToks o cs).map kindOf) = some fs ∧
      track o (PDA.init, []) (histToks o cs) = (fs, ns) ∧ e.out = render o (histToks o cs) := by
  obtain ⟨out, fs, ns, hem, hI, hout⟩ := runOps_emits o cs (encInv_new o) (by omega) h
  exact ⟨fs, ns, by simpa using hI, hem.run, hem.track, by simpa [Encoder.new, render, hem.render] using hout⟩

theorem writeToken_ops_iff (o : Opts) (cs : List Call) (e : Enc) (t : Tok) (hlen : cost cs + 1 < 2^61)
    (h : runOps (Encoder.new o) cs = some e) :
    (writeToken e t).2 = none ↔
      (Viable o.maxDepth ((histToks o cs ++ [t]).map kindOf) ∧ badUTF8 o t = false ∧
        (o.allowDup = false → FreshName o (histToks o cs) t)) := by
  obtain ⟨fs, ns, hI, hrun, htrack, _⟩ := runOps_new o cs e (by omega) h
  have hv : Viable o.maxDepth ((histToks o cs ++ [t]).map kindOf) ↔
      (step o.maxDepth fs (kindOf t)).isSome = true := by
    simp only [Viable, List.map_append, List.map_cons, List.map_nil, run_snoc, hrun, Option.bind]
  have hf : FreshName o (histToks o cs) t ↔ Fresh o fs ns t := by
    simp only [FreshName, Fresh, innermost_eq, htrack]
  rw [hv, hf]
  have hsp := writeToken_spec hI (by omega) t
  rcases hw : writeToken e t with ⟨e1, _ | err⟩ <;> rw [hw] at hsp
  · obtain ⟨_, _, hem, -, -⟩ := hsp
    cases hem with | cons hs hb hfr _ => exact ⟨fun _ => ⟨by simp [hs], hb, hfr⟩, fun _ => rfl⟩
  · exact ⟨nofun, fun h => absurd h hsp⟩

theorem writeValue_ops_iff (o : Opts) (cs : List Call) (e : Enc) (v : Bytes) (hlen : cost cs + 2 < 2^61)
    (h : runOps (Encoder.new o) cs = some e) :
    (writeValue e v).2 = none ↔
      ∃ out rest,
        reformatValue o (3 * v.length + 4) (beforeToken e (valueKind v)) (skipWS v) e.m.depth = .ok (out, rest) ∧
        skipWS rest = [] ∧
        Viable o.maxDepth (((histToks o cs).map kindOf) ++ [firstKind (valueKind v)]) ∧
        (valueKind v = 0x22 → o.allowDup = false → isNamePos (track o (PDA.init, []) (histToks o cs)).1 = true →
          unquote (out.drop (beforeToken e (valueKind v)).length) ∉ innermostNames o (histToks o cs)) := by
  obtain ⟨fs, ns, hI, hrun, htrack, _⟩ := runOps_new o cs e (by omega) h
  rw [writeValue_iff hI (by omega) v]
  have hv : Viable o.maxDepth (((histToks o cs).map kindOf) ++ [firstKind (valueKind v)]) ↔
      (step o.maxDepth fs (firstKind (valueKind v))).isSome = true := by
    simp only [Viable, run_snoc, hrun, Option.bind]
  simp only [hv, innermost_eq, htrack]

end JsonV.Lemmas.EncOps
