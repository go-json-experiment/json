/-
UnwriteEmptyObjectMember / UnwriteOnlyObjectMemberName on the bytes: what they remove after a member laid out as
`[,] ws "name" : ws value`, and on which last bytes the detection of UnwriteEmptyObjectMember fires.
-/
import JsonV.Lemmas.FlushTrim

namespace JsonV.Model.Flush
open JsonV

/-- The four encodings that UnwriteEmptyObjectMember treats as empty: `null`, `""`, `{}`, `[]`. -/
inductive EmptyText : Bytes → Prop
  | null : EmptyText [0x6e, 0x75, 0x6c, 0x6c]
  | str : EmptyText [0x22, 0x22]
  | obj : EmptyText [0x7b, 0x7d]
  | arr : EmptyText [0x5b, 0x5d]

/-- What may precede an object member inside the buffer: a comma (any earlier content), or — for the first
member — content ending in a byte that is not whitespace, not a comma and not a backslash (the `{`). -/
inductive MemberSep : Bytes → Bytes → Prop
  | comma (pre : Bytes) : MemberSep pre [0x2c]
  | first (pre' : Bytes) (o : UInt8) : isWs o = false → o ≠ 0x2c → o ≠ 0x5c → MemberSep (pre' ++ [o]) []

theorem head?_ws_append {ws : List UInt8} (h : WsOnly ws) {c0 : UInt8} (r : List UInt8)
    (hc : c0 ≠ 0x5c) : (ws ++ c0 :: r).head? ≠ some 0x5c := by
  cases ws with
  | nil => simpa using hc
  | cons a ws => simpa using ne_of_isWs (h a List.mem_cons_self) (by decide)

theorem unwrite_tail_R (ws2 name ws1 sep pre : Bytes) (h2 : WsOnly ws2) (h1 : WsOnly ws1)
    (hn : QuotesEscaped name) (hs : MemberSep pre sep) :
    trimByteR (trimWsR (trimStringR (trimByteR (trimWsR
      (ws2.reverse ++ (0x3a :: 0x22 :: (name.reverse ++ 0x22 :: (ws1.reverse ++ (sep.reverse ++ pre.reverse)))))) 0x3a))) 0x2c
      = pre.reverse := by
  have hesc : EscR name.reverse := escR_of_quotesEscaped name.reverse (by simpa using hn)
  rw [trimWsR_append h2.reverse, trimWsR_cons_of_not_ws (by decide), trimByteR_cons_self]
  cases hs with
  | comma =>
    have hp : (ws1.reverse ++ ([0x2c].reverse ++ pre.reverse)).head? ≠ some 0x5c :=
      head?_ws_append h1.reverse pre.reverse (c0 := 0x2c) (by decide)
    rw [trimStringR_spec _ _ hesc hp, trimWsR_append h1.reverse]
    exact (congrArg (trimByteR · 0x2c) (trimWsR_cons_of_not_ws (by decide) _)).trans (trimByteR_cons_self _ _)
  | first pre' o ho hoc hob =>
    have hp : (ws1.reverse ++ (([] : Bytes).reverse ++ (pre' ++ [o]).reverse)).head? ≠ some 0x5c := by
      rw [List.reverse_append]; exact head?_ws_append h1.reverse pre'.reverse (c0 := o) hob
    rw [trimStringR_spec _ _ hesc hp, trimWsR_append h1.reverse, List.reverse_append]
    exact (congrArg (trimByteR · 0x2c) (trimWsR_cons_of_not_ws ho _)).trans (trimByteR_cons_ne hoc _)

theorem emptyLenR_emptyText {val : Bytes} (hv : EmptyText val) {z : UInt8} (T : List UInt8) (hz : z ≠ 0x5c) :
    emptyLenR (val.reverse ++ z :: T) = val.length := by
  cases hv with
  | null => rfl
  | obj => rfl
  | arr => rfl
  | str => exact if_neg (by rwa [beq_iff_eq])

theorem unwriteEmptyR_emptyText {val : Bytes} (hv : EmptyText val) {T : List UInt8} (hne : T ≠ [])
    (hT : T.head? ≠ some 0x5c) :
    unwriteEmptyR (val.reverse ++ T) =
      some (trimByteR (trimWsR (trimStringR (trimByteR (trimWsR T) 0x3a))) 0x2c, true) := by
  cases T with
  | nil => exact absurd rfl hne
  | cons z T =>
    have hl : (val.reverse ++ z :: T).length = val.length + (T.length + 1) := by simp
    have hd : (val.reverse ++ z :: T).drop val.length = z :: T := by
      rw [← List.length_reverse]; exact List.drop_left
    have h0 : val.length ≠ 0 := by cases hv <;> decide
    unfold unwriteEmptyR
    simp only [emptyLenR_emptyText hv T (by simpa using hT)]
    rw [if_neg (by simpa using h0), if_neg (by omega), hd]

theorem unwriteEmptyBytes_member (pre sep ws1 name ws2 val : Bytes) (h2 : WsOnly ws2) (h1 : WsOnly ws1)
    (hn : QuotesEscaped name) (hs : MemberSep pre sep) (hv : EmptyText val) :
    unwriteEmptyBytes (pre ++ sep ++ ws1 ++ (0x22 :: name ++ [0x22]) ++ [0x3a] ++ ws2 ++ val) = some (pre, true) := by
  have hrev : (pre ++ sep ++ ws1 ++ (0x22 :: name ++ [0x22]) ++ [0x3a] ++ ws2 ++ val).reverse = val.reverse ++
      (ws2.reverse ++ (0x3a :: 0x22 :: (name.reverse ++ 0x22 :: (ws1.reverse ++ (sep.reverse ++ pre.reverse))))) := by
    simp only [List.reverse_append, List.reverse_cons, List.append_assoc, List.cons_append, List.nil_append]
  unfold unwriteEmptyBytes
  rw [hrev, unwriteEmptyR_emptyText hv (List.append_ne_nil_of_right_ne_nil _ (List.cons_ne_nil _ _))
    (head?_ws_append h2.reverse _ (by decide)), unwrite_tail_R ws2 name ws1 sep pre h2 h1 hn hs,
    Option.map_some, List.reverse_reverse]

theorem unwriteNameBytes_first (pre' : Bytes) (o : UInt8) (ws1 name : Bytes) (ho : isWs o = false) (hob : o ≠ 0x5c)
    (h1 : WsOnly ws1) (hn : QuotesEscaped name) :
    unwriteNameBytes (pre' ++ [o] ++ ws1 ++ (0x22 :: name ++ [0x22])) = pre' ++ [o] := by
  have hp : (pre' ++ [o] ++ ws1).getLast? ≠ some 0x5c := by
    rw [← List.head?_reverse]
    simpa using head?_ws_append h1.reverse pre'.reverse hob
  unfold unwriteNameBytes
  rw [trimSuffixString_append _ name hn hp, trimSuffixWhitespace_append _ ws1 h1]
  intro c hc
  obtain rfl : o = c := by simpa using hc
  exact ho

theorem emptyLenR_ne_zero_iff (x y z : UInt8) (r : List UInt8) :
    emptyLenR (x :: y :: z :: r) ≠ 0 ↔
      (y = 0x6c ∧ x = 0x6c) ∨ (y = 0x22 ∧ x = 0x22 ∧ z ≠ 0x5c) ∨ (y = 0x7b ∧ x = 0x7d) ∨ (y = 0x5b ∧ x = 0x5d) := by
  constructor
  · intro h
    simp only [emptyLenR, Bool.and_eq_true, beq_iff_eq] at h
    by_cases h1 : y = 0x6c ∧ x = 0x6c
    · exact .inl h1
    rw [if_neg h1] at h
    by_cases h2 : y = 0x22 ∧ x = 0x22
    · rw [if_pos h2] at h
      exact .inr (.inl ⟨h2.1, h2.2, fun hz => h (if_pos hz)⟩)
    rw [if_neg h2] at h
    by_cases h3 : y = 0x7b ∧ x = 0x7d
    · exact .inr (.inr (.inl h3))
    rw [if_neg h3] at h
    by_cases h4 : y = 0x5b ∧ x = 0x5d
    · exact .inr (.inr (.inr h4))
    · exact absurd (if_neg h4) h
  · rintro (⟨rfl, rfl⟩ | ⟨rfl, rfl, hz⟩ | ⟨rfl, rfl⟩ | ⟨rfl, rfl⟩)
    · exact Nat.noConfusion
    · rw [show emptyLenR (0x22 :: 0x22 :: z :: r) = if z == 0x5c then 0 else 2 from rfl, if_neg (by rwa [beq_iff_eq])]
      exact Nat.noConfusion
    · exact Nat.noConfusion
    · exact Nat.noConfusion

theorem emptyLenR_ne_zero {r : List UInt8} (h : emptyLenR r ≠ 0) :
    ∃ x y z r', r = x :: y :: z :: r' ∧
      ((y = 0x6c ∧ x = 0x6c) ∨ (y = 0x22 ∧ x = 0x22 ∧ z ≠ 0x5c) ∨ (y = 0x7b ∧ x = 0x7d) ∨ (y = 0x5b ∧ x = 0x5d)) := by
  match r, h with
  | x :: y :: z :: r', h => exact ⟨x, y, z, r', rfl, (emptyLenR_ne_zero_iff x y z r').mp h⟩
  | [], h | [_], h | [_, _], h => exact absurd rfl h

theorem emptyLenR_suffix_zero (b d : List UInt8) (h : emptyLenR (b ++ d) = 0) : emptyLenR b = 0 := by
  match b, h with
  | [], _ | [_], _ | [_, _], _ => rfl
  | _ :: _ :: _ :: _, h => exact h

theorem endsEmptyR_of_emptyLenR {r : List UInt8} (h : emptyLenR r ≠ 0) : endsEmptyR r = true := by
  obtain ⟨x, y, z, r', rfl, hc⟩ := emptyLenR_ne_zero h
  rcases hc with ⟨rfl, rfl⟩ | ⟨rfl, rfl, _⟩ | ⟨rfl, rfl⟩ | ⟨rfl, rfl⟩ <;> rfl

/-- The two-byte test of avoidFlush fires without the detection firing only on `\""`: the case that
UnwriteEmptyObjectMember excludes with its `b[len(b)-3] == '\\'` test. -/
theorem escaped_of_endsEmptyR {x y z : UInt8} {r : List UInt8} (he : endsEmptyR (x :: y :: z :: r) = true)
    (hz : emptyLenR (x :: y :: z :: r) = 0) : x = 0x22 ∧ y = 0x22 ∧ z = 0x5c := by
  have hn := mt (emptyLenR_ne_zero_iff x y z r).mpr (not_not_intro hz)
  simp only [endsEmptyR, Bool.or_eq_true, Bool.and_eq_true, beq_iff_eq] at he
  rcases he with ((he | he) | he) | he
  · exact absurd (.inl he) hn
  · exact ⟨he.2, he.1, Decidable.byContradiction fun h5 => hn (.inr (.inl ⟨he.1, he.2, h5⟩))⟩
  · exact absurd (.inr (.inr (.inl he))) hn
  · exact absurd (.inr (.inr (.inr he))) hn

theorem emptyLenR_last {x : UInt8} {r : List UInt8} (h : emptyLenR (x :: r) ≠ 0) :
    x = 0x6c ∨ x = 0x22 ∨ x = 0x7d ∨ x = 0x5d := by
  obtain ⟨_, _, _, _, hr, hc⟩ := emptyLenR_ne_zero h
  cases hr
  rcases hc with ⟨_, h⟩ | ⟨_, h, _⟩ | ⟨_, h⟩ | ⟨_, h⟩
  · exact .inl h
  · exact .inr (.inl h)
  · exact .inr (.inr (.inl h))
  · exact .inr (.inr (.inr h))

theorem emptyLenR_closer {c : UInt8} {r : List UInt8} (hc : c = 0x7d ∨ c = 0x5d) (h : emptyLenR (c :: r) ≠ 0) :
    ∃ o r', r = o :: r' ∧ isWs o = false ∧ EmptyText [o, c] ∧ (o = 0x7b ∨ o = 0x5b) := by
  obtain ⟨_, o, z, r', hr, hcs⟩ := emptyLenR_ne_zero h
  cases hr
  rcases hcs with ⟨_, rfl⟩ | ⟨_, rfl, _⟩ | ⟨rfl, rfl⟩ | ⟨rfl, rfl⟩
  · rcases hc with hc | hc <;> exact absurd hc (by decide)
  · rcases hc with hc | hc <;> exact absurd hc (by decide)
  · exact ⟨_, _, rfl, by decide, .obj, .inl rfl⟩
  · exact ⟨_, _, rfl, by decide, .arr, .inr rfl⟩

/-- Token texts as the encoder produces them (what FlushFull's `SaneCall` asks of a literal/number or a string). -/
def SaneText (text : Bytes) : Prop :=
  text = [0x6e, 0x75, 0x6c, 0x6c] ∨
  (∃ p c, text = p ++ [c] ∧ c ≠ 0x6c ∧ c ≠ 0x22 ∧ c ≠ 0x7d ∧ c ≠ 0x5d ∧ c ≠ 0x7b ∧ c ≠ 0x5b) ∨
  (∃ body, text = 0x22 :: body ++ [0x22] ∧ QuotesEscaped body)

theorem saneText_ne_nil {text : Bytes} (h : SaneText text) : text ≠ [] := by
  rcases h with rfl | ⟨p, c, rfl, _⟩ | ⟨b, rfl, _⟩ <;> simp

theorem saneText_last {text : Bytes} (h : SaneText text) : ∃ p c, text = p ++ [c] ∧ c ≠ 0x7b ∧ c ≠ 0x5b := by
  rcases h with rfl | ⟨p, c, rfl, h⟩ | ⟨b, rfl, _⟩
  · exact ⟨[0x6e, 0x75, 0x6c], 0x6c, rfl, by decide, by decide⟩
  · exact ⟨p, c, rfl, h.2.2.2.2.1, h.2.2.2.2.2⟩
  · exact ⟨0x22 :: b, 0x22, by simp, by decide, by decide⟩

/-- A string literal on which the detection fires is `""`: a quote at the end of its body is escaped, and the
code's backslash test sees that. -/
theorem nil_of_emptyLenR_string {body : Bytes} {R : List UInt8} (hq : QuotesEscaped body)
    (h : emptyLenR ((0x22 :: body ++ [0x22]).reverse ++ R) ≠ 0) : body = [] := by
  rcases List.eq_nil_or_concat body with rfl | ⟨q, y, rfl⟩
  · rfl
  · exfalso
    rw [List.concat_eq_append] at h hq
    have hrev : (0x22 :: (q ++ [y]) ++ [0x22]).reverse ++ R = 0x22 :: y :: (q.reverse ++ 0x22 :: R) := by simp
    rw [hrev] at h
    obtain ⟨_, _, z, r', hr, hcs⟩ := emptyLenR_ne_zero h
    obtain ⟨rfl, rfl, hzr⟩ : _ ∧ _ ∧ q.reverse ++ 0x22 :: R = z :: r' := by simpa using hr
    rcases hcs with ⟨_, h⟩ | ⟨rfl, _, hz⟩ | ⟨_, h⟩ | ⟨_, h⟩
    · exact absurd h (by decide)
    · obtain ⟨pre, rfl⟩ := hq q [] rfl
      exact hz (by simpa using congrArg List.head? hzr.symm)
    · exact absurd h (by decide)
    · exact absurd h (by decide)

theorem emptyText_of_sane {text : Bytes} (R : List UInt8) (ht : SaneText text)
    (h : emptyLenR (text.reverse ++ R) ≠ 0) : EmptyText text := by
  rcases ht with rfl | ⟨p, c, rfl, hc⟩ | ⟨body, rfl, hq⟩
  · exact .null
  · rw [List.reverse_append] at h
    rcases emptyLenR_last h with e | e | e | e
    · exact absurd e hc.1
    · exact absurd e hc.2.1
    · exact absurd e hc.2.2.1
    · exact absurd e hc.2.2.2.1
  · obtain rfl := nil_of_emptyLenR_string hq h
    exact .str

/-- `emptyText_of_sane` as the member writer meets it: after `: ws`. -/
theorem emptyText_of_value (text ws2 : Bytes) (R : List UInt8) (_hws : WsOnly ws2) (ht : SaneText text)
    (h : emptyLenR (text.reverse ++ (ws2.reverse ++ 0x3a :: R)) ≠ 0) : EmptyText text :=
  emptyText_of_sane _ ht h

theorem emptyText_of_close (c o : UInt8) (ws3 : Bytes) (R : List UInt8) (hws : WsOnly ws3)
    (hc : c = 0x7d ∨ c = 0x5d) (h : emptyLenR (c :: (ws3.reverse ++ o :: R)) ≠ 0) :
    ws3 = [] ∧ EmptyText [o, c] := by
  obtain ⟨o', r', hr, ho', hv, _⟩ := emptyLenR_closer hc h
  have hnil := hws.reverse.eq_nil_of_append ho' hr
  rw [hnil] at hr
  cases hr
  exact ⟨List.reverse_eq_nil_iff.mp hnil, hv⟩

/-- The stream does not end in an opening bracket. -/
def NoOpenerEnd (t : Bytes) : Prop := ∀ c, t.getLast? = some c → c ≠ 0x7b ∧ c ≠ 0x5b

theorem emptyLen_close_nonempty (c : UInt8) (ws3 T : Bytes) (hws : WsOnly ws3) (hc : c = 0x7d ∨ c = 0x5d)
    (hT : NoOpenerEnd T) : emptyLenR (c :: (ws3.reverse ++ T.reverse)) = 0 := by
  apply Decidable.byContradiction
  intro h
  obtain ⟨o, r', hr, ho, _, hob⟩ := emptyLenR_closer hc h
  rw [hws.reverse.eq_nil_of_append ho hr] at hr
  have := hT o (by rw [← List.head?_reverse, List.nil_append] at *; rw [hr]; rfl)
  rcases hob with e | e
  · exact this.1 e
  · exact this.2 e

theorem noOpenerEnd_append_last (t : Bytes) (c : UInt8) (h1 : c ≠ 0x7b) (h2 : c ≠ 0x5b) : NoOpenerEnd (t ++ [c]) := by
  intro d hd
  obtain rfl : c = d := by simpa using hd
  exact ⟨h1, h2⟩

end JsonV.Model.Flush
