/-
GLUE between Model/Quote.lean (C11) and Model/WireDecode.lean (C01): the two independently written
models of `jsonwire.ConsumeString` and `jsonwire.AppendUnquote` are equal on every input — consumed length,
stringNonCanonical flag, error class (via the embedding `errInj` of the small C11 enum into the decoder enum),
unquoted bytes.  Consequences: C01's grammar theorem holds for the C11 scanner, and the RFC 8259 meaning theorem
of C11 holds for C01's `unquote`: one model of strings for the whole framework.
-/
import JsonV.Model.WireDecode
import JsonV.Lemmas.QuoteCanon
import JsonV.Lemmas.QuoteRaw
import JsonV.Lemmas.WireString
import JsonV.Lemmas.WireStringHead

namespace JsonV.Lemmas.GlueQuote
open JsonV JsonV.Model JsonV.Model.Utf8
open JsonV.Model.Quote JsonV.Lemmas.QuoteL JsonV.Lemmas.QuoteCanon JsonV.Lemmas.QuoteHead JsonV.Lemmas.WireStringHead

/-- The error enum of Model/Quote embeds into the decoder-side enum of Model/WireDecode. -/
def errInj : Err → Wire.Err
  | .ok => .ok
  | .invalidUTF8 => .invalidUTF8
  | .invalidChar => .invalidChar
  | .invalidEscape => .invalidEscape
  | .unexpectedEOF => .eof
  | .bug => .bug

theorem errInj_injective : ∀ a b, errInj a = errInj b → a = b := by
  intro a b; cases a <;> cases b <;> simp [errInj]

theorem join_nc (f g : Wire.ValueFlags) : (f.join g).nonCanonical = (f.nonCanonical || g.nonCanonical) := rfl

/-- At each iteration both loops read the same row of their tables (`wsOf`, `csOf`) over `headOf r`, and the rows agree in byte
count, stringNonCanonical and error class. -/
theorem loop_eq (v : Bool) (fuel : Nat) (r : Bytes) (hf : r.length < fuel) (n : Nat) (nc : Bool) :
    let w := Wire.stringLoop v fuel r
    let q := csLoop v r n nc
    q = (n + w.1, q.2.1, nc || w.2.1.nonCanonical) ∧ w.2.2 = errInj q.2.1 := by
  induction fuel generalizing r n nc with
  | zero => omega
  | succ fuel ih =>
    have hq := csStep_eq v r
    -- a row on which Model/Quote continues, resp. stops, with the flags `f` Model/WireDecode has in that row
    have cont {k nc'} (h : csStep v r = .cont k nc') (f : Wire.ValueFlags) (hf' : f.nonCanonical = nc') :
        let w := Wire.stringLoop v fuel (r.drop k)
        let q := csLoop v r n nc
        q = (n + (k + w.1), q.2.1, nc || (f.join w.2.1).nonCanonical) ∧ w.2.2 = errInj q.2.1 := by
      have hpos := csStep_cont_pos h
      have hne : r.length ≠ 0 := by have := hpos.2; simpa using this
      have := ih (r.drop k) (by simp only [List.length_drop]; omega) (n + k) (nc || nc')
      rw [csLoop_cont n nc h]
      simp only at this ⊢
      refine ⟨?_, this.2⟩
      rw [this.1, join_nc, hf', Nat.add_assoc, Bool.or_assoc]
    have stop {off e nc'} (h : csStep v r = .stop off e nc') (f : Wire.ValueFlags) (hf' : f.nonCanonical = nc') :
        let q := csLoop v r n nc
        q = (n + off, q.2.1, nc || f.nonCanonical) ∧ errInj e = errInj q.2.1 := by
      rw [csLoop_stop n nc h, hf']; exact ⟨rfl, rfl⟩
    simp only [Wire.stringLoop, stringStep_eq]
    cases hh : headOf r <;> rw [hh] at hq
    case plain | multi | simple | uni => exact cont hq _ rfl
    case pair => cases v <;> exact cont hq _ rfl
    -- without validateUTF8 the scanner passes over a lone surrogate escape and an ill-formed byte
    case lone | loneEOF | bad =>
      cases v
      · exact cont hq _ rfl
      · exact stop hq _ rfl
    all_goals exact stop hq _ rfl

theorem consumeString_eq (b : Bytes) (v : Bool) :
    (Wire.consumeString b v).1 = (consumeString v b).1 ∧
    (Wire.consumeString b v).2.1.nonCanonical = (consumeString v b).2.2 ∧
    (Wire.consumeString b v).2.2 = errInj (consumeString v b).2.1 := by
  match b with
  | [] => simp [Wire.consumeString, Wire.consumeStringResumable, consumeString, errInj]
  | c :: r =>
    by_cases hc : c = 0x22
    · subst hc
      have := loop_eq v (r.length + 1) r (by omega) 1 false
      simp only [Wire.consumeString, Wire.consumeStringResumable, consumeString, Nat.lt_irrefl, ↓reduceIte, beq_self_eq_true]
      simp only at this
      obtain ⟨h1, h2⟩ := this
      generalize Wire.stringLoop v (r.length + 1) r = w at h1 h2 ⊢
      obtain ⟨wn, wf, we⟩ := w
      simp only at h1 h2 ⊢
      rw [h1]
      simp [h2]
    · simp [Wire.consumeString, Wire.consumeStringResumable, consumeString, hc, errInj]

theorem getD_map (o : Option Err) (e : Err) : (o.map errInj).getD (errInj e) = errInj (o.getD e) := by
  cases o <;> rfl

theorem uloop_eq (fuel : Nat) (r : Bytes) (hf : r.length < fuel) (e : Err) :
    Wire.unquoteLoop fuel r (errInj e) = ((unqLoop r e).1, errInj (unqLoop r e).2) := by
  induction fuel generalizing r e with
  | zero => omega
  | succ fuel ih =>
    have hq := unqStep_eq r
    -- the two ways an iteration of Model/Quote ends, as Model/WireDecode writes them
    have cont {o k oe} (h : unqStep r = .cont o k oe) :
        (o ++ (Wire.unquoteLoop fuel (r.drop k) ((oe.map errInj).getD (errInj e))).1,
          (Wire.unquoteLoop fuel (r.drop k) ((oe.map errInj).getD (errInj e))).2) =
        ((unqLoop r e).1, errInj (unqLoop r e).2) := by
      have hpos := unqStep_cont_pos h
      have hne : r.length ≠ 0 := by have := hpos.2; simpa using this
      rw [unqLoop_cont e h, getD_map, ih _ (by simp only [List.length_drop]; omega)]
    have stop {o oe} (h : unqStep r = .stop o oe) :
        (o, (oe.map errInj).getD (errInj e)) = ((unqLoop r e).1, errInj (unqLoop r e).2) := by
      rw [unqLoop_stop e h, getD_map]
    rw [Wire.unquoteLoop, unquoteStep_eq]
    cases hh : headOf r <;> rw [hh] at hq
    case close last => cases last <;> exact stop hq
    case plain | multi | simple | uni | pair | lone | bad => exact cont hq
    all_goals exact stop hq

theorem unquote_eq (src : Bytes) : Wire.unquote src = ((appendUnquote src).1, errInj (appendUnquote src).2) := by
  match src with
  | [] => rfl
  | c :: r =>
    by_cases hc : c = 0x22
    · subst hc
      simp only [Wire.unquote, appendUnquote, beq_self_eq_true, ↓reduceIte]
      exact uloop_eq (r.length + 1) r (by omega) Err.ok
    · simp [Wire.unquote, appendUnquote, hc, errInj]

/-- C01's `string_iff` for the C11 scanner. -/
theorem consumeString_grammar (b : Bytes) (v : Bool) (n : Nat) :
    (∃ nc, consumeString v b = (n, Err.ok, nc)) ↔ n ≤ b.length ∧ JsonV.Spec.Grammar.JString v (b.take n) := by
  obtain ⟨h1, h2, h3⟩ := consumeString_eq b v
  constructor
  · rintro ⟨nc, h⟩
    rw [h] at h1 h3
    apply JsonV.Lemmas.WireString.consumeString_sound b v n (Wire.consumeString b v).2.1
    generalize Wire.consumeString b v = w at h1 h3
    obtain ⟨wn, wf, we⟩ := w
    simp only [errInj] at h1 h3
    rw [h1, h3]
  · rintro ⟨hn, hj⟩
    obtain ⟨f, hf⟩ := JsonV.Lemmas.WireString.consumeString_complete b v n hn hj
    rw [hf] at h1 h3
    simp only at h1 h3
    have he : (consumeString v b).2.1 = Err.ok := errInj_injective _ _ (by rw [← h3]; rfl)
    refine ⟨(consumeString v b).2.2, ?_⟩
    generalize consumeString v b = q at h1 he
    obtain ⟨qn, qe, qnc⟩ := q
    simp only at h1 he
    rw [← h1, he]

/-- C11's RFC 8259 meaning theorem for C01's `unquote`. -/
theorem wire_unquote_meaning (lit m : Bytes) (h : JsonV.Spec.StringSpec.StringLiteral lit m) :
    Wire.unquote lit = (m, Wire.Err.ok) := by
  rw [unquote_eq, JsonV.Lemmas.QuoteMeaning.appendUnquote_meaning lit m h]; rfl

end JsonV.Lemmas.GlueQuote
