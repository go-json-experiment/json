/-
Glue C12 ↔ C01, strings: the C12 recogniser `scanStr` (permissive UTF-8 mode) accepts exactly the string literals
`JString (strict := false)` of Spec/Grammar.lean.  From the body state `scanStr` leaves what the reference recogniser of the
string grammar, `ValidJson.strBody false`, leaves (`restStr_body`); what `strBody` accepts is in Lemmas/JStringLDet.lean.
-/
import JsonV.Lemmas.FormatLex
import JsonV.Lemmas.JStringLDet

namespace JsonV.Fmt
open JsonV.Spec.Grammar
open JsonV.Spec.ValidJson (strBody strBody_quote strBody_char strBody_uni strBody_chars strBody_sound hex4_eq)

theorem hexDigit_iff (c : UInt8) : HexDigit c ↔ isHex c = true := by
  simp [HexDigit, isHex, isDigit, or_assoc]

theorem simpleEscape_iff (c : UInt8) : SimpleEscape c ↔ isSimpleEsc c = true := by
  simp [SimpleEscape, isSimpleEsc, or_assoc]

theorem snd_consFst (c : UInt8) (x : Option (Bytes × Bytes)) : (consFst c x).map Prod.snd = x.map Prod.snd := by
  rcases x with _ | ⟨a, r⟩ <;> rfl

/-- What a scan from state `st` leaves of `b`. -/
def restStr (st : SSt) (b : Bytes) : Option Bytes := (scanStr st b).map Prod.snd

theorem restStr_nil (st : SSt) : restStr st [] = none := rfl

theorem restStr_step {st st' : SSt} {c : UInt8} (h : st.next c = some (some st')) (cs : Bytes) :
    restStr st (c :: cs) = restStr st' cs := by
  rw [restStr, scanStr, h]; exact snd_consFst c _

theorem restStr_close {st : SSt} {c : UInt8} (h : st.next c = some none) (cs : Bytes) : restStr st (c :: cs) = some cs := by
  rw [restStr, scanStr, h]; rfl

theorem restStr_rej {st : SSt} {c : UInt8} (h : st.next c = none) (cs : Bytes) : restStr st (c :: cs) = none := by
  rw [restStr, scanStr, h]; rfl

theorem restStr_hex {st stn : SSt} (hst : ∀ c, st.next c = if isHex c = true then some (some stn) else none) (c : UInt8)
    (cs : Bytes) : restStr st (c :: cs) = if isHex c = true then restStr stn cs else none := by
  by_cases h : isHex c = true
  · rw [if_pos h, restStr_step (by rw [hst, if_pos h])]
  · rw [if_neg h, restStr_rej (by rw [hst, if_neg h])]

/-- What `\u` followed by `r` does in both recognisers: `r` begins with four hex digits and both go on behind them, or both
reject. -/
theorem u_cases (r : Bytes) :
    (∃ a b c d r2, r = a :: b :: c :: d :: r2 ∧ restStr .h4 r = restStr .body r2 ∧
      strBody false (0x5c :: 0x75 :: r) = strBody false r2) ∨
    (restStr .h4 r = none ∧ strBody false (0x5c :: 0x75 :: r) = none) := by
  have h4 := restStr_hex (st := .h4) (stn := .h3) fun _ => rfl
  have h3 := restStr_hex (st := .h3) (stn := .h2) fun _ => rfl
  have h2 := restStr_hex (st := .h2) (stn := .h1) fun _ => rfl
  have h1 := restStr_hex (st := .h1) (stn := .body) fun _ => rfl
  match r with
  | [] | [_] | [_, _] | [_, _, _] =>
    refine .inr ⟨by simp only [h4, h3, h2, restStr_nil, ite_self], ?_⟩
    rw [strBody.eq_def]; rfl
  | a :: b :: c :: d :: r2 =>
    by_cases hall : isHex a = true ∧ isHex b = true ∧ isHex c = true ∧ isHex d = true
    · obtain ⟨ha, hb, hc, hd⟩ := hall
      exact .inl ⟨a, b, c, d, r2, rfl, by rw [h4, h3, h2, h1, if_pos ha, if_pos hb, if_pos hc, if_pos hd],
        strBody_uni ((hexDigit_iff a).mpr ha) ((hexDigit_iff b).mpr hb) ((hexDigit_iff c).mpr hc) ((hexDigit_iff d).mpr hd)
          (st := false) nofun r2⟩
    · refine .inr ⟨?_, ?_⟩
      · rw [h4, h3, h2, h1]
        rcases hx : (if isHex a = true then if isHex b = true then if isHex c = true then
          if isHex d = true then restStr .body r2 else none else none else none else none) with _ | y
        · rfl
        · obtain ⟨ha, hx⟩ := Option.ite_none_right_eq_some.mp hx
          obtain ⟨hb, hx⟩ := Option.ite_none_right_eq_some.mp hx
          obtain ⟨hc, hx⟩ := Option.ite_none_right_eq_some.mp hx
          exact absurd ⟨ha, hb, hc, (Option.ite_none_right_eq_some.mp hx).1⟩ hall
      · have : hex4Spec a b c d = none := by
          cases h : hex4Spec a b c d with
          | none => rfl
          | some v =>
            obtain ⟨ha, hb, hc, hd, -⟩ := hex4Spec_eq_some.mp h
            exact absurd ⟨(hexDigit_iff a).mp ha, (hexDigit_iff b).mp hb, (hexDigit_iff c).mp hc, (hexDigit_iff d).mp hd⟩ hall
        rw [strBody.eq_def]
        show (match JsonV.Spec.ValidJson.hex4 a b c d with | none => none | some v => _) = none
        rw [hex4_eq, this]

/-- By induction on a bound on the length (an escape takes two or six bytes at once).  Where the scan goes on,
`strBody_char` says that the reference passes over the same char of the grammar; where it rejects, `strBody` is unfolded. -/
theorem restStr_body : ∀ (n : Nat) (b : Bytes), b.length ≤ n → restStr .body b = strBody false b := by
  intro n
  induction n with
  | zero =>
    intro b hb
    obtain rfl := List.eq_nil_of_length_eq_zero (Nat.le_zero.mp hb)
    rw [strBody.eq_def]; rfl
  | succ n ih =>
    intro b hb
    match b, hb with
    | [], _ => rw [strBody.eq_def]; rfl
    | c :: r, hb =>
      have hr : r.length ≤ n := Nat.le_of_succ_le_succ hb
      rcases body_next_cases c with ⟨rfl, e⟩ | ⟨rfl, e⟩ | ⟨hc, e⟩ | ⟨h20, hq, hbs, e⟩
      · rw [restStr_close e, strBody_quote]
      · rw [restStr_step e]
        match r, hr with
        | [], _ => rw [strBody.eq_def]; rfl
        | x :: r1, hr =>
          have hr1 : r1.length ≤ n := Nat.le_of_succ_le hr
          rcases esc_next_cases x with ⟨rfl, e⟩ | ⟨hs, e⟩ | e
          · rw [restStr_step e]
            rcases u_cases r1 with ⟨a, b, c, d, r2, rfl, e1, e2⟩ | ⟨e1, e2⟩
            · rw [e1, e2]; exact ih r2 (Nat.le_trans (Nat.le_add_right _ 4) hr1)
            · rw [e1, e2]
          · rw [restStr_step e]
            exact (ih r1 hr1).trans (strBody_char (.esc x ((simpleEscape_iff x).mpr hs)) r1).symm
          · have hu : ¬ x = 0x75 := by rintro rfl; cases e
            have hs : JsonV.Spec.ValidJson.isSimpleEscape x = false := by
              rw [Bool.eq_false_iff, ne_eq, JsonV.Spec.ValidJson.isSimpleEscape_iff, simpleEscape_iff]
              intro hs
              simp [SSt.next, hu, hs] at e
            rw [restStr_rej e, strBody.eq_def]
            simp [hs, hu]
      · have hq : ¬ c = 0x22 := by rintro rfl; cases e
        have hb : ¬ c = 0x5c := by rintro rfl; cases e
        rw [restStr_rej e, strBody.eq_def]
        simp [hq, hb, hc]
      · rw [restStr_step e]
        refine (ih r hr).trans (strBody_char (c := [c]) ?_ r).symm
        by_cases h80 : c < 0x80
        · exact .plain c h20 h80 hq hbs
        · exact .raw c rfl (UInt8.not_lt.mp h80)

theorem scanStr_full_iff (st : SSt) (b : Bytes) : scanStr st b = some (b, []) ↔ restStr st b = some [] := by
  rw [restStr]
  refine ⟨fun h => by rw [h]; rfl, fun h => ?_⟩
  rcases hs : scanStr st b with _ | ⟨a, r⟩
  · rw [hs] at h; cases h
  · rw [hs] at h
    cases h
    rw [scanStr_split hs, List.append_nil]

theorem str_valid_iff (raw : Bytes) : (Tok.str raw).valid = true ↔ JString false raw := by
  have key : ∀ a, scanStr .body a = some (a, []) ↔ ∃ body, a = body ++ [0x22] ∧ JChars false body := fun a => by
    rw [scanStr_full_iff, restStr_body a.length a (Nat.le_refl _)]
    exact ⟨strBody_sound false a [], fun ⟨body, e, hb⟩ => e ▸ strBody_chars hb []⟩
  constructor
  · intro h
    obtain ⟨a, rfl, ha⟩ := Tok.valid_str h
    obtain ⟨body, rfl, hb⟩ := (key a).mp ha
    exact ⟨body, hb, rfl⟩
  · rintro ⟨body, hb, rfl⟩
    simp [Tok.valid, (key _).mpr ⟨body, rfl, hb⟩]

end JsonV.Fmt
