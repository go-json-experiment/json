/-
Lemmas about the whitespace and literal scanners of Model/WireDecode.lean.
-/
import JsonV.Model.WireDecode
import JsonV.Spec.Grammar

namespace JsonV.Lemmas.WireBasic
open JsonV JsonV.Model.Wire JsonV.Spec.Grammar

theorem lenLt_iff (r : Bytes) (k : Nat) : lenLt r k = true ↔ r.length < k := by
  induction r generalizing k with
  | nil => cases k <;> simp [lenLt]
  | cons c r ih => cases k with
    | zero => simp [lenLt]
    | succ k => simp [lenLt, ih]

theorem isWs_iff (c : UInt8) : isWs c = true ↔ WsByte c := by
  simp only [isWs, WsByte, Bool.or_eq_true, beq_iff_eq]
  constructor
  · rintro (((h | h) | h) | h) <;> simp [h]
  · rintro (h | h | h | h) <;> simp [h]

theorem ws_le (b : Bytes) : consumeWhitespace b ≤ b.length := by
  induction b with
  | nil => simp [consumeWhitespace]
  | cons c r ih => simp only [consumeWhitespace]; split <;> simp <;> omega

theorem ws_take (b : Bytes) : JWs (b.take (consumeWhitespace b)) := by
  induction b with
  | nil => simp [consumeWhitespace, JWs]
  | cons c r ih =>
    simp only [consumeWhitespace]
    split
    · rename_i h
      intro x hx
      simp only [List.take_succ_cons, List.mem_cons] at hx
      rcases hx with rfl | hx
      · exact (isWs_iff _).1 h
      · exact ih x hx
    · simp [JWs]

theorem jws_of_drop_nil (r : Bytes) (h : r.drop (consumeWhitespace r) = []) : JWs r := by
  have hall : r.take (consumeWhitespace r) = r := List.take_of_length_le (List.drop_eq_nil_iff.1 h)
  rw [← hall]; exact ws_take r

theorem ws_stop (b : Bytes) (c : UInt8) (r : Bytes) (h : b.drop (consumeWhitespace b) = c :: r) : ¬ WsByte c := by
  induction b with
  | nil => simp [consumeWhitespace] at h
  | cons d t ih =>
    simp only [consumeWhitespace] at h
    split at h
    · simp only [List.drop_succ_cons] at h; exact ih h
    · rename_i hd
      simp only [List.drop_zero, List.cons.injEq] at h
      rw [← h.1, ← isWs_iff]; exact hd

theorem ws_unique (b : Bytes) (m : Nat) (hm : m ≤ b.length) (hw : JWs (b.take m))
    (hs : ∀ c r, b.drop m = c :: r → ¬ WsByte c) : m = consumeWhitespace b := by
  induction b generalizing m with
  | nil => simp at hm; simp [hm, consumeWhitespace]
  | cons d t ih =>
    simp only [consumeWhitespace]
    cases m with
    | zero =>
      have := hs d t (by simp)
      rw [← isWs_iff] at this
      simp [this]
    | succ m =>
      have hd : isWs d = true := (isWs_iff d).2 (hw d (by simp))
      simp only [hd, if_true, Nat.add_right_cancel_iff]
      apply ih m (by simpa using hm)
      · intro x hx; exact hw x (by simp [hx])
      · intro c r h; exact hs c r (by simpa using h)

theorem literal_cons_ne {c l : UInt8} (b lit : Bytes) (h : c ≠ l) :
    consumeLiteral (c :: b) (l :: lit) = (0, .invalidChar) := by
  simp [consumeLiteral, h]

theorem literal_cons_eq (c : UInt8) (b lit : Bytes) (n : Nat) (e : Err) :
    consumeLiteral (c :: b) (c :: lit) = (n, e) ↔ ∃ m, n = m + 1 ∧ consumeLiteral b lit = (m, e) := by
  rcases h : consumeLiteral b lit with ⟨m, e'⟩
  simp only [consumeLiteral, bne_self_eq_false, Bool.false_eq_true, if_false, h, Prod.mk.injEq]
  constructor
  · rintro ⟨rfl, rfl⟩; exact ⟨m, rfl, rfl, rfl⟩
  · rintro ⟨_, rfl, rfl, rfl⟩; exact ⟨rfl, rfl⟩

theorem literal_ok_iff (b lit : Bytes) (n : Nat) :
    consumeLiteral b lit = (n, .ok) ↔ n = lit.length ∧ lit <+: b := by
  induction lit generalizing b n with
  | nil => simp [consumeLiteral, eq_comm]
  | cons l lit ih =>
    cases b with
    | nil => simp [consumeLiteral]
    | cons c b =>
      by_cases h : c = l
      · subst h
        simp only [literal_cons_eq, ih, List.length_cons, List.cons_prefix_cons, true_and]
        exact ⟨fun ⟨m, hn, hm, hp⟩ => ⟨by omega, hp⟩, fun ⟨hn, hp⟩ => ⟨_, hn, rfl, hp⟩⟩
      · simp [literal_cons_ne b lit h, List.cons_prefix_cons, Ne.symm h]

theorem literal_eof_iff (b lit : Bytes) (n : Nat) :
    consumeLiteral b lit = (n, .eof) ↔ n = b.length ∧ b <+: lit ∧ b ≠ lit := by
  induction lit generalizing b n with
  | nil => simp [consumeLiteral]
  | cons l lit ih =>
    cases b with
    | nil => simp [consumeLiteral, eq_comm]
    | cons c b =>
      by_cases h : c = l
      · subst h
        simp only [literal_cons_eq, ih, List.length_cons, List.cons_prefix_cons, true_and, ne_eq, List.cons.injEq]
        exact ⟨fun ⟨m, hn, hm, hp⟩ => ⟨by omega, hp⟩, fun ⟨hn, hp⟩ => ⟨_, hn, rfl, hp⟩⟩
      · simp [literal_cons_ne b lit h, List.cons_prefix_cons, h]

theorem literal_invalid_iff (b lit : Bytes) (n : Nat) :
    consumeLiteral b lit = (n, .invalidChar) ↔
      n < b.length ∧ n < lit.length ∧ b.take n = lit.take n ∧ b[n]? ≠ lit[n]? := by
  induction lit generalizing b n with
  | nil => simp [consumeLiteral]
  | cons l lit ih =>
    cases b with
    | nil => simp [consumeLiteral]
    | cons c b =>
      by_cases h : c = l
      · subst h
        simp only [literal_cons_eq, ih, List.length_cons]
        constructor
        · rintro ⟨m, rfl, h1, h2, h3, h4⟩
          exact ⟨by omega, by omega, by simp [h3], by simpa using h4⟩
        · rintro ⟨h1, h2, h3, h4⟩
          cases n with
          | zero => simp at h4
          | succ n => exact ⟨n, rfl, by omega, by omega, by simpa using h3, by simpa using h4⟩
      · rw [literal_cons_ne b lit h]
        constructor
        · intro h'; cases h'; simp [h]
        · rintro ⟨_, _, h3, _⟩
          cases n with
          | zero => rfl
          | succ n => simp [h] at h3

theorem literal_class (b lit : Bytes) :
    (consumeLiteral b lit).2 = .ok ∨ (consumeLiteral b lit).2 = .eof ∨ (consumeLiteral b lit).2 = .invalidChar := by
  induction lit generalizing b with
  | nil => simp [consumeLiteral]
  | cons l lit ih =>
    cases b with
    | nil => simp [consumeLiteral]
    | cons c b =>
      simp only [consumeLiteral]
      split
      · simp
      · exact ih b

theorem exact_iff (lit b : Bytes) (hl : lit ≠ []) : consumeExact lit b ≠ 0 ↔ lit <+: b := by
  unfold consumeExact
  have hlen : lit.length ≠ 0 := by simpa using hl
  constructor
  · intro h
    split at h
    · rename_i h'
      have : b.take lit.length = lit := by simpa using h'
      rw [← this]; exact List.take_prefix _ _
    · exact absurd rfl h
  · intro h
    have : b.take lit.length = lit := List.prefix_iff_eq_take.1 h |>.symm
    simp [this, hlen]

theorem exact_val (lit b : Bytes) : consumeExact lit b = 0 ∨ consumeExact lit b = lit.length := by
  unfold consumeExact; split <;> simp

end JsonV.Lemmas.WireBasic
