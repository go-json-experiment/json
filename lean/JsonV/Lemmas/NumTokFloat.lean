/-
C10 lemmas: Token.Float.  On a raw token it is the float parser; on a token built with jsontext.Int / Uint it is
Go's integer→float64 conversion (round to nearest even), which is what the correctly rounding parser returns on
the rendered literal — so typed and raw tokens agree for the Float accessor as well.
-/
import JsonV.Lemmas.NumInt
import JsonV.Lemmas.NumGrammar

namespace JsonV.Lemmas.NumTokFloat
open JsonV JsonV.Model.Number JsonV.Lemmas.NumInt JsonV.Lemmas.NumParse JsonV.Lemmas.NumDigits

theorem splitNumber_digits (neg : Bool) (b : Bytes) (hd : ∀ c ∈ b, Spec.Ecma.isDigit c = true) (hm : b.head? ≠ some 45) :
    splitNumber (if neg then 45 :: b else b) = (neg, b, 0, 0) := by
  have h1 : b.takeWhile Model.Number.isDigit = b := JsonV.Lemmas.NumGrammar.takeWhile_all b hd
  have h2 : b.dropWhile Model.Number.isDigit = [] := JsonV.Lemmas.NumGrammar.dropWhile_all b hd
  cases neg
  · have hneg : (b.head? == some 45) = false := by simpa using hm
    simp only [splitNumber, hneg, Bool.false_eq_true, if_false, h1, h2, List.append_nil, List.length_nil]
  · simp only [splitNumber, if_true, List.head?_cons, beq_self_eq_true, List.drop_one, List.tail_cons, h1, h2,
      List.append_nil, List.length_nil]

theorem formatUint_digits (u : Nat) : ∀ c ∈ formatUint u, Spec.Ecma.isDigit c = true :=
  ((canonical_iff _).1 (formatUint_canonical u)).2.1

theorem parseExact_digits (ff : FloatFmt) (neg : Bool) (u : Nat) (h0 : u ≠ 0) :
    parseFloatExact ff (if neg then 45 :: formatUint u else formatUint u) = roundFl ff ⟨neg, false, u, 0⟩ := by
  have hd := formatUint_digits u
  have hv : decVal (formatUint u) = u := bytesVal_formatUint u
  have hsplit := splitNumber_digits neg _ hd (canonical_not_minus _ (formatUint_canonical u))
  have hu : (u == 0) = false := by simpa using h0
  simp only [parseFloatExact, hsplit, hv, hu, Bool.false_eq_true, if_false, roundFl]
  have h400 : ¬ ((0 : Int) - ((0 : Nat) : Int) > 400) := by omega
  have hlow : ¬ ((0 : Int) - ((0 : Nat) : Int) + ((formatUint u).length : Int) < -400) := by omega
  have hge : ((0 : Int) - ((0 : Nat) : Int) ≥ 0) := by omega
  have hge0 : ((0 : Int) ≥ 0) := by omega
  rw [if_neg h400, if_neg hlow, if_pos hge, if_pos hge0]
  simp

theorem formatInt_zero : formatInt 0 = [48] := by
  simp [formatInt, formatUint, natDigits, digitByte]

theorem formatUint_zero : formatUint 0 = [48] := by
  simp [formatUint, natDigits, digitByte]

theorem mkInt_float (pf32 : Bytes → Fl) (n : Int) (h1 : -(2 ^ 63 : Int) ≤ n) (h2 : n < 2 ^ 63) :
    (tokFloat64 (parseFloatExact fmt64) pf32 (mkInt n)).1 =
      (tokFloat64 (parseFloatExact fmt64) pf32 (.raw (formatInt n))).1 ∧
    (n ≠ 0 → tokFloat64 (parseFloatExact fmt64) pf32 (mkInt n) =
      (roundFl fmt64 ⟨decide (n < 0), false, n.natAbs, 0⟩, .none)) := by
  by_cases h0 : n = 0
  · subst h0
    refine ⟨?_, fun h => absurd rfl h⟩
    rw [formatInt_zero]; rfl
  · have hne : n.natAbs ≠ 0 := by omega
    have hp := parseExact_digits fmt64 (decide (n < 0)) n.natAbs hne
    have hfi : formatInt n = (if decide (n < 0) = true then 45 :: formatUint n.natAbs else formatUint n.natAbs) := by
      unfold formatInt
      by_cases hn : n < 0 <;> simp [hn]
    have hdec : decide ((Int64.ofInt n).toUInt64.toInt64 < 0) = decide (n < 0) :=
      decide_eq_decide.2 (int64_neg_iff n h1 h2)
    have hval : tokFloat64 (parseFloatExact fmt64) pf32 (mkInt n) = (roundFl fmt64 ⟨decide (n < 0), false, n.natAbs, 0⟩, .none) := by
      unfold mkInt
      rw [if_neg (by simpa using h0)]
      simp only [tokFloat64, tokFloatBits, hdec, int64_roundtrip n h1 h2]
    refine ⟨?_, fun _ => hval⟩
    rw [hval]
    simp only [tokFloat64, tokFloatBits, tokenFloat, Bool.false_eq_true, if_false]
    rw [hfi, hp]

theorem mkUint_float (pf32 : Bytes → Fl) (u : Nat) (h : u < 2 ^ 64) :
    (tokFloat64 (parseFloatExact fmt64) pf32 (mkUint u)).1 =
      (tokFloat64 (parseFloatExact fmt64) pf32 (.raw (formatUint u))).1 ∧
    (u ≠ 0 → tokFloat64 (parseFloatExact fmt64) pf32 (mkUint u) = (roundFl fmt64 ⟨false, false, u, 0⟩, .none)) := by
  by_cases h0 : u = 0
  · subst h0
    refine ⟨?_, fun h => absurd rfl h⟩
    rw [formatUint_zero]; rfl
  · have hp := parseExact_digits fmt64 false u h0
    have hval : tokFloat64 (parseFloatExact fmt64) pf32 (mkUint u) = (roundFl fmt64 ⟨false, false, u, 0⟩, .none) := by
      unfold mkUint
      rw [if_neg (by simpa using h0)]
      simp only [tokFloat64, tokFloatBits, UInt64.toNat_ofNat_of_lt' h]
    refine ⟨?_, fun _ => hval⟩
    rw [hval]
    simp only [tokFloat64, tokFloatBits, tokenFloat, Bool.false_eq_true, if_false]
    simp only [Bool.false_eq_true, if_false] at hp
    rw [hp]

end JsonV.Lemmas.NumTokFloat
