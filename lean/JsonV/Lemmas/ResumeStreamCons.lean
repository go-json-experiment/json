/-
Which reader events a streaming call consumes (C05), and `Adv`, the progress of the reader over one step, which the
simulation lemmas carry from step to step.
-/
import JsonV.Model.Stream

namespace JsonV.Model.Stream
open JsonV JsonV.Model

def Fill.evs {β : Type} : Fill β → List Event
  | .done _ _ es _ => es
  | .fault _ es => es
def Fill.isFault {β : Type} : Fill β → Bool
  | .done .. => false
  | .fault .. => true
def SRes.evs : SRes → List Event
  | .res _ _ _ es _ => es
  | .fault _ es => es
def SRes.isFault : SRes → Bool
  | .res .. => false
  | .fault .. => true

/-- the events left over are a suffix of the reader's events, and a fault is only reported when a fault event
was consumed -/
def Consumed (es : List Event) (rest : List Event) (isFault : Bool) : Prop :=
  ∃ pre, es = pre ++ rest ∧ (isFault = true → Event.fault ∈ pre)

theorem Consumed.refl (es : List Event) : Consumed es es false := ⟨[], rfl, by simp⟩

theorem Consumed.trans {es es1 es2 : List Event} {f : Bool} (h1 : Consumed es es1 false) (h2 : Consumed es1 es2 f) :
    Consumed es es2 f := by
  obtain ⟨p1, e1, _⟩ := h1
  obtain ⟨p2, e2, hf⟩ := h2
  refine ⟨p1 ++ p2, by rw [e1, e2, List.append_assoc], ?_⟩
  intro h; exact List.mem_append_right _ (hf h)

theorem Consumed.weaken {es es1 : List Event} {f : Bool} (h : Consumed es es1 f) : Consumed es es1 false := by
  obtain ⟨p, e, _⟩ := h
  exact ⟨p, e, by simp⟩

theorem Consumed.fault (es : List Event) : Consumed (.fault :: es) es true := ⟨[.fault], rfl, by simp⟩

theorem Consumed.chunk {es es' : List Event} {f : Bool} (h : Consumed es es' f) (d : Bytes) :
    Consumed (.chunk d :: es) es' f := by
  obtain ⟨pre, e, hf⟩ := h
  exact ⟨.chunk d :: pre, by rw [List.cons_append, ← e], fun h => List.mem_cons_of_mem _ (hf h)⟩

theorem Consumed.length_le {es es' : List Event} {f : Bool} (h : Consumed es es' f) : es'.length ≤ es.length := by
  obtain ⟨pre, e, _⟩ := h
  rw [e, List.length_append]
  exact Nat.le_add_left _ _

theorem Consumed.length_lt {es es' : List Event} (h : Consumed es es' true) : es'.length < es.length := by
  obtain ⟨pre, e, hf⟩ := h
  rw [e, List.length_append]
  exact Nat.lt_add_of_pos_left (List.length_pos_of_mem (hf rfl))

theorem refill_consumed {α β : Type} (step : Bytes → α → α ⊕ β) (atEof : Bytes → α → β) :
    ∀ (es : List Event) (v : Bytes) (a : α),
      Consumed es (refill step atEof v a es).evs (refill step atEof v a es).isFault := by
  intro es
  induction es with
  | nil => intro v a; rw [refill]; split <;> exact Consumed.refl _
  | cons ev es ih =>
    intro v a
    cases ev with
    | eof => rw [refill]; split <;> exact Consumed.refl _
    | fault =>
      rw [refill]
      split
      · exact Consumed.refl _
      · exact Consumed.fault es
    | chunk d =>
      rw [refill]
      split
      · exact Consumed.refl _
      · rename_i a' _
        have h := (ih (v ++ d) a').chunk d
        generalize refill step atEof (v ++ d) a' es = F at h ⊢
        cases F <;> exact h

/-- The reader went from buffer `u` with events `es` ahead to buffer `u'` with `es'`: bytes were appended and nothing
else changed, so buffer ++ what is still to come stays the same.  `fault`: the step ended with the I/O error. -/
structure Adv (u : Bytes) (es : List Event) (u' : Bytes) (es' : List Event) (fault : Bool) : Prop where
  same : u' ++ avail es' = u ++ avail es
  len : u.length ≤ u'.length
  cons : Consumed es es' fault

theorem Adv.refl (u : Bytes) (es : List Event) : Adv u es u es false := ⟨rfl, Nat.le_refl _, Consumed.refl es⟩

theorem Adv.weaken {u u' : Bytes} {es es' : List Event} {f : Bool} (h : Adv u es u' es' f) : Adv u es u' es' false :=
  ⟨h.same, h.len, h.cons.weaken⟩

theorem Adv.trans {u u1 u2 : Bytes} {es es1 es2 : List Event} {f : Bool} (h1 : Adv u es u1 es1 false)
    (h2 : Adv u1 es1 u2 es2 f) : Adv u es u2 es2 f :=
  ⟨h2.same.trans h1.same, Nat.le_trans h1.len h2.len, h1.cons.trans h2.cons⟩

/-- a reader that never faults -/
def NoFault (es : List Event) : Prop := Event.fault ∉ es

theorem noFault_of_consumed {es rest : List Event} {f : Bool} (h : Consumed es rest f) (hn : NoFault es) :
    f = false ∧ NoFault rest := by
  obtain ⟨pre, e, hf⟩ := h
  subst e
  constructor
  · cases f
    · rfl
    · exact absurd (List.mem_append_left _ (hf rfl)) hn
  · intro hm; exact hn (List.mem_append_right _ hm)

end JsonV.Model.Stream
