/-
Glue C12 ↔ C01, part 1: the lexemes of the tokens of a tree.  Here and in the other GlueTree modules a tree is a `Canon.JV`
(Model/Canon.lean, slice C13: atoms are tokens), not the `JTree` of Spec/Tree.lean.  `punct` on the tokens of a tree
is the tree written with its delimiters: `lexT`.
-/
import JsonV.Lemmas.CanonNest

namespace JsonV.Fmt
open JsonV.Canon JsonV.Lemmas.CanonNest

def sepLex (first : Bool) : List Lex := if first then [] else [.delim .comma]

mutual
/-- the lexemes of a value: its tokens with `,` between elements/members and `:` after names -/
def lexT : JV → List Lex
  | .atom k => [.tok k]
  | .arr es => .tok .ba :: (lexL true es ++ [.tok .ea])
  | .obj ms => .tok .bo :: (lexM true ms ++ [.tok .eo])
def lexL (first : Bool) : List JV → List Lex
  | [] => []
  | e :: es => sepLex first ++ (lexT e ++ lexL false es)
def lexM (first : Bool) : List (Bytes × JV) → List Lex
  | [] => []
  | (n, v) :: ms => sepLex first ++ (.tok (.str n) :: .delim .colon :: (lexT v ++ lexM false ms))
end

theorem isStrT_atom (k : Tok) : isStrT (.atom k) = k.isStr := by cases k <;> rfl

theorem punct_cons_some (st st' : Stack) (k : Tok) (ks : List Tok) (d : Option Delim) (h : step st k = some (d, st')) :
    punct st (k :: ks) = delimLex d ++ .tok k :: punct st' ks := by
  simp [punct, h]

mutual
/-- `punct` walks the tokens of a tree as `lexT` writes them, by structural recursion on the tree: the frame on top of
the stack says which delimiter precedes a value (`f.value`), and inside a container `first` says whether a comma is due. -/
theorem punctV : ∀ (t : JV), AtomsOK t = true → ∀ (f f' : Fr) (dl : Option Delim) (s : Stack) (rest : List Tok),
    f.value (isStrT t) = some (dl, f') → depthOK t s.length = true →
    punct (f :: s) (t.toks ++ rest) = delimLex dl ++ (lexT t ++ punct (f' :: s) rest)
  | .atom k, h, f, f', dl, s, rest, hv, _ => by
    simp only [AtomsOK] at h
    rw [isStrT_atom] at hv
    have hs : step (f :: s) k = some (dl, f' :: s) := by rw [step_scalar f s k h, hv]
    simp only [JV.toks, List.singleton_append, lexT]
    rw [punct_cons_some _ _ _ _ _ hs]
  | .arr es, h, f, f', dl, s, rest, hv, hd => by
    simp only [AtomsOK] at h
    simp only [depthOK, Bool.and_eq_true, decide_eq_true_eq] at hd
    simp only [isStrT] at hv
    have hs : step (f :: s) .ba = some (dl, .arr0 :: f' :: s) := by simp [step, hv, hd.1]
    have := punctL es h true (f' :: s) rest (by simpa using hd.2)
    simp only [if_true] at this
    rw [toks_arr_append, punct_cons_some _ _ _ _ _ hs, this]
    simp [lexT]
  | .obj ms, h, f, f', dl, s, rest, hv, hd => by
    simp only [AtomsOK] at h
    simp only [depthOK, Bool.and_eq_true, decide_eq_true_eq] at hd
    simp only [isStrT] at hv
    have hs : step (f :: s) .bo = some (dl, .obj0 :: f' :: s) := by simp [step, hv, hd.1]
    have := punctM ms h true (f' :: s) rest (by simpa using hd.2)
    simp only [if_true] at this
    rw [toks_obj_append, punct_cons_some _ _ _ _ _ hs, this]
    simp [lexT]
theorem punctL : ∀ (es : List JV), AtomsOKL es = true → ∀ (first : Bool) (s : Stack) (rest : List Tok),
    depthOKL es s.length = true →
    punct ((if first then Fr.arr0 else Fr.arrN) :: s) (toksL es ++ Tok.ea :: rest) =
      lexL first es ++ (.tok .ea :: punct s rest)
  | [], _, first, s, rest, _ => by
    have hs : step ((if first then Fr.arr0 else Fr.arrN) :: s) .ea = some (none, s) := by
      cases first <;> simp [step]
    simp only [toksL, List.nil_append, lexL]
    rw [punct_cons_some _ _ _ _ _ hs]; rfl
  | e :: es, h, first, s, rest, hd => by
    simp only [AtomsOKL, Bool.and_eq_true] at h
    simp only [depthOKL, Bool.and_eq_true] at hd
    have hv : (if first then Fr.arr0 else Fr.arrN).value (isStrT e) = some (if first then none else some .comma, .arrN) := by
      cases first <;> simp [Fr.value]
    rw [toksL_cons_append, punctV e h.1 _ _ _ s _ hv hd.1]
    have := punctL es h.2 false s rest hd.2
    simp only [Bool.false_eq_true, if_false] at this
    rw [this]
    cases first <;> simp [lexL, sepLex, delimLex]
theorem punctM : ∀ (ms : List (Bytes × JV)), AtomsOKM ms = true → ∀ (first : Bool) (s : Stack) (rest : List Tok),
    depthOKM ms s.length = true →
    punct ((if first then Fr.obj0 else Fr.objV) :: s) (toksM ms ++ Tok.eo :: rest) =
      lexM first ms ++ (.tok .eo :: punct s rest)
  | [], _, first, s, rest, _ => by
    have hs : step ((if first then Fr.obj0 else Fr.objV) :: s) .eo = some (none, s) := by
      cases first <;> simp [step]
    simp only [toksM, List.nil_append, lexM]
    rw [punct_cons_some _ _ _ _ _ hs]; rfl
  | (n, v) :: ms, h, first, s, rest, hd => by
    simp only [AtomsOKM, Bool.and_eq_true] at h
    simp only [depthOKM, Bool.and_eq_true] at hd
    have hs : step ((if first then Fr.obj0 else Fr.objV) :: s) (.str n) =
        some (if first then none else some .comma, .objK :: s) := by
      cases first <;> simp [step, Fr.value]
    have hv : Fr.objK.value (isStrT v) = some (some .colon, .objV) := by simp [Fr.value]
    rw [toksM_cons_append, punct_cons_some _ _ _ _ _ hs, punctV v h.1 _ _ _ s _ hv hd.1]
    have := punctM ms h.2 false s rest hd.2
    simp only [Bool.false_eq_true, if_false] at this
    rw [this]
    cases first <;> simp [lexM, sepLex, delimLex]
end

theorem punct_top (t : JV) (ht : AtomsOK t = true) (hd : depthOK t 0 = true) : punct [.top0] t.toks = lexT t := by
  have := punctV t ht .top0 .top1 none [] [] (by simp [Fr.value]) (by simpa using hd)
  simpa [delimLex, punct] using this

end JsonV.Fmt
