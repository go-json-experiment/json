/-
C02: the parameters of the fragment model instantiated with the models that other slices proved:
  * `quote`  := slice C11's `appendQuote` (Model/Quote.lean) — its output is a `JString` of slice C01's grammar
    (Lemmas/QuoteJString.lean, `appendQuote_is_jstring`, for every flag set; `appendQuote_jstring` here states it
    without EscapeForHTML/EscapeForJS, two hypotheses the proof does not use);
  * integers := slice C10's `formatUint` / `formatInt` (Model/Number.lean) — equal to `natDigits` / `intDigits`.
-/
import JsonV.Lemmas.EncInvCompose
import JsonV.Lemmas.GlueQuote
import JsonV.Lemmas.QuoteJString
import JsonV.Model.Number

namespace JsonV.Lemmas.EncInvInst
open JsonV JsonV.Spec.ValidJson JsonV.Spec.Grammar JsonV.Model.EncInv JsonV.Model.Quote

/-- AppendQuote (no HTML/JS escaping) always returns a string literal of the grammar — in the STRICT sense
(well-formed UTF-8, no unpaired surrogate), whatever bytes it was given (ill-formed input is replaced by U+FFFD;
whether an error is reported as well is `quote_error_iff` of C11). -/
theorem appendQuote_jstring (f : QFlags) (hh : f.html = false) (hj : f.js = false) (v : Bool) (s : Bytes) :
    JString v (appendQuote f s).1 :=
  JsonV.Lemmas.QuoteJString.appendQuote_is_jstring f v s

/-- the modelled AppendQuote as the `quote` of the fragment model -/
def realQuote (f : QFlags) (s : Bytes) : Bytes := (appendQuote f s).1

/-- Under the default name key (the text recovered by AppendUnquote) the key of a quoted Go string is that string
with each ill-formed byte replaced by U+FFFD (C11 `unquote_quote_lossy`) — so "distinct keys" is a condition on
the Go-side names alone. -/
theorem key_realQuote (f : QFlags) (n : Bytes) :
    (JsonV.Model.Quote.appendUnquote (realQuote f n)).1 = JsonV.Spec.StringSpec.lossy n :=
  congrArg Prod.fst (JsonV.Lemmas.QuoteMeaning.appendUnquote_meaning _ _ (JsonV.Lemmas.QuoteLiteral.appendQuote_literal f n))

theorem formatUint_eq (n : Nat) : JsonV.Model.Number.formatUint n = natDigits n :=
  (JsonV.Model.Time.natDigits_eq_formatUint n).symm.trans (JsonV.Lemmas.EncInvCompose.natDigits_eq_time n).symm

theorem formatInt_eq (i : Int) : JsonV.Model.Number.formatInt i = intDigits i := by
  unfold JsonV.Model.Number.formatInt intDigits
  split
  · rw [formatUint_eq]
  · rename_i h
    rw [formatUint_eq]
    have : i.natAbs = i.toNat := by omega
    rw [this]

end JsonV.Lemmas.EncInvInst
