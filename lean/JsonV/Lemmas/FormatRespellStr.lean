/-
ReformatString on one literal that is a string of the selected UTF-8 mode.  Without PreserveRawStrings the result is the
literal's text quoted again under the escape options (`respellStr_requote`; without an escape option that is the RFC 8785
spelling); under PreserveRawStrings it is the literal itself, or, with an escape option and strict UTF-8, what the escape loop
makes of the literal.  In each case it is again a string of that mode, has the same text, and is a fixed point:
`respellStr_spec`, for every option set but PreserveRawStrings together with an escape option and AllowInvalidUTF8.
From the theorems of slice C11 (Props/C11.lean, Lemmas/QuoteReformat.lean).
-/
import JsonV.Model.FormatStrict
import JsonV.Props.C11
import JsonV.Lemmas.GlueFormatStr

namespace JsonV.Fmt
open JsonV.Model JsonV.Model.Quote JsonV.Spec.Grammar JsonV.Spec.StringSpec

/-- the text of a literal (`AppendUnquote`); the same function as `Canon.unq` of Model/Canon.lean, under the name the
statements about `respellStr` use -/
def unqS (raw : Bytes) : Bytes := (appendUnquote raw).1

def FOpts.noEscape (o : FOpts) : Prop := o.html = false ∧ o.js = false

theorem consume_of_jstring {v : Bool} {raw : Bytes} (hj : JString v raw) :
    ∃ nc, consumeString v raw = (raw.length, Err.ok, nc) :=
  (JsonV.Props.C11.string_iff_quote raw v raw.length).mpr ⟨Nat.le_refl _, by simpa using hj⟩

theorem quote_spec (f : QFlags) (v : Bool) (raw : Bytes) :
    (Tok.str (appendQuote f (unqS raw)).1).valid = true ∧ JString v (appendQuote f (unqS raw)).1 ∧
    unqS (appendQuote f (unqS raw)).1 = unqS raw := by
  refine ⟨(str_valid_iff _).mpr (JsonV.Props.C11.quote_is_jstring f false _), JsonV.Props.C11.quote_is_jstring f v _, ?_⟩
  unfold unqS
  rw [JsonV.Props.C11.unquote_quote_lossy]
  exact JsonV.Lemmas.QuoteSpec.lossy_of_wellFormed _ (JsonV.Lemmas.QuoteWf.appendUnquote_wellFormed raw)

/-- every option set except PreserveRawStrings together with an escape option AND AllowInvalidUTF8 (the escape loop
over a raw literal that may contain ill-formed UTF-8) -/
def FOpts.respellable (o : FOpts) : Prop := o.noEscape ∨ o.preserve = false ∨ o.allowInvalidUTF8 = false

theorem respellStr_requote (o : FOpts) (hp : o.preserve = false) (raw : Bytes) (hj : JString (!o.allowInvalidUTF8) raw) :
    respellStr o raw = (appendQuote ⟨o.html, o.js, o.allowInvalidUTF8, false⟩ (unqS raw)).1 := by
  obtain ⟨nc, hc⟩ := consume_of_jstring hj
  unfold respellStr
  rw [hp, if_neg (by simp)]
  exact JsonV.Lemmas.QuoteReformat.reformatString_requote ⟨o.html, o.js, o.allowInvalidUTF8, false⟩ rfl raw nc hc

theorem respellStr_preserve (o : FOpts) (hp : o.preserve = true) (he : (o.html || o.js) = true)
    (hu : o.allowInvalidUTF8 = false) (raw : Bytes) (hj : JString true raw) :
    respellStr o raw = preserveLoop o.html o.js raw.length raw := by
  obtain ⟨nc, hc⟩ := consume_of_jstring hj
  have hne : (o.preserve && !o.html && !o.js) = false := by
    cases h1 : o.html <;> cases h2 : o.js <;> simp_all
  unfold respellStr
  rw [if_neg (by rw [hne]; simp)]
  simp only [reformatString, hu, Bool.not_false, hc, ne_eq, not_true_eq_false, he, if_false,
    Bool.not_true, Bool.false_and, Bool.false_eq_true, hp, if_true]

theorem preserve_spec (o : FOpts) (hp : o.preserve = true) (he : (o.html || o.js) = true)
    (hu : o.allowInvalidUTF8 = false) (raw : Bytes) (hj : JString true raw) :
    (Tok.str (respellStr o raw)).valid = true ∧ JString true (respellStr o raw) ∧
    unqS (respellStr o raw) = unqS raw ∧ respellStr o (respellStr o raw) = respellStr o raw := by
  obtain ⟨nc, hc⟩ := consume_of_jstring hj
  have e1 := respellStr_preserve o hp he hu raw hj
  have hq : JString true (preserveLoop o.html o.js raw.length raw) := JsonV.Props.C11.preserve_is_jstring _ _ raw _ nc hc
  rw [e1]
  refine ⟨(str_valid_iff _).mpr hq.mono, hq, ?_, ?_⟩
  · unfold unqS
    have := JsonV.Props.C11.preserve_unquote o.html o.js raw _ nc hc
    rw [List.take_length] at this
    rw [this]
  · rw [respellStr_preserve o hp he hu _ hq]
    have := JsonV.Props.C11.preserve_idem o.html o.js raw _ nc hc []
    rwa [List.append_nil] at this

theorem respellStr_spec (o : FOpts) (hR : o.respellable) (raw : Bytes) (hj : JString (!o.allowInvalidUTF8) raw) :
    (Tok.str (respellStr o raw)).valid = true ∧ JString (!o.allowInvalidUTF8) (respellStr o raw) ∧
    unqS (respellStr o raw) = unqS raw ∧ respellStr o (respellStr o raw) = respellStr o raw := by
  cases hp : o.preserve with
  | false =>
    obtain ⟨q1, q2, q3⟩ := quote_spec ⟨o.html, o.js, o.allowInvalidUTF8, false⟩ (!o.allowInvalidUTF8) raw
    rw [respellStr_requote o hp raw hj]
    exact ⟨q1, q2, q3, by rw [respellStr_requote o hp _ q2, q3]⟩
  | true =>
    by_cases hne : o.noEscape
    · have e : ∀ r, respellStr o r = r := by intro r; simp [respellStr, hp, hne.1, hne.2]
      rw [e, e]
      exact ⟨(str_valid_iff raw).mpr hj.mono, hj, rfl, rfl⟩
    · have he : (o.html || o.js) = true := by
        cases h1 : o.html <;> cases h2 : o.js <;> simp_all [FOpts.noEscape]
      have hu : o.allowInvalidUTF8 = false := by
        rcases hR with h | h | h
        · exact absurd h hne
        · rw [hp] at h; cases h
        · exact h
      rw [hu] at hj ⊢
      exact preserve_spec o hp he hu raw (by simpa using hj)

theorem reformatString_snd (f : QFlags) (raw : Bytes) (nc : Bool)
    (hc : consumeString (!f.allowInvalid) raw = (raw.length, Err.ok, nc)) :
    (reformatString f raw).2 = (raw.length, Err.ok) := by
  simp only [reformatString, hc, ne_eq, not_true_eq_false, if_false]
  split
  · rfl
  · split <;> rfl

theorem respellStr_meaning_strict (o : FOpts) (hu : o.allowInvalidUTF8 = false) (raw : Bytes) (hj : JString true raw) :
    unqS (respellStr o raw) = unqS raw := by
  unfold respellStr
  split
  · rfl
  · obtain ⟨nc, hc⟩ := consume_of_jstring hj
    have hs := reformatString_snd ⟨o.html, o.js, o.allowInvalidUTF8, o.preserve⟩ raw nc (by simpa [hu] using hc)
    have := JsonV.Props.C11.reformat_meaning_strict ⟨o.html, o.js, o.allowInvalidUTF8, o.preserve⟩ raw hu (by rw [hs])
    rw [hs] at this
    simpa [unqS] using this

end JsonV.Fmt
