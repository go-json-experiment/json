/-
The invariant of the breadth-first search of `makeStructFields`, at the granularity of one field.

History `hist P R s = P ++ R ++ s.queue`: entries already processed, entries of the current level still to
process (the head of `R` is the one being processed when `cur = some (qe, i)`, its fields `< i` are done),
and the entries queued for the next level.
-/
import JsonV.Lemmas.FieldsDecide

namespace JsonV.Lemmas.Fields
open JsonV JsonV.Model JsonV.Model.Fields JsonV.Spec.FieldRule

/-- Declaration `d` is field `i` of struct `sid`. -/
def FieldAt (g : Graph) (sid : StructId) (i : Nat) (d : FieldDecl) : Prop := (g.fieldsOf sid)[i]? = some d

/-- Field `i` of struct `sid` is an embedded struct `t` (for the model). -/
def Kid (g : Graph) (sid : StructId) (i : Nat) (t : StructId) : Prop := ∃ d, FieldAt g sid i d ∧ actOf d = .enqueue t
/-- Field `i` of struct `sid` is a member with options `o` (for the model). -/
def Member (g : Graph) (sid : StructId) (i : Nat) (o : FieldOpts) : Prop := ∃ d, FieldAt g sid i d ∧ actOf d = .field o

/-- Every entry met so far: processed, current level, queued. -/
def hist (P R : List QE) (s : St) : List QE := P ++ R ++ s.queue

/-- Field `j` of entry `e` has been handled. -/
def Done (P : List QE) (cur : Option (QE × Nat)) (e : QE) (j : Nat) : Prop :=
  e ∈ P ∨ ∃ i, cur = some (e, i) ∧ j < i

/-- The invariant of the search at level `k`, with `P` the processed entries, `R` the rest of the current level and `cur`
the entry and field being processed.  Suffixes: `W` a witness exists (a visiting entry of the type), `H` of every entry of the
history, `P` pairwise over the history, `S` sound (the converse of `memb`).
`depthP`, `depthR`, `depthQ`: the path lengths of processed, current and queued entries.  `seenW`, `seenH`: `seen` holds
exactly the types of the history, each with a visiting entry.  `firstW`, `firstP`: the visiting entry of a type comes first
among the entries of that type and is no deeper than any of them.  `kids`, `memb`: the embedded struct, resp. the member, of
every handled field of a visiting, resp. any, entry is in the history at the child's path, resp. in `all` with its options;
`allS`: every field in `all` is such a member.  `reach`: the path of an entry leads from the root to its type.  `curR`: the
current entry heads `R`. -/
structure Inv (g : Graph) (root : StructId) (k : Nat) (P R : List QE) (cur : Option (QE × Nat)) (s : St) : Prop where
  depthP : ∀ e ∈ P, e.index.length ≤ k
  depthR : ∀ e ∈ R, e.index.length = k
  depthQ : ∀ e ∈ s.queue, e.index.length = k + 1
  seenW : ∀ t, t ∈ s.seen → ∃ e0 ∈ hist P R s, e0.sid = t ∧ e0.visit = true
  seenH : ∀ e ∈ hist P R s, e.sid ∈ s.seen
  firstW : ∀ e ∈ hist P R s, e.visit = false →
    ∃ e0 ∈ hist P R s, e0.sid = e.sid ∧ e0.visit = true ∧ e0.index.length ≤ e.index.length
  firstP : (hist P R s).Pairwise (fun a b => b.visit = true → a.sid ≠ b.sid)
  kids : ∀ e j t, Done P cur e j → e.visit = true → Kid g e.sid j t →
    ∃ e' ∈ hist P R s, e'.sid = t ∧ e'.index = e.index ++ [j]
  reach : ∀ e ∈ hist P R s, Reach g root e.index e.sid
  memb : ∀ e j o, Done P cur e j → Member g e.sid j o → ∃ f ∈ s.all, f.index = e.index ++ [j] ∧ f.opts = o
  allS : ∀ f ∈ s.all, ∃ e j, Done P cur e j ∧ Member g e.sid j f.opts ∧ f.index = e.index ++ [j]
  curR : ∀ qe i, cur = some (qe, i) → ∃ R', R = qe :: R'

theorem Inv.orErr {g root k P R cur} {s : St} (h : Inv g root k P R cur s) (e : Option Err) :
    Inv g root k P R cur (s.orErr e) := by
  rw [orErr_eq]
  exact ⟨h.depthP, h.depthR, h.depthQ, h.seenW, h.seenH, h.firstW, h.firstP, h.kids, h.reach, h.memb, h.allS, h.curR⟩

theorem done_none {P : List QE} {e : QE} {j : Nat} : Done P none e j ↔ e ∈ P :=
  ⟨fun h => h.elim id (fun ⟨_, hc, _⟩ => nomatch hc), Or.inl⟩

theorem done_some {P : List QE} {qe e : QE} {i j : Nat} : Done P (some (qe, i)) e j ↔ e ∈ P ∨ (e = qe ∧ j < i) := by
  refine or_congr Iff.rfl ⟨?_, fun ⟨h1, h2⟩ => ⟨i, by rw [h1], h2⟩⟩
  rintro ⟨i', hc, hj⟩
  cases hc
  exact ⟨rfl, hj⟩

theorem done_succ {P : List QE} {qe : QE} {i : Nat} {e : QE} {j : Nat} (h : Done P (some (qe, i + 1)) e j) :
    Done P (some (qe, i)) e j ∨ (e = qe ∧ j = i) := by
  rw [done_some] at h ⊢
  rcases h with h | ⟨h1, h2⟩
  · exact Or.inl (Or.inl h)
  · by_cases hji : j = i
    · exact Or.inr ⟨h1, hji⟩
    · exact Or.inl (Or.inr ⟨h1, by omega⟩)

theorem done_mono {P : List QE} {qe : QE} {i : Nat} {e : QE} {j : Nat} (h : Done P (some (qe, i)) e j) :
    Done P (some (qe, i + 1)) e j := by
  rw [done_some] at h ⊢
  exact h.imp_right (fun ⟨h1, h2⟩ => ⟨h1, Nat.lt_succ_of_lt h2⟩)

theorem done_now {P : List QE} {qe : QE} {i : Nat} : Done P (some (qe, i + 1)) qe i :=
  done_some.mpr (Or.inr ⟨rfl, Nat.lt_succ_self i⟩)

theorem actOf_unique {g sid i d} {a : Action} (hf : FieldAt g sid i d) (h : ∃ d', FieldAt g sid i d' ∧ actOf d' = a) :
    actOf d = a := by
  obtain ⟨d', hf', ha⟩ := h
  cases hf.symm.trans hf'
  exact ha

end JsonV.Lemmas.Fields
