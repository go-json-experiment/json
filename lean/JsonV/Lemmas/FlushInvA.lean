/-
The shape invariant is kept by Flush and by both unwrite functions.
-/
import JsonV.Lemmas.FlushShape

namespace JsonV.Model.Flush
open JsonV

/-- Not a field: no field of `InvS` reads the index `fresh` (it only lets a statement name the freshness flag of `stepD`'s state
beside the encoder, as `Props.C07.shape_invariant` does), so any value of it may be put for any other. -/
theorem InvS.fresh {e : Enc} {f f' : Bool} (h : InvS e f) : InvS e f' :=
  ⟨h.bottom, h.parents, h.opened, h.named, h.stale, h.noOpen⟩

theorem unwriteEmptyBytes_of_zero {b : Bytes} (h : emptyLenR b.reverse = 0) : unwriteEmptyBytes b = some (b, false) := by
  simp [unwriteEmptyBytes, unwriteEmptyR, h]

theorem emptyLenR_of_unwrite_true {b r : Bytes} (h : unwriteEmptyBytes b = some (r, true)) :
    emptyLenR b.reverse ≠ 0 := by
  intro hz
  rw [unwriteEmptyBytes_of_zero hz] at h
  simp at h

theorem emptyLenR_buf_of_total {e : Enc} (h : emptyLenR e.total.reverse = 0) : emptyLenR e.buf.reverse = 0 := by
  apply emptyLenR_suffix_zero e.buf.reverse e.delivered.reverse
  simpa [Enc.total, List.reverse_append] using h

theorem avoid_of_unwrite {e : Enc} {pre : Bytes} (hn : e.last.needName = true) (hl : e.last.len > 0)
    (hu : unwriteEmptyBytes e.buf = some (pre, true)) : avoidFlush e = true :=
  avoidFlush_of_endsEmptyR hn (Nat.pos_iff_ne_zero.mp hl) (endsEmptyR_of_emptyLenR (emptyLenR_of_unwrite_true hu))

theorem half_ne_zero {n : Nat} (h0 : n > 0) (hk : n % 2 = 0) : n / 2 ≠ 0 := by omega

theorem invS_flush {e : Enc} {f : Bool} (h : InvS e f) (a : WAct) : InvS (flush e a) f := by
  cases hav : avoidFlush e
  · have hl0 : e.last.len ≠ 0 := by
      intro h0; rw [avoidFlush_of_len0 h0] at hav; cases hav
    have hnv : e.last.needValue = false := by
      cases hv : e.last.needValue
      · rfl
      · rw [avoidFlush_of_needValue hv] at hav; cases hav
    refine ⟨by simpa using h.bottom, by simpa using h.parents, ?_, ?_, ?_, ?_⟩
    · intro h0; rw [flush_last] at h0; exact absurd h0 hl0
    · intro hv; rw [flush_last] at hv; rw [hnv] at hv; cases hv
    · intro hn hl
      rw [flush_last] at hn hl
      rw [flush_last, flush_stack]
      have hst := stack_ne_nil_of_obj h.bottom (needName_isObj hn).1
      have hnl := flushNL_of_deep hst
      have htot : (flush e a).delivered ++ (flush e a).buf = e.delivered ++ e.buf := by
        have := flush_total e a
        rwa [hnl, List.append_nil] at this
      apply compat_of_zero
      rw [htot]
      apply Decidable.byContradiction
      intro hne
      obtain ⟨pre, hu, _⟩ := compat_step (h.stale hn hl) (half_ne_zero hl (needName_isObj hn).2) hne
      rw [avoid_of_unwrite hn hl hu] at hav; cases hav
    · intro hl
      rw [flush_last] at hl
      rw [flush_total]
      unfold flushNL
      split
      · simpa using h.noOpen hl
      · split
        · exact noOpenerEnd_append_last _ _ (by decide) (by decide)
        · simpa using h.noOpen hl
  · rw [flush_of_avoid hav]; exact h

theorem bottomIsObj_congr (f g : Frame) (s : List Frame) (h : f.isObj = g.isObj) :
    bottomIsObj f s = bottomIsObj g s := by
  cases s with
  | nil => simpa [bottomIsObj] using h
  | cons p r => rfl

theorem memberSep_prefix {pre sep : Bytes} (dl : Bytes) (h : MemberSep pre sep) : MemberSep (dl ++ pre) sep := by
  cases h with
  | comma => exact MemberSep.comma _
  | first pre' o h1 h2 h3 =>
    rw [← List.append_assoc]; exact MemberSep.first _ o h1 h2 h3

theorem compat_of_cshape {dl buf : Bytes} {len : Nat} {stack : List Frame} (hc : CShape dl len stack buf)
    (h0 : len > 0) (hk : len % 2 = 0) : Compat dl stack (len / 2) buf := by
  obtain ⟨b, val, rfl, hv, hp⟩ := hc
  obtain ⟨k, rfl⟩ : ∃ k, len = 2 * k + 2 := ⟨len / 2 - 1, by omega⟩
  obtain ⟨pre, sep, ws1, name, ws2, rfl, h1, h2, hn, hsep, hhead⟩ := pshape_member hp
  rw [show (2 * k + 2) / 2 = k + 1 by rw [← Nat.mul_succ, Nat.mul_div_cancel_left _ (by decide)]]
  intro _
  refine ⟨pre, unwriteEmptyBytes_member pre sep ws1 name ws2 val h2 h1 hn hsep hv, ?_, memberHead_before hhead⟩
  have := unwriteEmptyBytes_member (dl ++ pre) sep ws1 name ws2 val h2 h1 hn (memberSep_prefix dl hsep) hv
  simpa only [List.append_assoc] using this

theorem unwriteEmpty_noop {e : Enc}
    (hc : ¬(e.last.needName = true ∧ 0 < e.last.len ∧ emptyLenR e.total.reverse ≠ 0)) : (unwriteEmpty e).1 = e := by
  unfold unwriteEmpty
  split
  · rfl
  · rename_i hpre
    have hpre' : (e.last.isObj = true ∧ e.last.needName = true) ∧ ¬ e.last.len = 0 := by simpa using hpre
    have hz : emptyLenR e.total.reverse = 0 :=
      Decidable.byContradiction fun hz => hc ⟨hpre'.1.2, Nat.pos_of_ne_zero hpre'.2, hz⟩
    rw [unwriteEmptyBytes_of_zero (emptyLenR_buf_of_total hz)]

/-- Under the invariant UnwriteEmptyObjectMember removes from the buffer what it would remove from the whole stream: it never
needs bytes that were already delivered. -/
theorem unwriteEmpty_fires {e : Enc} {f : Bool} (h : InvS e f) (hn : e.last.needName = true) (hl : 0 < e.last.len)
    (hz : emptyLenR e.total.reverse ≠ 0) :
    ∃ pre, (unwriteEmpty e).1 = { e with buf := pre, last := ⟨true, e.last.len - 2⟩ } ∧
      unwriteEmptyBytes (e.delivered ++ e.buf) = some (e.delivered ++ pre, true) ∧
      (e.last.len / 2 = 1 → AShape e.delivered e.stack pre) ∧
      (e.last.len / 2 ≠ 1 → NoOpenerEnd (e.delivered ++ pre)) ∧
      Compat e.delivered e.stack (e.last.len / 2 - 1) pre := by
  obtain ⟨ho, hk⟩ := needName_isObj hn
  obtain ⟨pre, hu, hrest⟩ := compat_step (h.stale hn hl) (half_ne_zero hl hk) hz
  refine ⟨pre, ?_, hrest⟩
  have hpre : (!(e.last.isObj && e.last.needName && decide (e.last.len > 0))) = false := by simp [ho, hn, hl]
  simp only [unwriteEmpty, hpre, hu]
  rfl

theorem invS_unwriteEmpty {e : Enc} {f : Bool} (h : InvS e f) : InvS (unwriteEmpty e).1 false := by
  by_cases hc : e.last.needName = true ∧ 0 < e.last.len ∧ emptyLenR e.total.reverse ≠ 0
  · obtain ⟨hn, hl, hz⟩ := hc
    obtain ⟨ho, hk⟩ := needName_isObj hn
    obtain ⟨pre, hu, _, hA, hN, hC⟩ := unwriteEmpty_fires h hn hl hz
    rw [hu]
    refine ⟨?_, h.parents, ?_, ?_, ?_, ?_⟩
    · rw [← h.bottom]; exact bottomIsObj_congr _ _ _ ho.symm
    · intro (h0 : e.last.len - 2 = 0)
      exact hA (by omega)
    · intro hv
      have : (e.last.len - 2) % 2 = 1 := (needValue_isObj hv).2
      omega
    · intro _ _
      have : (e.last.len - 2) / 2 = e.last.len / 2 - 1 := by omega
      exact this ▸ hC
    · intro (hl2 : e.last.len - 2 > 0)
      exact hN (by omega)
  · rw [unwriteEmpty_noop hc]; exact h.fresh

theorem unwriteEmpty_sim {e₁ e₂ : Enc} {f₁ f₂ : Bool} (hs : Sim e₁ e₂) (h₁ : InvS e₁ f₁) (h₂ : InvS e₂ f₂) :
    Sim (unwriteEmpty e₁).1 (unwriteEmpty e₂).1 := by
  by_cases hc : e₁.last.needName = true ∧ 0 < e₁.last.len ∧ emptyLenR e₁.total.reverse ≠ 0
  · obtain ⟨pre₁, hu₁, ht₁, _⟩ := unwriteEmpty_fires h₁ hc.1 hc.2.1 hc.2.2
    rw [hs.last, hs.total] at hc
    obtain ⟨pre₂, hu₂, ht₂, _⟩ := unwriteEmpty_fires h₂ hc.1 hc.2.1 hc.2.2
    rw [hu₁, hu₂]
    have ht : e₁.delivered ++ e₁.buf = e₂.delivered ++ e₂.buf := hs.total
    rw [ht, ht₂] at ht₁
    have : e₂.delivered ++ pre₂ = e₁.delivered ++ pre₁ := by simpa using ht₁
    exact ⟨this.symm, by rw [hs.last], hs.stack, hs.omitNL⟩
  · rw [unwriteEmpty_noop hc]
    rw [hs.last, hs.total] at hc
    rw [unwriteEmpty_noop hc]
    exact hs

theorem unwriteName_of_vshape {dl buf : Bytes} {stack : List Frame} (hv : VShape dl 1 stack buf) :
    ∃ pre, unwriteNameBytes buf = pre ∧ unwriteNameBytes (dl ++ buf) = dl ++ pre ∧ AShape dl stack pre := by
  obtain ⟨pre, sep, ws1, name, hb, h1, hn, hsep, hfirst, _⟩ := hv
  obtain ⟨hs0, hA⟩ := hfirst rfl
  subst hs0
  cases hsep with
  | first pre' o ho hoc hob =>
    refine ⟨pre' ++ [o], ?_, ?_, hA⟩
    · rw [hb]; simpa using unwriteNameBytes_first pre' o ws1 name ho hob h1 hn
    · have := unwriteNameBytes_first (dl ++ pre') o ws1 name ho hob h1 hn
      rw [hb]; simpa [List.append_assoc] using this

theorem invS_unwriteName {e : Enc} {f : Bool} (h : InvS e f) : InvS (unwriteName e) false := by
  by_cases hc : e.last.isObj = true ∧ e.last.len = 1
  · obtain ⟨ho, hl⟩ := hc
    rw [unwriteName_first ho hl]
    have hv : e.last.needValue = true := by simp [Frame.needValue, ho, hl]
    have hvs := h.named hv
    rw [hl] at hvs
    obtain ⟨pre, hu, _, hA⟩ := unwriteName_of_vshape hvs
    refine ⟨?_, h.parents, ?_, by simp [Frame.needValue], by simp, by simp⟩
    · rw [← h.bottom]; exact bottomIsObj_congr _ _ _ (by simp [ho])
    · intro _; simpa [hu] using hA
  · rw [unwriteName_noop hc]; exact h.fresh

theorem unwriteName_sim {e₁ e₂ : Enc} {f : Bool} (hs : Sim e₁ e₂) (h₁ : InvS e₁ f) (h₂ : InvS e₂ f) :
    Sim (unwriteName e₁) (unwriteName e₂) := by
  by_cases hc : e₁.last.isObj = true ∧ e₁.last.len = 1
  · obtain ⟨ho, hl⟩ := hc
    rw [unwriteName_first ho hl, unwriteName_first (hs.last ▸ ho) (hs.last ▸ hl)]
    have hv : e₁.last.needValue = true := by simp [Frame.needValue, ho, hl]
    have hv1 := h₁.named hv
    have hv2 := h₂.named (hs.last ▸ hv)
    rw [← hs.last] at hv2
    rw [hl] at hv1 hv2
    obtain ⟨pre₁, hu₁, ht₁, _⟩ := unwriteName_of_vshape hv1
    obtain ⟨pre₂, hu₂, ht₂, _⟩ := unwriteName_of_vshape hv2
    have ht := hs.total
    simp only [Enc.total] at ht
    rw [ht, ht₂] at ht₁
    refine ⟨?_, rfl, hs.stack, hs.omitNL⟩
    simp only [Enc.total, hu₁, hu₂]
    exact ht₁.symm
  · rw [unwriteName_noop hc, unwriteName_noop (hs.last ▸ hc)]; exact hs

end JsonV.Model.Flush
