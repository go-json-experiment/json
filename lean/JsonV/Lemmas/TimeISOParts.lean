/-
ISO 8601 durations, part 2: the three components the writer emits (`unitPart` twice and `sPart`, which serve the proofs only:
the model and the oracle do not have them), and one parser step per component.
-/
import JsonV.Lemmas.TimeISO

namespace JsonV.Model.Time
open JsonV JsonV.Lemmas.NumDigits

/-- a whole-number component with designator `des`; absent when zero. -/
def unitPart (des : UInt8) (x : Nat) : Bytes := if x > 0 then natDigits x ++ [des] else []
/-- the seconds component `s[.fraction]S`; absent when seconds and nanoseconds are zero. -/
def sPart (s ns : Nat) : Bytes := if s > 0 ∨ ns > 0 then natDigits s ++ fracText 9 ns ++ [83] else []

theorem sPart_chars (s ns : Nat) : ∀ c ∈ sPart s ns, isDigit c = true ∨ c = cDot ∨ c = 83 := by
  intro c hc
  unfold sPart at hc
  split at hc
  · rcases List.mem_append.mp hc with h | h
    · rcases List.mem_append.mp h with h | h
      · exact Or.inl (natDigits_digits _ c h)
      · rcases fracText_shape 9 ns with e | ⟨ds, e, hds⟩
        · rw [e] at h; exact absurd h (List.not_mem_nil)
        · rw [e] at h
          rcases List.mem_cons.mp h with h | h
          · exact Or.inr (Or.inl h)
          · exact Or.inl (List.all_eq_true.mp hds c h)
    · exact Or.inr (Or.inr (List.mem_singleton.mp h))
  · exact absurd hc (List.not_mem_nil)

theorem unitPart_chars (des : UInt8) (x : Nat) : ∀ c ∈ unitPart des x, isDigit c = true ∨ c = des := by
  intro c hc
  unfold unitPart at hc
  split at hc
  · rcases List.mem_append.mp hc with h | h
    · exact Or.inl (natDigits_digits _ c h)
    · exact Or.inr (List.mem_singleton.mp h)
  · exact absurd hc (List.not_mem_nil)

theorem sPart_avoid (s ns : Nat) (a b : UInt8) (ha : a.toNat < 48 ∨ 57 < a.toNat) (hb : b.toNat < 48 ∨ 57 < b.toNat)
    (ha1 : cDot ≠ a) (ha2 : (83 : UInt8) ≠ a) (hb1 : cDot ≠ b) (hb2 : (83 : UInt8) ≠ b) :
    ∀ c ∈ sPart s ns, c ≠ a ∧ c ≠ b := by
  intro c hc
  rcases sPart_chars s ns c hc with h | h | h
  · exact ⟨digit_ne h ha, digit_ne h hb⟩
  · subst h; exact ⟨ha1, hb1⟩
  · subst h; exact ⟨ha2, hb2⟩

theorem ms_avoid_H (m s ns : Nat) : ∀ c ∈ unitPart 77 m ++ sPart s ns, c ≠ (72 : UInt8) ∧ c ≠ (104 : UInt8) := by
  intro c hc
  rcases List.mem_append.mp hc with h | h
  · rcases unitPart_chars 77 m c h with h | h
    · exact ⟨digit_ne h (by decide), digit_ne h (by decide)⟩
    · subst h; decide
  · exact sPart_avoid s ns 72 104 (by decide) (by decide) (by decide) (by decide) (by decide) (by decide) c h

theorem s_avoid_M (s ns : Nat) : ∀ c ∈ sPart s ns, c ≠ (77 : UInt8) ∧ c ≠ (109 : UInt8) :=
  sPart_avoid s ns 77 109 (by decide) (by decide) (by decide) (by decide) (by decide) (by decide)

theorem step_unit (ff : FloatFrac) (a x : Nat) (rest : Bytes) (hi lo : UInt8) (unit : Nat)
    (hhi : hi.toNat < 48 ∨ 57 < hi.toNat) (hlo : lo.toNat < 48 ∨ 57 < lo.toNat) (hunit : ¬ unit > hourNs)
    (habs : ∀ c ∈ rest, c ≠ hi ∧ c ≠ lo) (hsum : a + x * unit < U64) (hx : x < U64) :
    mayParseUnit ff (cleanSt a false) (unitPart hi x ++ rest) hi lo unit = (cleanSt (a + x * unit) false, rest) := by
  unfold unitPart
  by_cases hp : x > 0
  · rw [if_pos hp, List.append_assoc]
    exact mayParseUnit_whole ff a x rest hi lo unit hhi hlo hunit hsum hx
  · have h0 : x = 0 := by omega
    subst h0
    rw [if_neg hp, List.nil_append, mayParseUnit_absent ff _ rest hi lo unit habs]
    simp

theorem secondNs_pow : secondNs = 10 ^ 9 := by decide

theorem step_S (ff : FloatFrac) (a s ns : Nat) (hns : ns < 1000000000)
    (hsum : a + ns + s * secondNs < U64) (hx : s < U64) :
    ∃ sf, mayParseUnit ff (cleanSt a false) (sPart s ns) 83 115 secondNs = (cleanSt (a + ns + s * secondNs) sf, []) := by
  unfold sPart
  by_cases hp : s > 0 ∨ ns > 0
  · rw [if_pos hp]
    by_cases hn0 : ns = 0
    · subst hn0
      refine ⟨false, ?_⟩
      have e : fracText 9 0 = [] := by simp [fracText]
      rw [e, List.append_nil]
      have := mayParseUnit_whole ff a s [] 83 115 secondNs (by decide) (by decide) (by decide) (by omega) hx
      simpa using this
    · refine ⟨true, ?_⟩
      have hlt : ns < 10 ^ 9 := by rw [← secondNs_pow]; exact hns
      obtain ⟨hne, hall, hlen, hval⟩ := trimmed_pad_facts 9 ns (by omega) hlt
      have hpad : parsePaddedBase10 (trimRight (· = c0) (padDigits 9 ns)) secondNs = (ns, true) := by
        rw [secondNs_pow, parsePadded_digits 9 _ hall hlen, hval]
      have e : fracText 9 ns = cDot :: trimRight (· = c0) (padDigits 9 ns) := by simp [fracText, hn0]
      rw [e]
      exact mayParseUnit_secFrac ff a s ns _ [] hne hall hpad hsum hx
  · refine ⟨false, ?_⟩
    have hs0 : s = 0 := by omega
    have hn0 : ns = 0 := by omega
    subst hs0 hn0
    rw [if_neg hp, mayParseUnit_absent ff _ [] 83 115 secondNs (fun c hc => absurd hc (List.not_mem_nil))]
    simp

end JsonV.Model.Time
