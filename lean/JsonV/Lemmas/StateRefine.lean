/-
Refinement of the packed state machine (Model/State.lean) to the PDA spec (Spec/PDA.lean).  `smStep`/`smRun` dispatch a
token kind to the machine's operation; `abs` reads the machine as PDA frames; `Inv` (every entry `Clean`) is the invariant
under which one operation is one PDA step (`step_refines`; `step_cases` is the form its users take apart).
-/
import JsonV.Model.State
import JsonV.Spec.PDA
import JsonV.Lemmas.StateEntry

namespace JsonV.Lemmas.StateRefine
open JsonV.Model JsonV.Spec JsonV.Spec.PDA JsonV.Lemmas.StateEntry

/-- The machine operation that handles a token kind (WriteToken/ReadToken dispatch). -/
def smStep (max : Nat) (m : Machine) : Kind → Except SMErr Machine
  | .lit => m.appendLiteral
  | .str => m.appendString
  | .num => m.appendNumber
  | .beginObj => m.pushObject max
  | .endObj => m.popObject
  | .beginArr => m.pushArray max
  | .endArr => m.popArray

def smRun (max : Nat) : Machine → List Kind → Except SMErr Machine
  | m, [] => .ok m
  | m, k :: ks => match smStep max m k with
    | .ok m' => smRun max m' ks
    | .error e => .error e

/-- Abstraction of one packed entry. -/
def absE (e : Entry) : Frame := if e.isObject then .obj e.length else .arr e.length

/-- Abstraction of the machine: innermost frame first. -/
def abs (m : Machine) : Frames := absE m.last :: (m.stack.map absE).reverse

/-- An entry with both namespace bits clear and at most `b` elements. -/
def Clean (b : Nat) (e : Entry) : Prop := e.toNat / 2^61 % 4 = 0 ∧ e.toNat % 2^61 ≤ b

/-- What holds of a machine reached through the seven token operations in at most `b` steps: every entry has its namespace
bits clear and counts at most `b`, and at most `max` entries are stacked. -/
structure Inv (max b : Nat) (m : Machine) : Prop where
  last : Clean b m.last
  stack : ∀ e ∈ m.stack, Clean b e
  depth : m.stack.length ≤ max

theorem needName_abs (e : Entry) : (absE e).needName = e.needObjectName := by
  have h := lt64 e
  simp only [absE, needObjectName_eq, isObject_eq, length_eq]
  by_cases h1 : 2^63 ≤ e.toNat <;> simp [h1, Frame.needName] <;> omega

theorem needValue_abs (e : Entry) : (absE e).needValue = e.needObjectValue := by
  have h := lt64 e
  simp only [absE, needObjectValue_eq, isObject_eq, length_eq]
  by_cases h1 : 2^63 ≤ e.toNat <;> simp [h1, Frame.needValue] <;> omega

theorem count_abs (e : Entry) : (absE e).count = e.length := by
  simp only [absE]; split <;> rfl

theorem valid_of_clean {b : Nat} {e : Entry} (h : Clean b e) : e.isValidNamespace = true := by
  rw [isValidNamespace_eq]; have := h.1; simp; omega

theorem active_of_clean {b : Nat} {e : Entry} (h : Clean b e) : e.isActiveNamespace = true := by
  rw [isActiveNamespace_eq]; have := h.1; simp; omega

theorem clean_mono {b b' : Nat} {e : Entry} (h : Clean b e) (hb : b ≤ b') : Clean b' e :=
  ⟨h.1, Nat.le_trans h.2 hb⟩

theorem increment_clean {b : Nat} {e : Entry} (h : Clean b e) (hb : b + 1 < 2^61) :
    e.increment.toNat = e.toNat + 1 :=
  increment_toNat_of_lt e (by rw [length_eq]; have := h.2; omega)

theorem clean_increment {b : Nat} {e : Entry} (h : Clean b e) (hb : b + 1 < 2^61) :
    Clean (b + 1) e.increment := by
  unfold Clean
  rw [increment_clean h hb]
  obtain ⟨h1, h2⟩ := h
  omega

theorem abs_increment {b : Nat} {e : Entry} (h : Clean b e) (hb : b + 1 < 2^61) :
    absE e.increment = (absE e).bump := by
  have hinc := increment_clean h hb
  obtain ⟨h1, h2⟩ := h
  have hlen : (e.toNat + 1) % 2^61 = e.toNat % 2^61 + 1 := by omega
  simp only [absE, isObject_eq, length_eq, hinc, hlen]
  by_cases h3 : 2^63 ≤ e.toNat
  · rw [decide_eq_true h3, decide_eq_true (Nat.le_succ_of_le h3)]
    rfl
  · have : ¬ 2^63 ≤ e.toNat + 1 := by omega
    rw [decide_eq_false h3, decide_eq_false this]
    rfl

theorem clean_typeObject (b : Nat) : Clean b Entry.typeObject := by
  unfold Clean; rw [typeObject_toNat]; omega
theorem clean_typeArray (b : Nat) : Clean b Entry.typeArray := by
  unfold Clean; rw [typeArray_toNat]; omega
theorem abs_typeObject : absE Entry.typeObject = .obj 0 := by decide
theorem abs_typeArray : absE Entry.typeArray = .arr 0 := by decide

theorem absE_obj {e : Entry} (h : e.isObject = true) : absE e = .obj e.length := by simp [absE, h]
theorem absE_arr {e : Entry} (h : e.isObject = false) : absE e = .arr e.length := by simp [absE, h]

theorem abs_push (s : List Entry) (x y : Entry) :
    abs { stack := s ++ [x], last := y } = absE y :: absE x :: (s.map absE).reverse := by
  simp [abs]

theorem abs_cons (m : Machine) : abs m = absE m.last :: (m.stack.map absE).reverse := rfl

theorem inv_init (max : Nat) : Inv max 0 Machine.init :=
  ⟨clean_typeArray 0, (by intro e h; cases h), Nat.zero_le _⟩

theorem abs_init : abs Machine.init = PDA.init := by decide

/-- Result of one refinement step: success on both sides with related states, or failure on both. -/
def StepRel (max b : Nat) (m : Machine) (k : Kind) : Prop :=
  match smStep max m k with
  | .ok m' => step max (abs m) k = some (abs m') ∧ Inv max (b + 1) m'
  | .error _ => step max (abs m) k = none

theorem inv_bump_last {max b : Nat} {m : Machine} (h : Inv max b m) (hb : b + 1 < 2^61) :
    Inv max (b + 1) { m with last := m.last.increment } :=
  ⟨clean_increment h.last hb, fun e he => clean_mono (h.stack e he) (Nat.le_succ b), h.depth⟩

theorem refine_lit {max b : Nat} {m : Machine} (h : Inv max b m) (hb : b + 1 < 2^61) :
    match m.appendLiteral with
    | .ok m' => step max (abs m) .lit = some (abs m') ∧ Inv max (b + 1) m'
    | .error _ => step max (abs m) .lit = none := by
  unfold Machine.appendLiteral
  rw [valid_of_clean h.last]
  by_cases hn : m.last.needObjectName = true
  · simp [hn, step, abs_cons, needName_abs]
  · simp only [hn, Bool.not_true, Bool.false_eq_true, if_false]
    refine ⟨?_, inv_bump_last h hb⟩
    simp [step, abs_cons, needName_abs, hn, abs_increment h.last hb]

theorem refine_num {max b : Nat} {m : Machine} (h : Inv max b m) (hb : b + 1 < 2^61) :
    match m.appendNumber with
    | .ok m' => step max (abs m) .num = some (abs m') ∧ Inv max (b + 1) m'
    | .error _ => step max (abs m) .num = none := by
  have := refine_lit (max := max) h hb
  unfold Machine.appendNumber
  revert this
  cases m.appendLiteral <;> simp [step]

theorem refine_str {max b : Nat} {m : Machine} (h : Inv max b m) (hb : b + 1 < 2^61) :
    match m.appendString with
    | .ok m' => step max (abs m) .str = some (abs m') ∧ Inv max (b + 1) m'
    | .error _ => step max (abs m) .str = none := by
  unfold Machine.appendString
  rw [valid_of_clean h.last]
  simp only [Bool.not_true, Bool.false_eq_true, if_false]
  refine ⟨?_, inv_bump_last h hb⟩
  simp [step, abs_cons, abs_increment h.last hb]

theorem inv_push {max b : Nat} {m : Machine} (h : Inv max b m) (hb : b + 1 < 2^61)
    (hd : m.stack.length ≠ max) (y : Entry) (hy : Clean (b + 1) y) :
    Inv max (b + 1) { stack := m.stack ++ [m.last.increment], last := y } := by
  refine ⟨hy, ?_, ?_⟩
  · intro e he
    rcases List.mem_append.mp he with he | he
    · exact clean_mono (h.stack e he) (Nat.le_succ b)
    · rw [List.mem_singleton.mp he]; exact clean_increment h.last hb
  · have := h.depth; simp; omega

theorem refine_pushObj {max b : Nat} {m : Machine} (h : Inv max b m) (hb : b + 1 < 2^61) :
    match m.pushObject max with
    | .ok m' => step max (abs m) .beginObj = some (abs m') ∧ Inv max (b + 1) m'
    | .error _ => step max (abs m) .beginObj = none := by
  unfold Machine.pushObject
  rw [valid_of_clean h.last]
  have hd := h.depth
  by_cases hn : m.last.needObjectName = true
  · simp [hn, step, abs_cons, needName_abs]
  · by_cases hm : m.stack.length = max
    · simp [hn, hm, step, abs_cons, needName_abs]
    · simp only [hn, hm, Bool.not_true, Bool.false_eq_true, if_false]
      refine ⟨?_, inv_push h hb hm _ (clean_typeObject _)⟩
      have : m.stack.length < max := by omega
      simp [step, abs_cons, needName_abs, hn, this, abs_increment h.last hb, abs_typeObject]

theorem refine_pushArr {max b : Nat} {m : Machine} (h : Inv max b m) (hb : b + 1 < 2^61) :
    match m.pushArray max with
    | .ok m' => step max (abs m) .beginArr = some (abs m') ∧ Inv max (b + 1) m'
    | .error _ => step max (abs m) .beginArr = none := by
  unfold Machine.pushArray
  rw [valid_of_clean h.last]
  have hd := h.depth
  by_cases hn : m.last.needObjectName = true
  · simp [hn, step, abs_cons, needName_abs]
  · by_cases hm : m.stack.length = max
    · simp [hn, hm, step, abs_cons, needName_abs]
    · simp only [hn, hm, Bool.not_true, Bool.false_eq_true, if_false]
      refine ⟨?_, inv_push h hb hm _ (clean_typeArray _)⟩
      have : m.stack.length < max := by omega
      simp [step, abs_cons, needName_abs, hn, this, abs_increment h.last hb, abs_typeArray]

theorem inv_pop {max b : Nat} {L : List Entry} {x y : Entry}
    (h : Inv max b { stack := L ++ [x], last := y }) : Inv max (b + 1) { stack := L, last := x } := by
  refine ⟨clean_mono (h.stack x (by simp)) (Nat.le_succ b), ?_, ?_⟩
  · intro e he; exact clean_mono (h.stack e (by simp [he])) (Nat.le_succ b)
  · have := h.depth; simp at this; simp; omega

theorem refine_popObj {max b : Nat} {m : Machine} (h : Inv max b m) :
    match m.popObject with
    | .ok m' => step max (abs m) .endObj = some (abs m') ∧ Inv max (b + 1) m'
    | .error _ => step max (abs m) .endObj = none := by
  obtain ⟨s, l⟩ := m
  unfold Machine.popObject
  simp only
  rw [valid_of_clean h.last]
  by_cases ho : l.isObject = true
  · have hv : l.needObjectValue = decide (l.length % 2 = 1) := by
      rw [← needValue_abs, absE_obj ho]; rfl
    by_cases hp : l.length % 2 = 1
    · simp only [ho, hv, hp, Bool.not_true, Bool.false_eq_true, if_false, decide_true, if_true,
        abs_cons, absE_obj ho]
      generalize (List.map absE s).reverse = R
      cases R <;> simp [step, hp]
    · have hp0 : l.length % 2 = 0 := by omega
      rcases List.eq_nil_or_concat s with hs | ⟨L, x, hs⟩
      · subst hs; simp [ho, hv, hp, step, abs_cons, absE_obj ho]
      · rw [List.concat_eq_append] at hs; subst hs
        simp only [ho, hv, hp, Bool.not_true, Bool.false_eq_true, if_false, decide_false,
          List.getLast?_append, List.getLast?_singleton, Option.some_or, List.dropLast_concat]
        refine ⟨?_, inv_pop h⟩
        simp [step, abs_cons, absE_obj ho, hp0]
  · have ho' : l.isObject = false := by simpa using ho
    simp [ho', step, abs_cons, absE_arr ho']

theorem refine_popArr {max b : Nat} {m : Machine} (h : Inv max b m) :
    match m.popArray with
    | .ok m' => step max (abs m) .endArr = some (abs m') ∧ Inv max (b + 1) m'
    | .error _ => step max (abs m) .endArr = none := by
  obtain ⟨s, l⟩ := m
  unfold Machine.popArray
  simp only
  rw [valid_of_clean h.last, isArray_not]
  by_cases ho : l.isObject = true
  · simp [ho, step, abs_cons, absE_obj ho]
  · have ho' : l.isObject = false := by simpa using ho
    rcases List.eq_nil_or_concat s with hs | ⟨L, x, hs⟩
    · subst hs; simp [ho', step, abs_cons, absE_arr ho']
    · rw [List.concat_eq_append] at hs; subst hs
      simp only [ho', Bool.not_false, List.length_append, List.length_singleton, Nat.add_one_ne_zero,
        decide_false, Bool.or_false, Bool.not_true, Bool.false_eq_true, if_false,
        List.getLast?_append, List.getLast?_singleton, Option.some_or, List.dropLast_concat]
      refine ⟨?_, inv_pop h⟩
      simp [step, abs_cons, absE_arr ho']

theorem step_refines {max b : Nat} {m : Machine} (h : Inv max b m) (hb : b + 1 < 2^61) (k : Kind) :
    StepRel max b m k := by
  unfold StepRel
  cases k
  · exact refine_lit h hb
  · exact refine_str h hb
  · exact refine_num h hb
  · exact refine_pushObj h hb
  · exact refine_popObj h
  · exact refine_pushArr h hb
  · exact refine_popArr h

theorem step_cases {max b : Nat} {m : Machine} (h : Inv max b m) (hb : b + 1 < 2^61) (k : Kind) :
    (∃ m', smStep max m k = .ok m' ∧ step max (abs m) k = some (abs m') ∧ Inv max (b + 1) m') ∨
      ∃ e, smStep max m k = .error e ∧ step max (abs m) k = none := by
  have href := step_refines h hb k
  unfold StepRel at href
  cases hsm : smStep max m k with
  | ok m' => rw [hsm] at href; exact .inl ⟨m', rfl, href⟩
  | error e => rw [hsm] at href; exact .inr ⟨e, rfl, href⟩

end JsonV.Lemmas.StateRefine
