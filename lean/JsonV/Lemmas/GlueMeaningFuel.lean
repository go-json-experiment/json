/-
Fuel of the C03 spec parser: `2·len + 2` units always suffice; a successful parse does not depend on the fuel.
-/
import JsonV.Lemmas.GlueMeaningLex
import JsonV.Lemmas.GlueMeaningStr
import JsonV.Lemmas.MeaningParse

namespace JsonV.Lemmas.GlueMeaningFuel
open JsonV JsonV.Spec.Meaning JsonV.Spec.Grammar
open JsonV.Lemmas.GlueMeaningLex JsonV.Lemmas.GlueMeaningStr JsonV.Lemmas.MeaningParse

theorem lexStr_lt {r s rest : Bytes} (h : lexStr r = some (s, rest)) : rest.length < r.length := by
  obtain ⟨lit, ⟨body, _, hl⟩, hb⟩ := lexStr_spec h
  have := congrArg List.length hb
  rw [hl] at this
  simp at this; omega

theorem lexScalar_lt {b : Bytes} {t : MTree} {rest : Bytes} (h : lexScalar b = some (t, rest)) : rest.length < b.length := by
  have strip {p : Bytes} (hp : 0 < p.length) (hs : stripPrefix p b = some rest) : rest.length < b.length := by
    have := congrArg List.length (stripPrefix_eq hs)
    simp only [List.length_append] at this; omega
  rcases lexScalar_some h with ⟨r, s, rfl, hl, -⟩ | ⟨hs, -⟩ | ⟨hs, -⟩ | ⟨hs, -⟩ | ⟨l, hn, -⟩
  · have := lexStr_lt hl
    simp only [List.length_cons]; omega
  · exact strip (by decide) hs
  · exact strip (by decide) hs
  · exact strip (by decide) hs
  · obtain ⟨hb, hj⟩ := lexNum_spec hn
    obtain ⟨c, t, rfl, -⟩ := JNumber.head hj
    have := congrArg List.length hb
    simp only [List.length_append, List.length_cons] at this; omega

theorem skipWs_cons_len {b : Bytes} {c : UInt8} {r : Bytes} (h : skipWs b = c :: r) : r.length + 1 ≤ b.length := by
  have := skipWs_length_le b
  rw [h] at this; simpa using this

theorem fuel_succ {n m : Nat} (h : 2 * (n + 1) ≤ m) : ∃ m', m = m' + 1 ∧ 2 * n + 1 ≤ m' := ⟨m - 1, by omega, by omega⟩

theorem fuel_le {n k m : Nat} (hm : 2 * n + 1 ≤ m) (hk : k ≤ n) : 2 * k + 1 ≤ m := by omega

theorem fuel_lt {n k m : Nat} (hm : 2 * n ≤ m) (hk : k < n) : 2 * k + 1 ≤ m := by omega

/-- The three statements proved together by induction on the fuel of the given successful run. -/
def FuelOK (n : Nat) : Prop :=
  (∀ (b : Bytes) (t : MTree) (rest : Bytes), parseValue n b = some (t, rest) →
    rest.length < b.length ∧ ∀ m, 2 * b.length ≤ m → parseValue m b = some (t, rest)) ∧
  (∀ (b : Bytes) (ms : List (Bytes × MTree)) (rest : Bytes), parseMembers n b = some (ms, rest) →
    rest.length < b.length ∧ ∀ m, 2 * b.length ≤ m → parseMembers m b = some (ms, rest)) ∧
  (∀ (b : Bytes) (xs : List MTree) (rest : Bytes), parseElems n b = some (xs, rest) →
    rest.length < b.length ∧ ∀ m, 2 * b.length + 1 ≤ m → parseElems m b = some (xs, rest))

theorem value_fuel (n : Nat) (ih : FuelOK n) (b : Bytes) (t : MTree) (rest : Bytes) (h : parseValue (n+1) b = some (t, rest)) :
    rest.length < b.length ∧ ∀ m, 2 * b.length ≤ m → parseValue m b = some (t, rest) := by
  obtain ⟨_, ihM, ihE⟩ := ih
  rcases parseValue_succ_some h with ⟨r, rfl, hs, rfl⟩ | ⟨r, k', r', ms, rfl, hs, hk', hm, rfl⟩ | ⟨r, rfl, hs, rfl⟩ |
    ⟨r, k', r', xs, rfl, hs, hk', hm, rfl⟩ | ⟨k, r, rfl, h7, h5, hl⟩
  · refine ⟨Nat.lt_succ_of_le (Nat.le_of_succ_le (skipWs_cons_len hs)), fun m hm => ?_⟩
    obtain ⟨m', rfl, -⟩ := fuel_succ hm
    rw [parseValue_obj m' hs, if_pos rfl]
  · obtain ⟨hlt, hmono⟩ := ihM _ _ _ hm
    have hle : (k' :: r').length ≤ r.length := skipWs_cons_len hs
    refine ⟨Nat.lt_succ_of_le (Nat.le_trans (Nat.le_of_lt hlt) hle), fun m hm2 => ?_⟩
    obtain ⟨m', rfl, hm'⟩ := fuel_succ hm2
    rw [parseValue_obj m' hs, if_neg hk', hmono m' (Nat.le_of_succ_le (fuel_le hm' hle))]
    rfl
  · refine ⟨Nat.lt_succ_of_le (Nat.le_of_succ_le (skipWs_cons_len hs)), fun m hm => ?_⟩
    obtain ⟨m', rfl, -⟩ := fuel_succ hm
    rw [parseValue_arr m' hs, if_pos rfl]
  · obtain ⟨hlt, hmono⟩ := ihE _ _ _ hm
    have hle : (k' :: r').length ≤ r.length := skipWs_cons_len hs
    refine ⟨Nat.lt_succ_of_le (Nat.le_trans (Nat.le_of_lt hlt) hle), fun m hm2 => ?_⟩
    obtain ⟨m', rfl, hm'⟩ := fuel_succ hm2
    rw [parseValue_arr m' hs, if_neg hk', hmono m' (fuel_le hm' hle)]
    rfl
  · refine ⟨lexScalar_lt hl, fun m hm => ?_⟩
    obtain ⟨m', rfl, -⟩ := fuel_succ hm
    rw [parseValue_scalar m' r h7 h5]
    exact hl

theorem members_fuel (n : Nat) (ih : FuelOK n) (b : Bytes) (ms : List (Bytes × MTree)) (rest : Bytes)
    (h : parseMembers (n+1) b = some (ms, rest)) :
    rest.length < b.length ∧ ∀ m, 2 * b.length ≤ m → parseMembers m b = some (ms, rest) := by
  obtain ⟨ihV, ihM, _⟩ := ih
  obtain ⟨r, name, r1, r2, v, r3, k4, r4, rfl, hl, hs1, hv, hs3, hk⟩ := parseMembers_succ_some h
  obtain ⟨hvlt, hvmono⟩ := ihV _ _ _ hv
  -- where the value and what follows it start, counted from the opening quote of the name
  have hA : (skipWs r2).length ≤ r.length := by
    have := lexStr_lt hl; have := skipWs_cons_len hs1; have := skipWs_length_le r2; omega
  have hB : r4.length < (skipWs r2).length := by have := skipWs_cons_len hs3; omega
  have hC : (skipWs r4).length ≤ r.length := by have := skipWs_length_le r4; omega
  rcases hk with ⟨rfl, ms', hm, rfl⟩ | ⟨rfl, rfl, rfl⟩
  · obtain ⟨hmlt, hmmono⟩ := ihM _ _ _ hm
    refine ⟨Nat.lt_succ_of_le (Nat.le_trans (Nat.le_of_lt hmlt) hC), fun m hm2 => ?_⟩
    obtain ⟨m', rfl, hm'⟩ := fuel_succ hm2
    rw [parseMembers_member m' hl hs1 (hvmono m' (Nat.le_of_succ_le (fuel_le hm' hA))) hs3, if_pos rfl, hmmono m' (Nat.le_of_succ_le (fuel_le hm' hC))]
    rfl
  · refine ⟨Nat.lt_succ_of_le (Nat.le_trans (Nat.le_of_lt hB) hA), fun m hm2 => ?_⟩
    obtain ⟨m', rfl, hm'⟩ := fuel_succ hm2
    rw [parseMembers_member m' hl hs1 (hvmono m' (Nat.le_of_succ_le (fuel_le hm' hA))) hs3, if_neg (by decide), if_pos rfl]

theorem elems_fuel (n : Nat) (ih : FuelOK n) (b : Bytes) (xs : List MTree) (rest : Bytes)
    (h : parseElems (n+1) b = some (xs, rest)) :
    rest.length < b.length ∧ ∀ m, 2 * b.length + 1 ≤ m → parseElems m b = some (xs, rest) := by
  obtain ⟨ihV, _, ihE⟩ := ih
  obtain ⟨v, r3, k4, r4, hv, hs3, hk⟩ := parseElems_succ_some h
  obtain ⟨hvlt, hvmono⟩ := ihV _ _ _ hv
  have hB : r4.length < b.length := by have := skipWs_cons_len hs3; omega
  have hC : (skipWs r4).length < b.length := Nat.lt_of_le_of_lt (skipWs_length_le r4) hB
  rcases hk with ⟨rfl, xs', hm, rfl⟩ | ⟨rfl, rfl, rfl⟩
  · obtain ⟨hmlt, hmmono⟩ := ihE _ _ _ hm
    refine ⟨Nat.lt_trans hmlt hC, fun m hm2 => ?_⟩
    obtain ⟨m', rfl⟩ := Nat.exists_eq_add_one.mpr (Nat.lt_of_lt_of_le (Nat.succ_pos _) hm2)
    have hm' := Nat.le_of_succ_le_succ hm2
    rw [parseElems_elem m' (hvmono m' hm') hs3, if_pos rfl, hmmono m' (fuel_lt hm' hC)]
    rfl
  · refine ⟨hB, fun m hm2 => ?_⟩
    obtain ⟨m', rfl⟩ := Nat.exists_eq_add_one.mpr (Nat.lt_of_lt_of_le (Nat.succ_pos _) hm2)
    rw [parseElems_elem m' (hvmono m' (Nat.le_of_succ_le_succ hm2)) hs3, if_neg (by decide), if_pos rfl]

theorem fuelOK (n : Nat) : FuelOK n := by
  induction n with
  | zero => exact ⟨fun _ _ _ h => (by cases h), fun _ _ _ h => (by cases h), fun _ _ _ h => (by cases h)⟩
  | succ n ih => exact ⟨value_fuel n ih, members_fuel n ih, elems_fuel n ih⟩

/-- `parseTree` runs on `2·len + 2` units, which is such an `m`. -/
theorem parseTreeF_mono (n : Nat) (b : Bytes) (t : MTree) (h : parseTreeF n b = some t) (m : Nat) (hm : 2 * b.length ≤ m) :
    parseTreeF m b = some t := by
  obtain ⟨rest, hv, hws⟩ := parseTreeF_iff.mp h
  exact parseTreeF_iff.mpr ⟨rest, ((fuelOK n).1 _ _ _ hv).2 m (Nat.le_trans (Nat.mul_le_mul_left 2 (skipWs_length_le b)) hm), hws⟩

end JsonV.Lemmas.GlueMeaningFuel
