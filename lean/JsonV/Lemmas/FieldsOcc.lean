/-
From the final search invariant to the enumeration lemma: under `NoDupEmbed`, every candidate of the all-paths
rule is enumerated by the search, or dominated by an enumerated candidate with the same options at a strictly
smaller depth (`dominated`); and every enumerated field is a candidate of the rule (`enumerated_sound`).
The hypothesis `NoDupEmbed` is used exactly once, in `occ`.  With `finish` (FieldsFinish) this gives soundness
and completeness of the whole of `flatten` against the declarative rule (`search_sound`, `search_complete`,
`search_fallback`).
-/
import JsonV.Lemmas.FieldsInvRun
import JsonV.Lemmas.FieldsFuel
import JsonV.Lemmas.FieldsFinish

namespace JsonV.Lemmas.Fields
open JsonV JsonV.Model JsonV.Model.Fields JsonV.Spec.FieldRule

/-- What the invariant says when the search is over (empty frontier, empty queue). -/
structure Final (g : Graph) (root : StructId) (P : List QE) (all : List RField) : Prop where
  rootP : ({ sid := root, index := [], visit := true } : QE) ∈ P
  kids : ∀ e ∈ P, e.visit = true → ∀ j t, Kid g e.sid j t → ∃ e' ∈ P, e'.sid = t ∧ e'.index = e.index ++ [j]
  firstW : ∀ e ∈ P, e.visit = false → ∃ e0 ∈ P, e0.sid = e.sid ∧ e0.visit = true ∧ e0.index.length ≤ e.index.length
  firstP : P.Pairwise (fun a b => b.visit = true → a.sid ≠ b.sid)
  reach : ∀ e ∈ P, Reach g root e.index e.sid
  memb : ∀ e ∈ P, ∀ j o, Member g e.sid j o → ∃ f ∈ all, f.index = e.index ++ [j] ∧ f.opts = o
  allS : ∀ f ∈ all, ∃ e ∈ P, ∃ j, Member g e.sid j f.opts ∧ f.index = e.index ++ [j]
  good : ∀ e ∈ P, ∀ j d, FieldAt g e.sid j d → GoodDecl d
  allND : (all.map (·.index)).Nodup

/-- The same for the embedded fallbacks. -/
structure FinalFb (g : Graph) (P : List QE) (fbs : List RField) : Prop where
  fbS : ∀ f ∈ fbs, ∃ e ∈ P, ∃ j, Fb g e.sid j ∧ f.index = e.index ++ [j]
  fbC : ∀ e ∈ P, ∀ j, Fb g e.sid j → ∃ f ∈ fbs, f.index = e.index ++ [j]
  fbND : (fbs.map (·.index)).Nodup
  fbSorted : fbs.Pairwise (fun a b => a.depth ≤ b.depth)

theorem final_of_search {g : Graph} {root : StructId} (herr : (search g root).err = none) :
    ∃ P, Final g root P (search g root).all ∧ FinalFb g P (search g root).fbs := by
  obtain ⟨k, P, hroot, h3⟩ := Inv3.search (g := g) (root := root) herr
  have hq := search_queue_nil g root
  rw [hq] at h3
  have hh : hist P [] { (search g root) with queue := [] } = P := by simp [hist]
  obtain ⟨⟨-, -, -, -, -, fW, fP, kids, reach, memb, allS, -⟩, ⟨-, -, allND, -, good, fbS, fbC, fbND, fbSorted⟩⟩ := h3
  rw [hh] at fW fP kids reach
  exact ⟨P, ⟨hroot, fun e he hv j t => kids e j t (Or.inl he) hv, fW, fP, reach, fun e he j o => memb e j o (Or.inl he),
      fun f hf => let ⟨e, j, hd, r⟩ := allS f hf; ⟨e, done_none.mp hd, j, r⟩, fun e he j d => good e j d (Or.inl he), allND⟩,
    ⟨fun f hf => let ⟨e, j, hd, r⟩ := fbS f hf; ⟨e, done_none.mp hd, j, r⟩, fun e he j => fbC e j (Or.inl he), fbND, fbSorted⟩⟩

variable {g : Graph} {root : StructId} {P : List QE} {all : List RField}

theorem Final.visit_unique (h : Final g root P all) {e1 e2 : QE} (h1 : e1 ∈ P) (h2 : e2 ∈ P)
    (v1 : e1.visit = true) (v2 : e2.visit = true) (hs : e1.sid = e2.sid) : e1 = e2 := by
  rcases List.pairwise_mem h.firstP h1 h2 with he | hr | hr
  · exact he
  · exact absurd hs (hr v2)
  · exact absurd hs.symm (hr v1)

theorem Final.visiting (h : Final g root P all) {e : QE} (he : e ∈ P) :
    ∃ e0 ∈ P, e0.sid = e.sid ∧ e0.visit = true ∧ e0.index.length ≤ e.index.length := by
  cases hv : e.visit with
  | true => exact ⟨e, he, rfl, hv, Nat.le_refl _⟩
  | false => exact h.firstW e he hv

theorem path_step {a p : List Nat} (i : Nat) (h : a = p ∨ a.length < p.length) :
    a ++ [i] = p ++ [i] ∨ (a ++ [i]).length < (p ++ [i]).length := by
  rcases h with h | h
  · exact Or.inl (by rw [h])
  · exact Or.inr (by rw [List.length_append, List.length_append]; exact Nat.succ_lt_succ h)

/-- This is where `NoDupEmbed` is needed (known finding `dup-embed-kept`). -/
theorem Final.occ (hnd : NoDupEmbed g root) (h : Final g root P all) :
    ∀ (n : Nat) (p : List Nat) (s0 : StructId), p.length = n → Reach g root p s0 →
      ∃ e ∈ P, e.sid = s0 ∧ (e.index = p ∨ e.index.length < p.length) := by
  intro n
  induction n using Nat.strongRecOn with
  | _ n ih =>
    intro p s0 hn hr
    cases hr with
    | root => exact ⟨_, h.rootP, rfl, Or.inl rfl⟩
    | @step q s1 i d _ hrq hf hk =>
      have hqn : q.length < n := by rw [← hn]; simp
      obtain ⟨e, heP, hes, hei⟩ := ih q.length hqn q s1 rfl hrq
      have hkid : Kid g s1 i s0 := ⟨d, hf, ((h.good e heP i d (hes ▸ hf)).kind.1 s0).mpr hk⟩
      -- a visiting entry at path `q'` queues the child at `q' ++ [i]`
      have child : ∀ e0 ∈ P, e0.sid = s1 → e0.visit = true → (e0.index = q ∨ e0.index.length < q.length) →
          ∃ e' ∈ P, e'.sid = s0 ∧ (e'.index = q ++ [i] ∨ e'.index.length < (q ++ [i]).length) := by
        intro e0 he0 hs0 hv0 hi0
        obtain ⟨e', he', h1, h2⟩ := h.kids e0 he0 hv0 i s0 (hs0 ▸ hkid)
        exact ⟨e', he', h1, h2 ▸ path_step i hi0⟩
      obtain ⟨e0, he0P, he0s, he0v, he0d⟩ := h.visiting heP
      have he0s1 : e0.sid = s1 := he0s.trans hes
      by_cases hlt : e0.index.length < q.length
      · exact child e0 he0P he0s1 he0v (Or.inr hlt)
      · -- otherwise `e` sits at `q` and the visiting entry `e0` at the same depth, the minimal depth of `s1`
        have hlen : e0.index.length = q.length := by
          rcases hei with hei | hei
          · rw [hei] at he0d; omega
          · omega
        have hmin : ∀ r, Reach g root r s1 → e0.index.length ≤ r.length := by
          intro r hrr
          by_cases hrl : e0.index.length ≤ r.length
          · exact hrl
          · exfalso
            obtain ⟨e2, he2P, he2s, he2i⟩ := ih r.length (by omega) r s1 rfl hrr
            obtain ⟨e3, he3P, he3s, he3v, he3d⟩ := h.visiting he2P
            have : e3 = e0 := h.visit_unique he3P he0P he3v he0v ((he3s.trans he2s).trans he0s1.symm)
            rw [this] at he3d
            rcases he2i with h' | h'
            · rw [h'] at he3d; omega
            · omega
        exact child e0 he0P he0s1 he0v
          (Or.inl (hnd e0.index q s1 (he0s1 ▸ h.reach e0 he0P) hrq hlen hmin ⟨i, d, s0, hf, hk⟩))

theorem Final.dominated (hnd : NoDupEmbed g root) (h : Final g root P all)
    (c : Cand) (hc : IsCand g root c) :
    ∃ f ∈ all, f.opts = c.opts ∧ (f.index = c.index ∨ f.index.length < c.index.length) := by
  obtain ⟨p, s1, i, d, hr, hf, hk, hci⟩ := hc
  obtain ⟨e, heP, hes, hei⟩ := h.occ hnd p.length p s1 rfl hr
  have hm : Member g s1 i c.opts := ⟨d, hf, ((h.good e heP i d (hes ▸ hf)).kind.2.1 _).mpr hk⟩
  obtain ⟨f, hfa, hfi, hfo⟩ := h.memb e heP i c.opts (hes ▸ hm)
  exact ⟨f, hfa, hfo, hfi ▸ hci ▸ path_step i hei⟩

theorem Final.enumerated_sound (h : Final g root P all) (f : RField) (hf : f ∈ all) :
    IsCand g root ⟨f.index, f.opts⟩ := by
  obtain ⟨e, heP, j, ⟨d, hfd, ha⟩, hi⟩ := h.allS f hf
  exact ⟨e.index, e.sid, j, d, h.reach e heP, hfd, ((h.good e heP j d hfd).kind.2.1 _).mp ha, hi⟩

theorem Final.fb_sound (h : Final g root P all) {fbs : List RField} (hb : FinalFb g P fbs) (f : RField) (hf : f ∈ fbs) :
    IsFallback g root f.index := by
  obtain ⟨e, heP, j, ⟨d, hfd, ho⟩, hi⟩ := hb.fbS f hf
  exact ⟨e.index, e.sid, j, d, h.reach e heP, hfd, (h.good e heP j d hfd).kind.2.2.mp ho, hi⟩

theorem Final.fb_dominated (hnd : NoDupEmbed g root) (h : Final g root P all) {fbs : List RField} (hb : FinalFb g P fbs)
    (jx : List Nat) (hj : IsFallback g root jx) : ∃ f ∈ fbs, f.index = jx ∨ f.index.length < jx.length := by
  obtain ⟨p, s1, i, d, hr, hf, hk, hji⟩ := hj
  obtain ⟨e, heP, hes, hei⟩ := h.occ hnd p.length p s1 rfl hr
  have hfb : Fb g s1 i := ⟨d, hf, (h.good e heP i d (hes ▸ hf)).kind.2.2.mpr hk⟩
  obtain ⟨f, hfm, hfi⟩ := hb.fbC e heP i (hes ▸ hfb)
  exact ⟨f, hfm, hfi ▸ hji ▸ path_step i hei⟩

theorem mem_flatten_iff (g : Graph) (root : StructId) (ix : List Nat) (o : FieldOpts) :
    (∃ f ∈ (flatten g root).flattened, f.index = ix ∧ f.opts = o) ↔
    (∃ f0, WinnerIn (search g root).all f0 ∧ f0.index = ix ∧ f0.opts = o) := by
  have hp := finish_keys_perm (search g root)
  have hm : ∀ l : List RField, (∃ f ∈ l, f.index = ix ∧ f.opts = o) ↔ (ix, o) ∈ l.map (fun f => (f.index, f.opts)) := by
    intro l
    simp only [List.mem_map, Prod.mk.injEq]
  unfold flatten
  rw [hm, hp.mem_iff, ← hm]
  constructor
  · rintro ⟨f, hf, h1, h2⟩
    exact ⟨f, (mem_kept_iff _ (search_all_nodup g root) f).mp hf, h1, h2⟩
  · rintro ⟨f, hf, h1, h2⟩
    exact ⟨f, (mem_kept_iff _ (search_all_nodup g root) f).mpr hf, h1, h2⟩

theorem search_sound (g : Graph) (root : StructId) (herr : (flatten g root).err = none) (hnd : NoDupEmbed g root) :
    ∀ f ∈ (flatten g root).flattened, Winner (IsCand g root) ⟨f.index, f.opts⟩ := by
  obtain ⟨P, hF, _⟩ := final_of_search (g := g) (root := root) herr
  intro f hf
  obtain ⟨f0, ⟨hf0, hw⟩, hi0, ho0⟩ := (mem_flatten_iff g root f.index f.opts).mp ⟨f, hf, rfl, rfl⟩
  rw [← hi0, ← ho0]
  refine ⟨hF.enumerated_sound f0 hf0, ?_⟩
  intro x hx hxn hxne
  obtain ⟨x', hx', hxo, hxi⟩ := hF.dominated hnd x hx
  have hname : x'.name = f0.name := by
    show x'.opts.name = f0.opts.name
    rw [hxo]; exact hxn
  show Beats f0.index.length f0.opts.hasName x.index.length x.opts.hasName
  by_cases heq : x' = f0
  · rcases hxi with hxi | hxi
    · exfalso; apply hxne
      rw [← heq, hxo, hxi]
    · exact Or.inl (by rw [← heq]; exact hxi)
  · have hb := hw x' hx' hname heq
    unfold Beats RField.depth RField.hasName at hb
    rw [hxo] at hb
    rcases hxi with hxi | hxi
    · rw [hxi] at hb; exact hb
    · rcases hb with hb | ⟨hb, _⟩
      · exact Or.inl (by omega)
      · exact Or.inl (by omega)

theorem search_complete (g : Graph) (root : StructId) (herr : (flatten g root).err = none) (hnd : NoDupEmbed g root) :
    ∀ c, Winner (IsCand g root) c → ∃ f ∈ (flatten g root).flattened, f.index = c.index ∧ f.opts = c.opts := by
  obtain ⟨P, hF, _⟩ := final_of_search (g := g) (root := root) herr
  intro c ⟨hc, hw⟩
  obtain ⟨f0, hf0, ho0, hi0⟩ := hF.dominated hnd c hc
  have hi : f0.index = c.index := by
    rcases hi0 with hi0 | hi0
    · exact hi0
    · exfalso
      have hb := hw ⟨f0.index, f0.opts⟩ (hF.enumerated_sound f0 hf0) (by show f0.opts.name = c.opts.name; rw [ho0])
        (by intro h; rw [← h] at hi0; exact Nat.lt_irrefl _ hi0)
      unfold Beats Cand.depth at hb
      rcases hb with hb | ⟨hb, _⟩ <;> simp only at hb <;> omega
  apply (mem_flatten_iff g root c.index c.opts).mpr
  refine ⟨f0, ⟨hf0, ?_⟩, hi, ho0⟩
  intro x hx hxn hxne
  have hcx : (⟨x.index, x.opts⟩ : Cand) ≠ c := by
    intro h
    apply hxne
    have : x.index = f0.index := by rw [hi, ← h]
    exact List.nodup_map_inj (·.index) hF.allND hx hf0 this
  have hb := hw ⟨x.index, x.opts⟩ (hF.enumerated_sound x hx)
    (by show x.opts.name = c.opts.name; rw [← ho0]; exact hxn) hcx
  unfold Beats Cand.depth Cand.hasName at hb
  unfold Beats RField.depth RField.hasName
  rw [hi, ho0]
  exact hb

theorem search_fallback (g : Graph) (root : StructId) (herr : (flatten g root).err = none) (hnd : NoDupEmbed g root) :
    ∀ ix, ((∃ f, (flatten g root).fallback = some f ∧ f.index = ix) ↔ FallbackWinner g root ix) := by
  obtain ⟨P, hF, hB⟩ := final_of_search (g := g) (root := root) herr
  have hsel := finish_fallback_iff (search g root) hB.fbSorted
    (hB.fbND.of_map (·.index) (fun a b h e => h (e ▸ rfl)))
  intro ix
  constructor
  · rintro ⟨f, hf, rfl⟩
    obtain ⟨hf, hmin⟩ := (hsel f).mp hf
    refine ⟨hF.fb_sound hB f hf, fun jx hj hne => ?_⟩
    obtain ⟨f', hf', h'⟩ := hF.fb_dominated hnd hB jx hj
    by_cases e : f' = f
    · subst e
      exact h'.resolve_left (fun e => hne e.symm)
    · have := hmin f' hf' e
      unfold RField.depth at this
      rcases h' with h' | h'
      · rw [← h']; exact this
      · omega
  · rintro ⟨hix, hw⟩
    obtain ⟨f, hf, hfi⟩ := hF.fb_dominated hnd hB ix hix
    have hfi : f.index = ix := hfi.resolve_right fun hlt =>
      Nat.lt_asymm hlt (hw f.index (hF.fb_sound hB f hf) (fun e => Nat.lt_irrefl _ (e ▸ hlt)))
    refine ⟨f, (hsel f).mpr ⟨hf, fun x hx hne => ?_⟩, hfi⟩
    have hxi : x.index ≠ ix := fun e => hne (List.nodup_map_inj (·.index) hB.fbND hx hf (e.trans hfi.symm))
    have := hw x.index (hF.fb_sound hB x hx) hxi
    unfold RField.depth
    rw [hfi]
    exact this

end JsonV.Lemmas.Fields
