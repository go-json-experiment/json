/-
The strict string grammar of Spec/Grammar and the meaning relation of Spec/StringSpec describe the same bodies:
`JChars true b ↔ ∃ m, Unescapes b m`, production by production, with no scanner in between (`unescapes_of_jchars`,
`jchars_of_unescapes`); and the strict grammar is part of the lenient one (`jchars_mono`).
-/
import JsonV.Lemmas.WireString
import JsonV.Lemmas.QuoteLiteral

namespace JsonV.Lemmas.QuoteGrammar
open JsonV JsonV.Model.Utf8 JsonV.Model.Quote JsonV.Spec.StringSpec JsonV.Spec.Grammar
open JsonV.Lemmas.QuoteL JsonV.Lemmas.QuoteWf JsonV.Lemmas.QuoteMeaning JsonV.Lemmas.QuoteLiteral

theorem hex4_eq (a b c d : UInt8) : hex4 a b c d = hex4Spec a b c d := by
  rw [← parseHex_eq_hex4, ← WireStringHead.parseHex_eq, WireString.parseHex_eq]

theorem hex4_of_HexDigit (a b c d : UInt8) (ha : HexDigit a) (hb : HexDigit b) (hc : HexDigit c) (hd : HexDigit d) :
    hex4 a b c d = some (hex4Value a b c d) :=
  (hex4_eq a b c d).trans (hex4Spec_of ha hb hc hd)

theorem hexDigit_of_hex4 {a b c d : UInt8} {v : Nat} (h : hex4 a b c d = some v) :
    HexDigit a ∧ HexDigit b ∧ HexDigit c ∧ HexDigit d ∧ v = hex4Value a b c d :=
  hex4Spec_eq_some.mp ((hex4_eq a b c d).symm.trans h)

theorem unescapes_plain {x : UInt8} {rest m : Bytes} (h20 : 0x20 ≤ x.toNat) (h80 : x.toNat < runeSelf) (h22 : x ≠ 0x22)
    (h5c : x ≠ 0x5C) (hr : Unescapes rest m) : Unescapes (x :: rest) (x :: m) :=
  unescapes_seq (isSeq_ascii x h80) h20 (fun e => h22 (UInt8.toNat_inj.mp e)) (fun e => h5c (UInt8.toNat_inj.mp e)) hr

theorem unescapes_multi {p rest m : Bytes} (hp : Utf8Multi p) (hr : Unescapes rest m) : Unescapes (p ++ rest) (p ++ m) := by
  obtain ⟨hlen, hgt, b0, p', rfl, hb0⟩ := decodeRune_of_multi p [] hp
  rw [List.append_nil] at hlen
  have h1 : 1 < (decodeRune (b0 :: p')).2 := by rw [hlen]; exact hgt
  have hge := decodeRune_multi_ge (b0 :: p') h1
  have hs := isSeq_take b0 p' h1
  rw [hlen, List.take_length] at hs
  exact unescapes_seq hs (by omega) (by omega) (by omega) hr

theorem unescapes_of_jchar (c rest m : Bytes) (hc : JChar true c) (hr : Unescapes rest m) :
    ∃ u, Unescapes (c ++ rest) (u ++ m) := by
  cases hc with
  | plain x h1 h2 h3 h4 =>
    exact ⟨[x], unescapes_plain (by simpa [UInt8.le_iff_toNat_le] using h1)
      (by simpa [UInt8.lt_iff_toNat_lt, runeSelf] using h2) h3 h4 hr⟩
  | utf8 _ hp => exact ⟨_, unescapes_multi hp hr⟩
  | raw x h => cases h
  | esc x h =>
    obtain ⟨v, hv⟩ := WireString.simpleEscape_mem x h
    exact ⟨[v], Unescapes.simple hv hr⟩
  | uni a b c d ha hb hc hd hs =>
    exact ⟨_, Unescapes.unicode (hex4_of_HexDigit a b c d ha hb hc hd)
      (Bool.eq_false_iff.mpr fun h => hs rfl (isSurrogate_iff.mp h)) hr⟩
  | pair a b c d e f g h ha hb hc hd he hf hg hh hhi hlo =>
    exact ⟨_, Unescapes.pair (hex4_of_HexDigit a b c d ha hb hc hd) (hex4_of_HexDigit e f g h he hf hg hh)
      (isHighSurrogate_iff.mpr hhi) (isLowSurrogate_iff.mpr hlo) hr⟩

theorem unescapes_of_jchars (body : Bytes) (h : JChars true body) : ∃ m, Unescapes body m := by
  induction h with
  | nil => exact ⟨[], Unescapes.nil⟩
  | cons c r hc _ ih =>
    obtain ⟨m, hm⟩ := ih
    obtain ⟨u, hu⟩ := unescapes_of_jchar c r m hc hm
    exact ⟨_, hu⟩

theorem stringLiteral_of_jstring (lit : Bytes) (h : JString true lit) : ∃ m, StringLiteral lit m := by
  obtain ⟨body, hb, rfl⟩ := h
  obtain ⟨m, hm⟩ := unescapes_of_jchars body hb
  exact ⟨m, body, rfl, hm⟩

theorem jchars_of_unescapes {b m : Bytes} (h : Unescapes b m) : JChars true b := by
  induction h with
  | nil => exact .nil
  | @unescaped p rest m r hd hp hi h20 hq hb _ ih =>
    refine .cons _ _ ?_ ih
    rcases unescaped_cases hd hp hi with ⟨c, rfl, h0, rfl⟩ | ⟨c, p', rfl, h0, h1⟩
    · refine .plain c ?_ ?_ (fun e => hq (e ▸ rfl)) (fun e => hb (e ▸ rfl))
      · rw [UInt8.le_iff_toNat_le]; exact h20
      · rw [UInt8.lt_iff_toNat_lt]; exact h0
    · obtain ⟨-, -, hm⟩ := (decodeRune_lead c p' h0).resolve_left fun he => by simp [he] at h1
      rw [hd, List.take_length] at hm
      exact .utf8 _ hm
  | simple hm _ ih => exact .cons [0x5C, _] _ (.esc _ (WireString.simpleEscape_of_mem _ hm)) ih
  | @unicode a b c d v rest m h4 hs _ ih =>
    obtain ⟨ha, hb, hc, hd, rfl⟩ := hexDigit_of_hex4 h4
    exact .cons [0x5C, 0x75, a, b, c, d] _
      (.uni a b c d ha hb hc hd fun _ h => Bool.false_ne_true (hs.symm.trans (isSurrogate_iff.mpr h))) ih
  | @pair a b c d a' b' c' d' hi lo rest m h1 h2 hh hl _ ih =>
    obtain ⟨ha, hb, hc, hd, rfl⟩ := hexDigit_of_hex4 h1
    obtain ⟨ha', hb', hc', hd', rfl⟩ := hexDigit_of_hex4 h2
    exact .cons [0x5C, 0x75, a, b, c, d, 0x5C, 0x75, a', b', c', d'] _
      (.pair a b c d a' b' c' d' ha hb hc hd ha' hb' hc' hd' (isHighSurrogate_iff.mp hh) (isLowSurrogate_iff.mp hl)) ih

theorem jstring_of_unescapes {b m : Bytes} (h : Unescapes b m) : JString true (0x22 :: (b ++ [0x22])) :=
  ⟨b, jchars_of_unescapes h, rfl⟩

theorem jchars_mono {b : Bytes} (h : JChars true b) : ∀ v, JChars v b
  | true => h
  | false => h.mono

end JsonV.Lemmas.QuoteGrammar
