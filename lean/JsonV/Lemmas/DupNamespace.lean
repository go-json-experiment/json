/-
Lemmas about the `objectNamespace` model (C08): a well-formedness invariant that ties the map representation to
the list of names, preserved by `insert` (in both modes and across the switch) and by `removeLast`;
under it `insert` is "append unless present" and the representation is unobservable.
-/
import JsonV.Model.Namespace
import JsonV.Lemmas.Basics

namespace JsonV.Lemmas.Dup
open JsonV JsonV.Model JsonV.Model.Namespace

/-- `a :: l` is duplicate-free with all items in `P` iff `a` is in `P` and `l` is duplicate-free with all items in `Q`,
where `Q` is `P` without `a`. -/
theorem nodup_cons_forall {α : Type} {a : α} {l : List α} {P Q : α → Prop} (hQ : ∀ x, Q x ↔ x ≠ a ∧ P x) :
    ((a :: l).Nodup ∧ ∀ x ∈ a :: l, P x) ↔ P a ∧ (l.Nodup ∧ ∀ x ∈ l, Q x) := by
  simp only [List.nodup_cons, List.forall_mem_cons, hQ]
  constructor
  · rintro ⟨⟨hn, hnd⟩, ha, hall⟩
    exact ⟨ha, hnd, fun x hx => ⟨fun e => hn (e ▸ hx), hall x hx⟩⟩
  · rintro ⟨ha, hnd, hall⟩
    exact ⟨⟨fun hm => (hall a hm).1 rfl, hnd⟩, ha, fun x hx => (hall x hx).2⟩

theorem mem_setInsert (m : List Bytes) (x y : Bytes) : y ∈ setInsert m x ↔ y = x ∨ y ∈ m := by
  unfold setInsert
  split
  · rename_i h
    have hx : x ∈ m := List.contains_iff_mem.mp h
    constructor
    · intro hy; exact Or.inr hy
    · rintro (rfl | hy)
      · exact hx
      · exact hy
  · simp

theorem mem_foldl_setInsert (l : List Bytes) : ∀ (acc : List Bytes) (y : Bytes),
    y ∈ l.foldl setInsert acc ↔ y ∈ l ∨ y ∈ acc := by
  induction l with
  | nil => intro acc y; simp
  | cons a l ih =>
    intro acc y
    simp only [List.foldl_cons, ih, mem_setInsert, List.mem_cons]
    constructor
    · rintro (h | rfl | h)
      · exact Or.inl (Or.inr h)
      · exact Or.inl (Or.inl rfl)
      · exact Or.inr h
    · rintro ((rfl | h) | h)
      · exact Or.inr (Or.inl rfl)
      · exact Or.inl h
      · exact Or.inr (Or.inr h)

theorem mem_setDelete (m : List Bytes) (x y : Bytes) : y ∈ setDelete m x ↔ y ∈ m ∧ y ≠ x := by
  unfold setDelete
  simp [List.mem_filter]

/-- The representation invariant: names are pairwise distinct and, in map mode, the map holds exactly the names. -/
def WF (ns : Namespace) : Prop :=
  ns.names.Nodup ∧ ∀ m, ns.mapNames = some m → ∀ x, x ∈ m ↔ x ∈ ns.names

theorem wf_empty : WF Namespace.empty := by
  refine ⟨List.nodup_nil, ?_⟩
  intro m h; cases h

theorem maybeSwitch_names (ns : Namespace) : ns.maybeSwitch.names = ns.names := by
  unfold maybeSwitch; split <;> rfl

theorem wf_maybeSwitch (ns : Namespace) (h : WF ns) : WF ns.maybeSwitch := by
  unfold maybeSwitch
  split
  · refine ⟨h.1, ?_⟩
    intro m hm x
    simp only [Option.some.injEq] at hm
    subst hm
    simp [mem_foldl_setInsert]
  · exact h

theorem usesMap_maybeSwitch (ns : Namespace) :
    ns.maybeSwitch.usesMap = (ns.usesMap || decide (ns.length > nsCountThreshold) || decide (ns.totalBytes > nsBytesThreshold)) := by
  unfold maybeSwitch usesMap
  cases hm : ns.mapNames with
  | none =>
    by_cases h1 : ns.length > nsCountThreshold <;> by_cases h2 : ns.totalBytes > nsBytesThreshold <;> simp [h1, h2, hm]
  | some m => simp [hm]

/-- Both modes of `insert` test membership in a list `c` that holds exactly the names (the names themselves, or the
map) and, for a new name, return a namespace `new` with the name appended. -/
theorem insert_arm (ns new : Namespace) (c : List Bytes) (x : Bytes) (h : WF ns) (hc : ∀ y, y ∈ c ↔ y ∈ ns.names)
    (hn : new.names = ns.names ++ [x]) (hw : new.names.Nodup → WF new) :
    (if c.contains x then (ns, false) else (new, true)).2 = !decide (x ∈ ns.names) ∧
    (if c.contains x then (ns, false) else (new, true)).1.names = (if x ∈ ns.names then ns.names else ns.names ++ [x]) ∧
    WF (if c.contains x then (ns, false) else (new, true)).1 := by
  by_cases hx : x ∈ ns.names
  · rw [if_pos (List.contains_iff_mem.mpr ((hc x).mpr hx)), if_pos hx, decide_eq_true hx]
    exact ⟨rfl, rfl, h⟩
  · rw [if_neg (fun hcx => hx ((hc x).mp (List.contains_iff_mem.mp hcx))), if_neg hx, decide_eq_false hx]
    refine ⟨rfl, hn, hw ?_⟩
    rw [hn]
    exact List.nodup_concat h.1 hx

theorem insert_spec (ns : Namespace) (h : WF ns) (x : Bytes) :
    (ns.insert x).2 = !decide (x ∈ ns.names) ∧
    (ns.insert x).1.names = (if x ∈ ns.names then ns.names else ns.names ++ [x]) ∧
    WF (ns.insert x).1 := by
  have hs := wf_maybeSwitch ns h
  rw [← maybeSwitch_names ns]
  unfold Namespace.insert
  simp only []
  generalize ns.maybeSwitch = ns' at hs
  split
  · rename_i hm
    exact insert_arm ns' _ _ x hs (fun _ => Iff.rfl) rfl fun hnd => ⟨hnd, fun m hm' => by rw [hm] at hm'; cases hm'⟩
  · rename_i m hm
    refine insert_arm ns' _ m x hs (hs.2 m hm) rfl fun hnd => ⟨hnd, fun m' hm' y => ?_⟩
    cases hm'
    rw [mem_setInsert, hs.2 m hm, List.mem_append, List.mem_singleton]
    exact Or.comm

theorem usesMap_insert (ns : Namespace) (x : Bytes) :
    (ns.insert x).1.usesMap = (ns.usesMap || decide (ns.length > nsCountThreshold) || decide (ns.totalBytes > nsBytesThreshold)) := by
  rw [← usesMap_maybeSwitch]
  unfold Namespace.insert
  simp only []
  generalize ns.maybeSwitch = ns'
  split
  · rename_i hm; split <;> simp [usesMap, hm]
  · rename_i m hm; split <;> simp [usesMap, hm]

theorem removeLast_spec (ns : Namespace) (h : WF ns) :
    ns.removeLast.names = ns.names.dropLast ∧ WF ns.removeLast ∧ ns.removeLast.usesMap = ns.usesMap := by
  unfold Namespace.removeLast
  cases hl : ns.names.getLast? with
  | none =>
    have : ns.names = [] := List.getLast?_eq_none_iff.mp hl
    simp [this, h]
  | some last =>
    simp only [true_and]
    have hsplit : ns.names = ns.names.dropLast ++ [last] := by
      obtain ⟨ys, hys⟩ := List.getLast?_eq_some_iff.mp hl
      rw [hys, List.dropLast_concat]
    have hnd : (ns.names.dropLast ++ [last]).Nodup := by rw [← hsplit]; exact h.1
    rw [List.nodup_append] at hnd
    refine ⟨⟨hnd.1, ?_⟩, ?_⟩
    · intro m hm x
      cases hmm : ns.mapNames with
      | none => simp [hmm] at hm
      | some m0 =>
        simp only [hmm, Option.map_some, Option.some.injEq] at hm
        subst hm
        rw [mem_setDelete, h.2 m0 hmm x]
        constructor
        · rintro ⟨hx, hne⟩
          rw [hsplit, List.mem_append, List.mem_singleton] at hx
          rcases hx with hx | hx
          · exact hx
          · exact absurd hx hne
        · intro hx
          refine ⟨by rw [hsplit]; exact List.mem_append_left _ hx, ?_⟩
          intro e; subst e
          exact hnd.2.2 x hx x (List.mem_singleton.mpr rfl) rfl
    · unfold usesMap; cases ns.mapNames <;> rfl

/-- The reference semantics of a history: a plain list of names, no modes. -/
def specRun : List Bytes → List Op → List Bytes × List Bool
  | names, [] => (names, [])
  | names, .ins x :: ops =>
    let fresh := !decide (x ∈ names)
    let rest := specRun (if x ∈ names then names else names ++ [x]) ops
    (rest.1, fresh :: rest.2)
  | names, .rm :: ops => specRun names.dropLast ops
  | _, .reset :: ops => specRun [] ops

theorem run_spec (ops : List Op) : ∀ (ns : Namespace), WF ns →
    ((Namespace.run ns ops).1.names, (Namespace.run ns ops).2) = specRun ns.names ops ∧ WF (Namespace.run ns ops).1 := by
  induction ops with
  | nil => intro ns h; exact ⟨rfl, h⟩
  | cons op ops ih =>
    intro ns h
    cases op with
    | ins x =>
      obtain ⟨h1, h2, h3⟩ := insert_spec ns h x
      obtain ⟨ih1, ih2⟩ := ih (ns.insert x).1 h3
      refine ⟨?_, ih2⟩
      simp only [Namespace.run, specRun]
      rw [← h2, ← h1]
      have := congrArg Prod.fst ih1
      have := congrArg Prod.snd ih1
      simp_all
    | rm =>
      obtain ⟨h1, h2, _⟩ := removeLast_spec ns h
      obtain ⟨ih1, ih2⟩ := ih ns.removeLast h2
      refine ⟨?_, ih2⟩
      simp only [Namespace.run, specRun]
      rw [← h1]; exact ih1
    | reset =>
      obtain ⟨ih1, ih2⟩ := ih ns.reset wf_empty
      refine ⟨?_, ih2⟩
      simp only [Namespace.run, specRun]
      exact ih1

theorem specRun_all_iff (names : List Bytes) : ∀ (acc : List Bytes),
    (specRun acc (names.map Op.ins)).2.all id = true ↔ names.Nodup ∧ ∀ x ∈ names, x ∉ acc := by
  induction names with
  | nil => intro acc; simp [specRun]
  | cons a rest ih =>
    intro acc
    rw [nodup_cons_forall (Q := fun x => x ∉ acc ++ [a]) fun x => by
      rw [List.mem_append, List.mem_singleton]
      exact ⟨fun h => ⟨fun e => h (Or.inr e), fun e => h (Or.inl e)⟩, fun h e => e.elim h.2 h.1⟩]
    simp only [List.map_cons, specRun, List.all_cons, id, Bool.and_eq_true]
    by_cases ha : a ∈ acc
    · simp [ha]
    · simpa [ha] using ih (acc ++ [a])

end JsonV.Lemmas.Dup
