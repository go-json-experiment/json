/-
Facts about the UTF-8 model (`Model/Utf8.lean`), the trusted parameter of every slice that decodes or encodes runes.
Nothing outside this file unfolds `leadInfo`, `decodeRune`, `fullRune` or `encodeRune`: proofs go through table 3-7 in
the form of `leadInfo_exact`, through `Dec` (every result of `decodeRune` with its reason) and the equations
`decodeRune_ascii/two/three/four/short/illformed`, through `fullRune_eq_false_iff`, and through the two round trips.
-/
import JsonV.Model.Utf8
import JsonV.Lemmas.Basics

namespace JsonV.Model.Utf8

/-- Table 3-7 of the Unicode Standard, read off `leadInfo` branch by branch.  (The `if`s are peeled with
`by_cases`: `split` on eight nested `if`s is two orders of magnitude slower to elaborate.) -/
theorem leadInfo_exact {b sz lo hi : Nat} (h : leadInfo b = some (sz, lo, hi)) :
    (0xC2 ≤ b ∧ b ≤ 0xDF ∧ sz = 2 ∧ lo = 0x80 ∧ hi = 0xBF) ∨
    (b = 0xE0 ∧ sz = 3 ∧ lo = 0xA0 ∧ hi = 0xBF) ∨
    (0xE1 ≤ b ∧ b ≤ 0xEF ∧ b ≠ 0xED ∧ sz = 3 ∧ lo = 0x80 ∧ hi = 0xBF) ∨
    (b = 0xED ∧ sz = 3 ∧ lo = 0x80 ∧ hi = 0x9F) ∨
    (b = 0xF0 ∧ sz = 4 ∧ lo = 0x90 ∧ hi = 0xBF) ∨
    (0xF1 ≤ b ∧ b ≤ 0xF3 ∧ sz = 4 ∧ lo = 0x80 ∧ hi = 0xBF) ∨
    (b = 0xF4 ∧ sz = 4 ∧ lo = 0x80 ∧ hi = 0x8F) := by
  unfold leadInfo at h
  by_cases h1 : 0xC2 ≤ b ∧ b ≤ 0xDF
  · rw [if_pos h1] at h; cases h; exact .inl ⟨h1.1, h1.2, rfl, rfl, rfl⟩
  rw [if_neg h1] at h
  by_cases h2 : b = 0xE0
  · rw [if_pos h2] at h; cases h; exact .inr (.inl ⟨h2, rfl, rfl, rfl⟩)
  rw [if_neg h2] at h
  by_cases h3 : 0xE1 ≤ b ∧ b ≤ 0xEC
  · rw [if_pos h3] at h; cases h
    exact .inr (.inr (.inl ⟨h3.1, by omega, by omega, rfl, rfl, rfl⟩))
  rw [if_neg h3] at h
  by_cases h4 : b = 0xED
  · rw [if_pos h4] at h; cases h; exact .inr (.inr (.inr (.inl ⟨h4, rfl, rfl, rfl⟩)))
  rw [if_neg h4] at h
  by_cases h5 : 0xEE ≤ b ∧ b ≤ 0xEF
  · rw [if_pos h5] at h; cases h
    exact .inr (.inr (.inl ⟨by omega, h5.2, h4, rfl, rfl, rfl⟩))
  rw [if_neg h5] at h
  by_cases h6 : b = 0xF0
  · rw [if_pos h6] at h; cases h; exact .inr (.inr (.inr (.inr (.inl ⟨h6, rfl, rfl, rfl⟩))))
  rw [if_neg h6] at h
  by_cases h7 : 0xF1 ≤ b ∧ b ≤ 0xF3
  · rw [if_pos h7] at h; cases h
    exact .inr (.inr (.inr (.inr (.inr (.inl ⟨h7.1, h7.2, rfl, rfl, rfl⟩)))))
  rw [if_neg h7] at h
  by_cases h8 : b = 0xF4
  · rw [if_pos h8] at h; cases h
    exact .inr (.inr (.inr (.inr (.inr (.inr ⟨h8, rfl, rfl, rfl⟩)))))
  rw [if_neg h8] at h; cases h

theorem leadInfo_bounds {b sz lo hi : Nat} (h : leadInfo b = some (sz, lo, hi)) :
    0xC2 ≤ b ∧ b ≤ 0xF4 ∧ 0x80 ≤ lo ∧ hi ≤ 0xBF ∧ (sz = 2 ∨ sz = 3 ∨ sz = 4) := by
  rcases leadInfo_exact h with h | h | h | h | h | h | h <;> omega

theorem leadInfo_not_ascii {b sz lo hi : Nat} (h : leadInfo b = some (sz, lo, hi)) : ¬ b < runeSelf := by
  have := leadInfo_bounds h
  simp only [runeSelf]
  omega

theorem leadInfo_two {b : Nat} (h1 : 0xC2 ≤ b) (h2 : b ≤ 0xDF) : leadInfo b = some (2, 0x80, 0xBF) :=
  if_pos ⟨h1, h2⟩

theorem leadInfo_three {b : Nat} (h1 : 0xE1 ≤ b) (h2 : b ≤ 0xEF) (h3 : b ≠ 0xED) :
    leadInfo b = some (3, 0x80, 0xBF) := by
  unfold leadInfo
  rw [if_neg (by omega), if_neg (by omega)]
  by_cases h : b ≤ 0xEC
  · rw [if_pos ⟨h1, h⟩]
  · rw [if_neg (by omega), if_neg h3, if_pos (by omega)]

theorem leadInfo_four {b : Nat} (h1 : 0xF1 ≤ b) (h2 : b ≤ 0xF3) : leadInfo b = some (4, 0x80, 0xBF) := by
  unfold leadInfo
  rw [if_neg (by omega), if_neg (by omega), if_neg (by omega), if_neg (by omega), if_neg (by omega),
    if_neg (by omega), if_pos ⟨h1, h2⟩]

theorem leadInfo_none {b : Nat} (h : b < 0xC2 ∨ 0xF4 < b) : leadInfo b = none := by
  unfold leadInfo
  rw [if_neg (by omega), if_neg (by omega), if_neg (by omega), if_neg (by omega), if_neg (by omega),
    if_neg (by omega), if_neg (by omega), if_neg (by omega)]

theorem leadInfo_size2 {b lo hi : Nat} (h : leadInfo b = some (2, lo, hi)) :
    0xC2 ≤ b ∧ b ≤ 0xDF ∧ lo = 0x80 ∧ hi = 0xBF := by
  rcases leadInfo_exact h with h | h | h | h | h | h | h <;> omega

theorem leadInfo_size3 {b lo hi : Nat} (h : leadInfo b = some (3, lo, hi)) :
    0xE0 ≤ b ∧ b ≤ 0xEF ∧ 0x80 ≤ lo ∧ hi ≤ 0xBF ∧ (b = 0xE0 → lo = 0xA0) ∧ (b = 0xED → hi = 0x9F) := by
  rcases leadInfo_exact h with h | h | h | h | h | h | h <;> omega

theorem leadInfo_size4 {b lo hi : Nat} (h : leadInfo b = some (4, lo, hi)) :
    0xF0 ≤ b ∧ b ≤ 0xF4 ∧ 0x80 ≤ lo ∧ hi ≤ 0xBF ∧ (b = 0xF0 → lo = 0x90) ∧ (b = 0xF4 → hi = 0x8F) := by
  rcases leadInfo_exact h with h | h | h | h | h | h | h <;> omega

theorem isCont_iff {b : Nat} : isCont b = true ↔ 0x80 ≤ b ∧ b ≤ 0xBF := by
  simp only [isCont, Bool.and_eq_true, decide_eq_true_eq]

theorem decodeRune_ascii (c : UInt8) (t : Bytes) (h : c.toNat < runeSelf) : decodeRune (c :: t) = (c.toNat, 1) := by
  rw [decodeRune, if_pos h]

theorem decodeRune_two {b0 b1 : UInt8} {lo hi : Nat} (q : Bytes) (hl : leadInfo b0.toNat = some (2, lo, hi))
    (h1 : lo ≤ b1.toNat) (h2 : b1.toNat ≤ hi) :
    decodeRune (b0 :: b1 :: q) = (b0.toNat % 32 * 64 + b1.toNat % 64, 2) := by
  simp only [decodeRune, if_neg (leadInfo_not_ascii hl), hl]
  rw [if_neg (by omega), if_pos trivial]

theorem decodeRune_three {b0 b1 b2 : UInt8} {lo hi : Nat} (q : Bytes) (hl : leadInfo b0.toNat = some (3, lo, hi))
    (h1 : lo ≤ b1.toNat) (h2 : b1.toNat ≤ hi) (hc2 : isCont b2.toNat = true) :
    decodeRune (b0 :: b1 :: b2 :: q) = (b0.toNat % 16 * 4096 + b1.toNat % 64 * 64 + b2.toNat % 64, 3) := by
  simp only [decodeRune, if_neg (leadInfo_not_ascii hl), hl, hc2]
  rw [if_neg (by omega)]; rfl

theorem decodeRune_four {b0 b1 b2 b3 : UInt8} {lo hi : Nat} (q : Bytes) (hl : leadInfo b0.toNat = some (4, lo, hi))
    (h1 : lo ≤ b1.toNat) (h2 : b1.toNat ≤ hi) (hc2 : isCont b2.toNat = true) (hc3 : isCont b3.toNat = true) :
    decodeRune (b0 :: b1 :: b2 :: b3 :: q) =
      (b0.toNat % 8 * 262144 + b1.toNat % 64 * 4096 + b2.toNat % 64 * 64 + b3.toNat % 64, 4) := by
  simp only [decodeRune, if_neg (leadInfo_not_ascii hl), hl, hc2, hc3]
  rw [if_neg (by omega)]; rfl

theorem encodeRune_valid {r : Nat} (hv : r ≤ maxRune) (hs : ¬ (0xD800 ≤ r ∧ r ≤ 0xDFFF)) :
    encodeRune r =
      if r < 0x80 then [UInt8.ofNat r]
      else if r < 0x800 then [UInt8.ofNat (0xC0 + r / 64), UInt8.ofNat (0x80 + r % 64)]
      else if r < 0x10000 then
        [UInt8.ofNat (0xE0 + r / 4096), UInt8.ofNat (0x80 + (r / 64) % 64), UInt8.ofNat (0x80 + r % 64)]
      else
        [UInt8.ofNat (0xF0 + r / 262144), UInt8.ofNat (0x80 + (r / 4096) % 64),
         UInt8.ofNat (0x80 + (r / 64) % 64), UInt8.ofNat (0x80 + r % 64)] := by
  have h : ¬ (r > maxRune ∨ (0xD800 ≤ r ∧ r ≤ 0xDFFF)) := by omega
  simp only [encodeRune, if_neg h]

theorem encodeRune_ascii {r : Nat} (h : r < 0x80) : encodeRune r = [UInt8.ofNat r] := by
  rw [encodeRune_valid (by simp only [maxRune]; omega) (by omega), if_pos h]

/-- The bytes after a lead byte are what table 3-7 allows there: the first in the window `lo..hi` that `leadInfo`
gives, the others continuation bytes. -/
def Fits (lo hi : Nat) : Bytes → Prop
  | [] => True
  | b1 :: r => (lo ≤ b1.toNat ∧ b1.toNat ≤ hi) ∧ ∀ b ∈ r, isCont b.toNat = true

theorem Fits.of_append {lo hi : Nat} {u v : Bytes} (h : Fits lo hi (u ++ v)) : Fits lo hi u := by
  cases u with
  | nil => trivial
  | cons b r => exact ⟨h.1, fun x hx => h.2 x (List.mem_append_left v hx)⟩

theorem Fits.not_ascii {lo hi : Nat} {u : Bytes} {x : UInt8} (hlo : 0x80 ≤ lo) (hx : x.toNat < 0x80) :
    ¬ Fits lo hi (u ++ [x]) := by
  intro h
  cases u with
  | nil => have := h.1.1; omega
  | cons b r => have := isCont_iff.mp (h.2 x (by simp)); omega

/-- What `decodeRune` returns and why.  `short`: a lead byte followed by fewer bytes than it announces, all of them
fitting (`utf8.FullRune` is false exactly here); `illformed`: no lead byte, or the first byte that does not fit comes
before the announced size is reached. -/
inductive Dec : Bytes → Nat × Nat → Prop
  | nil : Dec [] (runeError, 0)
  | ascii {b0 : UInt8} {t : Bytes} : b0.toNat < runeSelf → Dec (b0 :: t) (b0.toNat, 1)
  | short {b0 : UInt8} {t : Bytes} {sz lo hi : Nat} : leadInfo b0.toNat = some (sz, lo, hi) → t.length + 1 < sz →
      Fits lo hi t → Dec (b0 :: t) (runeError, 1)
  | illformed {b0 : UInt8} {t : Bytes} : ¬ b0.toNat < runeSelf →
      (∀ sz lo hi, leadInfo b0.toNat = some (sz, lo, hi) →
        ∃ u b v, t = u ++ b :: v ∧ u.length + 1 < sz ∧ Fits lo hi u ∧ ¬ Fits lo hi (u ++ [b])) →
      Dec (b0 :: t) (runeError, 1)
  | two {b0 b1 : UInt8} {q : Bytes} {lo hi : Nat} : leadInfo b0.toNat = some (2, lo, hi) →
      lo ≤ b1.toNat → b1.toNat ≤ hi → Dec (b0 :: b1 :: q) (b0.toNat % 32 * 64 + b1.toNat % 64, 2)
  | three {b0 b1 b2 : UInt8} {q : Bytes} {lo hi : Nat} : leadInfo b0.toNat = some (3, lo, hi) →
      lo ≤ b1.toNat → b1.toNat ≤ hi → isCont b2.toNat = true →
      Dec (b0 :: b1 :: b2 :: q) (b0.toNat % 16 * 4096 + b1.toNat % 64 * 64 + b2.toNat % 64, 3)
  | four {b0 b1 b2 b3 : UInt8} {q : Bytes} {lo hi : Nat} : leadInfo b0.toNat = some (4, lo, hi) →
      lo ≤ b1.toNat → b1.toNat ≤ hi → isCont b2.toNat = true → isCont b3.toNat = true →
      Dec (b0 :: b1 :: b2 :: b3 :: q)
        (b0.toNat % 8 * 262144 + b1.toNat % 64 * 4096 + b2.toNat % 64 * 64 + b3.toNat % 64, 4)

theorem dec_sound (p : Bytes) : Dec p (decodeRune p) := by
  match p with
  | [] => exact .nil
  | b0 :: rest =>
    simp only [decodeRune]
    by_cases h0 : b0.toNat < runeSelf
    · rw [if_pos h0]; exact .ascii h0
    rw [if_neg h0]
    cases hl : leadInfo b0.toNat with
    | none => exact .illformed h0 (fun _ _ _ h => by rw [hl] at h; cases h)
    | some v =>
      obtain ⟨sz, lo, hi⟩ := v
      have hs := (leadInfo_bounds hl).2.2.2.2
      -- the first byte that does not fit, after the fitting bytes `u`
      have bad : ∀ (u : Bytes) (b : UInt8) (v : Bytes), rest = u ++ b :: v → u.length + 1 < sz → Fits lo hi u →
          ¬ Fits lo hi (u ++ [b]) → Dec (b0 :: rest) (runeError, 1) := fun u b v e hn hu hb =>
        .illformed h0 (fun _ _ _ h => by rw [hl] at h; cases h; exact ⟨u, b, v, e, hn, hu, hb⟩)
      match rest with
      | [] => exact .short hl (by simp; omega) trivial
      | b1 :: rest1 =>
        simp only
        by_cases h1 : b1.toNat < lo ∨ hi < b1.toNat
        · rw [if_pos h1]; exact bad [] b1 rest1 rfl (by simp; omega) trivial (by simp [Fits]; omega)
        rw [if_neg h1]
        have hw : lo ≤ b1.toNat ∧ b1.toNat ≤ hi := by omega
        by_cases h2 : sz = 2
        · subst h2; rw [if_pos rfl]; exact .two hl hw.1 hw.2
        rw [if_neg h2]
        match rest1 with
        | [] => exact .short hl (by simp; omega) (by simp [Fits, hw])
        | b2 :: rest2 =>
          simp only
          cases hc2 : isCont b2.toNat with
          | false => exact bad [b1] b2 rest2 rfl (by simp; omega) (by simp [Fits, hw]) (by simp [Fits, hc2])
          | true =>
            simp only [Bool.not_true, Bool.false_eq_true, if_false]
            by_cases h3 : sz = 3
            · subst h3; rw [if_pos rfl]; exact .three hl hw.1 hw.2 hc2
            rw [if_neg h3]
            obtain rfl : sz = 4 := by omega
            match rest2 with
            | [] => exact .short hl (by simp) (by simp [Fits, hw, hc2])
            | b3 :: rest3 =>
              simp only
              cases hc3 : isCont b3.toNat with
              | false =>
                exact bad [b1, b2] b3 rest3 rfl (by simp) (by simp [Fits, hw, hc2]) (by simp [Fits, hc2, hc3])
              | true => exact .four hl hw.1 hw.2 hc2 hc3

theorem decodeRune_short {b0 : UInt8} {t : Bytes} {sz lo hi : Nat} (hl : leadInfo b0.toNat = some (sz, lo, hi))
    (hn : t.length + 1 < sz) (hf : Fits lo hi t) : decodeRune (b0 :: t) = (runeError, 1) := by
  have hd := dec_sound (b0 :: t)
  generalize decodeRune (b0 :: t) = d at hd
  cases hd with
  | ascii h0 => exact absurd h0 (leadInfo_not_ascii hl)
  | short | illformed => rfl
  | two hl' | three hl' | four hl' =>
    rw [hl] at hl'
    cases hl'
    exact absurd hn (by simp)

theorem decodeRune_illformed {b0 : UInt8} {t : Bytes} (h0 : ¬ b0.toNat < runeSelf)
    (h : ∀ sz lo hi, leadInfo b0.toNat = some (sz, lo, hi) →
      ∃ u b v, t = u ++ b :: v ∧ u.length + 1 < sz ∧ Fits lo hi u ∧ ¬ Fits lo hi (u ++ [b])) :
    decodeRune (b0 :: t) = (runeError, 1) := by
  cases hl : leadInfo b0.toNat with
  | none => simp [decodeRune, h0, hl]
  | some w =>
    obtain ⟨sz, lo, hi⟩ := w
    obtain ⟨u, b, v, rfl, hn, hu, hb⟩ := h sz lo hi hl
    match u, hu with
    | [], _ =>
      have hw : b.toNat < lo ∨ hi < b.toNat := by simp [Fits] at hb; omega
      simp [decodeRune, h0, hl, hw]
    | [b1], hu =>
      have h2 : sz ≠ 2 := by simp at hn; omega
      have hw : ¬ (b1.toNat < lo ∨ hi < b1.toNat) := by have := hu.1; omega
      have hc : isCont b.toNat = false := by simpa [Fits, hu.1] using hb
      simp [decodeRune, h0, hl, hw, h2, hc]
    | [b1, b2], hu =>
      have h2 : sz ≠ 2 ∧ sz ≠ 3 := by simp at hn; omega
      have hw : ¬ (b1.toNat < lo ∨ hi < b1.toNat) := by have := hu.1; omega
      have hc2 : isCont b2.toNat = true := hu.2 b2 (by simp)
      have hc : isCont b.toNat = false := by simpa [Fits, hu.1, hc2] using hb
      simp [decodeRune, h0, hl, hw, h2, hc2, hc]
    | _ :: _ :: _ :: _, _ => have := (leadInfo_bounds hl).2.2.2.2; simp at hn; omega

theorem fullRune_of_lead {b0 : UInt8} {t : Bytes} {sz lo hi : Nat} (hl : leadInfo b0.toNat = some (sz, lo, hi)) :
    fullRune (b0 :: t) = false ↔ t.length + 1 < sz ∧ Fits lo hi t := by
  have hb := leadInfo_bounds hl
  have h0 := leadInfo_not_ascii hl
  match t with
  | [] => simp [fullRune, h0, hl, Fits]
  | [b1] => simp [fullRune, h0, hl, Fits]
  | b1 :: b2 :: r =>
    simp [fullRune, h0, hl, Fits]
    intro h
    obtain rfl : r = [] := List.eq_nil_of_length_eq_zero (by omega)
    simp

theorem fullRune_eq_false_iff {b0 : UInt8} {t : Bytes} :
    fullRune (b0 :: t) = false ↔ ∃ sz lo hi, leadInfo b0.toNat = some (sz, lo, hi) ∧ t.length + 1 < sz ∧ Fits lo hi t := by
  constructor
  · intro h
    cases hl : leadInfo b0.toNat with
    | none => simp [fullRune, hl] at h
    | some w => exact ⟨_, _, _, rfl, (fullRune_of_lead hl).mp h⟩
  · rintro ⟨sz, lo, hi, hl, h⟩
    exact (fullRune_of_lead hl).mpr h

theorem decodeRune_append_of_full (p e : Bytes) (h : fullRune p = true) : decodeRune (p ++ e) = decodeRune p := by
  have hd := dec_sound p
  generalize decodeRune p = d at hd
  cases hd with
  | nil => simp [fullRune] at h
  | ascii h0 => exact decodeRune_ascii _ _ h0
  | short hl hn hf => rw [(fullRune_of_lead hl).mpr ⟨hn, hf⟩] at h; cases h
  | illformed h0 hi =>
    refine decodeRune_illformed h0 fun sz lo hi' hl => ?_
    obtain ⟨u, b, v, rfl, hu⟩ := hi sz lo hi' hl
    exact ⟨u, b, v ++ e, by simp, hu⟩
  | two hl h1 h2 => exact decodeRune_two _ hl h1 h2
  | three hl h1 h2 hc2 => exact decodeRune_three _ hl h1 h2 hc2
  | four hl h1 h2 hc2 hc3 => exact decodeRune_four _ hl h1 h2 hc2 hc3

theorem fullRune_append (p e : Bytes) (h : fullRune p = true) : fullRune (p ++ e) = true := by
  match p with
  | [] => simp [fullRune] at h
  | b0 :: t =>
    cases hf : fullRune (b0 :: t ++ e) with
    | true => rfl
    | false =>
      obtain ⟨sz, lo, hi, hl, hn, hfit⟩ := fullRune_eq_false_iff.mp hf
      rw [(fullRune_of_lead hl).mpr ⟨by simp at hn; omega, hfit.of_append⟩] at h
      cases h

theorem decodeRune_of_not_full (c : UInt8) (r : Bytes) (h : fullRune (c :: r) = false) :
    decodeRune (c :: r) = (runeError, 1) := by
  obtain ⟨sz, lo, hi, hl, hn, hf⟩ := fullRune_eq_false_iff.mp h
  exact decodeRune_short hl hn hf

/-- An ASCII byte (say a closing quote) fits nowhere in a sequence, so a sequence that `p` cuts short is ill-formed with it as
without it. -/
theorem decodeRune_append_ascii (p q : Bytes) (x : UInt8) (hx : x.toNat < 0x80) (hp : p ≠ []) :
    decodeRune (p ++ x :: q) = decodeRune p := by
  cases hf : fullRune p with
  | true => exact decodeRune_append_of_full p _ hf
  | false =>
    match p, hp with
    | b0 :: t, _ =>
      obtain ⟨sz, lo, hi, hl, hn, hfit⟩ := fullRune_eq_false_iff.mp hf
      rw [decodeRune_short hl hn hfit]
      refine decodeRune_illformed (leadInfo_not_ascii hl) fun sz' lo' hi' hl' => ?_
      obtain ⟨rfl, rfl, rfl⟩ : sz = sz' ∧ lo = lo' ∧ hi = hi' := by rw [hl] at hl'; cases hl'; exact ⟨rfl, rfl, rfl⟩
      exact ⟨t, x, q, rfl, hn, hfit, Fits.not_ascii (leadInfo_bounds hl).2.2.1 hx⟩

theorem fullRune_append_ascii (p q : Bytes) (x : UInt8) (hx : x.toNat < 0x80) (hp : p ≠ []) :
    fullRune (p ++ x :: q) = true := by
  match p, hp with
  | b0 :: t, _ =>
    cases hf : fullRune (b0 :: t ++ x :: q) with
    | true => rfl
    | false =>
      obtain ⟨sz, lo, hi, hl, _, hfit⟩ := fullRune_eq_false_iff.mp hf
      have hfit : Fits lo hi ((t ++ [x]) ++ q) := by simpa using hfit
      exact absurd hfit.of_append (Fits.not_ascii (leadInfo_bounds hl).2.2.1 hx)

theorem fullRune_of_size_gt_one (p : Bytes) (h : (decodeRune p).2 > 1) : fullRune p = true := by
  cases p with
  | nil => exact absurd h (by decide)
  | cons c r =>
    cases hf : fullRune (c :: r) with
    | true => rfl
    | false => rw [decodeRune_of_not_full c r hf] at h; exact absurd h (by decide)

/-! The two round trips.  Table 3-7 is written once more, as a relation `Seq r bs` between a scalar value and its bytes in which
every byte is given by its payload bits, a digit.  `Seq.decode` and `Dec.seq` tie the digits to the table (`leadInfo`, linear
arithmetic about bytes), `Seq.spec` and `exists_seq` tie them to the value (division by 64, about variables). -/

theorem digit_mod {k m x : Nat} (h : x < m) (hk : k % m = 0) : (k + x) % m = x := by
  rw [Nat.add_mod, hk, Nat.zero_add, Nat.mod_mod, Nat.mod_eq_of_lt h]

theorem leadInfo_E {x y : Nat} (hx : x < 16) (hy : y < 64) (h0 : x = 0 → 0x20 ≤ y) (hD : x = 13 → y < 0x20) :
    ∃ lo hi, leadInfo (0xE0 + x) = some (3, lo, hi) ∧ lo ≤ 0x80 + y ∧ 0x80 + y ≤ hi := by
  by_cases k0 : x = 0
  · subst k0
    exact ⟨0xA0, 0xBF, by decide, by omega, by omega⟩
  by_cases k13 : x = 13
  · subst k13
    exact ⟨0x80, 0x9F, by decide, by omega, by omega⟩
  · exact ⟨_, _, leadInfo_three (by omega) (by omega) (by omega), by omega, by omega⟩

theorem leadInfo_F {x y : Nat} (hx : x ≤ 4) (hy : y < 64) (h0 : x = 0 → 0x10 ≤ y) (h4 : x = 4 → y < 0x10) :
    ∃ lo hi, leadInfo (0xF0 + x) = some (4, lo, hi) ∧ lo ≤ 0x80 + y ∧ 0x80 + y ≤ hi := by
  by_cases k0 : x = 0
  · subst k0
    exact ⟨0x90, 0xBF, by decide, by omega, by omega⟩
  by_cases k4 : x = 4
  · subst k4
    exact ⟨0x80, 0x8F, by decide, by omega, by omega⟩
  · exact ⟨_, _, leadInfo_four (by omega) (by omega), by omega, by omega⟩

theorem div64 {k d : Nat} (h : d < 64) : (k * 64 + d) / 64 = k := by
  rw [Nat.mul_comm, Nat.mul_add_div (by decide), Nat.div_eq_of_lt h]; rfl

theorem mod64 {k d : Nat} (h : d < 64) : (k * 64 + d) % 64 = d := by
  rw [Nat.mul_comm, Nat.mul_add_mod, Nat.mod_eq_of_lt h]

theorem exists_digit (r : Nat) : ∃ k d, d < 64 ∧ r = k * 64 + d :=
  ⟨r / 64, r % 64, Nat.mod_lt _ (by decide), (Nat.div_add_mod' r 64).symm⟩

theorem div4096 (r : Nat) : r / 4096 = r / 64 / 64 := (Nat.div_div_eq_div_mul r 64 64).symm

theorem div262144 (r : Nat) : r / 262144 = r / 64 / 64 / 64 := by
  rw [Nat.div_div_eq_div_mul, Nat.div_div_eq_div_mul]

theorem byte_digit {b : UInt8} {k : Nat} (h : k ≤ b.toNat) : ∃ x, b.toNat = k + x ∧ b = UInt8.ofNat (k + x) :=
  ⟨b.toNat - k, (Nat.add_sub_cancel' h).symm, by rw [Nat.add_sub_cancel' h, UInt8.ofNat_toNat]⟩

/-- `bs` is the well-formed sequence of the scalar value `r`: table 3-7 row by row, the payload bits of each byte as a digit. -/
inductive Seq : Nat → Bytes → Prop
  | one {r : Nat} : r < 0x80 → Seq r [UInt8.ofNat r]
  | two {x y : Nat} : 2 ≤ x ∧ x < 32 ∧ y < 64 → Seq (x * 64 + y) [UInt8.ofNat (0xC0 + x), UInt8.ofNat (0x80 + y)]
  | three {x y z : Nat} : x < 16 ∧ y < 64 ∧ z < 64 ∧ (x = 0 → 0x20 ≤ y) ∧ (x = 13 → y < 0x20) →
      Seq ((x * 64 + y) * 64 + z) [UInt8.ofNat (0xE0 + x), UInt8.ofNat (0x80 + y), UInt8.ofNat (0x80 + z)]
  | four {x y z w : Nat} : x ≤ 4 ∧ y < 64 ∧ z < 64 ∧ w < 64 ∧ (x = 0 → 0x10 ≤ y) ∧ (x = 4 → y < 0x10) →
      Seq (((x * 64 + y) * 64 + z) * 64 + w)
        [UInt8.ofNat (0xF0 + x), UInt8.ofNat (0x80 + y), UInt8.ofNat (0x80 + z), UInt8.ofNat (0x80 + w)]

theorem Seq.spec {r : Nat} {bs : Bytes} (h : Seq r bs) :
    (r ≤ maxRune ∧ ¬ (0xD800 ≤ r ∧ r ≤ 0xDFFF)) ∧ encodeRune r = bs := by
  simp only [maxRune]
  cases h with
  | one h => exact ⟨by omega, encodeRune_ascii h⟩
  | @two x y h =>
    have hr : ¬ x * 64 + y < 0x80 ∧ x * 64 + y < 0x800 := by omega
    have hv : x * 64 + y ≤ 0x10FFFF ∧ ¬ (0xD800 ≤ x * 64 + y ∧ x * 64 + y ≤ 0xDFFF) := by omega
    refine ⟨hv, ?_⟩
    rw [encodeRune_valid hv.1 hv.2, if_neg hr.1, if_pos hr.2, div64 h.2.2, mod64 h.2.2]
  | @three x y z h =>
    have hr : ¬ (x * 64 + y) * 64 + z < 0x80 ∧ ¬ (x * 64 + y) * 64 + z < 0x800 ∧ (x * 64 + y) * 64 + z < 0x10000 ∧
        ¬ (0xD800 ≤ (x * 64 + y) * 64 + z ∧ (x * 64 + y) * 64 + z ≤ 0xDFFF) := by omega
    have hv := Nat.le_trans (Nat.le_of_lt hr.2.2.1) (show 0x10000 ≤ 0x10FFFF by decide)
    refine ⟨⟨hv, hr.2.2.2⟩, ?_⟩
    rw [encodeRune_valid hv hr.2.2.2, if_neg hr.1, if_neg hr.2.1, if_pos hr.2.2.1, div4096, div64 h.2.2.1, mod64 h.2.2.1,
      div64 h.2.1, mod64 h.2.1]
  | @four x y z w h =>
    have hr : ¬ ((x * 64 + y) * 64 + z) * 64 + w < 0x10000 ∧ ((x * 64 + y) * 64 + z) * 64 + w ≤ 0x10FFFF := by omega
    have hn : ∀ n, n ≤ 0x10000 → ¬ ((x * 64 + y) * 64 + z) * 64 + w < n := fun n hn c =>
      hr.1 (Nat.lt_of_lt_of_le c hn)
    have hs : ¬ (0xD800 ≤ ((x * 64 + y) * 64 + z) * 64 + w ∧ ((x * 64 + y) * 64 + z) * 64 + w ≤ 0xDFFF) :=
      fun c => hn 0xE000 (by decide) (Nat.lt_succ_of_le c.2)
    refine ⟨⟨hr.2, hs⟩, ?_⟩
    rw [encodeRune_valid hr.2 hs, if_neg (hn _ (by decide)), if_neg (hn _ (by decide)), if_neg hr.1, div262144, div4096,
      div64 h.2.2.2.1, mod64 h.2.2.2.1, div64 h.2.2.1, mod64 h.2.2.1, div64 h.2.1, mod64 h.2.1]

theorem Seq.decode {r : Nat} {bs : Bytes} (h : Seq r bs) (q : Bytes) : decodeRune (bs ++ q) = (r, bs.length) := by
  cases h with
  | @one r h =>
    have e := UInt8.toNat_ofNat_lt (n := r) (by omega)
    exact (decodeRune_ascii _ q (e.symm ▸ h)).trans (by rw [e]; rfl)
  | @two x y h =>
    have e0 := UInt8.toNat_ofNat_lt (n := 0xC0 + x) (by omega)
    have e1 := UInt8.toNat_ofNat_lt (n := 0x80 + y) (by omega)
    have hl := leadInfo_two (b := 0xC0 + x) (by omega) (by omega)
    rw [← e0] at hl
    exact (decodeRune_two q hl (by omega) (by omega)).trans (by rw [e0, e1, digit_mod h.2.1 rfl, digit_mod h.2.2 rfl]; rfl)
  | @three x y z h =>
    obtain ⟨hx, hy, hz, h0, hD⟩ := h
    have e0 := UInt8.toNat_ofNat_lt (n := 0xE0 + x) (by omega)
    have e1 := UInt8.toNat_ofNat_lt (n := 0x80 + y) (by omega)
    have e2 := UInt8.toNat_ofNat_lt (n := 0x80 + z) (by omega)
    obtain ⟨lo, hi, hl, hlo, hhi⟩ := leadInfo_E hx hy h0 hD
    rw [← e0] at hl
    rw [← e1] at hlo hhi
    refine (decodeRune_three q hl hlo hhi (by rw [e2, isCont_iff]; omega)).trans ?_
    rw [e0, e1, e2, digit_mod hx rfl, digit_mod hy rfl, digit_mod hz rfl, Nat.add_mul, Nat.mul_assoc]; rfl
  | @four x y z w h =>
    obtain ⟨hx, hy, hz, hw, h0, h4⟩ := h
    have e0 := UInt8.toNat_ofNat_lt (n := 0xF0 + x) (by omega)
    have e1 := UInt8.toNat_ofNat_lt (n := 0x80 + y) (by omega)
    have e2 := UInt8.toNat_ofNat_lt (n := 0x80 + z) (by omega)
    have e3 := UInt8.toNat_ofNat_lt (n := 0x80 + w) (by omega)
    obtain ⟨lo, hi, hl, hlo, hhi⟩ := leadInfo_F hx hy h0 h4
    rw [← e0] at hl
    rw [← e1] at hlo hhi
    refine (decodeRune_four q hl hlo hhi (by rw [e2, isCont_iff]; omega) (by rw [e3, isCont_iff]; omega)).trans ?_
    rw [e0, e1, e2, e3, digit_mod (m := 8) (by omega) rfl, digit_mod hy rfl, digit_mod hz rfl, digit_mod hw rfl]
    simp only [Nat.add_mul, Nat.mul_assoc]; rfl

theorem exists_seq {r : Nat} (hv : r ≤ maxRune) (hs : ¬ (0xD800 ≤ r ∧ r ≤ 0xDFFF)) : ∃ bs, Seq r bs := by
  simp only [maxRune] at hv
  by_cases c1 : r < 0x80
  · exact ⟨_, .one c1⟩
  obtain ⟨k, w, hw, rfl⟩ := exists_digit r
  by_cases c2 : k * 64 + w < 0x800
  · exact ⟨_, .two (by omega)⟩
  obtain ⟨k, z, hz, rfl⟩ := exists_digit k
  by_cases c3 : (k * 64 + z) * 64 + w < 0x10000
  · exact ⟨_, .three (by omega)⟩
  obtain ⟨x, y, hy, rfl⟩ := exists_digit k
  exact ⟨_, .four (by omega)⟩

theorem Dec.seq {p : Bytes} {d : Nat × Nat} (hd : Dec p d) (hp : p ≠ [])
    (h : ¬ (d.1 = runeError ∧ d.2 = 1)) : ∃ r bs q, p = bs ++ q ∧ Seq r bs := by
  cases hd with
  | nil => exact absurd rfl hp
  | @ascii b0 t h0 => exact ⟨b0.toNat, [b0], t, rfl, by simpa using Seq.one h0⟩
  | short | illformed => exact absurd ⟨rfl, rfl⟩ h
  | @two b0 b1 q lo hi hl h1 h2 =>
    obtain ⟨hc, hc', rfl, rfl⟩ := leadInfo_size2 hl
    obtain ⟨x, ex, rfl⟩ := byte_digit (k := 0xC0) (b := b0) (Nat.le_trans (by decide) hc)
    obtain ⟨y, ey, rfl⟩ := byte_digit h1
    exact ⟨_, _, q, rfl, .two (x := x) (y := y) (by omega)⟩
  | @three b0 b1 b2 q lo hi hl h1 h2 hc2 =>
    have hs := leadInfo_size3 hl
    rw [isCont_iff] at hc2
    obtain ⟨x, ex, rfl⟩ := byte_digit hs.1
    obtain ⟨y, ey, rfl⟩ := byte_digit (Nat.le_trans hs.2.2.1 h1)
    obtain ⟨z, ez, rfl⟩ := byte_digit hc2.1
    exact ⟨_, _, q, rfl, .three (x := x) (y := y) (z := z) (by omega)⟩
  | @four b0 b1 b2 b3 q lo hi hl h1 h2 hc2 hc3 =>
    have hs := leadInfo_size4 hl
    rw [isCont_iff] at hc2 hc3
    obtain ⟨x, ex, rfl⟩ := byte_digit hs.1
    obtain ⟨y, ey, rfl⟩ := byte_digit (Nat.le_trans hs.2.2.1 h1)
    obtain ⟨z, ez, rfl⟩ := byte_digit hc2.1
    obtain ⟨w, ew, rfl⟩ := byte_digit hc3.1
    exact ⟨_, _, q, rfl, .four (x := x) (y := y) (z := z) (w := w) (by omega)⟩

theorem decodeRune_seq_take (c : UInt8) (t : Bytes)
    (h : ¬ ((decodeRune (c :: t)).1 = runeError ∧ (decodeRune (c :: t)).2 = 1)) :
    Seq (decodeRune (c :: t)).1 ((c :: t).take (decodeRune (c :: t)).2) := by
  obtain ⟨r, bs, q, e, hs⟩ := (dec_sound (c :: t)).seq (List.cons_ne_nil c t) h
  rw [e, hs.decode q, List.take_left]
  exact hs

theorem Seq.encode {r : Nat} (hv : r ≤ maxRune) (hs : ¬ (0xD800 ≤ r ∧ r ≤ 0xDFFF)) : Seq r (encodeRune r) := by
  obtain ⟨bs, h⟩ := exists_seq hv hs
  exact h.spec.2 ▸ h

theorem decodeRune_encodeRune (r : Nat) (q : Bytes) (hv : r ≤ maxRune) (hs : ¬ (0xD800 ≤ r ∧ r ≤ 0xDFFF)) :
    decodeRune (encodeRune r ++ q) = (r, (encodeRune r).length) := (Seq.encode hv hs).decode q

theorem encodeRune_decodeRune (c : UInt8) (t : Bytes)
    (h : ¬ ((decodeRune (c :: t)).1 = runeError ∧ (decodeRune (c :: t)).2 = 1)) :
    encodeRune (decodeRune (c :: t)).1 = (c :: t).take (decodeRune (c :: t)).2 := (decodeRune_seq_take c t h).spec.2

theorem decodeRune_scalar (c : UInt8) (t : Bytes)
    (h : ¬ ((decodeRune (c :: t)).1 = runeError ∧ (decodeRune (c :: t)).2 = 1)) :
    (decodeRune (c :: t)).1 ≤ maxRune ∧ ¬ (0xD800 ≤ (decodeRune (c :: t)).1 ∧ (decodeRune (c :: t)).1 ≤ 0xDFFF) :=
  (decodeRune_seq_take c t h).spec.1

theorem decodeRune_snd_pos (c : UInt8) (t : Bytes) : 1 ≤ (decodeRune (c :: t)).2 := by
  have hd := dec_sound (c :: t)
  generalize decodeRune (c :: t) = d at hd
  cases hd <;> simp

theorem decodeRune_le (p : Bytes) : (decodeRune p).2 ≤ p.length := by
  have hd := dec_sound p
  generalize decodeRune p = d at hd
  cases hd <;> simp

theorem take_decodeRune_length (p : Bytes) : (p.take (decodeRune p).2).length = (decodeRune p).2 := by
  rw [List.length_take]; exact Nat.min_eq_left (decodeRune_le p)

theorem decodeRune_high (c : UInt8) (t : Bytes) (h : ¬ c.toNat < runeSelf) :
    1 < (decodeRune (c :: t)).2 ∨ decodeRune (c :: t) = (runeError, 1) := by
  have hd := dec_sound (c :: t)
  generalize decodeRune (c :: t) = d at hd
  cases hd with
  | ascii h0 => exact absurd h0 h
  | short | illformed => exact .inr rfl
  | two | three | four => exact .inl (by simp)

theorem decodeRune_narrow (c : UInt8) (r : Bytes) (h : ¬ (decodeRune (c :: r)).2 > 1) :
    c.toNat < runeSelf ∧ decodeRune (c :: r) = (c.toNat, 1) ∨ decodeRune (c :: r) = (runeError, 1) := by
  by_cases h0 : c.toNat < runeSelf
  · exact .inl ⟨h0, decodeRune_ascii c r h0⟩
  · exact .inr ((decodeRune_high c r h0).resolve_left h)

theorem decodeRune_take_high (c : UInt8) (t : Bytes) (h : ¬ c.toNat < runeSelf) :
    ∀ b ∈ (c :: t).take (decodeRune (c :: t)).2, 0x80 ≤ b.toNat := by
  have hd := dec_sound (c :: t)
  have hc : 0x80 ≤ c.toNat := Nat.le_of_not_lt h
  generalize decodeRune (c :: t) = d at hd
  cases hd with
  | ascii h0 => exact absurd h0 h
  | short | illformed => simp [hc]
  | two hl h1 h2 => have := leadInfo_bounds hl; simp; omega
  | three hl h1 h2 hc2 => have := leadInfo_bounds hl; rw [isCont_iff] at hc2; simp; omega
  | four hl h1 h2 hc2 hc3 => have := leadInfo_bounds hl; rw [isCont_iff] at hc2 hc3; simp; omega

theorem decodeRune_take_append (p q : Bytes) (h : 1 < (decodeRune p).2) :
    decodeRune (p.take (decodeRune p).2 ++ q) = decodeRune p := by
  have hd := dec_sound p
  generalize decodeRune p = d at hd h
  cases hd with
  | nil | ascii | short | illformed => exact absurd h (by simp)
  | two hl h1 h2 => exact decodeRune_two q hl h1 h2
  | three hl h1 h2 hc2 => exact decodeRune_three q hl h1 h2 hc2
  | four hl h1 h2 hc2 hc3 => exact decodeRune_four q hl h1 h2 hc2 hc3

theorem decodeRune_take (c : UInt8) (t : Bytes) :
    decodeRune ((c :: t).take (decodeRune (c :: t)).2) = decodeRune (c :: t) := by
  by_cases hc : c.toNat < runeSelf
  · rw [decodeRune_ascii c t hc]; exact decodeRune_ascii c [] hc
  · rcases decodeRune_high c t hc with hm | hbad
    · simpa using decodeRune_take_append (c :: t) [] hm
    · rw [hbad]
      exact (decodeRune_high c [] hc).resolve_left fun h => absurd (decodeRune_le [c]) (Nat.not_le.mpr h)

theorem decodeRune_fffd (t : Bytes) : decodeRune (0xEF :: 0xBF :: 0xBD :: t) = (runeError, 3) :=
  decodeRune_three t (leadInfo_three (by decide) (by decide) (by decide)) (by decide) (by decide) (by decide)

theorem encodeRune_ne_nil (r : Nat) : encodeRune r ≠ [] := by
  unfold encodeRune
  simp only [apply_ite (· ≠ ([] : Bytes)), ne_eq, List.cons_ne_nil, not_false_eq_true, ite_self]

theorem encodeRune_invalid {r : Nat} (h : r > maxRune ∨ (0xD800 ≤ r ∧ r ≤ 0xDFFF)) : encodeRune r = [0xEF, 0xBF, 0xBD] := by
  simp only [encodeRune, h, ↓reduceIte]
  decide

/-- Decoding the bytes gives the rune back, so the first byte is not ASCII, and a multi-byte sequence consists of bytes ≥ 0x80. -/
theorem encodeRune_high (r : Nat) (h : 0x80 ≤ r) : ∀ c ∈ encodeRune r, 0x80 ≤ c.toNat := by
  by_cases hv : r > maxRune ∨ (0xD800 ≤ r ∧ r ≤ 0xDFFF)
  · rw [encodeRune_invalid hv]
    decide
  have hd := decodeRune_encodeRune r [] (by omega) (by omega)
  rw [List.append_nil] at hd
  match he : encodeRune r with
  | [] =>
    rw [he] at hd
    cases hd
    exact absurd he (by decide)
  | c :: t =>
    rw [he] at hd
    have h0 : ¬ c.toNat < runeSelf := fun h0 => by
      rw [decodeRune_ascii c t h0] at hd
      have hr : c.toNat = r := congrArg Prod.fst hd
      exact absurd (hr ▸ h0) (Nat.not_lt.mpr h)
    have ht := decodeRune_take_high c t h0
    rwa [hd, List.take_length] at ht

theorem decodeRune_multi_ge (p : Bytes) (h : 1 < (decodeRune p).2) : 0x80 ≤ (decodeRune p).1 := by
  cases p with
  | nil => exact absurd h (by decide)
  | cons c rest =>
    refine Nat.le_of_not_lt fun hlt => ?_
    have hlen := take_decodeRune_length (c :: rest)
    rw [← encodeRune_decodeRune c rest (by omega), encodeRune_ascii hlt] at hlen
    exact absurd hlen (by rw [List.length_singleton]; omega)

end JsonV.Model.Utf8
