/-
The string production of the meaning spec (`Spec/Meaning.lean`).  `utf8Char` is `utf8Len` of Spec/ValidJson with the bytes cut
off (`utf8Char_eq`), so what it accepts is read off JStringLDet; `strBody` by one equation per kind of step and one inversion; and
two sanity results for the spec itself (a literal without backslashes means its body; plain ASCII means itself).
-/
import JsonV.Spec.Meaning
import JsonV.Lemmas.JStringLDet

namespace JsonV.Lemmas.MeaningStr
open JsonV JsonV.Spec.Meaning JsonV.Spec.Grammar JsonV.Model
open JsonV.Spec.ValidJson (utf8Len inRange utf8Len_spec utf8Len_of_multi)

/-- Table 3-7 as `Utf8.leadInfo` encodes it, read by the lead-byte tests of `Spec.Meaning.utf8Char`. -/
theorem leadInfo_toNat : ∀ b0 : UInt8, Utf8.leadInfo b0.toNat =
    if b0 < 0xC2 then none
    else if b0 < 0xE0 then some (2, 0x80, 0xBF)
    else if b0 < 0xF0 then
      some (3, (if b0 = 0xE0 then (0xA0 : UInt8) else 0x80).toNat, (if b0 = 0xED then (0x9F : UInt8) else 0xBF).toNat)
    else if b0 < 0xF5 then
      some (4, (if b0 = 0xF0 then (0x90 : UInt8) else 0x80).toNat, (if b0 = 0xF4 then (0x8F : UInt8) else 0xBF).toNat)
    else none := by
  apply forall_u8; decide +kernel

theorem inRange_u8 (b lo hi : UInt8) : inRange b lo.toNat hi.toNat = (decide (lo ≤ b) && decide (b ≤ hi)) := by
  simp [inRange, UInt8.le_iff_toNat_le]

theorem inRange_cont (b : UInt8) : inRange b 0x80 0xBF = Spec.Meaning.isCont b := inRange_u8 b 0x80 0xBF

theorem utf8Char_eq (c : UInt8) (r : Bytes) :
    utf8Char (c :: r) = if c < 0x80 then some ([c], r) else (utf8Len c r).map fun n => (c :: r.take n, r.drop n) := by
  unfold utf8Char
  dsimp only
  by_cases h80 : c < 0x80
  · rw [if_pos h80, if_pos h80]
  rw [if_neg h80, if_neg h80, utf8Len, leadInfo_toNat]
  by_cases hc2 : c < 0xC2
  · rw [if_pos hc2, if_pos hc2]; rfl
  rw [if_neg hc2, if_neg hc2]
  by_cases he0 : c < 0xE0
  · rw [if_pos he0, if_pos he0]
    rcases r with _ | ⟨b1, r1⟩
    · rfl
    · dsimp only
      rw [inRange_cont]
      cases Spec.Meaning.isCont b1 <;> rfl
  rw [if_neg he0, if_neg he0]
  by_cases hf0 : c < 0xF0
  · rw [if_pos hf0, if_pos hf0]
    rcases r with _ | ⟨b1, _ | ⟨b2, r2⟩⟩
    · rfl
    · dsimp only; cases inRange b1 _ _ <;> rfl
    · dsimp only
      rw [inRange_u8, inRange_cont]
      cases (decide (_ ≤ b1) && decide (b1 ≤ _)) <;> cases Spec.Meaning.isCont b2 <;> rfl
  rw [if_neg hf0, if_neg hf0]
  by_cases hf5 : c < 0xF5
  · rw [if_pos hf5, if_pos hf5]
    rcases r with _ | ⟨b1, _ | ⟨b2, _ | ⟨b3, r3⟩⟩⟩
    · rfl
    · dsimp only; cases inRange b1 _ _ <;> rfl
    · dsimp only; cases inRange b1 _ _ <;> cases inRange b2 _ _ <;> rfl
    · dsimp only
      rw [inRange_u8, inRange_cont, inRange_cont]
      cases (decide (_ ≤ b1) && decide (b1 ≤ _)) <;> cases Spec.Meaning.isCont b2 <;> cases Spec.Meaning.isCont b3 <;> rfl
  · rw [if_neg hf5, if_neg hf5]; rfl

theorem utf8Char_cons {c : UInt8} {r u r' : Bytes} (h : utf8Char (c :: r) = some (u, r')) :
    c :: r = u ++ r' ∧ ((u = [c] ∧ c < 0x80) ∨ Utf8Multi u) := by
  rw [utf8Char_eq] at h
  by_cases h80 : c < 0x80
  · rw [if_pos h80] at h; cases h; exact ⟨rfl, .inl ⟨rfl, h80⟩⟩
  · rw [if_neg h80] at h
    obtain ⟨n, hn, e⟩ := Option.map_eq_some_iff.mp h
    cases e
    exact ⟨by rw [List.cons_append, List.take_append_drop], .inr (utf8Len_spec hn).2⟩

theorem utf8Char_multi {c : UInt8} {q : Bytes} (h : Utf8Multi (c :: q)) (t : Bytes) :
    utf8Char (c :: (q ++ t)) = some (c :: q, t) := by
  rw [utf8Char_eq, if_neg (UInt8.not_lt.mpr (h.high c (.head _))), utf8Len_of_multi h t]
  simp

/-- What `strBody` does with the decoded bytes `u` of one character or escape: prepend them to the rest. -/
def prepend (u : Bytes) (o : Option (Bytes × Bytes)) : Option (Bytes × Bytes) :=
  o.map fun p => (u ++ p.1, p.2)

theorem prepend_eq_some {u s rest : Bytes} {o : Option (Bytes × Bytes)} (h : prepend u o = some (s, rest)) :
    ∃ s', o = some (s', rest) ∧ s = u ++ s' := by
  cases o with
  | none => cases h
  | some p => cases h; exact ⟨p.1, rfl, rfl⟩

theorem strBody_quote (n : Nat) (r : Bytes) : strBody (n+1) (0x22 :: r) = some ([], r) := rfl

theorem strBody_escape (n : Nat) {r u r' : Bytes} (h : escape r = some (u, r')) :
    strBody (n+1) (0x5C :: r) = prepend u (strBody n r') := by
  show (match escape r with | some (u, r') => _ | none => _) = _
  rw [h]
  show (match strBody n r' with | some (s, r'') => _ | none => _) = _
  cases strBody n r' <;> rfl

theorem strBody_char (n : Nat) {c : UInt8} {r u r' : Bytes} (h22 : c ≠ 0x22) (h5c : c ≠ 0x5C) (h20 : ¬ c < 0x20)
    (h : utf8Char (c :: r) = some (u, r')) : strBody (n+1) (c :: r) = prepend u (strBody n r') := by
  show (if c = 0x22 then _ else _) = _
  rw [if_neg h22, if_neg h5c, if_neg h20, h]
  show (match strBody n r' with | some (s, r'') => _ | none => _) = _
  cases strBody n r' <;> rfl

theorem strBody_succ_some {n : Nat} {b s rest : Bytes} (h : strBody (n+1) b = some (s, rest)) :
    (b = 0x22 :: rest ∧ s = []) ∨
    (∃ r u r' s', b = 0x5C :: r ∧ escape r = some (u, r') ∧ strBody n r' = some (s', rest) ∧ s = u ++ s') ∨
    (∃ c r u r' s', b = c :: r ∧ c ≠ 0x22 ∧ c ≠ 0x5C ∧ ¬ c < 0x20 ∧ utf8Char b = some (u, r') ∧
      strBody n r' = some (s', rest) ∧ s = u ++ s') := by
  cases b with
  | nil => cases h
  | cons c r =>
    by_cases h22 : c = 0x22
    · subst h22; cases h; exact .inl ⟨rfl, rfl⟩
    by_cases h5c : c = 0x5C
    · subst h5c
      cases he : escape r with
      | none => unfold strBody at h; dsimp only at h; rw [if_neg h22, if_pos rfl, he] at h; cases h
      | some p =>
        obtain ⟨u, r'⟩ := p
        rw [strBody_escape n he] at h
        obtain ⟨s', hs, rfl⟩ := prepend_eq_some h
        exact .inr (.inl ⟨r, u, r', s', rfl, he, hs, rfl⟩)
    by_cases h20 : c < 0x20
    · unfold strBody at h; dsimp only at h; rw [if_neg h22, if_neg h5c, if_pos h20] at h; cases h
    cases hu : utf8Char (c :: r) with
    | none => unfold strBody at h; dsimp only at h; rw [if_neg h22, if_neg h5c, if_neg h20, hu] at h; cases h
    | some p =>
      obtain ⟨u, r'⟩ := p
      rw [strBody_char n h22 h5c h20 hu] at h
      obtain ⟨s', hs, rfl⟩ := prepend_eq_some h
      exact .inr (.inr ⟨c, r, u, r', s', rfl, h22, h5c, h20, rfl, hs, rfl⟩)

theorem unescape_iff {q s : Bytes} : unescape q = some s ↔ ∃ r, q = 0x22 :: r ∧ lexStr r = some (s, []) := by
  constructor
  · intro h
    unfold unescape at h
    split at h
    · next r =>
      split at h
      · next s' hl => cases h; exact ⟨r, rfl, hl⟩
      · cases h
    · cases h
  · rintro ⟨r, rfl, hl⟩
    rw [unescape, hl]

theorem strBody_noBackslash (fuel : Nat) (b s rest : Bytes) (h : strBody fuel b = some (s, rest))
    (hb : ∀ x ∈ b, x ≠ 0x5C) : b = s ++ 0x22 :: rest := by
  induction fuel generalizing b s with
  | zero => cases h
  | succ n ih =>
    rcases strBody_succ_some h with ⟨rfl, rfl⟩ | ⟨r, _, _, _, rfl, -⟩ | ⟨c, r, u, r', s', rfl, -, -, -, hu, hs, rfl⟩
    · rfl
    · exact absurd rfl (hb _ (List.mem_cons_self ..))
    · obtain ⟨hsplit, -⟩ := utf8Char_cons hu
      rw [hsplit, List.append_assoc, ← ih r' s' hs fun x hx => hb x (hsplit ▸ List.mem_append_right _ hx)]

/-- An ASCII byte from 0x20 up other than `"` and `\`. -/
def isPlain (c : UInt8) : Bool := 0x20 ≤ c && c < 0x80 && c != 0x22 && c != 0x5C

theorem strBody_plain (s rest : Bytes) (hs : s.all isPlain = true) (fuel : Nat) (hf : s.length < fuel) :
    strBody fuel (s ++ 0x22 :: rest) = some (s, rest) := by
  induction s generalizing fuel with
  | nil =>
    cases fuel with
    | zero => omega
    | succ n => rfl
  | cons c s ih =>
    cases fuel with
    | zero => simp at hf
    | succ n =>
      simp only [List.all_cons, Bool.and_eq_true] at hs
      obtain ⟨hc, hs⟩ := hs
      simp only [isPlain, Bool.and_eq_true, decide_eq_true_eq, bne_iff_ne, ne_eq] at hc
      obtain ⟨⟨⟨h20, h80⟩, h22⟩, h5c⟩ := hc
      rw [List.cons_append, strBody_char n h22 h5c (UInt8.not_lt.mpr h20) (if_pos h80),
        ih hs n (by simpa using hf)]
      rfl

end JsonV.Lemmas.MeaningStr
