/-
One streaming ReadToken against ReadToken on the whole input (C05): the `switch next` token by token (`LexOk`,
`lexS_ok`), then the whole call with its head of blanks and delimiter (`ScanAdv`, `scanWith_ok`).
-/
import JsonV.Lemmas.ResumeStreamGlue
import JsonV.Lemmas.WireTokenStep

namespace JsonV.Model.Stream
open JsonV JsonV.Model JsonV.Model.Validate JsonV.Model.TokenLoop
open JsonV.Lemmas.WireBasic JsonV.Lemmas.WireValue

theorem toWire_ok (e : Resume.Err) (h : toWire e = .ok) : e = .ok := by cases e <;> simp_all [toWire]
theorem toWire_eof (e : Resume.Err) : toWire e = .eof ↔ e = .eof := by cases e <;> simp [toWire]

theorem lit_fast (l v e : Bytes) (hl : l ≠ []) (h : Wire.consumeExact l v ≠ 0) :
    valueLiteral l (v ++ e) = (Wire.consumeExact l v, .ok) ∧ Wire.consumeExact l v ≤ v.length := by
  have hp := (exact_iff l v hl).1 h
  rw [(exact_val l v).resolve_left h, JsonV.Lemmas.WireValue.valueLiteral_eq l _ hl]
  exact ⟨(literal_ok_iff _ _ _).2 ⟨rfl, hp.trans (List.prefix_append v e)⟩, hp.length_le⟩

theorem str_fast (o : VOpts) (v e : Bytes) (h : Wire.consumeSimpleString v ≠ 0) :
    valueString o (v ++ e) = (Wire.consumeSimpleString v, {}, .ok) ∧ Wire.consumeSimpleString v ≤ v.length := by
  have h1 : valueString o v = (Wire.consumeSimpleString v, {}, .ok) := by simp [valueString, h]
  have hb := (valueString_sound o v _ _ h1).1
  refine ⟨?_, hb⟩
  rw [valueString_eq o v] at h1
  have he : (strW (!o.allowInvalidUTF8) v).2.2 = .ok := toWire_ok _ (congrArg (fun x => x.2.2) h1)
  have hst := Resume.str_stable .none v e (!o.allowInvalidUTF8) (by unfold strW at he; rw [he]; simp)
  rw [valueString_eq o (v ++ e)]
  unfold strW at h1 ⊢
  rw [hst]; exact h1

theorem numW_stable (v e : Bytes) (n : Nat) (h : numW v = (n, .ok)) (hn : n < v.length) : numW (v ++ e) = (n, .ok) := by
  rw [numW_eq] at h ⊢
  have hdef : Resume.Definitive v.length (Resume.consumeNumberResumable v 0 0) := by
    by_cases he : (Resume.consumeNumberResumable v 0 0).2.2 = .eof
    · rw [if_pos he] at h; cases h
    · rw [if_neg he] at h; exact ⟨he, (congrArg Prod.fst h).symm ▸ Nat.ne_of_lt hn⟩
  rw [Resume.num_stable v e hdef]; exact h

theorem simpleNumber_inside (v : Bytes)
    (h : ¬ (Wire.consumeSimpleNumber v == 0 || Wire.lenLt v (Wire.consumeSimpleNumber v + 1)) = true) :
    Wire.consumeSimpleNumber v < v.length := by
  simp only [Bool.or_eq_true, not_or, Bool.not_eq_true] at h
  refine Nat.lt_of_not_le fun hle => ?_
  have := (lenLt_iff v _).mpr (Nat.lt_succ_of_le hle)
  rw [h.2] at this
  cases this

theorem num_fast (v e : Bytes)
    (hf : ¬ (Wire.consumeSimpleNumber v == 0 || Wire.lenLt v (Wire.consumeSimpleNumber v + 1)) = true) :
    valueNumber (v ++ e) = (Wire.consumeSimpleNumber v, .ok) := by
  have hv : valueNumber v = (Wire.consumeSimpleNumber v, .ok) := if_neg hf
  rw [valueNumber_eq v] at hv
  have hn : (numW v).1 = Wire.consumeSimpleNumber v := congrArg Prod.fst hv
  have he : (numW v).2 = .ok := toWire_ok _ (congrArg Prod.snd hv)
  rw [valueNumber_eq (v ++ e), numW_stable v e _ (Prod.ext hn he) (simpleNumber_inside v hf)]; rfl

/-- the token scanned at `pos` of the unread buffer `u` is the token `r` of the whole input, nothing is lost -/
def LexOk (u : Bytes) (pos : Nat) (es : List Event) (r : TRes) : SRes → Prop
  | .fault u' es' => Adv u es u' es' true
  | .res r' start u' es' _ =>
    r' = r ∧ start = pos ∧ Adv u es u' es' false ∧ (∀ n st', r = .tok n st' → pos ≤ n ∧ n ≤ u'.length)

/-- a result that, if it is a token, ends at `k` -/
def EndsAt (k : Nat) (r : TRes) : Prop := ∀ m st', r = .tok m st' → m = k

theorem EndsAt.err (k pos : Nat) (e : Wire.Err) : EndsAt k (.err pos e) := fun _ _ h => by cases h

theorem EndsAt.tok (k : Nat) (st' : TState) : EndsAt k (.tok k st') := fun _ _ h => by cases h; rfl

theorem EndsAt.ite {k : Nat} {c : Prop} [Decidable c] {a b : TRes} (ha : EndsAt k a) (hb : EndsAt k b) :
    EndsAt k (if c then a else b) := by
  by_cases h : c
  · rw [if_pos h]; exact ha
  · rw [if_neg h]; exact hb

theorem feed_tok (st : TState) (pos n : Nat) (op : Machine → Except SMErr Machine) : EndsAt (pos + n) (feed st pos n op) := by
  unfold feed
  cases op st.m with
  | error se => exact .err _ _ _
  | ok m' => exact .tok _ _

theorem feedString_tok (o : VOpts) (st : TState) (pos : Nat) (q : Bytes) (fl : Wire.ValueFlags) :
    EndsAt (pos + q.length) (feedString o st pos q fl) := by
  rw [JsonV.Lemmas.WireTokenStep.feedString_eq]
  cases JsonV.Lemmas.WireTokenStep.offer o st .str q fl with
  | error e => exact .err _ _ _
  | ok st' => exact .tok _ _

theorem take_pos_len (u : Bytes) (pos : Nat) (h : pos ≤ u.length) (v : Bytes) : (u.take pos ++ v).length = pos + v.length := by
  rw [List.length_append, List.length_take_of_le h]

theorem lt_of_drop_cons {t : Bytes} {w : Nat} {c : UInt8} {vt : Bytes} (h : t.drop w = c :: vt) : w < t.length :=
  (List.getElem?_eq_some_iff.1 (List.drop_eq_cons h).1).1

theorem drop_cons_of_lt (t : Bytes) (w : Nat) (h : w < t.length) : ∃ c vt, t.drop w = c :: vt :=
  ⟨t[w], t.drop (w + 1), List.drop_eq_getElem_cons h⟩

theorem Adv.rebase {u v v' : Bytes} {pos : Nat} {es es' : List Event} {f : Bool} (h : Adv v es v' es' f)
    (hv : u.drop pos = v) (hpos : pos ≤ u.length) : Adv u es (u.take pos ++ v') es' f :=
  ⟨by rw [List.append_assoc, h.same, ← List.append_assoc, ← hv, List.take_append_drop],
   by rw [take_pos_len u pos hpos, ← List.length_drop_add u hpos, hv]; exact Nat.add_le_add_left h.len _, h.cons⟩

theorem lexOk_here (u : Bytes) (pos : Nat) (es : List Event) (r : TRes) (f0 : Bool)
    (h : ∀ n st', r = .tok n st' → pos ≤ n ∧ n ≤ u.length) : LexOk u pos es r (.res r pos u es f0) :=
  ⟨rfl, rfl, Adv.refl u es, h⟩

theorem LexOk.ite {u : Bytes} {pos : Nat} {es : List Event} {c : Prop} [Decidable c] {r r' : TRes} {S S' : SRes}
    (h : LexOk u pos es r S) (h' : LexOk u pos es r' S') : LexOk u pos es (if c then r else r') (if c then S else S') := by
  by_cases hc : c
  · rw [if_pos hc, if_pos hc]; exact h
  · rw [if_neg hc, if_neg hc]; exact h'

/-- what ReadToken makes of the answer `b` of a literal or number scanner at `pos` -/
def scalarTok (st : TState) (pos : Nat) (op : Machine → Except SMErr Machine) (b : Nat × Wire.Err) : TRes :=
  if b.2 != .ok then .err (pos + b.1) b.2 else feed st pos b.1 op

theorem scalarTok_tok {st : TState} {pos : Nat} {op : Machine → Except SMErr Machine} {b : Nat × Wire.Err} {n : Nat}
    {st' : TState} (h : scalarTok st pos op b = .tok n st') : b.2 = .ok ∧ n = pos + b.1 := by
  unfold scalarTok at h
  split at h
  · cases h
  · rename_i hne
    exact ⟨by simpa using hne, feed_tok _ _ _ _ _ _ h⟩

/-- `Ww`: the whole-input scanner of the token model; `Wr`: the resumable scanner the refill loop drives. -/
theorem lexOk_refill (st : TState) (op : Machine → Except SMErr Machine) (Wr : Bytes → Nat × Resume.Err)
    (Ww : Bytes → Nat × Wire.Err) (heq : ∀ t, Ww t = ((Wr t).1, toWire (Wr t).2))
    (hsound : ∀ t n, Ww t = (n, .ok) → n ≤ t.length)
    {u v : Bytes} {pos : Nat} (hv : u.drop pos = v) (hpos : pos ≤ u.length) (es : List Event) (f0 : Bool)
    {F : Fill (Nat × Resume.Err)} (hF : FillOk Wr v es F) :
    LexOk u pos es (scalarTok st pos op (Ww (v ++ avail es)))
      (atPos u pos f0 F fun b => scalarTok st pos op (b.1, toWire b.2)) := by
  cases F with
  | fault v' es' => exact hF.rebase hv hpos
  | done b v' es' f1 =>
    obtain ⟨h1, h1', hA⟩ := hF
    refine ⟨by rw [heq, h1], rfl, hA.rebase hv hpos, ?_⟩
    intro n st' hr
    rw [heq, ← h1, h1', ← heq] at hr
    obtain ⟨hok, hn⟩ := scalarTok_tok hr
    have := hsound v' _ (Prod.ext rfl hok)
    rw [take_pos_len u pos hpos, hn]
    exact ⟨Nat.le_add_right _ _, Nat.add_le_add_left this _⟩

theorem lexOk_fast (st : TState) (op : Machine → Except SMErr Machine) (Ww : Bytes → Nat × Wire.Err)
    {u v : Bytes} {pos : Nat} (hv : u.drop pos = v) (hpos : pos ≤ u.length) (es : List Event) (f0 : Bool) (n : Nat)
    (h : Ww (v ++ avail es) = (n, .ok)) (hn : n ≤ v.length) :
    LexOk u pos es (scalarTok st pos op (Ww (v ++ avail es))) (.res (feed st pos n op) pos u es f0) := by
  rw [h]
  refine lexOk_here u pos es _ f0 ?_
  intro m st' hr
  rw [(scalarTok_tok hr).2, ← List.length_drop_add u hpos, hv]
  exact ⟨Nat.le_add_right _ _, Nat.add_le_add_left hn _⟩

theorem lex_lit (st : TState) (u : Bytes) (pos : Nat) (es : List Event) (f0 : Bool) (l v : Bytes) (hl : l ≠ [])
    (hv : u.drop pos = v) (hpos : pos ≤ u.length) :
    LexOk u pos es (scalarTok st pos Machine.appendLiteral (valueLiteral l (v ++ avail es)))
      (if Wire.consumeExact l v != 0 then .res (feed st pos (Wire.consumeExact l v) Machine.appendLiteral) pos u es f0
       else atPos u pos f0 (sLiteral l v es) fun b => scalarTok st pos Machine.appendLiteral (b.1, toWire b.2)) := by
  by_cases hf : Wire.consumeExact l v = 0
  · rw [if_neg (by simp [hf])]
    exact lexOk_refill st _ (litW l) (valueLiteral l) (fun t => valueLiteral_eq l t hl)
      (fun t n h => (valueLiteral_sound l t n hl h).1) hv hpos es f0 (sLiteral_ok l v es)
  · rw [if_pos (by simpa using hf)]
    obtain ⟨h1, h2⟩ := lit_fast l v (avail es) hl hf
    exact lexOk_fast st _ (valueLiteral l) hv hpos es f0 _ h1 h2

theorem lex_num (st : TState) (u : Bytes) (pos : Nat) (es : List Event) (f0 : Bool) (v : Bytes)
    (hv : u.drop pos = v) (hpos : pos ≤ u.length) :
    LexOk u pos es (scalarTok st pos Machine.appendNumber (valueNumber (v ++ avail es)))
      (if Wire.consumeSimpleNumber v == 0 || Wire.lenLt v (Wire.consumeSimpleNumber v + 1) then
        atPos u pos f0 (sNumber v es) fun b => scalarTok st pos Machine.appendNumber (b.1, toWire b.2)
       else .res (feed st pos (Wire.consumeSimpleNumber v) Machine.appendNumber) pos u es f0) := by
  by_cases hf : (Wire.consumeSimpleNumber v == 0 || Wire.lenLt v (Wire.consumeSimpleNumber v + 1)) = true
  · rw [if_pos hf]
    exact lexOk_refill st _ numW valueNumber valueNumber_eq (fun t n h => (valueNumber_sound t n h).1) hv hpos es f0
      (sNumber_ok v es)
  · rw [if_neg hf]
    exact lexOk_fast st _ valueNumber hv hpos es f0 _ (num_fast v (avail es) hf)
      (Nat.le_of_lt (simpleNumber_inside v hf))

theorem lex_str (o : VOpts) (st : TState) (u : Bytes) (pos : Nat) (es : List Event) (f0 : Bool) (v : Bytes)
    (hv : u.drop pos = v) (hpos : pos ≤ u.length) :
    LexOk u pos es
      (if (valueString o (v ++ avail es)).2.2 != .ok then .err (pos + (valueString o (v ++ avail es)).1) (valueString o (v ++ avail es)).2.2
       else feedString o st pos ((v ++ avail es).take (valueString o (v ++ avail es)).1) (valueString o (v ++ avail es)).2.1)
      (if Wire.consumeSimpleString v != 0 then
        .res (feedString o st pos (v.take (Wire.consumeSimpleString v)) {}) pos u es f0
       else
        match sString (!o.allowInvalidUTF8) v es with
        | .fault v' es' => .fault (u.take pos ++ v') es'
        | .done b v' es' f1 =>
          .res (if toWire b.2.2 != .ok then .err (pos + b.1) (toWire b.2.2)
                else feedString o st pos (v'.take b.1) (toWireFlags b.2.1)) pos (u.take pos ++ v') es' (f0 || f1)) := by
  have hlen := hv ▸ (List.length_drop_add u hpos).symm
  have tok (t : Bytes) (n : Nat) (fl : Wire.ValueFlags) (hn : n ≤ t.length) (m : Nat) (st' : TState)
      (h : feedString o st pos (t.take n) fl = .tok m st') : pos ≤ m ∧ m ≤ pos + t.length := by
    have := feedString_tok _ _ _ _ _ _ _ h
    rw [List.length_take, Nat.min_eq_left hn] at this
    omega
  by_cases hf : Wire.consumeSimpleString v = 0
  · rw [if_neg (c := (Wire.consumeSimpleString v != 0) = true) (by simp [hf])]
    have hok := sString_ok (!o.allowInvalidUTF8) v es
    generalize sString (!o.allowInvalidUTF8) v es = F at hok ⊢
    cases F with
    | fault v' es' => exact hok.rebase hv hpos
    | done b v' es' f1 =>
      obtain ⟨h1, h1', hA⟩ := hok
      have hw := valueString_eq o (v ++ avail es)
      have hw' := valueString_eq o v'
      rw [← h1] at hw
      rw [← h1'] at hw'
      have hbound : toWire b.2.2 = .ok → b.1 ≤ v'.length := fun hok =>
        (valueString_sound o v' b.1 (toWireFlags b.2.1) (by rw [hw', hok])).1
      have hres : (if toWire b.2.2 != .ok then TRes.err (pos + b.1) (toWire b.2.2)
            else feedString o st pos (v'.take b.1) (toWireFlags b.2.1)) =
          (if (valueString o (v ++ avail es)).2.2 != .ok then .err (pos + (valueString o (v ++ avail es)).1) (valueString o (v ++ avail es)).2.2
           else feedString o st pos ((v ++ avail es).take (valueString o (v ++ avail es)).1) (valueString o (v ++ avail es)).2.1) := by
        rw [hw]
        by_cases hne : (toWire b.2.2 != .ok) = true
        · rw [if_pos hne, if_pos hne]
        · rw [if_neg hne, if_neg hne, ← hA.same, List.take_append_of_le_length (hbound (by simpa using hne))]
      refine ⟨hres, rfl, hA.rebase hv hpos, ?_⟩
      intro n st' hr
      rw [← hres] at hr
      split at hr
      · cases hr
      · rename_i hne
        rw [take_pos_len u pos hpos]
        exact tok v' b.1 _ (hbound (by simpa using hne)) n st' hr
  · rw [if_pos (c := (Wire.consumeSimpleString v != 0) = true) (by simpa using hf)]
    obtain ⟨h1, h2⟩ := str_fast o v (avail es) hf
    simp only [h1, bne_self_eq_false, Bool.false_eq_true, if_false, List.take_append_of_le_length h2]
    refine lexOk_here u pos es _ f0 ?_
    intro n st' hr
    rw [hlen]
    exact tok v _ _ h2 n st' hr

theorem lexS_ok (o : VOpts) (st : TState) (u : Bytes) (pos : Nat) (es : List Event) (f0 : Bool) (c : UInt8) (vt : Bytes)
    (hv : u.drop pos = c :: vt) :
    LexOk u pos es (lexToken o st pos ((c :: vt) ++ avail es)) (lexS o st u pos es f0) := by
  have hpos : pos < u.length := lt_of_drop_cons hv
  have hle := Nat.le_of_lt hpos
  have here1 (r : TRes) (h : ∀ n st', r = .tok n st' → n = pos + 1) : LexOk u pos es r (.res r pos u es f0) :=
    lexOk_here u pos es r f0 fun n st' hr => by rw [h n st' hr]; exact ⟨Nat.le_add_right _ _, hpos⟩
  unfold lexS lexToken
  -- both match on the first byte: reduce these matches once, before the two if-chains are compared
  rw [hv, List.cons_append]
  dsimp only
  rw [← List.cons_append]
  refine .ite (lex_lit st u pos es f0 _ _ (by decide) hv hle) (.ite (lex_lit st u pos es f0 _ _ (by decide) hv hle)
    (.ite (lex_lit st u pos es f0 _ _ (by decide) hv hle) (.ite (lex_str o st u pos es f0 _ hv hle)
    (.ite (lex_num st u pos es f0 _ hv hle) (.ite ?_ (.ite ?_ (.ite (here1 _ fun n st' h => feed_tok _ _ _ _ _ _ h)
    (.ite (here1 _ fun n st' h => feed_tok _ _ _ _ _ _ h) (here1 _ fun n st' h => by cases h)))))))))
  · cases st.m.pushObject maxNestingDepth with
    | error se => exact here1 _ fun n st' h => by cases h
    | ok m' => exact here1 _ fun n st' h => by injection h with h _; exact h.symm
  · cases st.m.popObject with
    | error se => exact here1 _ fun n st' h => by cases h
    | ok m' => exact here1 _ fun n st' h => by injection h with h _; exact h.symm

/-- `checkDelimBeforeIOError` is sound: if the delimiter is wrong for a string it is wrong for every next token -/
theorem needDelim_of_string (m : Machine) (c k : UInt8) (hc : c = 0x3A ∨ c = 0x2C)
    (h : (m.needDelim 0x22 != c) = true) : (m.needDelim k != c) = true := by
  unfold Machine.needDelim Entry.needImplicitComma at *
  have e1 : ((0x22 : UInt8) != 0x7d) = true := by decide
  have e2 : ((0x22 : UInt8) != 0x5d) = true := by decide
  simp only [e1, e2, Bool.and_true] at h
  rcases hc with hc | hc <;> subst hc
  · by_cases a : m.last.needImplicitColon = true
    · simp [a] at h
    · simp only [a, Bool.false_eq_true, if_false] at h ⊢
      split <;> decide
  · by_cases a : m.last.needImplicitColon = true
    · simp only [a, if_true]; decide
    · simp only [a, Bool.false_eq_true, if_false] at h ⊢
      by_cases b : ((!m.last.needObjectValue && decide (m.last.length > 0)) && (m.stack.length != 0)) = true
      · simp [b] at h
      · have : ((!m.last.needObjectValue && decide (m.last.length > 0) && k != 0x7d && k != 0x5d) && (m.stack.length != 0)) = false := by
          cases h1 : (!m.last.needObjectValue && decide (m.last.length > 0)) <;> cases h2 : (m.stack.length != 0) <;> simp_all
        simp only [this, Bool.false_eq_true, if_false]; decide

/-- one streaming ReadToken on unread buffer `u` with reader `es` against ReadToken on the whole input -/
def ScanOk (st : TState) (lexW : Nat → Bytes → TRes) (u : Bytes) (es : List Event) : SRes → Prop
  | .fault u' es' => u' ++ avail es' = u ++ avail es ∧ es'.length < es.length ∧ u.length ≤ u'.length
  | .res r start u' es' _ =>
    r = wholeWith st lexW (u ++ avail es) ∧ u' ++ avail es' = u ++ avail es ∧ es'.length ≤ es.length ∧
      u.length ≤ u'.length ∧
      (∀ n st', r = .tok n st' → start = wholeStart (u ++ avail es) ∧ start ≤ n ∧ n ≤ u'.length ∧ start < u'.length)

/-- One streaming ReadToken on unread buffer `u` with reader `es` against ReadToken on the whole input: the same result,
the reader's progress as `Adv`, and a token starts at `wholeStart` and lies within the grown buffer. -/
def ScanAdv (st : TState) (lexW : Nat → Bytes → TRes) (u : Bytes) (es : List Event) : SRes → Prop
  | .fault u' es' => Adv u es u' es' true
  | .res r start u' es' _ =>
    r = wholeWith st lexW (u ++ avail es) ∧ Adv u es u' es' false ∧
      (∀ n st', r = .tok n st' → start = wholeStart (u ++ avail es) ∧ start ≤ n ∧ n ≤ u'.length ∧ start < u'.length)

theorem ScanAdv.scanOk {st : TState} {lexW : Nat → Bytes → TRes} {u : Bytes} {es : List Event} {S : SRes}
    (h : ScanAdv st lexW u es S) : ScanOk st lexW u es S := by
  cases S with
  | fault u' es' => exact ⟨h.same, h.cons.length_lt, h.len⟩
  | res r start u' es' f => exact ⟨h.1, h.2.1.same, h.2.1.cons.length_le, h.2.1.len, h.2.2⟩

theorem ScanAdv.consumed {st : TState} {lexW : Nat → Bytes → TRes} {u : Bytes} {es : List Event} {S : SRes}
    (h : ScanAdv st lexW u es S) : Consumed es S.evs S.isFault := by
  cases S with
  | fault u' es' => exact h.cons
  | res r start u' es' f => exact h.2.1.cons

theorem ws_facts (t : Bytes) (w : Nat) (found : Bool) (h : (w, found) = wsW t) :
    w = Wire.consumeWhitespace t ∧ (found = false → t.drop w = []) ∧ (found = true → w < t.length) := by
  rw [wsW_wire] at h
  injection h with h1 h2
  have hle : Wire.consumeWhitespace t ≤ t.length := by
    rw [← JsonV.Lemmas.GlueResume.ws_eq]; exact Resume.consumeWhitespace_le t
  refine ⟨h1, ?_, ?_⟩
  · intro hf; subst hf; subst h1
    have : Wire.consumeWhitespace t = t.length := by simpa using h2.symm
    rw [this]; simp
  · intro hf; subst hf; subst h1
    have : Wire.consumeWhitespace t ≠ t.length := by simpa using h2.symm
    omega

theorem scanAdv_of_lexOk (st : TState) (lexW : Nat → Bytes → TRes) {u u1 : Bytes} {es es1 : List Event} {pos : Nat}
    {S : SRes} {r : TRes} (hL : LexOk u1 pos es1 r S) (hA : Adv u es u1 es1 false)
    (hr : r = wholeWith st lexW (u ++ avail es)) (hs : pos = wholeStart (u ++ avail es))
    (hlt : pos < u1.length) : ScanAdv st lexW u es S := by
  cases S with
  | fault u' es' => exact hA.trans hL
  | res r' start u' es' f =>
    obtain ⟨h1, h2, h3, h6⟩ := hL
    refine ⟨h1.trans hr, hA.trans h3, ?_⟩
    intro n st' hn
    rw [h1] at hn
    obtain ⟨a, b⟩ := h6 n st' hn
    exact ⟨h2.trans hs, h2 ▸ a, b, h2 ▸ Nat.lt_of_lt_of_le hlt h3.len⟩

theorem wholeStart_plain (t : Bytes) (c : UInt8) (rest : Bytes) (h : t.drop (Wire.consumeWhitespace t) = c :: rest)
    (hc : (c == 0x3A || c == 0x2C) = false) : wholeStart t = Wire.consumeWhitespace t := by
  simp [wholeStart, h, hc]

theorem wholeStart_delim (t : Bytes) (c : UInt8) (rest : Bytes) (h : t.drop (Wire.consumeWhitespace t) = c :: rest)
    (hc : (c == 0x3A || c == 0x2C) = true) :
    wholeStart t = Wire.consumeWhitespace t + 1 + Wire.consumeWhitespace rest := by
  simp [wholeStart, h, hc]

theorem wholeWith_nil (st : TState) (lexW : Nat → Bytes → TRes) {t : Bytes} (h : t.drop (Wire.consumeWhitespace t) = []) :
    wholeWith st lexW t = .err (Wire.consumeWhitespace t) (if st.m.depth == 1 then .ioEOF else .eof) := by
  simp [wholeWith, h]

theorem wholeWith_plain (st : TState) (lexW : Nat → Bytes → TRes) {t : Bytes} {c : UInt8} {rest : Bytes}
    (h : t.drop (Wire.consumeWhitespace t) = c :: rest) (hc : (c == 0x3A || c == 0x2C) = false) :
    wholeWith st lexW t =
      if st.m.needDelim (normKind c) != 0 then .err (Wire.consumeWhitespace t) .invalidChar
      else lexW (Wire.consumeWhitespace t) (c :: rest) := by
  simp [wholeWith, h, hc]

theorem wholeWith_delim (st : TState) (lexW : Nat → Bytes → TRes) {t : Bytes} {c : UInt8} {rest : Bytes}
    (h : t.drop (Wire.consumeWhitespace t) = c :: rest) (hc : (c == 0x3A || c == 0x2C) = true) :
    wholeWith st lexW t =
      match rest.drop (Wire.consumeWhitespace rest) with
      | [] => if st.m.needDelim 0x22 != c then .err (Wire.consumeWhitespace t) .invalidChar
              else .err (Wire.consumeWhitespace t + 1 + Wire.consumeWhitespace rest) .eof
      | c1 :: rest1 => if st.m.needDelim (normKind c1) != c then .err (Wire.consumeWhitespace t) .invalidChar
                       else lexW (Wire.consumeWhitespace t + 1 + Wire.consumeWhitespace rest) (c1 :: rest1) := by
  simp only [wholeWith, h, hc, if_true]
  rfl

/-- the `switch next` pair `lex` (streaming) / `lexW` (whole input) agree wherever a token starts -/
def LexSim (lex : Bytes → Nat → List Event → Bool → SRes) (lexW : Nat → Bytes → TRes) : Prop :=
  ∀ (u : Bytes) (pos : Nat) (es : List Event) (f : Bool) (c : UInt8) (vt : Bytes), u.drop pos = c :: vt →
    LexOk u pos es (lexW pos ((c :: vt) ++ avail es)) (lex u pos es f)

/-- A blank scan from the start of `v` and the look at the byte it stops at, for any use `P` of the outcome: the
reader faults, the input ends, or the scan stops at a byte `c` of the grown buffer.  `Kb` needs no hypothesis: a byte
that was found lies in the buffer, so that arm is not reached. -/
theorem sWhitespace_head {P : SRes → Prop} (v : Bytes) (es : List Event) {Kf : Bytes → List Event → SRes}
    {Ke Kb : Nat → Bytes → List Event → Bool → SRes} {K : Nat → UInt8 → Bytes → List Event → Bool → SRes}
    (hfault : ∀ v2 es2, Adv v es v2 es2 true → P (Kf v2 es2))
    (hend : ∀ p v2 es2 f2, p = Wire.consumeWhitespace (v ++ avail es) → Adv v es v2 es2 false →
      (v ++ avail es).drop p = [] → P (Ke p v2 es2 f2))
    (hbyte : ∀ p v2 es2 f2 c vt, p = Wire.consumeWhitespace (v ++ avail es) → Adv v es v2 es2 false → p < v2.length →
      v2.drop p = c :: vt → (v ++ avail es).drop p = c :: (vt ++ avail es2) → P (K p c v2 es2 f2)) :
    P (match sWhitespace v 0 es with
       | .fault v2 es2 => Kf v2 es2
       | .done (p, found) v2 es2 f2 =>
         if !found then Ke p v2 es2 f2 else
         match v2.drop p with
         | [] => Kb p v2 es2 f2
         | c :: _ => K p c v2 es2 f2) := by
  have hok := sWhitespace_ok v 0 es (Nat.zero_le _)
  generalize sWhitespace v 0 es = F at hok ⊢
  cases F with
  | fault v2 es2 => exact hfault v2 es2 hok
  | done b v2 es2 f2 =>
    obtain ⟨p, found⟩ := b
    obtain ⟨h1, h2, A⟩ := hok
    obtain ⟨hp, hnil, _⟩ := ws_facts _ p found h1
    cases found with
    | false =>
      simp only [Bool.not_false, if_true]
      exact hend p v2 es2 f2 hp A (hnil rfl)
    | true =>
      have hlt := (ws_facts _ p true h2).2.2 rfl
      obtain ⟨c, vt, hd⟩ := drop_cons_of_lt v2 p hlt
      simp only [Bool.not_true, Bool.false_eq_true, if_false, hd]
      refine hbyte p v2 es2 f2 c vt hp A hlt hd ?_
      rw [← A.same, List.drop_append_of_le_length (Nat.le_of_lt hlt), hd]; rfl

theorem scanWith_ok (st : TState) (lex : Bytes → Nat → List Event → Bool → SRes) (lexW : Nat → Bytes → TRes)
    (hlex : LexSim lex lexW)
    (u : Bytes) (es : List Event) :
    ScanAdv st lexW u es (scanWith st lex u es) := by
  unfold scanWith
  refine sWhitespace_head (P := ScanAdv st lexW u es) u es (fun _ _ A => A)
    (fun w u1 es1 f1 hw A1 hnil => ⟨by rw [wholeWith_nil st lexW (hw ▸ hnil), ← hw], A1, fun n st' h => by cases h⟩)
    fun w u1 es1 f1 c vt hw A1 hwlt hd hTd => ?_
  have hTd' : (u ++ avail es).drop (Wire.consumeWhitespace (u ++ avail es)) = c :: (vt ++ avail es1) := hw ▸ hTd
  by_cases hdel : (c == 0x3A || c == 0x2C) = true
  · simp only [hdel, if_true]
    have hcc : c = 0x3A ∨ c = 0x2C := by simpa using hdel
    have hvt : u1.drop (w + 1) = vt := by rw [← List.drop_drop, hd]; rfl
    have htk : (u1.take (w + 1)).length = w + 1 := by rw [List.length_take]; exact Nat.min_eq_left hwlt
    rw [hvt]
    have hR := wholeWith_delim st lexW hTd' hdel
    rw [← hw] at hR
    have hRbad : (st.m.needDelim 0x22 != c) = true → wholeWith st lexW (u ++ avail es) = .err w .invalidChar := by
      intro hb
      rw [hR]
      split
      · rw [if_pos hb]
      · rw [if_pos (needDelim_of_string st.m c _ hcc hb)]
    refine sWhitespace_head (P := ScanAdv st lexW u es) vt es1 (fun v2 es2 A2' => ?_)
      (fun p v2 es2 f2 hp A2' hnil => ?_) fun p v2 es2 f2 c1 vt2 hp A2' hplt hd2 hrest => ?_
    · have A2 := A1.trans (A2'.rebase hvt hwlt)
      by_cases hb : (st.m.needDelim 0x22 != c) = true
      · rw [if_pos hb]
        exact ⟨(hRbad hb).symm, A2.weaken, fun n st' h => by cases h⟩
      · rw [if_neg hb]
        exact A2
    · have A2 := A1.trans (A2'.rebase hvt hwlt)
      rw [← hp, hnil] at hR
      by_cases hb : (st.m.needDelim 0x22 != c) = true
      · rw [if_pos hb]
        exact ⟨(hRbad hb).symm, A2, fun n st' h => by cases h⟩
      · rw [if_neg hb]
        exact ⟨by rw [hR, if_neg hb], A2, fun n st' h => by cases h⟩
    · have A2 := A1.trans (A2'.rebase hvt hwlt)
      rw [← hp, hrest] at hR
      by_cases hb : (st.m.needDelim (normKind c1) != c) = true
      · rw [if_pos hb]
        exact ⟨by rw [hR]; exact (if_pos hb).symm, A2, fun n st' h => by cases h⟩
      · rw [if_neg hb]
        have hdrop : (u1.take (w + 1) ++ v2).drop (w + 1 + p) = c1 :: vt2 := by
          have h := List.drop_length_add_append (l₁ := u1.take (w + 1)) (l₂ := v2) p
          rw [htk] at h; rw [h, hd2]
        refine scanAdv_of_lexOk st lexW (hlex _ (w + 1 + p) es2 (f1 || f2) c1 vt2 hdrop) A2 ?_ ?_ ?_
        · rw [hR]; exact (if_neg hb).symm
        · rw [wholeStart_delim _ c _ hTd' hdel, ← hw, ← hp]
        · rw [List.length_append, htk]; exact Nat.add_lt_add_left hplt _
  · have hdel' : (c == 0x3A || c == 0x2C) = false := by simpa using hdel
    simp only [hdel', Bool.false_eq_true, if_false]
    have hR := wholeWith_plain st lexW hTd' hdel'
    rw [← hw] at hR
    by_cases hb : (st.m.needDelim (normKind c) != 0) = true
    · rw [if_pos hb]
      exact ⟨by rw [hR, if_pos hb], A1, fun n st' h => by cases h⟩
    · rw [if_neg hb]
      refine scanAdv_of_lexOk st lexW (hlex u1 w es1 f1 c vt hd) A1 ?_ ?_ hwlt
      · rw [hR, if_neg hb]; rfl
      · rw [wholeStart_plain _ c _ hTd' hdel', ← hw]

theorem readToken_eq (o : VOpts) (st : TState) (r : Bytes) :
    TokenLoop.readToken o st r = wholeWith st (lexToken o st) r := rfl

theorem scanToken_ok (o : VOpts) (st : TState) (u : Bytes) (es : List Event) :
    ScanOk st (lexToken o st) u es (scanToken o st u es) :=
  (scanWith_ok st (lexS o st) (lexToken o st) (lexS_ok o st) u es).scanOk

theorem scanToken_consumed (o : VOpts) (st : TState) (u : Bytes) (es : List Event) :
    Consumed es (scanToken o st u es).evs (scanToken o st u es).isFault :=
  (scanWith_ok st (lexS o st) (lexToken o st) (lexS_ok o st) u es).consumed

end JsonV.Model.Stream
