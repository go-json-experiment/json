/-
C02: the exactly-one-value policing of user marshal code under the floor of jsontext's stateMachine
(state.go `Floor`; arshal_methods.go / arshal_funcs.go: the floor is raised to len(Stack)
while MarshalJSONTo / MarshalToFunc runs; popObject/popArray return errEnclosingEnd when len(Stack) <= Floor).

`stepF`/`runF` wrap the operations of `Model/State.lean` with that test (same order of checks as the Go code); `scan`
reads a token script for nesting and complete top-level values.  The result is `one_value_floor`, from the simulation
`run_scan`.
-/
import JsonV.Model.State
import JsonV.Lemmas.StateEntry
import JsonV.Lemmas.EncInvState

namespace JsonV.Lemmas.EncInvFloor
open JsonV JsonV.Model JsonV.Lemmas.StateEntry JsonV.Lemmas.EncInvState

/-- The seven state-machine operations a script of user marshal code consists of (`PDA.Kind` by the operation's name). -/
inductive Op where
  | lit | str | num | pushO | popO | pushA | popA
deriving DecidableEq, Repr

/-- What `stepF` refuses with: the state machine's error, or the floor's. -/
inductive FErr where
  | sm (e : SMErr)
  | enclosingEnd          -- errEnclosingEnd
deriving DecidableEq, Repr

/-- A state-machine result as a result under the floor. -/
def liftE : Except SMErr Machine → Except FErr Machine
  | .ok m => .ok m
  | .error e => .error (.sm e)

/-- One state-machine operation under a floor (state.go popObject/popArray: the floor test
comes right after the kind test). -/
def stepF (k floor : Nat) (m : Machine) : Op → Except FErr Machine
  | .lit => liftE m.appendLiteral
  | .str => liftE m.appendString
  | .num => liftE m.appendNumber
  | .pushO => liftE (m.pushObject k)
  | .pushA => liftE (m.pushArray k)
  | .popO =>
    if !m.last.isObject then .error (.sm .mismatchDelim)
    else if m.stack.length ≤ floor then .error .enclosingEnd
    else liftE m.popObject
  | .popA =>
    if !m.last.isArray || m.stack.length = 0 then .error (.sm .mismatchDelim)
    else if m.stack.length ≤ floor then .error .enclosingEnd
    else liftE m.popArray

/-- A script under a floor; it stops at the first refusal. -/
def runF (k floor : Nat) : Machine → List Op → Except FErr Machine
  | m, [] => .ok m
  | m, op :: ops =>
    match stepF k floor m op with
    | .ok m' => runF k floor m' ops
    | .error e => .error e

/-- Reads a token script: `ks` = kinds (true = object) of the containers the script has open, outermost
first; `n` = complete-or-begun top-level values so far.  Fails on a closing token that does not match the
innermost container opened by the script. -/
def scan : List Bool → Nat → List Op → Option (List Bool × Nat)
  | ks, n, [] => some (ks, n)
  | ks, n, op :: r =>
    let n' := if ks = [] then n + 1 else n
    match op with
    | .lit => scan ks n' r
    | .str => scan ks n' r
    | .num => scan ks n' r
    | .pushA => scan (ks ++ [false]) n' r
    | .pushO => scan (ks ++ [true]) n' r
    | .popA => if ks.getLast? = some false then scan ks.dropLast n r else none
    | .popO => if ks.getLast? = some true then scan ks.dropLast n r else none

/-- The script is exactly one complete JSON value: a scalar token, or one balanced container. -/
def wroteOneValue (ops : List Op) : Prop := scan [] 0 ops = some ([], 1)

instance (ops : List Op) : Decidable (wroteOneValue ops) := by unfold wroteOneValue; infer_instance

/-- Entries counting less than `N` are not wrapped by `increment`: it adds one and keeps the kind. -/
def IncOK (N : Nat) : Prop :=
  ∀ e : Entry, e.length < N → e.increment.length = e.length + 1 ∧ e.increment.isObject = e.isObject

/-- The 61-bit counter. -/
theorem incOK {N : Nat} (hN : N < 2^61) : IncOK N :=
  fun e he => ⟨increment_length e (by omega), increment_isObject e (by omega)⟩

theorem IncOK.mono {N N' : Nat} (h : IncOK N') (hn : N ≤ N') : IncOK N :=
  fun e he => h e (Nat.lt_of_lt_of_le he hn)

theorem typeArray_facts : Entry.typeArray.isObject = false ∧ Entry.typeArray.length = 0 := by decide
theorem typeObject_facts : Entry.typeObject.isObject = true ∧ Entry.typeObject.length = 0 := by decide

/-! Operations are taken by kind: the three scalar tokens, the two opening ones (`b` = the kind opened, true = object),
the two closing ones. -/

theorem liftE_ok {x : Except SMErr Machine} {m : Machine} : liftE x = .ok m ↔ x = .ok m := by
  cases x <;> simp [liftE]

theorem scalar_ok {k f : Nat} {m m' : Machine} {op : Op} (hop : op = .lit ∨ op = .str ∨ op = .num)
    (h : stepF k f m op = .ok m') : m'.stack = m.stack ∧ m'.last = m.last.increment := by
  apply scalar_step
  rcases hop with rfl | rfl | rfl
  · exact .inl (liftE_ok.mp h)
  · exact .inr (.inl (liftE_ok.mp h))
  · exact .inr (.inr (liftE_ok.mp h))

theorem push_ok {k f : Nat} {m m' : Machine} {op : Op} {b : Bool}
    (hop : op = .pushA ∧ b = false ∨ op = .pushO ∧ b = true) (h : stepF k f m op = .ok m') :
    m'.stack = m.stack ++ [m.last.increment] ∧ m'.last.isObject = b ∧ m'.last.length = 0 := by
  rcases hop with ⟨rfl, rfl⟩ | ⟨rfl, rfl⟩
  · rw [pushArray_ok (liftE_ok.mp h)]; exact ⟨rfl, typeArray_facts⟩
  · rw [pushObject_ok (liftE_ok.mp h)]; exact ⟨rfl, typeObject_facts⟩

theorem pop_ok {k f : Nat} {m m' : Machine} {op : Op} {b : Bool}
    (hop : op = .popA ∧ b = false ∨ op = .popO ∧ b = true) (h : stepF k f m op = .ok m') :
    m.last.isObject = b ∧ f < m.stack.length ∧
    ∃ x, m.stack.getLast? = some x ∧ m'.stack = m.stack.dropLast ∧ m'.last = x := by
  rcases hop with ⟨rfl, rfl⟩ | ⟨rfl, rfl⟩ <;> simp only [stepF, guard_ok, liftE_ok] at h
  · obtain ⟨ha, x, hx, rfl⟩ := popArray_ok h.2.2
    rw [isArray_not] at ha
    exact ⟨by simpa using ha, by omega, x, hx, rfl, rfl⟩
  · obtain ⟨ho, x, hx, rfl⟩ := popObject_ok h.2.2
    exact ⟨ho, by omega, x, hx, rfl, rfl⟩

/-- `m` is a state of a script that was entered with stack `base`: either back at the entry level
(current entry `e0`), or above it with saved entries `e0 :: es` and kinds `ks`; all counts at most `B`. -/
def FInv (base : List Entry) (B : Nat) (m : Machine) (e0 : Entry) (ks : List Bool) : Prop :=
  e0.length ≤ B ∧
  ((m.stack = base ∧ m.last = e0 ∧ ks = []) ∨
   (∃ es, m.stack = base ++ e0 :: es ∧ ks = es.map Entry.isObject ++ [m.last.isObject] ∧
      (∀ e ∈ es, e.length ≤ B) ∧ m.last.length ≤ B))

theorem inv_mono {base B B' m e0 ks} (h : FInv base B m e0 ks) (hb : B ≤ B') : FInv base B' m e0 ks := by
  obtain ⟨h0, h | ⟨es, h1, h2, h3, h4⟩⟩ := h
  · exact ⟨by omega, .inl h⟩
  · exact ⟨by omega, .inr ⟨es, h1, h2, fun e he => by have := h3 e he; omega, by omega⟩⟩

theorem scan_scalar {op : Op} (hop : op = .lit ∨ op = .str ∨ op = .num) (ks : List Bool) (n : Nat) (r : List Op) :
    scan ks n (op :: r) = scan ks (if ks = [] then n + 1 else n) r := by
  rcases hop with rfl | rfl | rfl <;> rfl

theorem scan_push {op : Op} {b : Bool} (hop : op = .pushA ∧ b = false ∨ op = .pushO ∧ b = true) (ks : List Bool)
    (n : Nat) (r : List Op) : scan ks n (op :: r) = scan (ks ++ [b]) (if ks = [] then n + 1 else n) r := by
  rcases hop with ⟨rfl, rfl⟩ | ⟨rfl, rfl⟩ <;> rfl

theorem scan_pop {op : Op} {b : Bool} (hop : op = .popA ∧ b = false ∨ op = .popO ∧ b = true) (ks : List Bool)
    (n : Nat) (r : List Op) :
    scan ks n (op :: r) = if ks.getLast? = some b then scan ks.dropLast n r else none := by
  rcases hop with ⟨rfl, rfl⟩ | ⟨rfl, rfl⟩ <;> rfl

/-- What one step has to establish: it moves `scan` along, keeps the invariant with the bound raised by one, and
the entry-level count grows (`δ` = 1) exactly when a top-level value begins. -/
def Follows (base : List Entry) (B : Nat) (m' : Machine) (e0 : Entry) (ks : List Bool) (op : Op) : Prop :=
  ∃ e0' ks' δ, (∀ n r, scan ks n (op :: r) = scan ks' (n + δ) r) ∧ FInv base (B + 1) m' e0' ks' ∧
    e0'.length = e0.length + δ

section
variable {k : Nat} {base : List Entry} {m m' : Machine} {e0 : Entry} {ks : List Bool} {B : Nat} {op : Op}

theorem step_scan_scalar (hop : op = .lit ∨ op = .str ∨ op = .num)
    (h : stepF k base.length m op = .ok m') (hi : FInv base B m e0 ks) (hB : IncOK (B + 1)) :
    Follows base B m' e0 ks op := by
  obtain ⟨h0, hpos⟩ := hi
  obtain ⟨hs, hl⟩ := scalar_ok hop h
  rcases hpos with ⟨h1, h2, h3⟩ | ⟨es, h1, h2, h3, h4⟩
  · refine ⟨e0.increment, [], 1, ?_, ?_, (hB e0 (Nat.lt_succ_of_le h0)).1⟩
    · intro n r; rw [scan_scalar hop, h3]; rfl
    · exact ⟨by rw [(hB e0 (Nat.lt_succ_of_le h0)).1]; omega, .inl ⟨by rw [hs, h1], by rw [hl, h2], rfl⟩⟩
  · refine ⟨e0, ks, 0, ?_, ?_, rfl⟩
    · intro n r; rw [scan_scalar hop]; simp [h2]
    · refine ⟨by omega, .inr ⟨es, by rw [hs, h1], ?_, fun e he => Nat.le_succ_of_le (h3 e he), ?_⟩⟩
      · rw [hl, (hB _ (Nat.lt_succ_of_le h4)).2]; exact h2
      · rw [hl, (hB _ (Nat.lt_succ_of_le h4)).1]; omega

theorem step_scan_push {b : Bool} (hop : op = .pushA ∧ b = false ∨ op = .pushO ∧ b = true)
    (h : stepF k base.length m op = .ok m') (hi : FInv base B m e0 ks) (hB : IncOK (B + 1)) :
    Follows base B m' e0 ks op := by
  obtain ⟨h0, hpos⟩ := hi
  obtain ⟨hs, hk, hl⟩ := push_ok hop h
  rcases hpos with ⟨h1, h2, h3⟩ | ⟨es, h1, h2, h3, h4⟩
  · refine ⟨e0.increment, [b], 1, ?_, ?_, (hB e0 (Nat.lt_succ_of_le h0)).1⟩
    · intro n r; rw [scan_push hop, h3]; rfl
    · exact ⟨by rw [(hB e0 (Nat.lt_succ_of_le h0)).1]; omega, .inr ⟨[], by rw [hs, h1, h2], by rw [hk]; rfl, by simp, by omega⟩⟩
  · refine ⟨e0, ks ++ [b], 0, ?_, ?_, rfl⟩
    · intro n r; rw [scan_push hop]; simp [h2]
    · refine ⟨by omega, .inr ⟨es ++ [m.last.increment], by simp [hs, h1], ?_, ?_, by omega⟩⟩
      · simp [hk, h2, (hB _ (Nat.lt_succ_of_le h4)).2]
      · intro e he
        rcases List.mem_append.mp he with he | he
        · exact Nat.le_succ_of_le (h3 e he)
        · rw [List.mem_singleton.mp he, (hB _ (Nat.lt_succ_of_le h4)).1]; omega

theorem step_scan_pop {b : Bool} (hop : op = .popA ∧ b = false ∨ op = .popO ∧ b = true)
    (h : stepF k base.length m op = .ok m') (hi : FInv base B m e0 ks) :
    Follows base B m' e0 ks op := by
  obtain ⟨h0, hpos⟩ := hi
  obtain ⟨hk, hf, x, hx, hs, hl⟩ := pop_ok hop h
  rcases hpos with ⟨h1, h2, h3⟩ | ⟨es, h1, h2, h3, h4⟩
  · rw [h1] at hf; exact absurd hf (Nat.lt_irrefl _)
  · refine ⟨e0, es.map Entry.isObject, 0, ?_, ⟨Nat.le_succ_of_le h0, ?_⟩, rfl⟩
    · intro n r; rw [scan_pop hop, h2, hk]; simp
    -- the entry that comes back is the last saved one: `e0` itself, or the innermost of `es`
    rcases List.eq_nil_or_concat es with rfl | ⟨es', y, hes⟩
    · rw [h1] at hx hs
      simp only [List.getLast?_append, List.getLast?_singleton, Option.some_or, Option.some.injEq] at hx
      exact .inl ⟨by rw [hs]; exact List.dropLast_concat, by rw [hl, hx], rfl⟩
    · rw [List.concat_eq_append] at hes; subst hes
      have e1 : m.stack = (base ++ e0 :: es') ++ [y] := by simp [h1]
      rw [e1, List.getLast?_concat] at hx
      rw [e1, List.dropLast_concat] at hs
      obtain rfl := Option.some.inj hx
      refine .inr ⟨es', hs, by simp [hl], fun e he => ?_, ?_⟩
      · exact Nat.le_succ_of_le (h3 e (by simp [he]))
      · rw [hl]; exact Nat.le_succ_of_le (h3 y (by simp))

theorem step_scan (h : stepF k base.length m op = .ok m') (hi : FInv base B m e0 ks) (hB : IncOK (B + 1)) :
    Follows base B m' e0 ks op := by
  cases op with
  | lit => exact step_scan_scalar (.inl rfl) h hi hB
  | str => exact step_scan_scalar (.inr (.inl rfl)) h hi hB
  | num => exact step_scan_scalar (.inr (.inr rfl)) h hi hB
  | pushA => exact step_scan_push (.inl ⟨rfl, rfl⟩) h hi hB
  | pushO => exact step_scan_push (.inr ⟨rfl, rfl⟩) h hi hB
  | popA => exact step_scan_pop (.inl ⟨rfl, rfl⟩) h hi
  | popO => exact step_scan_pop (.inr ⟨rfl, rfl⟩) h hi

end

theorem run_scan (k : Nat) (base : List Entry) : ∀ (ops : List Op) (m t : Machine) (e0 : Entry) (ks : List Bool) (n B : Nat),
    runF k base.length m ops = .ok t → FInv base B m e0 ks → IncOK (B + ops.length) →
    ∃ e0' ks' n', scan ks n ops = some (ks', n') ∧ FInv base (B + ops.length) t e0' ks' ∧
      e0'.length + n = e0.length + n'
  | [], m, t, e0, ks, n, B, h, hi, _ => by
    cases h; exact ⟨e0, ks, n, rfl, hi, rfl⟩
  | op :: ops, m, t, e0, ks, n, B, h, hi, hB => by
    rw [runF] at h
    cases hs : stepF k base.length m op with
    | error e => rw [hs] at h; cases h
    | ok m' =>
      rw [hs] at h
      rw [List.length_cons, ← Nat.add_assoc, Nat.add_right_comm] at hB ⊢
      obtain ⟨e1, ks1, δ, hscan, hi1, hlen⟩ := step_scan hs hi (hB.mono (Nat.le_add_right _ _))
      obtain ⟨e2, ks2, n2, hscan2, hi2, hlen2⟩ := run_scan k base ops m' t e1 ks1 (n + δ) (B + 1) h hi1 hB
      exact ⟨e2, ks2, n2, by rw [hscan, hscan2], hi2, by omega⟩

theorem run_scan_entry (k : Nat) (m t : Machine) (ops : List Op) (h : runF k m.stack.length m ops = .ok t)
    (hb : m.last.length + ops.length < 2^61) :
    ∃ e0' ks' n', scan [] 0 ops = some (ks', n') ∧ FInv m.stack (m.last.length + ops.length) t e0' ks' ∧
      e0'.length = m.last.length + n' :=
  run_scan k m.stack ops m t m.last [] 0 m.last.length h ⟨Nat.le_refl _, .inl ⟨rfl, rfl, rfl⟩⟩ (incOK hb)

/-- C02 `one_value`.  A script of state-machine operations that runs without error
while pops at or below its entry depth are refused, and that ends at the entry depth with the length of the
current container advanced by one, is exactly one complete JSON value (a scalar or one balanced container).
(`ops.length < 2^61 - length` : the 61-bit counter does not wrap.) -/
theorem one_value_floor (k : Nat) (m t : Machine) (ops : List Op)
    (h : runF k m.stack.length m ops = .ok t) (hd : t.depth = m.depth)
    (hl : t.last.length = m.last.length + 1) (hb : m.last.length + ops.length < 2^61) :
    wroteOneValue ops := by
  obtain ⟨e0', ks', n', hscan, ⟨_, hpos⟩, hlen⟩ := run_scan_entry k m t ops h hb
  rcases hpos with ⟨_, h2, h3⟩ | ⟨es, h1, _⟩
  · subst h3
    have : n' = 1 := by rw [h2] at hl; omega
    subst this; exact hscan
  · simp only [Machine.depth, h1, List.length_append, List.length_cons] at hd; omega

example : wroteOneValue [.pushA, .lit, .pushO, .str, .num, .popO, .popA] := by decide
example : ¬ wroteOneValue [.popA, .pushA, .lit, .lit] := by decide
example : ¬ wroteOneValue [.lit, .lit] := by decide
example : ¬ wroteOneValue [.pushA, .popO] := by decide

end JsonV.Lemmas.EncInvFloor
