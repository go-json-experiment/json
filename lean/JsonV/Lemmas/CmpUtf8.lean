/-
UTF-8 codec lemmas for C13, in terms of `IsScalar` and of `runes`/`encode` of Spec/Utf16Order.  `runes` is the function
`scalars` of Spec/StringSpec (`runes_eq_scalars`), so that a byte string `utf8.Valid` accepts is the encoding of the scalar
values it decodes to, and that decoding an encoding gives them back, are slice C11's `lossy_of_wellFormed` and `isSeq_scalars`.
-/
import JsonV.Spec.Utf16Order
import JsonV.Lemmas.QuoteMeaning
import JsonV.Lemmas.QuoteWf

namespace JsonV.Lemmas.CmpUtf8
open JsonV JsonV.Model.Utf8 JsonV.Spec.Utf16Order JsonV.Spec.StringSpec

theorem isScalar_iff {r : Nat} : IsScalar r ↔ QuoteSpec.IsScalar r := by
  unfold IsScalar QuoteSpec.IsScalar maxRune; omega

theorem encodeRune_cons (r : Nat) :
    ∃ b0 t, encodeRune r = b0 :: t ∧ (r < 0x80 → t = [] ∧ b0.toNat = r) ∧ (0x80 ≤ r → 0x80 ≤ b0.toNat) := by
  match he : encodeRune r with
  | [] => exact absurd he (Model.Utf8.encodeRune_ne_nil r)
  | b0 :: t =>
    refine ⟨b0, t, rfl, fun h1 => ?_, fun h2 => encodeRune_high r h2 b0 (he ▸ List.mem_cons_self)⟩
    rw [encodeRune_ascii h1] at he
    cases he
    exact ⟨rfl, UInt8.toNat_ofNat_lt (by omega)⟩

theorem encodeRune_ne_nil (r : Nat) (h : IsScalar r) : encodeRune r ≠ [] :=
  Model.Utf8.encodeRune_ne_nil r

theorem encodeRune_length_pos (r : Nat) : 0 < (encodeRune r).length :=
  List.length_pos_iff.mpr (Model.Utf8.encodeRune_ne_nil r)

theorem encode_cons (r : Nat) (rs : List Nat) : encode (r :: rs) = encodeRune r ++ encode rs := by
  simp [encode]

theorem runesAux_eq_scalars (fuel : Nat) : ∀ p : Bytes, p.length ≤ fuel → runesAux fuel p = scalars p := by
  induction fuel with
  | zero => intro p h; obtain rfl := List.eq_nil_of_length_eq_zero (Nat.le_zero.mp h); rw [scalars]; rfl
  | succ fuel ih =>
    intro p h
    cases p with
    | nil => rw [scalars]; rfl
    | cons c t =>
      have := decodeRune_snd_pos c t
      rw [scalars, runesAux, ih _ (by simp only [List.length_drop, List.length_cons] at h ⊢; omega)]
      exact nofun

theorem runes_eq_scalars (p : Bytes) : runes p = scalars p := runesAux_eq_scalars _ p (Nat.le_refl _)

theorem valid_encode (p : Bytes) (h : valid p = true) : (∀ r ∈ runes p, IsScalar r) ∧ encode (runes p) = p := by
  rw [runes_eq_scalars]
  refine ⟨fun r hr => isScalar_iff.mpr (QuoteSpec.scalars_isScalar p r hr), ?_⟩
  rw [encode, ← QuoteSpec.lossy_eq, QuoteSpec.lossy_of_wellFormed p (QuoteMeaning.valid_wellFormed p h)]

theorem runes_encode (rs : List Nat) (hr : ∀ r ∈ rs, IsScalar r) : runes (encode rs) = rs := by
  rw [runes_eq_scalars]
  induction rs with
  | nil => rw [encode, List.flatMap_nil, scalars]
  | cons r rs ih =>
    have hs := isScalar_iff.mp (hr r List.mem_cons_self)
    rw [encode_cons, QuoteWf.isSeq_scalars (QuoteWf.isSeq_encode_valid r hs.1 hs.2),
      ih fun x hx => hr x (List.mem_cons_of_mem _ hx)]

end JsonV.Lemmas.CmpUtf8
