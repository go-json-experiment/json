/-
`htmlEscape` of the v1 model (slice C09, Model/V1.lean): its equations by what the text begins with; the output holds
no `<`, `>`, `&` and no U+2028/U+2029; its length; undoing the five escapes gives the same bytes before and after.
-/
import JsonV.Model.V1

namespace JsonV.Lemmas.V1L
open JsonV JsonV.Model.V1

theorem isHtmlByte_cases {c : UInt8} (h : isHtmlByte c = true) : c = 0x3C ∨ c = 0x3E ∨ c = 0x26 := by
  simpa [isHtmlByte, or_assoc] using h

theorem isLsByte_cases {c : UInt8} (h : isLsByte c = true) : c = 0xA8 ∨ c = 0xA9 := by
  simpa [isLsByte] using h

theorem esc00_safe (c : UInt8) (h : isHtmlByte c = true) : ∀ x ∈ esc00 c, isHtmlByte x = false ∧ x ≠ 0xE2 := by
  rcases isHtmlByte_cases h with rfl | rfl | rfl <;> decide

theorem esc202_safe (c : UInt8) (h : isLsByte c = true) : ∀ x ∈ esc202 c, isHtmlByte x = false ∧ x ≠ 0xE2 := by
  rcases isLsByte_cases h with rfl | rfl <;> decide

theorem htmlEscape_nil : htmlEscape [] = [] := by rw [htmlEscape]

theorem htmlEscape_cons_keep (x : UInt8) (t : Bytes) (h1 : isHtmlByte x = false)
    (h2 : ∀ c2 t', x = 0xE2 → t = 0x80 :: c2 :: t' → isLsByte c2 = true → False) :
    htmlEscape (x :: t) = x :: htmlEscape t := by
  match t, h2 with
  | [], _ | [_], _ =>
    rw [htmlEscape]
    simp [h1]
    intro c1 c2 r h
    cases h
  | c1 :: c2 :: r, h2 =>
    rw [htmlEscape]; simp only [h1]
    by_cases hx : x = 0xE2 ∧ c1 = 0x80 ∧ isLsByte c2 = true
    · obtain ⟨rfl, rfl, h3⟩ := hx
      exact absurd h3 (fun h3 => h2 c2 r rfl rfl h3)
    · have : (x == 0xE2 && c1 == 0x80 && isLsByte c2) = false := by
        cases hh : (x == 0xE2 && c1 == 0x80 && isLsByte c2) with
        | false => rfl
        | true =>
          simp only [Bool.and_eq_true, beq_iff_eq] at hh
          exact absurd ⟨hh.1.1, hh.1.2, hh.2⟩ hx
      simp [this]

theorem htmlEscape_triple (c2 : UInt8) (t' : Bytes) (h : isLsByte c2 = true) :
    htmlEscape (0xE2 :: 0x80 :: c2 :: t') = esc202 c2 ++ htmlEscape t' := by
  rw [htmlEscape]; simp [h, isHtmlByte]

theorem htmlEscape_html (x : UInt8) (t : Bytes) (h : isHtmlByte x = true) :
    htmlEscape (x :: t) = esc00 x ++ htmlEscape t := by
  match t with
  | [] | [_] =>
    rw [htmlEscape]
    simp [h]
    intro c1 c2 r e
    cases e
  | c1 :: c2 :: r => rw [htmlEscape]; simp [h]

theorem htmlEscape_cons_plain (a : UInt8) (l : Bytes) (h1 : isHtmlByte a = false) (h2 : a ≠ 0xE2) :
    htmlEscape (a :: l) = a :: htmlEscape l :=
  htmlEscape_cons_keep a l h1 fun _ _ e _ _ => h2 e

theorem htmlEscape_ind {P : Bytes → Prop} (nil : P [])
    (html : ∀ x t, isHtmlByte x = true → P t → P (x :: t))
    (ls : ∀ c2 t, isLsByte c2 = true → P t → P (0xE2 :: 0x80 :: c2 :: t))
    (keep : ∀ x t, isHtmlByte x = false →
      (∀ c2 t', x = 0xE2 → t = 0x80 :: c2 :: t' → isLsByte c2 = true → False) → P t → P (x :: t)) :
    ∀ b, P b := by
  intro b
  fun_induction htmlEscape b with
  | case1 c c1 c2 rest' h ih => exact html c _ h ih
  | case2 c c1 c2 rest' h h2 ih =>
    simp only [Bool.and_eq_true, beq_iff_eq] at h2
    obtain ⟨⟨rfl, rfl⟩, h3⟩ := h2
    exact ls c2 rest' h3 ih
  | case3 c c1 c2 rest' h h2 ih =>
    refine keep c _ (by simpa using h) ?_ ih
    rintro c2' t' rfl e h3
    cases e
    simp [h3] at h2
  | case4 c rest hne h ih => exact html c _ h ih
  | case5 c rest hne h ih =>
    refine keep c _ (by simpa using h) ?_ ih
    rintro c2' t' rfl rfl _
    exact hne _ _ _ rfl
  | case6 => exact nil

theorem htmlEscape_no_html_bytes (b : Bytes) : ∀ x ∈ htmlEscape b, isHtmlByte x = false := by
  induction b using htmlEscape_ind with
  | nil => simp [htmlEscape_nil]
  | html c t h ih =>
    rw [htmlEscape_html c t h]
    intro x hx
    rcases List.mem_append.mp hx with hx | hx
    · exact (esc00_safe c h x hx).1
    · exact ih x hx
  | ls c2 t h ih =>
    rw [htmlEscape_triple c2 t h]
    intro x hx
    rcases List.mem_append.mp hx with hx | hx
    · exact (esc202_safe c2 h x hx).1
    · exact ih x hx
  | keep c t h h2 ih =>
    rw [htmlEscape_cons_keep c t h h2]
    intro x hx
    rcases List.mem_cons.mp hx with rfl | hx
    · exact h
    · exact ih x hx

theorem esc00_length (c : UInt8) : (esc00 c).length = 6 := rfl
theorem esc202_length (c : UInt8) : (esc202 c).length = 6 := rfl

theorem htmlEscape_length (b : Bytes) :
    (htmlEscape b).length = b.length + 5 * (escCounts b).1 + 3 * (escCounts b).2 := by
  fun_induction htmlEscape b with
  | case1 c c1 c2 rest' h ih =>
    rw [escCounts]; simp only [h, if_true, List.length_append, esc00_length, ih, List.length_cons]; omega
  | case2 c c1 c2 rest' h h2 ih =>
    rw [escCounts]; simp only [h, h2, if_true, List.length_append, esc202_length, ih, List.length_cons]
    simp; omega
  | case3 c c1 c2 rest' h h2 ih =>
    rw [escCounts]; simp only [h, h2, List.length_cons, ih]; simp; omega
  | case4 c rest hne h ih =>
    rw [escCounts]
    · simp only [h, if_true, List.length_append, esc00_length, ih, List.length_cons]; omega
    · exact hne
  | case5 c rest hne h ih =>
    rw [escCounts]
    · simp only [h, List.length_cons, ih]; simp; omega
    · exact hne
  | case6 => simp [escCounts]

theorem hasLS_tail {a : UInt8} {l : Bytes} (h : hasLS (a :: l) = false) : hasLS l = false := by
  match l with
  | [] | [_] => simp [hasLS]
  | b :: c :: r =>
    rw [hasLS, Bool.or_eq_false_iff] at h
    exact h.2

theorem htmlEscape_id_on_safe (b : Bytes) (hs : ∀ x ∈ b, isHtmlByte x = false) (hl : hasLS b = false) :
    htmlEscape b = b := by
  induction b using htmlEscape_ind with
  | nil => exact htmlEscape_nil
  | html c t h =>
    rw [hs c (by simp)] at h
    cases h
  | ls c2 t h =>
    rw [hasLS] at hl
    simp [h] at hl
  | keep c t h h2 ih =>
    rw [htmlEscape_cons_keep c t h h2, ih (fun x hx => hs x (List.mem_cons_of_mem _ hx)) (hasLS_tail hl)]

theorem hasLS_cons_of_ne (a : UInt8) (l : Bytes) (h : a ≠ 0xE2) : hasLS (a :: l) = hasLS l := by
  match l with
  | [] | [_] => simp [hasLS]
  | b :: c :: r => rw [hasLS]; simp [h]

theorem hasLS_append_noE2 (p l : Bytes) (hp : ∀ x ∈ p, x ≠ 0xE2) : hasLS (p ++ l) = hasLS l := by
  induction p with
  | nil => rfl
  | cons a p ih =>
    rw [List.cons_append, hasLS_cons_of_ne a _ (hp a (by simp))]
    exact ih (fun x hx => hp x (List.mem_cons_of_mem _ hx))

/-- a byte that `htmlEscape` copies whatever follows it, and that is not a backslash -/
def Plain (y : UInt8) : Prop := isHtmlByte y = false ∧ y ≠ 0xE2 ∧ y ≠ 0x5C

theorem htmlEscape_peel (t : Bytes) (y : UInt8) (T : Bytes) (h : htmlEscape t = y :: T) (hy : Plain y) :
    ∃ t', t = y :: t' ∧ T = htmlEscape t' := by
  -- an escape begins with a backslash, which `y` is not: so the first byte was copied
  induction t using htmlEscape_ind with
  | nil => rw [htmlEscape_nil] at h; cases h
  | html x t hx =>
    rw [htmlEscape_html x t hx] at h
    exact absurd (List.cons.inj h).1.symm hy.2.2
  | ls c2 t hc =>
    rw [htmlEscape_triple c2 t hc] at h
    exact absurd (List.cons.inj h).1.symm hy.2.2
  | keep x t h1 h2 =>
    rw [htmlEscape_cons_keep x t h1 h2] at h
    obtain ⟨rfl, rfl⟩ := List.cons.inj h
    exact ⟨t, rfl, rfl⟩

theorem htmlEscape_prefix_80 (l : Bytes) (z : UInt8) (t : Bytes)
    (h : htmlEscape l = 0x80 :: z :: t) (hz : isLsByte z = true) : ∃ t', l = 0x80 :: z :: t' := by
  have pz : Plain z := by rcases isLsByte_cases hz with rfl | rfl <;> exact ⟨by decide, by decide, by decide⟩
  obtain ⟨t1, rfl, e1⟩ := htmlEscape_peel l 0x80 _ h ⟨by decide, by decide, by decide⟩
  obtain ⟨t2, rfl, _⟩ := htmlEscape_peel t1 z _ e1.symm pz
  exact ⟨t2, rfl⟩

theorem hasLS_E2_cons (l : Bytes) (hl : hasLS l = false)
    (hp : ∀ z t, l = 0x80 :: z :: t → isLsByte z = false) : hasLS (0xE2 :: l) = false := by
  match l with
  | [] | [_] => simp [hasLS]
  | y :: z :: t =>
    rw [hasLS, hl]
    by_cases hy : y = 0x80
    · subst hy; simp [hp z t rfl]
    · simp [hy]

theorem htmlEscape_no_LS (b : Bytes) : hasLS (htmlEscape b) = false := by
  induction b using htmlEscape_ind with
  | nil => simp [htmlEscape_nil, hasLS]
  | html c t h ih =>
    rw [htmlEscape_html c t h, hasLS_append_noE2 _ _ (fun x hx => (esc00_safe c h x hx).2)]
    exact ih
  | ls c2 t h ih =>
    rw [htmlEscape_triple c2 t h, hasLS_append_noE2 _ _ (fun x hx => (esc202_safe c2 h x hx).2)]
    exact ih
  | keep c t h h2 ih =>
    rw [htmlEscape_cons_keep c t h h2]
    by_cases hc : c = 0xE2
    · -- a copied `E2` is not followed by `80 A8|A9` in the output, since it was not in the input
      subst hc
      apply hasLS_E2_cons _ ih
      intro z t' hzt
      cases hz : isLsByte z with
      | false => rfl
      | true =>
        obtain ⟨t'', rfl⟩ := htmlEscape_prefix_80 _ z t' hzt hz
        exact (h2 z t'' rfl rfl hz).elim
    · rw [hasLS_cons_of_ne c _ hc]
      exact ih

theorem unescape_cons_of_ne (c : UInt8) (Y : Bytes) (h : c ≠ 0x5C) : unescape (c :: Y) = c :: unescape Y := by
  match Y with
  | u :: a :: b :: c' :: d :: r => rw [unescape]; simp [h]
  | [] | [_] | [_, _] | [_, _, _] | [_, _, _, _] =>
    rw [unescape]
    intro u a b c' d r e
    cases e

theorem unescape_esc00 (c : UInt8) (h : isHtmlByte c = true) (X : Bytes) :
    unescape (esc00 c ++ X) = c :: unescape X := by
  rcases isHtmlByte_cases h with rfl | rfl | rfl
  · show unescape (0x5C :: 0x75 :: 0x30 :: 0x30 :: 0x33 :: 0x63 :: X) = _
    rw [unescape]; simp [unesc6]
  · show unescape (0x5C :: 0x75 :: 0x30 :: 0x30 :: 0x33 :: 0x65 :: X) = _
    rw [unescape]; simp [unesc6]
  · show unescape (0x5C :: 0x75 :: 0x30 :: 0x30 :: 0x32 :: 0x36 :: X) = _
    rw [unescape]; simp [unesc6]

theorem unescape_esc202 (c : UInt8) (h : isLsByte c = true) (X : Bytes) :
    unescape (esc202 c ++ X) = 0xE2 :: 0x80 :: c :: unescape X := by
  rcases isLsByte_cases h with rfl | rfl
  · show unescape (0x5C :: 0x75 :: 0x32 :: 0x30 :: 0x32 :: 0x38 :: X) = _
    rw [unescape]; simp [unesc6]
  · show unescape (0x5C :: 0x75 :: 0x32 :: 0x30 :: 0x32 :: 0x39 :: X) = _
    rw [unescape]; simp [unesc6]

theorem unesc6_plain (a b c d : UInt8) (o : Bytes) (h : unesc6 a b c d = some o) :
    Plain a ∧ Plain b ∧ Plain c ∧ Plain d := by
  have key : ∀ {k1 k2 k3 k4 : UInt8}, (a == k1 && b == k2 && c == k3 && d == k4) = true →
      Plain k1 ∧ Plain k2 ∧ Plain k3 ∧ Plain k4 → Plain a ∧ Plain b ∧ Plain c ∧ Plain d := by
    intro k1 k2 k3 k4 hc hk
    simp only [Bool.and_eq_true, beq_iff_eq] at hc
    obtain ⟨⟨⟨rfl, rfl⟩, rfl⟩, rfl⟩ := hc
    exact hk
  unfold unesc6 at h
  by_cases h1 : (a == 0x30 && b == 0x30 && c == 0x33 && d == 0x63) = true
  · exact key h1 (by unfold Plain; decide)
  rw [if_neg h1] at h
  by_cases h2 : (a == 0x30 && b == 0x30 && c == 0x33 && d == 0x65) = true
  · exact key h2 (by unfold Plain; decide)
  rw [if_neg h2] at h
  by_cases h3 : (a == 0x30 && b == 0x30 && c == 0x32 && d == 0x36) = true
  · exact key h3 (by unfold Plain; decide)
  rw [if_neg h3] at h
  by_cases h4 : (a == 0x32 && b == 0x30 && c == 0x32 && d == 0x38) = true
  · exact key h4 (by unfold Plain; decide)
  rw [if_neg h4] at h
  by_cases h5 : (a == 0x32 && b == 0x30 && c == 0x32 && d == 0x39) = true
  · exact key h5 (by unfold Plain; decide)
  rw [if_neg h5] at h
  cases h

theorem unescape_match (a b c d : UInt8) (r o : Bytes) (h : unesc6 a b c d = some o) :
    unescape (0x5C :: 0x75 :: a :: b :: c :: d :: r) = o ++ unescape r := by
  rw [unescape]; simp [h]

theorem unescape_nomatch (t : Bytes)
    (h : ∀ a b c d r o, t = 0x75 :: a :: b :: c :: d :: r → unesc6 a b c d = some o → False) :
    unescape (0x5C :: t) = 0x5C :: unescape t := by
  match t, h with
  | u :: a :: b :: c :: d :: r, h =>
    rw [unescape]
    by_cases hu : u = 0x75
    · subst hu
      cases hx : unesc6 a b c d with
      | none => simp
      | some o => exact absurd hx (fun hx => h a b c d r o rfl hx)
    · simp [hu]
  | [], _ | [_], _ | [_, _], _ | [_, _, _], _ | [_, _, _, _], _ =>
    rw [unescape]
    intro u a b c' d r e
    cases e

theorem htmlEscape_keeps_escape (a b c d : UInt8) (r o : Bytes) (h : unesc6 a b c d = some o) :
    htmlEscape (0x5C :: 0x75 :: a :: b :: c :: d :: r) = 0x5C :: 0x75 :: a :: b :: c :: d :: htmlEscape r := by
  obtain ⟨ha, hb, hc, hd⟩ := unesc6_plain a b c d o h
  rw [htmlEscape_cons_plain 0x5C _ (by decide) (by decide), htmlEscape_cons_plain 0x75 _ (by decide) (by decide),
    htmlEscape_cons_plain a _ ha.1 ha.2.1, htmlEscape_cons_plain b _ hb.1 hb.2.1,
    htmlEscape_cons_plain c _ hc.1 hc.2.1, htmlEscape_cons_plain d _ hd.1 hd.2.1]

theorem isLsByte_ne_5C (c : UInt8) (h : isLsByte c = true) : c ≠ 0x5C := by
  intro e; subst e; simp [isLsByte] at h

/-- By induction on a bound `n` on the length (an escape takes two to six bytes off the input at once). -/
theorem unescape_htmlEscape_le : ∀ (n : Nat) (b : Bytes), b.length ≤ n → unescape (htmlEscape b) = unescape b := by
  intro n
  induction n with
  | zero =>
    intro b hb
    have : b = [] := List.eq_nil_of_length_eq_zero (Nat.le_zero.mp hb)
    subst this; rw [htmlEscape_nil]
  | succ n ih =>
    intro b hb
    match b, hb with
    | [], _ => rw [htmlEscape_nil]
    | x :: t, hb =>
      have ht : t.length ≤ n := by simpa using hb
      by_cases hm : ∃ a b c d r o, x = 0x5C ∧ t = 0x75 :: a :: b :: c :: d :: r ∧ unesc6 a b c d = some o
      · -- a pre-existing escape is copied and undone on both sides
        obtain ⟨a, b', c, d, r, o, rfl, rfl, ho⟩ := hm
        rw [htmlEscape_keeps_escape a b' c d r o ho, unescape_match a b' c d _ o ho, unescape_match a b' c d r o ho,
          ih r (by simp at ht; omega)]
      · by_cases hh : isHtmlByte x = true
        · have hx : x ≠ 0x5C := by intro e; subst e; simp [isHtmlByte] at hh
          rw [htmlEscape_html x t hh, unescape_esc00 x hh, unescape_cons_of_ne x t hx, ih t ht]
        · have hh' : isHtmlByte x = false := by simpa using hh
          by_cases h3 : ∃ c2 t', x = 0xE2 ∧ t = 0x80 :: c2 :: t' ∧ isLsByte c2 = true
          · obtain ⟨c2, t', rfl, rfl, hl⟩ := h3
            rw [htmlEscape_triple c2 t' hl, unescape_esc202 c2 hl, ih t' (by simp at ht; omega),
              unescape_cons_of_ne 0xE2 _ (by decide), unescape_cons_of_ne 0x80 _ (by decide),
              unescape_cons_of_ne c2 _ (isLsByte_ne_5C c2 hl)]
          · rw [htmlEscape_cons_keep x t hh' (fun c2 t' e1 e2 e3 => h3 ⟨c2, t', e1, e2, e3⟩)]
            by_cases hx : x = 0x5C
            · subst hx
              rw [unescape_nomatch t (fun a b c d r o e ho => hm ⟨a, b, c, d, r, o, rfl, e, ho⟩)]
              rw [unescape_nomatch (htmlEscape t), ih t ht]
              -- the escaped tail cannot start a new match: its first five bytes would be the tail's
              intro a b c d R o e ho
              obtain ⟨pa, pb, pc, pd⟩ := unesc6_plain a b c d o ho
              obtain ⟨t1, rfl, e1⟩ := htmlEscape_peel t _ _ e ⟨by decide, by decide, by decide⟩
              obtain ⟨t2, rfl, e2⟩ := htmlEscape_peel t1 _ _ e1.symm pa
              obtain ⟨t3, rfl, e3⟩ := htmlEscape_peel t2 _ _ e2.symm pb
              obtain ⟨t4, rfl, e4⟩ := htmlEscape_peel t3 _ _ e3.symm pc
              obtain ⟨t5, rfl, _⟩ := htmlEscape_peel t4 _ _ e4.symm pd
              exact hm ⟨a, b, c, d, t5, o, rfl, rfl, ho⟩
            · rw [unescape_cons_of_ne x _ hx, unescape_cons_of_ne x _ hx, ih t ht]

theorem unescape_htmlEscape_all (b : Bytes) : unescape (htmlEscape b) = unescape b :=
  unescape_htmlEscape_le b.length b (Nat.le_refl _)

theorem unescape_htmlEscape_of_no_backslash (b : Bytes) (hb : ∀ x ∈ b, x ≠ 0x5C) :
    unescape (htmlEscape b) = b := by
  rw [unescape_htmlEscape_all b]
  induction b with
  | nil => rw [unescape]
  | cons c b ih =>
    rw [unescape_cons_of_ne c b (hb c (by simp)), ih fun x hx => hb x (List.mem_cons_of_mem _ hx)]

end JsonV.Lemmas.V1L
