/-
The window invariant of the decode buffer is preserved by fetch (for every chunk size), by advancing the
read position and by invalidatePreviousRead (C05).
-/
import JsonV.Model.Window
import JsonV.Lemmas.Basics

namespace JsonV.Model.Window
open JsonV

theorem fetch_prevEnd_le (w : Window) (k : Nat) (h2 : w.prevEnd ≤ w.buf.length) :
    (fetch w k).prevEnd ≤ (fetch w k).buf.length := by
  simp only [fetch, List.length_append, List.length_drop]
  exact Nat.le_trans (Nat.sub_le_sub_right h2 _) (Nat.le_add_right _ _)

theorem inv_init (stream : Bytes) : Inv stream (init stream) := by
  simp [Inv, init]

theorem inv_initWhole (stream : Bytes) : Inv stream (initWhole stream) := by
  simp [Inv, initWhole]

theorem inv_fetch (stream : Bytes) (w : Window) (k : Nat) (h : Inv stream w) : Inv stream (fetch w k) := by
  obtain ⟨h1, h2, h3, h4⟩ := h
  refine ⟨Nat.zero_le _, fetch_prevEnd_le w k h2, ?_, ?_⟩
  · simp only [fetch, List.length_append, h3, ← List.length_drop_add w.buf (Nat.le_trans h1 h2),
      ← List.length_take_add_drop w.pending k, Nat.add_assoc]
  · simp only [fetch]
    rw [Nat.add_assoc, Nat.add_sub_of_le h1, h4, List.drop_sub_drop_append _ _ h1 h2, List.append_assoc,
      List.take_append_drop]

theorem inv_advance (stream : Bytes) (w : Window) (s e : Nat) (h : Inv stream w) : Inv stream (advance w s e) := by
  unfold advance
  by_cases hg : w.prevEnd ≤ s ∧ s ≤ e ∧ e ≤ w.buf.length
  · rw [if_pos hg]
    obtain ⟨h1, h2, h3, h4⟩ := h
    refine ⟨hg.2.1, hg.2.2, h3, ?_⟩
    dsimp only
    rw [← List.drop_sub_drop_append _ _ (Nat.le_trans hg.1 hg.2.1) hg.2.2, ← h4, List.drop_drop, Nat.add_assoc,
      Nat.add_sub_of_le (Nat.le_trans hg.1 hg.2.1)]
  · rw [if_neg hg]
    exact h

theorem inv_invalidate (stream : Bytes) (w : Window) (h : Inv stream w) : Inv stream (invalidate w) := by
  unfold invalidate
  by_cases hg : w.prevStart < w.prevEnd ∧ w.prevStart < w.buf.length
  · rw [if_pos hg]
    simp only [Inv, List.length_set, List.drop_set_of_lt hg.1]
    exact ⟨Nat.le_refl _, h.2⟩
  · rw [if_neg hg]
    exact h

theorem run_preserves (P : Window → Prop) (ops : List Op) (hf : ∀ w k, P w → P (fetch w k))
    (ha : ∀ w s e, P w → P (advance w s e)) (hi : .invalidate ∈ ops → ∀ w, P w → P (invalidate w)) :
    ∀ w, P w → P (run w ops) := by
  induction ops with
  | nil => intro w h; exact h
  | cons op ops ih =>
    intro w h
    refine ih (fun hm => hi (List.mem_cons_of_mem _ hm)) _ ?_
    cases op with
    | fetch k => exact hf w k h
    | advance s e => exact ha w s e h
    | invalidate => exact hi (List.mem_cons_self ..) w h

theorem inv_run (stream : Bytes) (ops : List Op) : ∀ w, Inv stream w → Inv stream (run w ops) :=
  run_preserves (Inv stream) ops (inv_fetch stream) (inv_advance stream) fun _ => inv_invalidate stream

/-- what the invariant means for a caller that stops decoding: the stream is the first InputOffset bytes,
then UnreadBuffer, then what the reader still holds -/
theorem inv_unread (stream : Bytes) (w : Window) (h : Inv stream w) :
    stream = stream.take w.inputOffset ++ w.unread ++ w.pending ∧
    w.inputOffset + w.unread.length + w.pending.length = stream.length := by
  obtain ⟨h1, h2, h3, h4⟩ := h
  unfold Window.inputOffset Window.unread
  constructor
  · rw [List.append_assoc, ← h4, List.take_append_drop]
  · rw [Nat.add_assoc w.baseOffset, List.length_drop_add w.buf h2]
    exact h3.symm

theorem invExact_init (stream : Bytes) : InvExact stream (init stream) := by simp [InvExact, init]
theorem invExact_initWhole (stream : Bytes) : InvExact stream (initWhole stream) := by simp [InvExact, initWhole]

theorem invExact_fetch (stream : Bytes) (w : Window) (k : Nat) (h : InvExact stream w) :
    InvExact stream (fetch w k) := by
  obtain ⟨h1, h2, h3, h4⟩ := h
  refine ⟨Nat.zero_le _, fetch_prevEnd_le w k h2, ?_, ?_⟩
  · simp only [fetch, h3, List.append_assoc]
    rw [← List.append_assoc (w.buf.take w.prevStart), List.take_append_drop,
      List.take_append_drop]
  · simp only [fetch, List.length_append, List.length_take, h4, Nat.min_eq_left (Nat.le_trans h1 h2)]

theorem invExact_advance (stream : Bytes) (w : Window) (s e : Nat) (h : InvExact stream w) :
    InvExact stream (advance w s e) := by
  unfold advance
  by_cases hg : w.prevEnd ≤ s ∧ s ≤ e ∧ e ≤ w.buf.length
  · rw [if_pos hg]
    exact ⟨hg.2.1, hg.2.2, h.2.2.1, h.2.2.2⟩
  · rw [if_neg hg]
    exact h

theorem invExact_run (stream : Bytes) (ops : List Op) (hno : ∀ op ∈ ops, op.isInvalidate = false) :
    ∀ w, InvExact stream w → InvExact stream (run w ops) :=
  run_preserves (InvExact stream) ops (invExact_fetch stream) (invExact_advance stream) fun hm => nomatch hno _ hm

end JsonV.Model.Window
