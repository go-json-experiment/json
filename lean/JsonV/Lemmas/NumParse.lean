/-
C10 lemmas: value and digits of a decimal string; jsonwire.ParseUint is exact (loop invariant `v = val mod 2^64`,
the 20-digit overflow test).
-/
import JsonV.Model.Number
import JsonV.Spec.Ecma

namespace JsonV.Lemmas.NumParse
open JsonV JsonV.Model.Number JsonV.Spec.Ecma

theorem isDigit_eq (c : UInt8) : Model.Number.isDigit c = Spec.Ecma.isDigit c := rfl

theorem isDigit_iff (c : UInt8) : Spec.Ecma.isDigit c = true ↔ 48 ≤ c.toNat ∧ c.toNat ≤ 57 := by
  simp [Spec.Ecma.isDigit, UInt8.le_iff_toNat_le]

theorem unsafeWidth_eq : unsafeWidth = 20 := rfl

theorem foldl_val (t : Bytes) (a : Nat) :
    t.foldl (fun a c => 10 * a + (c.toNat - 48)) a = a * 10 ^ t.length + bytesVal t := by
  induction t generalizing a with
  | nil => simp [bytesVal]
  | cons c t ih =>
    simp only [List.foldl_cons, List.length_cons, bytesVal]
    rw [ih, ih (10 * 0 + (c.toNat - 48)), Nat.pow_succ]
    grind

theorem bytesVal_nil : bytesVal [] = 0 := rfl

theorem bytesVal_cons (c : UInt8) (t : Bytes) :
    bytesVal (c :: t) = (c.toNat - 48) * 10 ^ t.length + bytesVal t := by
  simp only [bytesVal, List.foldl_cons]
  rw [foldl_val]; simp [bytesVal]

theorem bytesVal_append (s t : Bytes) : bytesVal (s ++ t) = bytesVal s * 10 ^ t.length + bytesVal t := by
  simp only [bytesVal, List.foldl_append]
  rw [foldl_val]; rfl

theorem bytesVal_lt (b : Bytes) (h : ∀ c ∈ b, Spec.Ecma.isDigit c = true) : bytesVal b < 10 ^ b.length := by
  induction b with
  | nil => simp [bytesVal]
  | cons c t ih =>
    have hc := (isDigit_iff c).1 (h c (by simp))
    have ht := ih (fun x hx => h x (by simp [hx]))
    rw [bytesVal_cons, List.length_cons, Nat.pow_succ]
    have : (c.toNat - 48) * 10 ^ t.length ≤ 9 * 10 ^ t.length := Nat.mul_le_mul_right _ (by omega)
    omega

theorem decVal_eq (b : Bytes) : decVal b = bytesVal b := rfl

theorem natDigits_eq_decimal (n : Nat) : natDigits n = decimal n := by
  induction n using Nat.strongRecOn with
  | _ n ih =>
    rw [natDigits, decimal]
    by_cases h : n < 10
    · rw [dif_pos h, dif_pos h]
    · rw [dif_neg h, dif_neg h, ih (n / 10) (Nat.div_lt_self (by omega) (by decide))]

theorem dig_toNat (d : Nat) (h : d < 10) : (dig d).toNat = 48 + d := by
  simp only [dig, UInt8.toNat_ofNat']; omega

theorem dig_isDigit (d : Nat) (h : d < 10) : Spec.Ecma.isDigit (dig d) = true := by
  rw [isDigit_iff, dig_toNat d h]; omega

theorem map_dig_digits (l : List Nat) (h : ∀ d ∈ l, d < 10) : ∀ c ∈ l.map dig, Spec.Ecma.isDigit c = true := by
  intro c hc
  obtain ⟨d, hd, rfl⟩ := List.mem_map.1 hc
  exact dig_isDigit d (h d hd)

theorem decimal_lt (e : Nat) : ∀ d ∈ decimal e, d < 10 := by
  induction e using Nat.strongRecOn with
  | _ e ih =>
    rw [decimal]
    by_cases h : e < 10
    · rw [dif_pos h]; intro d hd; rwa [List.mem_singleton.1 hd]
    · rw [dif_neg h]
      intro d hd
      rcases List.mem_append.1 hd with hd | hd
      · exact ih (e / 10) (by omega) d hd
      · rw [List.mem_singleton.1 hd]; exact Nat.mod_lt _ (by decide)

theorem decimal_ne_nil (e : Nat) : decimal e ≠ [] := by
  rw [decimal]
  by_cases h : e < 10
  · rw [dif_pos h]; exact List.cons_ne_nil _ _
  · rw [dif_neg h]; exact List.append_ne_nil_of_right_ne_nil _ (List.cons_ne_nil _ _)

theorem decimal_head (e : Nat) (h : 0 < e) : (decimal e).head? ≠ some 0 := by
  induction e using Nat.strongRecOn with
  | _ e ih =>
    rw [decimal]
    by_cases h10 : e < 10
    · rw [dif_pos h10, List.head?_cons]; intro h0; exact Nat.ne_of_gt h (Option.some.inj h0)
    · have := ih (e / 10) (by omega) (by omega)
      obtain ⟨a, r, hd⟩ := List.exists_cons_of_ne_nil (decimal_ne_nil (e / 10))
      rw [dif_neg h10]
      rw [hd] at this ⊢
      exact this

theorem bytesVal_map_dig (ds : List Nat) (h : ∀ d ∈ ds, d < 10) : bytesVal (ds.map dig) = digitsVal ds := by
  have : ∀ (l : List Nat) (a : Nat), (∀ d ∈ l, d < 10) →
      (l.map dig).foldl (fun a c => 10 * a + (c.toNat - 48)) a = l.foldl (fun a d => 10 * a + d) a := by
    intro l
    induction l with
    | nil => intros; rfl
    | cons d t ih =>
      intro a hl
      rw [List.map_cons, List.foldl_cons, List.foldl_cons, dig_toNat d (hl d List.mem_cons_self), Nat.add_sub_cancel_left,
        ih _ (fun x hx => hl x (List.mem_cons_of_mem d hx))]
  exact this ds 0 h

theorem digitsVal_decimal (e : Nat) : digitsVal (decimal e) = e := by
  induction e using Nat.strongRecOn with
  | _ e ih =>
    rw [decimal]
    by_cases h : e < 10
    · rw [dif_pos h]; exact Nat.zero_add e
    · have := ih (e / 10) (by omega)
      rw [dif_neg h]
      simp only [digitsVal, List.foldl_append, List.foldl_cons, List.foldl_nil] at this ⊢
      rw [this]; omega

theorem bytesVal_decimal (e : Nat) : bytesVal ((decimal e).map dig) = e := by
  rw [bytesVal_map_dig _ (decimal_lt e), digitsVal_decimal]

theorem loop_digits (b : Bytes) (h : ∀ c ∈ b, Spec.Ecma.isDigit c = true) (n : Nat) (v : UInt64) :
    parseUintLoop b n v = (n + b.length, v * UInt64.ofNat (10 ^ b.length) + UInt64.ofNat (bytesVal b)) := by
  induction b generalizing n v with
  | nil => simp [parseUintLoop, bytesVal]
  | cons c t ih =>
    have hc : Model.Number.isDigit c = true := h c List.mem_cons_self
    have hd : (c - 48).toUInt64 = UInt64.ofNat (c.toNat - 48) := by
      rw [← UInt64.ofNat_uInt8ToNat, UInt8.toNat_sub_of_le _ _ (UInt8.le_iff_toNat_le.2 (show (48 : UInt8).toNat ≤ c.toNat from ((isDigit_iff c).1 hc).1))]; rfl
    rw [parseUintLoop, if_pos hc, ih (fun x hx => h x (List.mem_cons_of_mem c hx)), hd,
      bytesVal_cons, List.length_cons, Nat.pow_succ, UInt64.ofNat_add, UInt64.ofNat_mul, UInt64.ofNat_mul,
      UInt64.add_mul, UInt64.add_assoc, UInt64.mul_comm 10 v, UInt64.mul_assoc, UInt64.mul_comm 10, Nat.add_right_comm]
    rfl

theorem loop_count (b : Bytes) (n : Nat) (v : UInt64) :
    (parseUintLoop b n v).1 = n + (b.takeWhile Spec.Ecma.isDigit).length := by
  induction b generalizing n v with
  | nil => simp [parseUintLoop]
  | cons c t ih =>
    rw [parseUintLoop]
    by_cases hc : Spec.Ecma.isDigit c = true
    · have hc' : Model.Number.isDigit c = true := hc
      rw [if_pos hc', ih, List.takeWhile_cons_of_pos hc]; simp; omega
    · have hc' : ¬ Model.Number.isDigit c = true := hc
      rw [if_neg hc', List.takeWhile_cons_of_neg hc]; simp

theorem canonical_iff (b : Bytes) :
    canonicalDecimal b = true ↔
      b ≠ [] ∧ (∀ c ∈ b, Spec.Ecma.isDigit c = true) ∧ (b.head? ≠ some 48 ∨ b = [48]) := by
  simp only [canonicalDecimal, Bool.and_eq_true, Bool.not_eq_true', List.all_eq_true, Bool.or_eq_true,
    bne_iff_ne, ne_eq, beq_iff_eq, List.isEmpty_eq_false_iff, and_assoc]

theorem canonical_cons (c : UInt8) (l : Bytes) (hc : Spec.Ecma.isDigit c = true) (h0 : c ≠ 48)
    (hl : ∀ x ∈ l, Spec.Ecma.isDigit x = true) : canonicalDecimal (c :: l) = true :=
  (canonical_iff _).2 ⟨List.cons_ne_nil _ _, fun x hx => (List.mem_cons.1 hx).elim (fun e => e ▸ hc) (hl x),
    Or.inl fun h => h0 (Option.some.inj h)⟩

theorem canonical_lead (d : Nat) (l : Bytes) (hd : d < 10) (hd0 : d ≠ 0) (hl : ∀ c ∈ l, Spec.Ecma.isDigit c = true) :
    canonicalDecimal (dig d :: l) = true :=
  canonical_cons _ l (dig_isDigit d hd) (fun h => by
    have := dig_toNat d hd
    rw [h] at this
    exact hd0 (Nat.add_left_cancel (n := 48) (m := d) (k := 0) this.symm)) hl

theorem canonical_append {s t : Bytes} (hs : canonicalDecimal s = true) (h0 : s ≠ [48])
    (ht : ∀ x ∈ t, Spec.Ecma.isDigit x = true) : canonicalDecimal (s ++ t) = true := by
  obtain ⟨hne, hdig, hlead⟩ := (canonical_iff s).1 hs
  obtain ⟨c, r, rfl⟩ := List.exists_cons_of_ne_nil hne
  exact canonical_cons c (r ++ t) (hdig c List.mem_cons_self)
    (fun e => (hlead.resolve_right h0) (congrArg some e))
    fun x hx => (List.mem_append.1 hx).elim (fun h => hdig x (List.mem_cons_of_mem c h)) (ht x)

theorem parseUint_not_canonical (b : Bytes) (h : canonicalDecimal b = false) : parseUint b = (0, false) := by
  unfold parseUint
  have hn := loop_count b 0 0
  generalize parseUintLoop b 0 0 = r at hn
  obtain ⟨n, v⟩ := r
  simp only [Nat.zero_add] at hn
  subst hn
  simp only
  rw [if_pos]
  -- the first test of the switch fires
  simp only [canonicalDecimal, Bool.and_eq_false_iff, Bool.not_eq_false', Bool.or_eq_false_iff] at h
  simp only [Bool.or_eq_true, beq_iff_eq, bne_iff_ne, ne_eq, Bool.and_eq_true]
  rcases h with (h | h) | h
  · left; left; simp [List.isEmpty_iff.1 h]
  · left; right
    intro heq
    -- a digit prefix as long as the text is the text
    rw [← (List.takeWhile_prefix Spec.Ecma.isDigit).eq_of_length heq.symm, List.all_takeWhile] at h
    cases h
  · right
    simp at h
    exact ⟨by simp [h.1], h.2⟩

/-- The overflow test of the switch, on a canonical decimal, is exactly `2^64 ≤ value`: below 20
digits the value is under 10^19; with 20 digits it lies in `[d·10^19, (d+1)·10^19)` for the leading digit `d ≥ 1`,
so it overflows when `d ≥ 2`, and for `d = 1` exactly when the wrapped value has fallen below 10^19; beyond 20
digits it is at least 10^20. -/
theorem overflow_test (b : Bytes) (h : canonicalDecimal b = true) :
    (decide (b.length ≥ 20) &&
      (b.head? != some (49 : UInt8) || decide (UInt64.ofNat (bytesVal b) < 10000000000000000000) ||
        decide (b.length > 20))) = true ↔ 2 ^ 64 ≤ bytesVal b := by
  obtain ⟨hne, hdig, hlead⟩ := (canonical_iff b).1 h
  obtain ⟨c, t, rfl⟩ := List.exists_cons_of_ne_nil hne
  have hc0 : t ≠ [] → c ≠ 48 := fun htne hc48 =>
    hlead.elim (fun hl => hl (congrArg some hc48)) (fun hl => htne (List.cons.inj hl).2)
  rw [List.length_cons, List.head?_cons]
  have hc := (isDigit_iff c).1 (hdig c List.mem_cons_self)
  have ht : bytesVal t < 10 ^ t.length := bytesVal_lt t (fun x hx => hdig x (List.mem_cons_of_mem c hx))
  have hv := bytesVal_cons c t
  have hvt : (UInt64.ofNat (bytesVal (c :: t))).toNat = bytesVal (c :: t) % 2 ^ 64 := UInt64.toNat_ofNat'
  have hc0' : t.length ≠ 0 → c.toNat ≠ 48 := fun hl e =>
    hc0 (fun h => hl (congrArg List.length h)) (UInt8.toNat_inj.1 e)
  generalize bytesVal (c :: t) = V at *
  simp only [Bool.and_eq_true, Bool.or_eq_true, decide_eq_true_eq, bne_iff_ne, ne_eq, Option.some.injEq,
    UInt64.lt_iff_toNat_lt, hvt, ← UInt8.toNat_inj, show (10000000000000000000 : UInt64).toNat = 10 ^ 19 from rfl,
    show (49 : UInt8).toNat = 49 from rfl]
  obtain ⟨d, hd⟩ : ∃ d, c.toNat = 48 + d := ⟨c.toNat - 48, by omega⟩
  rw [hd] at hc hc0' hv ⊢
  rw [Nat.add_sub_cancel_left] at hv
  rcases Nat.lt_trichotomy t.length 19 with hk | hk | hk
  · have h2 : d * 10 ^ t.length ≤ 9 * 10 ^ 18 :=
      Nat.mul_le_mul (by omega) (Nat.pow_le_pow_right (by decide) (Nat.le_of_lt_succ hk))
    have h3 : 10 ^ t.length ≤ 10 ^ 18 := Nat.pow_le_pow_right (by decide) (Nat.le_of_lt_succ hk)
    omega
  · rw [hk] at hv ht
    omega
  · have h2 : 1 * 10 ^ 20 ≤ d * 10 ^ t.length :=
      Nat.mul_le_mul (by omega) (Nat.pow_le_pow_right (by decide) hk)
    omega

theorem parseUint_canonical (b : Bytes) (h : canonicalDecimal b = true) :
    parseUint b = if bytesVal b < 2 ^ 64 then (UInt64.ofNat (bytesVal b), true) else (maxUint64, false) := by
  obtain ⟨hne, hdig, hlead⟩ := (canonical_iff b).1 h
  have h1 : (b.length == 0 || b.length != b.length || (b.head? == some (48 : UInt8) && b != [48])) = false := by
    rw [bne_self_eq_false, Bool.or_false, Bool.or_eq_false_iff, Bool.and_eq_false_iff, bne_eq_false_iff_eq,
      beq_eq_false_iff_ne, beq_eq_false_iff_ne]
    exact ⟨fun h0 => hne (List.length_eq_zero_iff.1 h0), hlead⟩
  have h2 := overflow_test b h
  unfold parseUint
  rw [loop_digits _ hdig 0 0]
  simp only [Nat.zero_add, UInt64.zero_mul, UInt64.zero_add, h1, Bool.false_eq_true, if_false, unsafeWidth_eq]
  by_cases hfit : bytesVal b < 2 ^ 64
  · rw [if_neg (fun hh => Nat.not_le.2 hfit (h2.1 hh)), if_pos hfit]
  · rw [if_pos (h2.2 (Nat.le_of_not_lt hfit)), if_neg hfit]

theorem parseUint_exact (b : Bytes) :
    parseUint b =
      if canonicalDecimal b then
        (if bytesVal b < 2 ^ 64 then (UInt64.ofNat (bytesVal b), true) else (maxUint64, false))
      else (0, false) := by
  by_cases h : canonicalDecimal b = true
  · rw [if_pos h]; exact parseUint_canonical b h
  · rw [if_neg h]; exact parseUint_not_canonical b (by simpa using h)

theorem parseUint_cases (b : Bytes) :
    (canonicalDecimal b = true ∧ bytesVal b < 2 ^ 64 ∧ parseUint b = (UInt64.ofNat (bytesVal b), true)) ∨
    (canonicalDecimal b = true ∧ 2 ^ 64 ≤ bytesVal b ∧ parseUint b = (maxUint64, false)) ∨
    (canonicalDecimal b = false ∧ parseUint b = (0, false)) := by
  rw [parseUint_exact]
  cases canonicalDecimal b
  · exact Or.inr (Or.inr ⟨rfl, rfl⟩)
  · by_cases hfit : bytesVal b < 2 ^ 64
    · exact Or.inl ⟨rfl, hfit, if_pos hfit⟩
    · exact Or.inr (Or.inl ⟨rfl, Nat.le_of_not_lt hfit, if_neg hfit⟩)

end JsonV.Lemmas.NumParse
