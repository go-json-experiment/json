/-
The compact rendering is the bare concatenation of the lexemes, and no lexeme other than a string
contains a whitespace byte.
-/
import JsonV.Lemmas.FormatMain

namespace JsonV.Fmt

theorem flatWs_compact : ∀ (ts : List Tok) (st : Stack),
    flatWs (pieces compactOpts st ts) = ((punct st ts).map Lex.bytes).flatten := by
  intro ts
  induction ts with
  | nil => intro st; rfl
  | cons t ts ih =>
    intro st
    simp only [pieces, punct]
    cases hs : step st t with
    | none => simp [flatWs, ih]
    | some p =>
      obtain ⟨d, st'⟩ := p
      cases d <;> simp [delimPiece, delimLex, flatWs, wsBefore_compact, ih]

theorem lexeme_no_ws (l : Lex) (hv : l.valid = true) (hs : ∀ raw, l ≠ .tok (.str raw)) :
    ∀ c ∈ l.bytes, isWs c = false := by
  cases l with
  | delim d => cases d <;> decide
  | tok t =>
    intro c hc
    cases hw : isWs c with
    | false => rfl
    | true =>
      have := ((tok_ws t hv).2.2 c hc hw).2
      cases t <;> first | exact absurd rfl (hs _) | cases this

theorem punct_valid : ∀ (ts : List Tok) (st : Stack), (∀ t ∈ ts, t.valid = true) → ∀ l ∈ punct st ts, l.valid = true := by
  intro ts
  induction ts with
  | nil => intro st _ l hl; simp [punct] at hl
  | cons t ts ih =>
    intro st hv l hl
    have hvt := hv t (by simp)
    have hv' : ∀ x ∈ ts, x.valid = true := fun x hx => hv x (List.mem_cons_of_mem _ hx)
    simp only [punct] at hl
    cases hs : step st t with
    | none =>
      simp only [hs, List.mem_cons] at hl
      rcases hl with rfl | hl
      · exact hvt
      · exact ih st hv' l hl
    | some p =>
      obtain ⟨d, st'⟩ := p
      simp only [hs, List.mem_append, List.mem_cons] at hl
      rcases hl with hl | rfl | hl
      · cases d <;> simp [delimLex] at hl; subst hl; rfl
      · exact hvt
      · exact ih st' hv' l hl

end JsonV.Fmt
