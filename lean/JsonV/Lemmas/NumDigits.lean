/-
Decimal numerals.  `bytesVal` reads a digit string; `formatUint` (strconv.AppendUint, also `natDigits` of Model/Time)
and `bytesVal` are inverse bijections between the numbers and the canonical decimals (`bytesVal_formatUint`,
`formatUint_bytesVal`), so a canonical decimal is determined by its value (`eq_formatUint`).  Every identity between
printed numbers — a number split into an upper and a zero-padded lower part, the `n + 10^k` trick of
`appendPaddedBase10`, a number of known width — is then "the other side is canonical too, compute its value".
-/
import JsonV.Lemmas.Basics
import JsonV.Lemmas.NumParse
import JsonV.Model.Time

namespace JsonV.Lemmas.NumDigits
open JsonV JsonV.Spec.Ecma JsonV.Lemmas.NumParse
open JsonV.Model.Number hiding isDigit

theorem dig_sub (c : UInt8) (h : isDigit c = true) : dig (c.toNat - 48) = c :=
  UInt8.ofNat_eq_of_toNat (Nat.add_sub_cancel' ((isDigit_iff c).1 h).1)

theorem bytesVal_zeros (z : Nat) : bytesVal (zeros z) = 0 := by
  induction z with
  | zero => rfl
  | succ z ih => rw [zeros, List.replicate_succ, bytesVal_cons, ← zeros, ih]; exact Nat.zero_mul _

/-- the `k` low decimal digits of `n`, most significant first. -/
def padDigits : Nat → Nat → Bytes
  | 0, _ => []
  | k + 1, n => dig (n / 10 ^ k % 10) :: padDigits k n

theorem padDigits_length (k n : Nat) : (padDigits k n).length = k := by
  induction k with
  | zero => rfl
  | succ k ih => rw [padDigits, List.length_cons, ih]

theorem padDigits_digits (k n : Nat) : ∀ c ∈ padDigits k n, isDigit c = true := by
  induction k with
  | zero => exact fun _ h => nomatch h
  | succ k ih =>
    intro c hc
    rcases List.mem_cons.1 hc with rfl | hc
    · exact dig_isDigit _ (Nat.mod_lt _ (by decide))
    · exact ih c hc

theorem bytesVal_padDigits (k n : Nat) : bytesVal (padDigits k n) = n % 10 ^ k := by
  induction k with
  | zero => exact (Nat.mod_one n).symm
  | succ k ih =>
    rw [padDigits, bytesVal_cons, dig_toNat _ (Nat.mod_lt _ (by decide)), Nat.add_sub_cancel_left, padDigits_length, ih,
      Nat.mod_pow_succ, Nat.mul_comm, Nat.add_comm]

theorem padDigits_snoc (k n : Nat) : padDigits (k + 1) n = padDigits k (n / 10) ++ [dig (n % 10)] := by
  induction k with
  | zero => show [dig (n / 10 ^ 0 % 10)] = _; rw [Nat.pow_zero, Nat.div_one]; rfl
  | succ k ih =>
    rw [padDigits, ih, padDigits, List.cons_append, Nat.div_div_eq_div_mul, Nat.pow_succ, Nat.mul_comm]

theorem padDigits_mul_pow (k j n : Nat) : padDigits (k + j) (n * 10 ^ j) = padDigits k n ++ zeros j := by
  induction j with
  | zero => rw [Nat.pow_zero, Nat.mul_one]; exact (List.append_nil _).symm
  | succ j ih =>
    rw [← Nat.add_assoc, Nat.pow_succ, ← Nat.mul_assoc, padDigits_snoc, Nat.mul_div_cancel _ (by decide : 0 < 10),
      Nat.mul_mod_left, ih, List.append_assoc, zeros, zeros, List.replicate_succ']
    rfl

theorem formatUint_eq (n : Nat) : formatUint n = (decimal n).map dig :=
  congrArg (List.map digitByte) (natDigits_eq_decimal n)

theorem bytesVal_formatUint (n : Nat) : bytesVal (formatUint n) = n := by
  rw [formatUint_eq, bytesVal_decimal]

theorem formatUint_canonical (n : Nat) : canonicalDecimal (formatUint n) = true := by
  rw [formatUint_eq]
  obtain ⟨a, r, hd⟩ := List.exists_cons_of_ne_nil (decimal_ne_nil n)
  have hlt := decimal_lt n
  by_cases hn : n = 0
  · subst hn; rw [decimal]; rfl
  · have h0 := decimal_head n (Nat.pos_of_ne_zero hn)
    rw [hd] at h0 hlt ⊢
    exact canonical_lead a _ (hlt a List.mem_cons_self) (fun e => h0 (congrArg some e))
      (map_dig_digits r fun x hx => hlt x (List.mem_cons_of_mem a hx))

theorem natDigits_snoc (a d : Nat) (ha : 0 < a) (hd : d < 10) : natDigits (10 * a + d) = natDigits a ++ [d] := by
  rw [natDigits, dif_neg (by omega), show (10 * a + d) / 10 = a by omega, show (10 * a + d) % 10 = d by omega]

theorem natDigits_foldl : ∀ (cs : Bytes) (a : Nat), 0 < a → (∀ c ∈ cs, isDigit c = true) →
    natDigits (cs.foldl (fun a c => 10 * a + (c.toNat - 48)) a) = natDigits a ++ cs.map (fun c => c.toNat - 48)
  | [], a, _, _ => (List.append_nil _).symm
  | c :: cs, a, ha, h => by
    have hc := (isDigit_iff c).1 (h c List.mem_cons_self)
    rw [List.foldl_cons, natDigits_foldl cs _ (by omega) (fun x hx => h x (List.mem_cons_of_mem c hx)),
      natDigits_snoc a _ ha (by omega), List.append_assoc]
    rfl

theorem formatUint_bytesVal (t : Bytes) (h : canonicalDecimal t = true) : formatUint (bytesVal t) = t := by
  obtain ⟨hne, hd, hz⟩ := (canonical_iff t).1 h
  obtain ⟨c, cs, rfl⟩ := List.exists_cons_of_ne_nil hne
  have hc := (isDigit_iff c).1 (hd c List.mem_cons_self)
  have hmap : ∀ l : Bytes, (∀ x ∈ l, isDigit x = true) → (l.map fun c => c.toNat - 48).map digitByte = l := fun l hl =>
    (List.map_map ..).trans ((List.map_congr_left (g := id) fun x hx => dig_sub x (hl x hx)).trans (List.map_id l))
  by_cases h48 : c = 48
  · rw [(List.cons.inj (hz.resolve_left fun h => h (congrArg some h48))).2, h48]
    show (natDigits 0).map digitByte = _
    rw [natDigits, dif_pos (by decide)]; rfl
  · have hn : c.toNat ≠ 48 := fun e => h48 (UInt8.toNat_inj.1 e)
    show (natDigits (cs.foldl _ (10 * 0 + (c.toNat - 48)))).map digitByte = _
    rw [Nat.mul_zero, Nat.zero_add, natDigits_foldl cs _ (by omega) fun x hx => hd x (List.mem_cons_of_mem c hx),
      natDigits, dif_pos (by omega), List.map_append, hmap cs fun x hx => hd x (List.mem_cons_of_mem c hx)]
    exact congrArg (· :: cs) (dig_sub c (hd c List.mem_cons_self))

theorem eq_formatUint {t : Bytes} {n : Nat} (h : canonicalDecimal t = true) (hv : bytesVal t = n) : t = formatUint n :=
  hv ▸ (formatUint_bytesVal t h).symm

theorem formatUint_ne_zero {n : Nat} (h : 0 < n) : formatUint n ≠ [48] := fun e =>
  Nat.ne_of_gt h ((bytesVal_formatUint n).symm.trans (congrArg bytesVal e))

end JsonV.Lemmas.NumDigits

namespace JsonV.Model.Time
open JsonV JsonV.Spec.Ecma JsonV.Lemmas.NumParse JsonV.Lemmas.NumDigits

theorem natDigits_eq_formatUint (n : Nat) : natDigits n = Number.formatUint n := by
  induction n using Nat.strongRecOn with
  | _ n ih =>
    rw [natDigits, Number.formatUint, Number.natDigits]
    by_cases h : n < 10
    · rw [if_pos h, dif_pos h]; rfl
    · rw [if_neg h, dif_neg h, ih (n / 10) (by omega), List.map_append]; rfl

theorem natDigits_canonical (n : Nat) : canonicalDecimal (natDigits n) = true :=
  natDigits_eq_formatUint n ▸ formatUint_canonical n

theorem bytesVal_natDigits (n : Nat) : bytesVal (natDigits n) = n :=
  natDigits_eq_formatUint n ▸ bytesVal_formatUint n

theorem natDigits_digits (n : Nat) : ∀ c ∈ natDigits n, isDigit c = true :=
  ((canonical_iff _).1 (natDigits_canonical n)).2.1

theorem eq_natDigits {t : Bytes} {n : Nat} (h : canonicalDecimal t = true) (hv : bytesVal t = n) : t = natDigits n :=
  (eq_formatUint h hv).trans (natDigits_eq_formatUint n).symm

theorem natDigits_append_pad (k us m : Nat) (hus : 0 < us) (hm : m < 10 ^ k) :
    natDigits (us * 10 ^ k + m) = natDigits us ++ padDigits k m :=
  (eq_natDigits
    (canonical_append (natDigits_canonical us) (natDigits_eq_formatUint us ▸ formatUint_ne_zero hus) (padDigits_digits k m))
    (by rw [bytesVal_append, bytesVal_natDigits, padDigits_length, bytesVal_padDigits, Nat.mod_eq_of_lt hm])).symm

theorem natDigits_one_pad (k n : Nat) (h : n < 10 ^ k) : natDigits (n + 10 ^ k) = 49 :: padDigits k n :=
  (eq_natDigits (canonical_cons 49 _ (by decide) (by decide) (padDigits_digits k n))
    (by rw [bytesVal_cons, padDigits_length, bytesVal_padDigits, Nat.mod_eq_of_lt h, Nat.add_comm]; exact congrArg (n + ·) (Nat.one_mul _))).symm

theorem natDigits_eq_pad (k n : Nat) (hlt : n < 10 ^ (k + 1)) (hge : 10 ^ k ≤ n) : natDigits n = padDigits (k + 1) n := by
  have hq : n / 10 ^ k < 10 := (Nat.div_lt_iff_lt_mul (Nat.pow_pos (by decide))).2 (by rwa [Nat.pow_succ, Nat.mul_comm] at hlt)
  have hq1 : 1 ≤ n / 10 ^ k := (Nat.le_div_iff_mul_le (Nat.pow_pos (by decide))).2 (by rwa [Nat.one_mul])
  refine (eq_natDigits ?_ (by rw [bytesVal_padDigits, Nat.mod_eq_of_lt hlt])).symm
  rw [padDigits, Nat.mod_eq_of_lt hq]
  exact canonical_lead _ _ hq (by omega) (padDigits_digits k n)

end JsonV.Model.Time
