/-
The PreserveRawStrings loop of ReformatString: one-step unfoldings, and — for every input — no raw `<` `>` `&` in
its output under EscapeForHTML and no raw U+2028/U+2029 under EscapeForJS (the decode chain never skips an E2 byte, an
ill-formed E2 is never followed by `80 A8`/`80 A9` in the output, a sequence cut off at `n` ends the output).
-/
import JsonV.Lemmas.QuoteSafe

namespace JsonV.Lemmas.QuotePreserve
open JsonV JsonV.Model.Utf8 JsonV.Model.Quote JsonV.Lemmas.QuoteL JsonV.Spec.StringSpec JsonV.Lemmas.QuoteSafe

/-- `PL_*`: one iteration of `preserveLoop` (the PreserveRawStrings loop) unfolded, by kind of head byte and whether it is escaped. -/
theorem PL_ascii_esc (html js : Bool) (k : Nat) (c : UInt8) (t : Bytes) (h0 : c.toNat < runeSelf)
    (h : (isHTMLChar c.toNat && html) = true) :
    preserveLoop html js (k + 1) (c :: t) = appendEscapedASCII c.toNat ++ preserveLoop html js k t := by
  rw [preserveLoop]; simp [preserveStep, h0, h]

theorem PL_ascii_plain (html js : Bool) (k : Nat) (c : UInt8) (t : Bytes) (h0 : c.toNat < runeSelf)
    (h : (isHTMLChar c.toNat && html) = false) :
    preserveLoop html js (k + 1) (c :: t) = c :: preserveLoop html js k t := by
  rw [preserveLoop]; simp [preserveStep, h0, h]

theorem PL_multi_esc (html js : Bool) (k : Nat) (c : UInt8) (t : Bytes) (h0 : ¬ c.toNat < runeSelf)
    (h : ((decodeRune (c :: t)).1 = 0x2028 ∨ (decodeRune (c :: t)).1 = 0x2029) ∧ js = true) :
    preserveLoop html js (k + 1) (c :: t) = appendEscapedUnicode (decodeRune (c :: t)).1 ++
      preserveLoop html js (k + 1 - (decodeRune (c :: t)).2) ((c :: t).drop (decodeRune (c :: t)).2) := by
  rw [preserveLoop]; simp only [preserveStep, h0, ↓reduceIte]; rw [if_pos h]

theorem PL_multi_plain (html js : Bool) (k : Nat) (c : UInt8) (t : Bytes) (h0 : ¬ c.toNat < runeSelf)
    (h : ¬ (((decodeRune (c :: t)).1 = 0x2028 ∨ (decodeRune (c :: t)).1 = 0x2029) ∧ js = true)) :
    preserveLoop html js (k + 1) (c :: t) = (c :: t).take (min (decodeRune (c :: t)).2 (k + 1)) ++
      preserveLoop html js (k + 1 - (decodeRune (c :: t)).2) ((c :: t).drop (decodeRune (c :: t)).2) := by
  rw [preserveLoop]; simp only [preserveStep, h0, ↓reduceIte]; rw [if_neg h]

theorem preserveLoop_zero (html js : Bool) (s : Bytes) : preserveLoop html js 0 s = [] := by
  rw [preserveLoop]
theorem preserveLoop_nil (html js : Bool) (k : Nat) : preserveLoop html js k [] = [] := by
  cases k <;> simp [preserveLoop]

theorem preserveLoop_noHTML (js : Bool) (k : Nat) (src : Bytes) : noHTML (preserveLoop true js k src) := by
  induction k using Nat.strongRecOn generalizing src with
  | _ k ih =>
    match k, src with
    | 0, s => rw [preserveLoop_zero]; exact fun _ h => nomatch h
    | k + 1, [] => rw [preserveLoop_nil]; exact fun _ h => nomatch h
    | k + 1, c :: t =>
      have hp := decodeRune_pos c t
      by_cases h0 : c.toNat < runeSelf
      · cases h : (isHTMLChar c.toNat && true)
        · rw [PL_ascii_plain true js k c t h0 h]
          exact noHTML_append (a := [c]) (fun b hb => by rw [List.mem_singleton.mp hb]; simpa using h) (ih k (by omega) t)
        · rw [PL_ascii_esc true js k c t h0 h]
          exact noHTML_append (fun b hb => (escaped_ascii_mem hb).2) (ih k (by omega) t)
      · by_cases h : ((decodeRune (c :: t)).1 = 0x2028 ∨ (decodeRune (c :: t)).1 = 0x2029) ∧ js = true
        · rw [PL_multi_esc true js k c t h0 h]
          exact noHTML_append (fun b hb => (escaped_ls_mem h.1 hb).2) (ih _ (by omega) _)
        · rw [PL_multi_plain true js k c t h0 h]
          refine noHTML_append ?_ (ih _ (by omega) _)
          rw [Nat.min_comm, ← List.take_take]
          exact noHTML_take _ (noHTML_of_high (decodeRune_take_high c t h0))

theorem escaped_ascii_head (c : Nat) : ∃ xs, appendEscapedASCII c = 0x5c :: xs := by
  rcases appendEscapedASCII_cases c with ⟨e, hx, -⟩ | ⟨hx, -⟩ <;> exact ⟨_, hx⟩

theorem escaped_ls_head (r : Nat) (h : r = 0x2028 ∨ r = 0x2029) : ∃ xs, appendEscapedUnicode r = 0x5c :: xs :=
  ⟨_, appendEscapedUnicode_bmp r (by omega)⟩

theorem preserveLoop_head (html js : Bool) (k : Nat) (b : UInt8) (t : Bytes) :
    (∃ xs, preserveLoop html js (k + 1) (b :: t) = b :: xs) ∨ (∃ xs, preserveLoop html js (k + 1) (b :: t) = 0x5c :: xs) := by
  by_cases h0 : b.toNat < runeSelf
  · cases h : (isHTMLChar b.toNat && html)
    · left; exact ⟨_, PL_ascii_plain html js k b t h0 h⟩
    · right
      obtain ⟨xs, hx⟩ := escaped_ascii_head b.toNat
      rw [PL_ascii_esc html js k b t h0 h]
      exact ⟨_, by rw [hx]; rfl⟩
  · by_cases h : ((decodeRune (b :: t)).1 = 0x2028 ∨ (decodeRune (b :: t)).1 = 0x2029) ∧ js = true
    · right
      obtain ⟨xs, hx⟩ := escaped_ls_head _ h.1
      rw [PL_multi_esc html js k b t h0 h, hx]
      exact ⟨_, rfl⟩
    · left
      have := decodeRune_pos b t
      obtain ⟨m, hm⟩ : ∃ m, min (decodeRune (b :: t)).2 (k + 1) = m + 1 :=
        ⟨_, (Nat.succ_pred_eq_of_pos (Nat.lt_min.mpr ⟨this, Nat.succ_pos k⟩)).symm⟩
      rw [PL_multi_plain html js k b t h0 h, hm]
      exact ⟨_, rfl⟩

theorem decodeRune_80 (t : Bytes) : decodeRune (0x80 :: t) = (runeError, 1) :=
  decodeRune_illformed (by decide) fun sz lo hi hl => by
    rw [leadInfo_none (.inl (by decide))] at hl; cases hl

theorem prefix_nil_false {x : UInt8} {l : Bytes} : ¬ (x :: l) <+: ([] : Bytes) := by simp

/-- A prefix `80 A8` / `80 A9` of the loop's output is a prefix of its input: what the loop emits at a byte is that byte or starts with `\` (`preserveLoop_head`). -/
theorem preserveLoop_prefix_reflect (html js : Bool) (k : Nat) (t : Bytes) (y : UInt8) (hy : y = 0xA8 ∨ y = 0xA9)
    (h : [0x80, y] <+: preserveLoop html js k t) : [0x80, y] <+: t := by
  match t, k with
  | [], k => rw [preserveLoop_nil] at h; exact absurd h prefix_nil_false
  | b1 :: t1, 0 => rw [preserveLoop_zero] at h; exact absurd h prefix_nil_false
  | b1 :: t1, k' + 1 =>
    rcases preserveLoop_head html js k' b1 t1 with ⟨xs, hx⟩ | ⟨xs, hx⟩
    · rw [hx, List.cons_prefix_cons] at h
      have hb : b1 = 0x80 := h.1.symm
      subst hb
      have h0 : ¬ (0x80 : UInt8).toNat < runeSelf := by decide
      have hn : ¬ (((decodeRune ((0x80 : UInt8) :: t1)).1 = 0x2028 ∨ (decodeRune ((0x80 : UInt8) :: t1)).1 = 0x2029) ∧ js = true) := by
        rw [decodeRune_80]; simp [runeError]
      have hP := PL_multi_plain html js k' 0x80 t1 h0 hn
      rw [decodeRune_80] at hP
      have hmin : min 1 (k' + 1) = 1 := by omega
      simp only [hmin, List.take_succ_cons, List.take_zero, List.drop_succ_cons, List.drop_zero, Nat.add_sub_cancel,
        List.cons_append, List.nil_append] at hP
      rw [hx] at hP
      have hxs : xs = preserveLoop html js k' t1 := by injection hP
      have h2 : [y] <+: preserveLoop html js k' t1 := hxs ▸ h.2
      rw [List.cons_prefix_cons]
      refine ⟨rfl, ?_⟩
      match t1, k' with
      | [], k => rw [preserveLoop_nil] at h2; exact absurd h2 prefix_nil_false
      | b2 :: t2, 0 => rw [preserveLoop_zero] at h2; exact absurd h2 prefix_nil_false
      | b2 :: t2, k'' + 1 =>
        rcases preserveLoop_head html js k'' b2 t2 with ⟨ys, hy2⟩ | ⟨ys, hy2⟩
        · rw [hy2, List.cons_prefix_cons] at h2
          rw [List.cons_prefix_cons]; exact ⟨h2.1, List.nil_prefix⟩
        · rw [hy2, List.cons_prefix_cons] at h2
          rcases hy with rfl | rfl <;> exact absurd h2.1 (by decide)
    · rw [hx, List.cons_prefix_cons] at h
      exact absurd h.1 (by decide)

theorem decodeRune_E2_LS (y : UInt8) (hy : y = 0xA8 ∨ y = 0xA9) (t : Bytes) :
    decodeRune (0xE2 :: 0x80 :: y :: t) ≠ (runeError, 1) := by
  have hl : leadInfo (0xE2 : UInt8).toNat = some (3, 0x80, 0xBF) := leadInfo_three (by decide) (by decide) (by decide)
  rcases hy with rfl | rfl <;>
    rw [decodeRune_three t hl (by decide) (by decide) (by decide)] <;> exact fun h => nomatch (Prod.ext_iff.mp h).2

theorem illFormed_E2_no_LS (html js : Bool) (k : Nat) (t : Bytes) (h : decodeRune (0xE2 :: t) = (runeError, 1))
    (y : UInt8) (hy : y = 0xA8 ∨ y = 0xA9) : ¬ [0x80, y] <+: preserveLoop html js k t := by
  intro hp
  obtain ⟨r, hr⟩ := preserveLoop_prefix_reflect html js k t y hy hp
  rw [← hr] at h
  exact decodeRune_E2_LS y hy r h

theorem decodeRune_tail_ne_E2 (c : UInt8) (t : Bytes) (h0 : ¬ c.toNat < runeSelf) :
    ∀ b ∈ ((c :: t).take (decodeRune (c :: t)).2).tail, b ≠ 0xE2 := by
  have hd := dec_sound (c :: t)
  generalize decodeRune (c :: t) = d at hd
  cases hd with
  | ascii h => exact absurd h h0
  | short | illformed => simp
  | two hl h1 h2 =>
    have := leadInfo_bounds hl
    intro b hb; simp at hb; subst hb; exact ne_E2_of_toNat_ne (by omega)
  | three hl h1 h2 hc2 =>
    have := leadInfo_bounds hl; rw [isCont_iff] at hc2
    intro b hb; simp at hb; rcases hb with rfl | rfl <;> exact ne_E2_of_toNat_ne (by omega)
  | four hl h1 h2 hc2 hc3 =>
    have := leadInfo_bounds hl; rw [isCont_iff] at hc2 hc3
    intro b hb; simp at hb; rcases hb with rfl | rfl | rfl <;> exact ne_E2_of_toNat_ne (by omega)

theorem decodeRune_E2_size (t : Bytes) : (decodeRune ((0xE2 : UInt8) :: t)).2 ≤ 3 := by
  have hd := dec_sound ((0xE2 : UInt8) :: t)
  generalize decodeRune ((0xE2 : UInt8) :: t) = d at hd
  cases hd with
  | ascii h => simp
  | short | illformed => simp
  | two hl => simp
  | three hl => simp
  | four hl => have := leadInfo_size4 hl; simp at this

theorem hasLS_cons_of_tail (x : UInt8) (l : Bytes) (h : ∀ b ∈ l, b ≠ 0xE2) :
    hasLS (x :: l) = (x == 0xE2 && (l.take 2 == [0x80, 0xA8] || l.take 2 == [0x80, 0xA9])) := by
  have := hasLS_skip (a := l) [] h
  simp only [List.append_nil] at this
  simp [hasLS, this]

theorem preserveLoop_noLS (html : Bool) (k : Nat) (src : Bytes) : hasLS (preserveLoop html true k src) = false := by
  induction k using Nat.strongRecOn generalizing src with
  | _ k ih =>
    match k, src with
    | 0, s => rw [preserveLoop_zero]; rfl
    | k + 1, [] => rw [preserveLoop_nil]; rfl
    | k + 1, c :: t =>
      by_cases h0 : c.toNat < runeSelf
      · cases h : (isHTMLChar c.toNat && html)
        · rw [PL_ascii_plain html true k c t h0 h]
          exact (hasLS_skip_ascii (a := [c]) _ fun b hb => by rw [List.mem_singleton.mp hb]; exact h0).trans
            (ih k (by omega) t)
        · rw [PL_ascii_esc html true k c t h0 h, hasLS_skip_ascii _ fun b hb => (escaped_ascii_mem hb).1]
          exact ih k (by omega) t
      · have hp := decodeRune_pos c t
        by_cases h : ((decodeRune (c :: t)).1 = 0x2028 ∨ (decodeRune (c :: t)).1 = 0x2029) ∧ true = true
        · rw [PL_multi_esc html true k c t h0 h, hasLS_skip_ascii _ fun b hb => (escaped_ls_mem h.1 hb).1]
          exact ih _ (by omega) _
        · rw [PL_multi_plain html true k c t h0 h]
          have n1 : (decodeRune (c :: t)).1 ≠ 0x2028 := by intro e; exact h ⟨Or.inl e, rfl⟩
          have n2 : (decodeRune (c :: t)).1 ≠ 0x2029 := by intro e; exact h ⟨Or.inr e, rfl⟩
          have ihR := ih (k + 1 - (decodeRune (c :: t)).2) (by omega) ((c :: t).drop (decodeRune (c :: t)).2)
          rcases decodeRune_high c t h0 with h1 | h1
          · by_cases hle : (decodeRune (c :: t)).2 ≤ k + 1
            · rw [Nat.min_eq_left hle, hasLS_take c t _ h0 h1 n1 n2]; exact ihR
            · have hz : k + 1 - (decodeRune (c :: t)).2 = 0 := by omega
              have hm : min (decodeRune (c :: t)).2 (k + 1) = k + 1 := by omega
              rw [hz, preserveLoop_zero, List.append_nil, hm, List.take_succ_cons]
              have htail : ∀ b ∈ t.take k, b ≠ 0xE2 := by
                intro b hb
                apply decodeRune_tail_ne_E2 c t h0 b
                obtain ⟨m, hm2⟩ : ∃ m, (decodeRune (c :: t)).2 = m + 1 := ⟨(decodeRune (c :: t)).2 - 1, by omega⟩
                rw [hm2, List.take_succ_cons, List.tail_cons]
                have : k ≤ m := by omega
                rw [← Nat.min_eq_left this, ← List.take_take] at hb
                exact List.mem_of_mem_take hb
              rw [hasLS_cons_of_tail c _ htail]
              by_cases hE : c = 0xE2
              · subst hE
                have hd3 : (decodeRune ((0xE2 : UInt8) :: t)).2 ≤ 3 := decodeRune_E2_size t
                -- at most one byte of the sequence is left before `n`
                have tl : ∀ y : UInt8, ¬ (t.take k).take 2 = [0x80, y] := by
                  intro y e
                  have h2 := congrArg List.length e
                  have := List.length_take_le' 2 (t.take k)
                  have := List.length_take_le k t
                  rw [List.length_cons, List.length_cons, List.length_nil] at h2
                  omega
                simp [tl]
              · have : (c == 0xE2) = false := by simpa using hE
                simp [this]
          · rw [h1] at ihR ⊢
            have hm : min 1 (k + 1) = 1 := by omega
            simp only [hm, List.take_succ_cons, List.take_zero, List.drop_succ_cons, List.drop_zero, Nat.add_sub_cancel,
              List.cons_append, List.nil_append] at ihR ⊢
            simp only [hasLS, ihR, Bool.or_false]
            by_cases hE : c = 0xE2
            · subst hE
              have s1 := illFormed_E2_no_LS html true k t h1 0xA8 (Or.inl rfl)
              have s2 := illFormed_E2_no_LS html true k t h1 0xA9 (Or.inr rfl)
              rw [← take2_eq_iff_prefix] at s1 s2
              simp [s1, s2]
            · have : (c == 0xE2) = false := by simpa using hE
              simp [this]

end JsonV.Lemmas.QuotePreserve
