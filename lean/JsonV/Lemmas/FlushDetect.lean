/-
C07's `empty_detect` against the RFC 8259 grammar of Spec/Grammar.lean (slice C01).
The last bytes of a JSON value make UnwriteEmptyObjectMember's detection fire only for `null`, `""`, `{}`, `[]`:
`null` is the only value ending in `ll`; a string ending in `""` is either `""` or ends in an escaped quote `\""`
(excluded by the code's backslash test); a value ending in `{}` / `[]` is the empty object / array written without
inner whitespace, because no value ends in an opening bracket.
-/
import JsonV.Lemmas.GrammarL
import JsonV.Lemmas.FlushUnwrite
import JsonV.Lemmas.JStringL
import JsonV.Lemmas.WireNumber

namespace JsonV.Model.Flush
open JsonV JsonV.Spec.Grammar
open JsonV.Lemmas

theorem wsByte_isWs {c : UInt8} (h : WsByte c) : isWs c = true := by
  rcases h with rfl | rfl | rfl | rfl <;> decide

theorem digit_not_special {c : UInt8} (h : Digit c) :
    c ≠ 0x6c ∧ c ≠ 0x22 ∧ c ≠ 0x7d ∧ c ≠ 0x5d ∧ c ≠ 0x7b ∧ c ≠ 0x5b := by
  obtain ⟨h1, h2⟩ := h
  refine ⟨?_, ?_, ?_, ?_, ?_, ?_⟩ <;> (intro e; subst e; revert h1 h2; decide)

/-- A number ends in a digit: the number automaton enters an accepting state on a digit only. -/
theorem jnumber_last {p : Bytes} (h : JNumber p) : ∃ q c, p = q ++ [c] ∧ Digit c := by
  have ha := (WireNumber.jnumber_iff_acc p).mp h
  rcases List.eq_nil_or_concat p with rfl | ⟨q, c, rfl⟩
  · cases ha
  rw [List.concat_eq_append, WireNumber.run_append] at ha
  refine ⟨q, c, List.concat_eq_append, ?_⟩
  have hc := WireNumber.cls_spec c
  change WireNumber.acc (WireNumber.step (WireNumber.run .start q) (WireNumber.cls c)) = true at ha
  generalize WireNumber.run .start q = s at ha
  generalize WireNumber.cls c = k at ha hc
  cases k with
  | zero => exact hc ▸ Digit.zero
  | d19 => exact hc.digit
  | _ => cases s <;> exact (Bool.false_ne_true ha).elim

theorem StrBody.append {p rest : Bytes} (hp : ∀ c ∈ p, c ≠ 0x22 ∧ c ≠ 0x5c) (h : StrBody rest) : StrBody (p ++ rest) := by
  induction p with
  | nil => exact h
  | cons c p ih => exact .plain c _ (hp c (.head _)).1 (hp c (.head _)).2 (ih fun x hx => hp x (.tail _ hx))

theorem high_plain {c : UInt8} (h : 0x80 ≤ c) : c ≠ 0x22 ∧ c ≠ 0x5c :=
  ⟨by rintro rfl; exact absurd h (by decide), by rintro rfl; exact absurd h (by decide)⟩

theorem hexDigit_plain {c : UInt8} (h : HexDigit c) : c ≠ 0x22 ∧ c ≠ 0x5c := by
  constructor <;> (rintro rfl; revert h; unfold HexDigit; decide)

theorem strBody_of_jchars {strict : Bool} {body : Bytes} (h : JChars strict body) : StrBody body := by
  have hex4 {a b c d : UInt8} {r : Bytes} (ha : HexDigit a) (hb : HexDigit b) (hc : HexDigit c) (hd : HexDigit d)
      (h : StrBody r) : StrBody (0x5c :: 0x75 :: a :: b :: c :: d :: r) :=
    .esc 0x75 _ (.append (p := [a, b, c, d]) (by simp [hexDigit_plain, ha, hb, hc, hd]) h)
  induction h with
  | nil => exact .nil
  | cons c r hc _ ih =>
    cases hc with
    | plain x _ _ h3 h4 => exact .plain x r h3 h4 ih
    | utf8 _ hp => exact .append (fun x hx => high_plain (hp.high x hx)) ih
    | raw x _ h2 => exact .plain x r (high_plain h2).1 (high_plain h2).2 ih
    | esc x _ => exact .esc x r ih
    | uni a b c d ha hb hc hd _ => exact hex4 ha hb hc hd ih
    | pair a b c d e f g h ha hb hc hd he hf hg hh _ _ => exact hex4 ha hb hc hd (hex4 he hf hg hh ih)

theorem jvalue_shape {o : GOpts} {md : Nat} {key : Bytes → Bytes} {d : Nat} {v : Bytes} (h : JValue o md key d v) :
    SaneText v ∨ ∃ op c inner, v = op :: (inner ++ [c]) ∧ (c = 0x7d ∨ c = 0x5d) ∧
      (JWs inner ∨ ∃ p v' w d', inner = p ++ (v' ++ w) ∧ JWs w ∧ JValue o md key d' v') := by
  cases h with
  | null d => exact .inl (.inl rfl)
  | true d => exact .inl (.inr (.inl ⟨[0x74, 0x72, 0x75], 0x65, rfl, by decide⟩))
  | false d => exact .inl (.inr (.inl ⟨[0x66, 0x61, 0x6c, 0x73], 0x65, rfl, by decide⟩))
  | num d p hp =>
    obtain ⟨q, c, rfl, hc⟩ := jnumber_last hp
    exact .inl (.inr (.inl ⟨q, c, rfl, digit_not_special hc⟩))
  | str d p hp =>
    obtain ⟨body, hb, rfl⟩ := hp
    exact .inl (.inr (.inr ⟨body, rfl, (strBody_of_jchars hb).quotesEscaped⟩))
  | emptyArr d w _ hw => exact .inr ⟨0x5b, 0x5d, w, rfl, .inr rfl, .inl hw⟩
  | emptyObj d w _ hw => exact .inr ⟨0x7b, 0x7d, w, rfl, .inl rfl, .inl hw⟩
  | arr d elems _ hne hws hvals =>
    obtain ⟨p, v', w, hv, hw, e⟩ := (JElems.of_list hne hws hvals).exists_last
    exact .inr ⟨0x5b, 0x5d, p ++ (v' ++ w), by rw [List.append_assoc, List.append_assoc]; exact congrArg _ e, .inr rfl,
      .inr ⟨p, v', w, d + 1, rfl, hw, hv⟩⟩
  | obj d mems _ hne hws hvals _ =>
    obtain ⟨p, v', w, hv, hw, e⟩ := (JMembers.of_list (K := key) (dup := true) (seen := []) hne hws hvals (.inl rfl)).exists_last
    exact .inr ⟨0x7b, 0x7d, p ++ (v' ++ w), by rw [List.append_assoc, List.append_assoc]; exact congrArg _ e, .inl rfl,
      .inr ⟨p, v', w, d + 1, rfl, hw, hv⟩⟩

theorem jvalue_last {o : GOpts} {md : Nat} {key : Bytes → Bytes} {d : Nat} {v : Bytes}
    (h : JValue o md key d v) : ∃ q c, v = q ++ [c] ∧ c ≠ 0x7b ∧ c ≠ 0x5b := by
  rcases jvalue_shape h with ht | ⟨op, c, inner, rfl, hc, _⟩
  · exact saneText_last ht
  · refine ⟨op :: inner, c, rfl, ?_⟩
    rcases hc with rfl | rfl <;> decide

theorem emptyLenR_container_zero (o c : UInt8) (hc : c = 0x7d ∨ c = 0x5d) (p v w : Bytes)
    (hw : JWs w) {md : Nat} {go : GOpts} {key : Bytes → Bytes} {d : Nat} (hv : JValue go md key d v) (R : List UInt8) :
    emptyLenR ((o :: (p ++ (v ++ w) ++ [c])).reverse ++ R) = 0 := by
  obtain ⟨q, x, rfl, hx1, hx2⟩ := jvalue_last hv
  have hrev : (o :: (p ++ (q ++ [x] ++ w) ++ [c])).reverse ++ R =
      c :: (w.reverse ++ ((R.reverse ++ o :: (p ++ q)) ++ [x]).reverse) := by
    simp [List.append_assoc]
  rw [hrev]
  exact emptyLen_close_nonempty c w _ (fun b hb => wsByte_isWs (hw b hb)) hc (noOpenerEnd_append_last _ x hx1 hx2)

theorem emptyText_of_jvalue {o : GOpts} {md : Nat} {key : Bytes → Bytes} {d : Nat} {v : Bytes}
    (hv : JValue o md key d v) (R : List UInt8)
    (h : emptyLenR (v.reverse ++ R) ≠ 0) : EmptyText v := by
  rcases jvalue_shape hv with ht | ⟨op, c, inner, rfl, hc, hw | ⟨p, v', w, d', rfl, hw, hv'⟩⟩
  · exact emptyText_of_sane R ht h
  · have hrev : (op :: (inner ++ [c])).reverse ++ R = c :: (inner.reverse ++ op :: R) := by simp
    rw [hrev] at h
    obtain ⟨rfl, he⟩ := emptyText_of_close c op inner R (fun b hb => wsByte_isWs (hw b hb)) hc h
    exact he
  · exact absurd (emptyLenR_container_zero op c hc p v' w hw hv' R) h

theorem jvalue_ends_classification {o : GOpts} {md : Nat} {key : Bytes → Bytes} {d : Nat} {v : Bytes}
    (hv : JValue o md key d v) (he : endsEmptyR v.reverse = true) :
    EmptyText v ∨ ∃ q, v = q ++ [0x5c, 0x22, 0x22] := by
  by_cases hz : emptyLenR (v.reverse ++ [0x00]) = 0
  · right
    match hvr : v.reverse, he, hz with
    | [], he, _ | [_], he, _ => cases he
    | [x, y], he, hz => exact absurd (escaped_of_endsEmptyR he hz).2.2 (by decide)
    | x :: y :: z :: r, he, hz =>
      obtain ⟨rfl, rfl, rfl⟩ := escaped_of_endsEmptyR (r := r ++ [0x00]) he hz
      exact ⟨r.reverse, by simpa using congrArg List.reverse hvr⟩
  · exact .inl (emptyText_of_jvalue hv [0x00] hz)

end JsonV.Model.Flush
