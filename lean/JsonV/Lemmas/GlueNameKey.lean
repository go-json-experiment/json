/-
GLUE (name keys) between C01's scanner (`nameKey o q := unescapedName q (valueString o q).2.1`: what
objectNamespace.insertQuoted stores — the inner bytes of a literal the scanner found verbatim, AppendUnquote's result
otherwise) and C11: for every literal of the selected UTF-8 mode the name key IS the unquoted text
(a verbatim literal has no escape and no ill-formed byte, so its inner bytes are its unquote); on AppendQuote's output
it is the lossy Go string, for every flag set.  C12's hypothesis `NameKeyUnquote` is `fmt_nameKey_unquote`; Props/C02 uses
`unescapedName_appendQuote`.
-/
import JsonV.Lemmas.GlueQuote
import JsonV.Lemmas.WireValue
import JsonV.Lemmas.QuoteJString
import JsonV.Model.FormatStrict

namespace JsonV.Lemmas.GlueNameKey
open JsonV JsonV.Model JsonV.Model.Utf8 JsonV.Model.Quote JsonV.Lemmas.QuoteL JsonV.Lemmas.QuoteCanon JsonV.Lemmas.QuoteLiteral
open JsonV.Lemmas.QuoteHead JsonV.Lemmas.WireStringHead
open JsonV.Model.Validate JsonV.Spec.Grammar

theorem join_nv (f g : Wire.ValueFlags) : (f.join g).nonVerbatim = (f.nonVerbatim || g.nonVerbatim) := rfl

/-- Every answer of `headOf` other than a byte that stands for itself or a well-formed multi-byte sequence sets stringNonVerbatim
or stops. -/
theorem verbatim_step (v : Bool) (r : Bytes) (k : Nat) (f : Wire.ValueFlags) (h : Wire.stringStep v r = .cont k f)
    (hv : f.nonVerbatim = false) : unqStep r = .cont (r.take k) k none ∧ 1 ≤ k := by
  rw [stringStep_eq] at h
  rw [unqStep_eq]
  have hs := headOf_shape r
  generalize headOf r = hd at h hs
  cases hs with
  | plain => cases h; exact ⟨rfl, Nat.le_refl 1⟩
  | multi _ h1 => cases h; exact ⟨rfl, Nat.le_of_lt h1⟩
  | close | eof | badEscape | ctrl => cases h
  | _ => cases v <;> cases h <;> cases hv

theorem verbatim_loop (v : Bool) (fuel : Nat) (r : Bytes) (n : Nat) (f : Wire.ValueFlags)
    (h : Wire.stringLoop v fuel r = (n, f, .ok)) (hv : f.nonVerbatim = false) (hn : n = r.length) (e : Err) :
    1 ≤ n ∧ unqLoop r e = (r.take (n - 1), e) := by
  induction fuel generalizing r n f e with
  | zero => simp [Wire.stringLoop] at h
  | succ fuel ih =>
    simp only [Wire.stringLoop] at h
    cases hs : Wire.stringStep v r with
    | stop k f1 e1 =>
      rw [hs] at h
      simp only [Prod.mk.injEq] at h
      obtain ⟨hk, hf, he⟩ := h
      subst he
      obtain ⟨hk1, rest, hr⟩ := JsonV.Lemmas.WireString.step_stop_ok v r k f1 hs
      subst hr
      have : rest = [] := by
        have : (0x22 :: rest).length = 1 := by omega
        simpa using this
      subst this
      refine ⟨by omega, ?_⟩
      rw [← hk, hk1]; exact unqLoop_close e
    | cont k f1 =>
      rw [hs] at h
      obtain ⟨n', f', e', hw⟩ : ∃ n' f' e', Wire.stringLoop v fuel (List.drop k r) = (n', f', e') := ⟨_, _, _, rfl⟩
      simp only [hw, Prod.mk.injEq] at h
      obtain ⟨hk, hf, he⟩ := h
      subst he
      have hnv : f1.nonVerbatim = false ∧ f'.nonVerbatim = false := by
        rw [← hf, join_nv] at hv
        exact Bool.or_eq_false_iff.mp hv
      obtain ⟨hu, hk1⟩ := verbatim_step v r k f1 hs hnv.1
      have hlen : n' = (List.drop k r).length := by simp only [List.length_drop]; omega
      obtain ⟨hn1, ihu⟩ := ih (List.drop k r) n' f' hw hnv.2 hlen e
      refine ⟨by omega, ?_⟩
      rw [unqLoop_cont e hu]
      simp only [Option.getD_none, ihu]
      have : n - 1 = k + (n' - 1) := by omega
      rw [this, List.take_add]

theorem unescapedName_valueString (o : VOpts) (q : Bytes) (h : JString (!o.allowInvalidUTF8) q) :
    unescapedName q (valueString o q).2.1 = (Wire.unquote q).1 := by
  obtain ⟨f, hf⟩ := JsonV.Lemmas.WireString.consumeString_complete q (!o.allowInvalidUTF8) q.length (Nat.le_refl _)
    (by rw [List.take_length]; exact h)
  rw [WireValue.valueString_eq_consumeString, hf]
  simp only [unescapedName, Wire.ValueFlags.isVerbatim]
  by_cases hv' : f.nonVerbatim = true
  · simp [hv']
  · have hv : f.nonVerbatim = false := by simpa using hv'
    simp only [hv, Bool.not_false, ↓reduceIte]
    rw [JsonV.Lemmas.GlueQuote.unquote_eq]
    match q with
    | [] => simp [Wire.consumeString, Wire.consumeStringResumable] at hf
    | c :: r =>
      simp only [Wire.consumeString, Wire.consumeStringResumable, Nat.lt_irrefl, ↓reduceIte] at hf
      split at hf
      · rename_i hc
        have hc' : c = 0x22 := by simpa using hc
        subst hc'
        obtain ⟨n, f', e', hw⟩ : ∃ n f' e', Wire.stringLoop (!o.allowInvalidUTF8) (r.length + 1) r = (n, f', e') := ⟨_, _, _, rfl⟩
        rw [hw] at hf
        simp only [Prod.mk.injEq, List.length_cons] at hf
        obtain ⟨h1, h2, h3⟩ := hf
        subst h2 h3
        obtain ⟨hn1, hu⟩ := verbatim_loop _ _ r n f' hw hv (by omega) Err.ok
        simp only [appendUnquote, ↓reduceIte, hu, List.drop_succ_cons, List.drop_zero]
        rw [List.dropLast_eq_take]
        congr 1; omega
      · simp at hf

/-- C11 `nameKey_unquote`, on `WireValue.nameKey`, the key the C01 validator stores. -/
theorem nameKey_unquote (o : VOpts) (q : Bytes) (h : JString (!o.allowInvalidUTF8) q) :
    JsonV.Lemmas.WireValue.nameKey o q = (appendUnquote q).1 := by
  unfold JsonV.Lemmas.WireValue.nameKey
  rw [unescapedName_valueString o q h, JsonV.Lemmas.GlueQuote.unquote_eq]

theorem nameKey_wire_unquote (o : VOpts) (q : Bytes) (h : JString (!o.allowInvalidUTF8) q) :
    JsonV.Lemmas.WireValue.nameKey o q = (Wire.unquote q).1 :=
  unescapedName_valueString o q h

/-- C12's `JsonV.Fmt.NameKeyUnquote` (Lemmas/FormatRespell.lean) verbatim. -/
theorem fmt_nameKey_unquote :
    ∀ (o : JsonV.Fmt.FOpts) (raw : Bytes), JString (!o.allowInvalidUTF8) raw → JsonV.Fmt.nameKey o raw = (Wire.unquote raw).1 := by
  intro o raw h
  exact unescapedName_valueString ⟨o.allowInvalidUTF8, o.allowDup⟩ raw h

/-- Stated on `unescapedName`/`valueString`, to which every `nameKey` of the framework unfolds. -/
theorem unescapedName_appendQuote (o : VOpts) (f : QFlags) (s : Bytes) :
    unescapedName (appendQuote f s).1 (valueString o (appendQuote f s).1).2.1 = JsonV.Spec.StringSpec.lossy s := by
  rw [unescapedName_valueString o _ (JsonV.Lemmas.QuoteJString.appendQuote_is_jstring f _ s),
    JsonV.Lemmas.GlueQuote.unquote_eq, JsonV.Lemmas.QuoteMeaning.appendUnquote_meaning _ _ (appendQuote_literal f s)]

theorem nameKey_appendQuote (o : VOpts) (f : QFlags) (s : Bytes) :
    JsonV.Lemmas.WireValue.nameKey o (appendQuote f s).1 = JsonV.Spec.StringSpec.lossy s :=
  unescapedName_appendQuote o f s

end JsonV.Lemmas.GlueNameKey
