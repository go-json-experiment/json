/-
Lemmas for C16: the pointer assembled by `appendStackPointer` (all three `where` values) on
every state reachable through token steps equals the rendering of the declarative path
`pointerOf w hist` (Spec/PointerSpec.lean).  Simulation between the (kind, count) stack + names stack
of the model and the explicit frames of the spec.
-/
import JsonV.Lemmas.PointerStack
import JsonV.Lemmas.PointerOps
import JsonV.Lemmas.Basics

namespace JsonV.Lemmas.Pointer
open JsonV JsonV.Model JsonV.Model.Pointer JsonV.Spec.Pointer

/-- Reference token of a path step as `appendStackPointer` writes it (names pass through Go's `range`). -/
def refToken : Ref → Bytes
  | .name n => sanitize n
  | .index i => decimal i

/-- The simulation relation.  The same inductive serves read innermost-first (token steps) and outermost-first
(the loop of `appendStackPointer`): see `Rel.reverse`. -/
inductive Rel : List SEntry → List Bytes → List Frame → Prop
  | nil : Rel [] [] []
  | arr (n : Nat) {es ns fs} : Rel es ns fs → Rel (⟨false, n⟩ :: es) ns (.arr n :: fs)
  | obj (n : Nat) (nm : Bytes) {es ns fs} : Rel es ns fs →
      Rel (⟨true, n⟩ :: es) (nm :: ns) (.obj (if n = 0 then none else some nm) (n % 2 == 1) :: fs)

theorem Rel.nil_inv {ns fs} (h : Rel [] ns fs) : ns = [] ∧ fs = [] := by cases h; exact ⟨rfl, rfl⟩

theorem Rel.frames_cons {g rest ns fs} (h : Rel (g :: rest) ns fs) : ∃ f fr, fs = f :: fr := by
  cases h <;> exact ⟨_, _, rfl⟩

theorem Rel.length {es ns fs} (h : Rel es ns fs) : fs.length = es.length := by
  induction h <;> simp [*]

theorem Rel.append {es ns fs es' ns' fs'} (h : Rel es ns fs) (h' : Rel es' ns' fs') :
    Rel (es ++ es') (ns ++ ns') (fs ++ fs') := by
  induction h with
  | nil => simpa using h'
  | arr n _ ih => exact Rel.arr n ih
  | obj n nm _ ih => exact Rel.obj n nm ih

theorem Rel.reverse {es ns fs} (h : Rel es ns fs) : Rel es.reverse ns.reverse fs.reverse := by
  induction h with
  | nil => exact Rel.nil
  | arr n _ ih =>
    simp only [List.reverse_cons]
    have := Rel.append ih (Rel.arr n Rel.nil)
    simpa using this
  | obj n nm _ ih =>
    simp only [List.reverse_cons]
    exact Rel.append ih (Rel.obj n nm Rel.nil)

/-- The outermost entry is an array (the virtual top-level array). -/
def bottomArr : List SEntry → Bool
  | [] => false
  | [e] => !e.isObj
  | _ :: rest => bottomArr rest

/-- All entries but the innermost have a current child; the outermost is the top-level array. -/
structure Good (s : AState) : Prop where
  pos : ∀ e ∈ s.stack.tail, e.len > 0
  bottom : bottomArr s.stack = true

theorem bottomArr_head (e e' : SEntry) (l : List SEntry) (h : e'.isObj = e.isObj) :
    bottomArr (e' :: l) = bottomArr (e :: l) := by
  cases l with
  | nil => simp [bottomArr, h]
  | cons x t => rfl

theorem Good.bump {e : SEntry} {below : List SEntry} {ns : List Bytes} (hg : Good ⟨e :: below, ns⟩) (m : Nat)
    (ns' : List Bytes) : Good ⟨⟨e.isObj, m⟩ :: below, ns'⟩ :=
  ⟨hg.pos, (bottomArr_head e ⟨e.isObj, m⟩ below rfl).trans hg.bottom⟩

theorem Good.push {e : SEntry} {below : List SEntry} {ns : List Bytes} (hg : Good ⟨e :: below, ns⟩) (x : SEntry)
    (ns' : List Bytes) : Good ⟨x :: ⟨e.isObj, e.len + 1⟩ :: below, ns'⟩ := by
  refine ⟨fun y hy => ?_, (hg.bump (e.len + 1) ns').bottom⟩
  rcases List.mem_cons.mp hy with rfl | hy
  · exact Nat.succ_pos _
  · exact hg.pos y hy

theorem Good.pop {e g : SEntry} {rest : List SEntry} {ns : List Bytes} (hg : Good ⟨e :: g :: rest, ns⟩)
    (ns' : List Bytes) : Good ⟨g :: rest, ns'⟩ :=
  ⟨fun y hy => hg.pos y (List.mem_cons_of_mem _ hy), hg.bottom⟩

theorem stepFrames_value {f f' : Frame} (fs : List Frame) (h : f.beginValue = some f') :
    stepFrames (f :: fs) .scalar = some (f' :: fs) ∧ (∀ x, stepFrames (f :: fs) (.str x) = some (f' :: fs)) ∧
    stepFrames (f :: fs) .beginObj = some (.obj none false :: f' :: fs) ∧
    stepFrames (f :: fs) .beginArr = some (.arr 0 :: f' :: fs) := by
  have hstr (x : Bytes) : stepFrames (f :: fs) (.str x) = f.beginValue.map (· :: fs) := by
    match f, h with
    | .arr _, _ => rfl
    | .obj (some _) true, _ => rfl
  exact ⟨by simp [stepFrames, h], fun x => by rw [hstr, h]; rfl, by simp [stepFrames, h], by simp [stepFrames, h]⟩

theorem Rel.beginValue {e : SEntry} {below : List SEntry} {ns : List Bytes} {fs : List Frame}
    (hr : Rel (e :: below) ns fs) (hn : e.needObjectName = false) :
    ∃ f f' fs0, fs = f :: fs0 ∧ f.beginValue = some f' ∧ Rel (⟨e.isObj, e.len + 1⟩ :: below) ns (f' :: fs0) := by
  cases hr with
  | arr n h0 => exact ⟨_, _, _, rfl, rfl, Rel.arr (n + 1) h0⟩
  | obj n nm h0 =>
    have hodd : n % 2 = 1 := by simpa [SEntry.needObjectName] using hn
    have hnew := Rel.obj (n + 1) nm h0
    rw [if_neg (Nat.succ_ne_zero n), show ((n + 1) % 2 == 1) = false by simp; omega] at hnew
    refine ⟨_, _, _, rfl, ?_, hnew⟩
    rw [if_neg (by omega), show (n % 2 == 1) = true by simp [hodd]]
    rfl

theorem step_sim {s s' : AState} {t : Tok} {fs : List Frame} (hr : Rel s.stack s.names fs) (hg : Good s)
    (hs : s.step t = some s') : ∃ fs', stepFrames fs t = some fs' ∧ Rel s'.stack s'.names fs' ∧ Good s' := by
  obtain ⟨stack, names⟩ := s
  cases stack with
  | nil => cases hs
  | cons e below =>
    cases hne : e.needObjectName with
    | false =>
      obtain ⟨f, f', fs0, rfl, hbv, hrel⟩ := Rel.beginValue hr hne
      obtain ⟨hsc, hst, hbo, hba⟩ := stepFrames_value fs0 hbv
      cases t with
      | scalar =>
        simp only [AState.step, hne, Bool.false_eq_true, if_false, Option.some.injEq] at hs
        subst hs
        exact ⟨_, hsc, hrel, hg.bump _ _⟩
      | str x =>
        simp only [AState.step, hne, Bool.false_eq_true, if_false, Option.some.injEq] at hs
        subst hs
        exact ⟨_, hst x, hrel, hg.bump _ _⟩
      | beginObj =>
        simp only [AState.step, hne, Bool.false_eq_true, if_false, Option.some.injEq] at hs
        subst hs
        exact ⟨_, hbo, Rel.obj 0 [] hrel, hg.push _ _⟩
      | beginArr =>
        simp only [AState.step, hne, Bool.false_eq_true, if_false, Option.some.injEq] at hs
        subst hs
        exact ⟨_, hba, Rel.arr 0 hrel, hg.push _ _⟩
      | endObj =>
        cases hr with
        | arr n h0 => simp [AState.step] at hs
        | obj n nm h0 =>
          have : (n % 2 == 1) = true := by simpa [SEntry.needObjectName] using hne
          simp [AState.step, SEntry.needObjectValue, this] at hs
      | endArr =>
        cases hr with
        | obj n nm h0 => simp [AState.step] at hs
        | arr n h0 =>
          cases below with
          | nil => simp [AState.step] at hs
          | cons g rest =>
            obtain ⟨f0, fr, rfl⟩ := h0.frames_cons
            simp only [AState.step, Bool.false_or, List.isEmpty_cons, Bool.false_eq_true, if_false, Option.some.injEq] at hs
            subst hs
            exact ⟨_, rfl, h0, hg.pop _⟩
    | true =>
      cases hr with
      | arr n h0 => cases hne
      | obj n nm h0 =>
        have hpar : n % 2 = 0 := by simpa [SEntry.needObjectName] using hne
        have heven : (n % 2 == 1) = false := by simp [hpar]
        cases t with
        | scalar => simp [AState.step, hne] at hs
        | beginObj => simp [AState.step, hne] at hs
        | beginArr => simp [AState.step, hne] at hs
        | endArr => simp [AState.step] at hs
        | str x =>
          simp only [AState.step, hne, if_true, Option.some.injEq] at hs
          subst hs
          have hnew := Rel.obj (n + 1) x h0
          rw [if_neg (Nat.succ_ne_zero n), show ((n + 1) % 2 == 1) = true by simp; omega] at hnew
          exact ⟨_, by rw [heven]; rfl, hnew, hg.bump _ _⟩
        | endObj =>
          cases below with
          | nil => simp [AState.step] at hs
          | cons g rest =>
            obtain ⟨f0, fr, rfl⟩ := h0.frames_cons
            simp [AState.step, SEntry.needObjectValue, heven] at hs
            subst hs
            exact ⟨_, by rw [heven]; rfl, h0, hg.pop _⟩

theorem run_sim {hist : List Tok} : ∀ {s s' : AState} {fs : List Frame}, Rel s.stack s.names fs → Good s →
    s.run hist = some s' → ∃ fs', runFrames fs hist = some fs' ∧ Rel s'.stack s'.names fs' ∧ Good s' := by
  induction hist with
  | nil => intro s s' fs hr hg h; simp [AState.run] at h; subst h; exact ⟨fs, rfl, hr, hg⟩
  | cons t ts ih =>
    intro s s' fs hr hg h
    simp only [AState.run] at h
    split at h
    · cases h
    · rename_i s1 h1
      obtain ⟨fs1, hf1, hr1, hg1⟩ := step_sim hr hg h1
      obtain ⟨fs', hf', hr', hg'⟩ := ih hr1 hg1 h
      exact ⟨fs', by simp [runFrames, hf1, hf'], hr', hg'⟩

theorem init_rel : Rel AState.init.stack AState.init.names [.arr 0] := Rel.arr 0 Rel.nil
theorem init_good : Good AState.init := ⟨by simp [AState.init], rfl⟩

/-- `pathOfFrames` on frames given outermost first, top level removed. -/
def pathO (w : Int) : List Frame → List Ref
  | [] => []
  | [f] => (f.innermost w).toList
  | f :: g :: rest => f.current.toList ++ pathO w (g :: rest)

theorem pathO_snoc (w : Int) (mid : List Frame) (f : Frame) :
    pathO w (mid ++ [f]) = mid.filterMap Frame.current ++ (f.innermost w).toList := by
  induction mid with
  | nil => simp [pathO]
  | cons g rest ih =>
    cases hr : rest ++ [f] with
    | nil => simp at hr
    | cons x t =>
      rw [List.cons_append, hr, pathO, ← hr, ih]
      cases hc : g.current <;> simp [hc]

theorem pathOfFrames_eq (w : Int) (fs : List Frame) : pathOfFrames w fs = pathO w (fs.reverse.drop 1) := by
  cases fs with
  | nil => rfl
  | cons f below =>
    rcases List.eq_nil_or_concat below with rfl | ⟨mid, top, rfl⟩
    · rfl
    · rw [List.concat_eq_append]
      have h1 : pathOfFrames w (f :: (mid ++ [top])) = (mid.reverse.filterMap Frame.current) ++ (f.innermost w).toList := by
        cases hm : mid ++ [top] with
        | nil => simp at hm
        | cons x t =>
          show ((x :: t).dropLast.reverse.filterMap Frame.current) ++ (f.innermost w).toList = _
          rw [← hm, List.dropLast_concat]
      rw [h1]
      have h2 : (f :: (mid ++ [top])).reverse.drop 1 = mid.reverse ++ [f] := by simp
      rw [h2, pathO_snoc]

theorem render_snoc (ts : List Bytes) (t : Bytes) : render (ts ++ [t]) = render ts ++ cSlash :: escapeTok t := by
  rw [render_append]; simp [render, cSlash]

theorem render_cons' (b : Bytes) (t : Bytes) (ts : List Bytes) :
    b ++ render (t :: ts) = (b ++ cSlash :: escapeTok t) ++ render ts := by
  simp [render, cSlash]

theorem appendIndex_eq (b : Bytes) (n : Nat) : b ++ [cSlash] ++ decimal n = b ++ cSlash :: escapeTok (decimal n) := by
  rw [escapeTok_decimal]; simp

theorem stackLoop_last (w : Int) (hw : w = -1 ∨ w = 0 ∨ w = 1) {e : SEntry} {ns : List Bytes} {f : Frame}
    (hr : Rel [e] ns [f]) (names : List Bytes) (od : Nat) (b : Bytes) (hdrop : names.drop od = ns) :
    stackLoop w names [e] od b = some (b ++ render ((pathO w [f]).map refToken)) := by
  cases hr with
  | arr n h0 =>
    have hnv : (⟨false, n⟩ : SEntry).needObjectValue = false := rfl
    have hnn : (⟨false, n⟩ : SEntry).needObjectName = false := rfl
    rcases hw with rfl | rfl | rfl
    · by_cases hn : n = 0
      · simp [stackLoop, pathO, Frame.innermost, hn, render]
      · simp [stackLoop, pathO, Frame.innermost, hn, hnv, hnn, render, refToken, escapeTok_decimal, cSlash]
    · simp [stackLoop, pathO, Frame.innermost, hnv, render]
    · simp [stackLoop, pathO, Frame.innermost, hnv, hnn, render, refToken, escapeTok_decimal, cSlash]
  | obj n nm h0 =>
    obtain ⟨hget, -⟩ := List.drop_eq_cons hdrop
    have hnv : (⟨true, n⟩ : SEntry).needObjectValue = (n % 2 == 1) := rfl
    have hnn : (⟨true, n⟩ : SEntry).needObjectName = (n % 2 == 0) := rfl
    rcases hw with rfl | rfl | rfl
    · by_cases hn : n = 0
      · simp [stackLoop, pathO, Frame.innermost, hn, render]
      · simp [stackLoop, hget, pathO, Frame.innermost, hn, render, refToken, cSlash]
        exact appendName_eq b nm
    · by_cases hp : n % 2 = 1
      · have hn : n ≠ 0 := by omega
        simp [stackLoop, hget, pathO, Frame.innermost, hnv, hp, hn, render, refToken, cSlash]
        exact appendName_eq b nm
      · simp [stackLoop, pathO, Frame.innermost, hnv, hp, render]
    · by_cases hp : n % 2 = 1
      · have hn : n ≠ 0 := by omega
        have h0' : ¬ n % 2 = 0 := by omega
        simp [stackLoop, hget, pathO, Frame.innermost, hnn, hp, hn, render, refToken, cSlash]
        exact appendName_eq b nm
      · have h0' : n % 2 = 0 := by omega
        simp [stackLoop, pathO, Frame.innermost, hnn, h0', render]

theorem loop_path (w : Int) (hw : w = -1 ∨ w = 0 ∨ w = 1) {es : List SEntry} {ns : List Bytes} {fs : List Frame}
    (hr : Rel es ns fs) : (∀ e ∈ es.dropLast, e.len > 0) → ∀ (names : List Bytes) (od : Nat) (b : Bytes),
    names.drop od = ns → stackLoop w names es od b = some (b ++ render ((pathO w fs).map refToken)) := by
  induction hr with
  | nil => intro _ names od b _; simp [stackLoop, pathO, render]
  | @arr n es ns fs h0 ih =>
    intro hpos names od b hdrop
    cases es with
    | nil =>
      obtain ⟨rfl, rfl⟩ := h0.nil_inv
      exact stackLoop_last w hw (Rel.arr n Rel.nil) names od b hdrop
    | cons e' rest =>
      obtain ⟨g, fr, rfl⟩ := h0.frames_cons
      have hn : n ≠ 0 := Nat.ne_of_gt (hpos ⟨false, n⟩ (by simp [List.dropLast]))
      have hrec := ih (fun e he => hpos e (by simp only [List.dropLast_cons_cons]; exact List.mem_cons_of_mem _ he))
      unfold stackLoop
      simp only [List.isEmpty_cons, Bool.false_eq_true, false_and, if_false, hn]
      rw [hrec _ _ _ hdrop, appendIndex_eq]
      simp [pathO, Frame.current, hn, refToken, render, cSlash]
  | @obj n nm es ns fs h0 ih =>
    intro hpos names od b hdrop
    obtain ⟨hget, hdrop'⟩ := List.drop_eq_cons hdrop
    cases es with
    | nil =>
      obtain ⟨rfl, rfl⟩ := h0.nil_inv
      exact stackLoop_last w hw (Rel.obj n nm Rel.nil) names od b hdrop
    | cons e' rest =>
      obtain ⟨g, fr, rfl⟩ := h0.frames_cons
      have hn : n ≠ 0 := Nat.ne_of_gt (hpos ⟨true, n⟩ (by simp [List.dropLast]))
      have hrec := ih (fun e he => hpos e (by simp only [List.dropLast_cons_cons]; exact List.mem_cons_of_mem _ he))
      unfold stackLoop
      simp only [List.isEmpty_cons, Bool.false_eq_true, false_and, if_false, if_true, hget]
      rw [hrec _ _ _ hdrop', appendName_eq]
      simp [pathO, Frame.current, hn, refToken, render, cSlash]

theorem Rel.bottom_inv {n : Nat} {es : List SEntry} {ns : List Bytes} {fs : List Frame}
    (h : Rel (⟨false, n⟩ :: es) ns fs) : ∃ fs', fs = .arr n :: fs' ∧ Rel es ns fs' := by
  cases h with
  | arr _ h0 => exact ⟨_, rfl, h0⟩

theorem bottomArr_reverse : ∀ (l : List SEntry), bottomArr l = true → ∃ n es, l.reverse = ⟨false, n⟩ :: es
  | [], h => by simp [bottomArr] at h
  | [e], h => by
    obtain ⟨o, n⟩ := e
    simp [bottomArr] at h; subst h; exact ⟨n, [], rfl⟩
  | e :: x :: t, h => by
    obtain ⟨n, es, hr⟩ := bottomArr_reverse (x :: t) h
    exact ⟨n, es ++ [e], by rw [List.reverse_cons, hr]; rfl⟩

theorem pointer_of_rel (w : Int) (hw : w = -1 ∨ w = 0 ∨ w = 1) {s : AState} {fs : List Frame}
    (hr : Rel s.stack s.names fs) (hg : Good s) :
    appendStackPointer s [] w = some (render ((pathOfFrames w fs).map refToken)) := by
  unfold appendStackPointer
  rw [pathOfFrames_eq]
  obtain ⟨n, es, hrev⟩ := bottomArr_reverse s.stack hg.bottom
  have hR := hr.reverse
  rw [hrev] at hR
  obtain ⟨fs', hfs, hR'⟩ := hR.bottom_inv
  rw [hrev, hfs]
  simp only [List.drop_succ_cons, List.drop_zero]
  have hpos : ∀ e ∈ es.dropLast, e.len > 0 := by
    intro e he
    apply hg.pos e
    -- s.stack = (⟨false,n⟩ :: es).reverse = es.reverse ++ [bottom]; its tail contains es.dropLast
    have hs : s.stack = es.reverse ++ [⟨false, n⟩] := by
      have := congrArg List.reverse hrev
      simpa using this
    rw [hs]
    rcases List.eq_nil_or_concat es with rfl | ⟨mid, last, rfl⟩
    · simp at he
    · rw [List.concat_eq_append] at he ⊢
      rw [List.dropLast_concat] at he
      simp only [List.reverse_append, List.reverse_cons, List.reverse_nil, List.nil_append, List.cons_append,
        List.tail_cons]
      simp [he]
  have := loop_path w hw hR' hpos s.names.reverse 0 [] rfl
  simpa using this

/-- **stackptr_spec**: after any accepted token history, for where ∈ {-1, 0, +1}. -/
theorem stackptr_spec (hist : List Tok) (w : Int) (s : AState) (hw : w = -1 ∨ w = 0 ∨ w = 1)
    (hrun : AState.init.run hist = some s) :
    ∃ path, pointerOf w hist = some path ∧ appendStackPointer s [] w = some (render (path.map refToken)) := by
  obtain ⟨fs, hf, hr, hg⟩ := run_sim init_rel init_good hrun
  exact ⟨pathOfFrames w fs, by simp [pointerOf, hf], pointer_of_rel w hw hr hg⟩

end JsonV.Lemmas.Pointer
