/-
C19 "scoped": coders built from public options carry no tag state; what `GetOption` can observe is unchanged by a frame step.
-/
import JsonV.Lemmas.ScopeL

namespace JsonV.Lemmas.ScopePub
open JsonV.Model JsonV.Model.Scope JsonV.Gen JsonV.Lemmas.FlagsL JsonV.Lemmas.ScopeL

/-- Options a caller can construct: a `Bools` word never names the internal tag flags, a nested `*Struct` (JoinOptions
result, `DefaultOptionsV1/V2`, a coder's `Options()` taken outside a struct member) carries no tag state. -/
def PublicOpt : Opt → Prop
  | .bools f => f.getLsbD 27 = false ∧ f.getLsbD 28 = false
  | .struct s => TagFree s
  | _ => True

theorem tagFree_setWord {s s' : Struct} (w : BitVec 64) (hf : s'.flags = s.flags.set w) (hfmt : s'.format = s.format)
    (h27 : w.getLsbD 27 = false) (h28 : w.getLsbD 28 = false) (ht : TagFree s) : TagFree s' := by
  have a := set_bits_of_not_named s.flags w 27 (by rw [h27]; rfl)
  have b := set_bits_of_not_named s.flags w 28 (by rw [h28]; rfl)
  unfold TagFree
  rw [hf, a.1, a.2, b.1, b.2, hfmt]
  exact ht

theorem tagFree_joinOne (dst : Struct) (o : Opt) (hd : TagFree dst) (ho : PublicOpt o) : TagFree (dst.joinOne o) := by
  cases o with
  | nil => exact hd
  | bools f => exact tagFree_setWord f rfl rfl ho.1 ho.2 hd
  | formatTagSupport b => cases b <;> exact tagFree_setWord _ rfl rfl (by decide) (by decide) hd
  | struct src =>
    obtain ⟨p27, p28, v27, v28, hf⟩ := hd
    obtain ⟨q27, q28, w27, w28, hg⟩ := ho
    have hj : TagFree { dst with flags := dst.flags.join src.flags } := by
      refine ⟨?_, ?_, ?_, ?_, hf⟩ <;>
        simp only [join_presence_bit, join_values_bit, p27, p28, v27, v28, q27, q28, w27, w28] <;> rfl
    simp only [Struct.joinOne]
    split
    · refine ⟨hj.1, hj.2.1, hj.2.2.1, hj.2.2.2.1, ?_⟩
      simp only [Struct.copySlots]
      split
      · exact hg
      · exact hf
    · exact hj
  | _ => exact tagFree_setWord _ rfl rfl (by decide) (by decide) hd

theorem tagFree_join (dst : Struct) (os : List Opt) (hd : TagFree dst) (ho : ∀ o ∈ os, PublicOpt o) :
    TagFree (dst.join os) := by
  induction os generalizing dst with
  | nil => exact hd
  | cons o os ih =>
    simp only [Struct.join, List.foldl_cons]
    exact ih (dst.joinOne o) (tagFree_joinOne dst o hd (ho o List.mem_cons_self)) (fun o' h' => ho o' (List.mem_cons_of_mem _ h'))

theorem tagFree_ite {c : Prop} [Decidable c] {s s' : Struct} (w : BitVec 64) (hf : s'.flags = s.flags.set w)
    (hfmt : s'.format = s.format) (h27 : w.getLsbD 27 = false) (h28 : w.getLsbD 28 = false) (ht : TagFree s) :
    TagFree (if c then s' else s) := by
  split
  · exact tagFree_setWord w hf hfmt h27 h28 ht
  · exact ht

theorem tagFree_initializeMultiline (s : Struct) (h : TagFree s) : TagFree (initializeMultiline s) :=
  tagFree_ite (W.indent ||| one) rfl rfl (by decide) (by decide)
    (tagFree_ite W.spaceAfterComma rfl rfl (by decide) (by decide)
      (tagFree_ite (W.spaceAfterColon ||| one) rfl rfl (by decide) (by decide) h))

theorem newCoder_tagFree (enc : Bool) (os : List Opt) (ho : ∀ o ∈ os, PublicOpt o) : TagFree (newCoder enc os) := by
  have hj : TagFree (Struct.join {} os) := tagFree_join {} os (by decide) ho
  unfold newCoder
  simp only
  split
  · exact tagFree_initializeMultiline _ hj
  · exact hj

/-- Keys `GetOption` can be asked for through the public API: every setter except one for the internal
WithinArshalCall flag (there is none). -/
def PublicKey : Key → Prop
  | .flag f => f.getLsbD 3 = false
  | _ => True

theorem has_or_within (p v : BitVec 64) (f : BitVec 64) (hf : f.getLsbD 3 = false) :
    Flags.has ⟨p ||| W.withinArshalCall, v⟩ f = Flags.has ⟨p, v⟩ f := by
  unfold Flags.has
  rw [and_congr_bits (p ||| W.withinArshalCall) p f fun i hi => ?_]
  have h3 : i ≠ 3 := fun e => by rw [e, hf] at hi; cases hi
  rw [BitVec.getLsbD_or, bits_within, decide_eq_false h3, Bool.or_false]

theorem getOption_or_within (s : Struct) (k : Key) (hk : PublicKey k) :
    ({ s with flags := ⟨s.flags.presence ||| W.withinArshalCall, s.flags.values⟩ } : Struct).getOption k = s.getOption k := by
  have hh : ∀ f, f.getLsbD 3 = false →
      Flags.has ⟨s.flags.presence ||| W.withinArshalCall, s.flags.values⟩ f = s.flags.has f := by
    intro f hf; exact has_or_within _ _ f hf
  have hg : ∀ f, Flags.get ⟨s.flags.presence ||| W.withinArshalCall, s.flags.values⟩ f = s.flags.get f := by
    intro f; rfl
  cases k with
  | flag f => simp only [Struct.getOption, hh f hk, hg]
  | formatTagSupport => simp only [Struct.getOption, hh _ (by decide : F.formatTagSupported.getLsbD 3 = false), hg]
  | indent => simp only [Struct.getOption, hh _ (by decide : F.indent.getLsbD 3 = false)]
  | indentPrefix => simp only [Struct.getOption, hh _ (by decide : F.indentPrefix.getLsbD 3 = false)]
  | byteLimit => simp only [Struct.getOption, hh _ (by decide : F.byteLimit.getLsbD 3 = false)]
  | depthLimit => simp only [Struct.getOption, hh _ (by decide : F.depthLimit.getLsbD 3 = false)]
  | marshalers => simp only [Struct.getOption, hh _ (by decide : F.marshalers.getLsbD 3 = false)]
  | unmarshalers => simp only [Struct.getOption, hh _ (by decide : F.unmarshalers.getLsbD 3 = false)]

theorem bits_colonSet (i : Nat) : (W.spaceAfterColon ||| one).getLsbD i = (decide (i = 0) || decide (i = 12)) :=
  bits_flagSet 12 (by decide) (by decide) i
theorem bits_comma (i : Nat) : W.spaceAfterComma.getLsbD i = decide (i = 13) :=
  bits_flag 13 (by decide) (by decide) i
theorem bits_indentSet (i : Nat) : (W.indent ||| one).getLsbD i = (decide (i = 0) || decide (i = 14)) :=
  bits_flagSet 14 (by decide) (by decide) i

/-- `InitializeMultiline` touches only SpaceAfterColon (12), SpaceAfterComma (13), Indent (14). -/
theorem initializeMultiline_lookup (j : Struct) (i : Nat) (h12 : i ≠ 12) (h13 : i ≠ 13) (h14 : i ≠ 14) :
    (initializeMultiline j).flags.lookup i = j.flags.lookup i := by
  have e1 : (imColon j).flags.lookup i = j.flags.lookup i := by
    unfold imColon; split
    · show (j.flags.set _).lookup i = _
      rw [lookup_set, bits_colonSet]; by_cases h0 : i = 0 <;> simp [h0, h12]
    · rfl
  have e2 : (imComma (imColon j)).flags.lookup i = (imColon j).flags.lookup i := by
    unfold imComma; split
    · show ((imColon j).flags.set _).lookup i = _
      rw [lookup_set, bits_comma]; simp [h13]
    · rfl
  have e3 : (imIndent (imComma (imColon j))).flags.lookup i = (imComma (imColon j)).flags.lookup i := by
    unfold imIndent; split
    · show ((imComma (imColon j)).flags.set _).lookup i = _
      rw [lookup_set, bits_indentSet]; by_cases h0 : i = 0 <;> simp [h0, h14]
    · rfl
  unfold initializeMultiline
  rw [e3, e2, e1]

end JsonV.Lemmas.ScopePub
