/-
C02: the fragments of `Model/EncInv` are values, and values compose into
arrays and objects (for lists of any length).
-/
import JsonV.Lemmas.EncInvSound
import JsonV.Model.EncInv
import JsonV.Lemmas.NumJNumber

namespace JsonV.Lemmas.EncInvCompose
open JsonV JsonV.Spec.ValidJson JsonV.Spec.Grammar JsonV.Lemmas.EncInvL JsonV.Lemmas.EncInvSound JsonV.Model.EncInv

theorem natDigits_eq_time (n : Nat) : natDigits n = Model.Time.natDigits n := by
  induction n using Nat.strongRecOn with
  | _ n ih =>
    rw [natDigits, Model.Time.natDigits]
    by_cases h : n < 10
    · rw [dif_pos h, if_pos h]; rfl
    · rw [dif_neg h, if_neg h, ih (n / 10) (by omega)]; rfl

theorem natDigits_digits (n : Nat) : ∀ c ∈ natDigits n, isDigit c = true :=
  natDigits_eq_time n ▸ Model.Time.natDigits_digits n

theorem natDigits_ne_nil (n : Nat) : natDigits n ≠ [] :=
  natDigits_eq_time n ▸ ((NumParse.canonical_iff _).1 (Model.Time.natDigits_canonical n)).1

theorem natDigits_head (n : Nat) : ∀ d ds, natDigits n = d :: ds → d = 0x30 → n = 0 := by
  intro d ds e hz
  have hc := Model.Time.natDigits_canonical n
  have hv := Model.Time.bytesVal_natDigits n
  rw [← natDigits_eq_time, e, hz] at hc hv
  rw [(List.cons.inj (((NumParse.canonical_iff _).1 hc).2.2.resolve_left fun h => h rfl)).2] at hv
  exact hv.symm

theorem jint_natDigits (n : Nat) : JInt (natDigits n) :=
  NumJNumber.jint_of_canonical _ (natDigits_eq_time n ▸ Model.Time.natDigits_canonical n)

theorem jnumber_natDigits (n : Nat) : JNumber (natDigits n) := JNumber.of_int (.inl rfl) (jint_natDigits n)

theorem jnumber_intDigits (i : Int) : JNumber (intDigits i) := by
  unfold intDigits
  split
  · exact JNumber.of_int (.inr rfl) (jint_natDigits _)
  · exact jnumber_natDigits _

theorem pNumber_natDigits (n : Nat) : pNumber (natDigits n) = some [] := pNumber_complete _ (jnumber_natDigits n)

theorem validAt_iff (o : Opt) (d : Nat) (x : Bytes) : validAt o d x = true ↔ parse o .value d x = some [] := by
  simp [validAt]

theorem validAt_number (o : Opt) (d : Nat) (c : UInt8) (s : Bytes) (hc : isDigit c = true ∨ c = 0x2d)
    (h : pNumber (c :: s) = some []) : validAt o d (c :: s) = true := by
  have hne : c ≠ 0x22 ∧ c ≠ 0x5b ∧ c ≠ 0x7b ∧ c ≠ 0x6e ∧ c ≠ 0x74 ∧ c ≠ 0x66 := by
    rcases hc with hc | rfl
    · refine ⟨?_, ?_, ?_, ?_, ?_, ?_⟩ <;> (rintro rfl; simp [isDigit] at hc)
    · decide
  rw [validAt_iff, parse_number o d s hne.1 hne.2.1 hne.2.2.1 hne.2.2.2.1 hne.2.2.2.2.1 hne.2.2.2.2.2, h]

theorem pNumber_head (c : UInt8) (s t : Bytes) (h : pNumber (c :: s) = some t) : isDigit c = true ∨ c = 0x2d := by
  obtain ⟨p, hp, hj⟩ := pNumber_sound h
  obtain ⟨c', t', rfl, hc⟩ := hj.head
  obtain ⟨rfl, -⟩ := List.cons.inj hp
  exact hc.symm.imp_left (WireNumber.digit_iff c).1

theorem validAt_of_pNumber (o : Opt) (d : Nat) (lit : Bytes) (h : pNumber lit = some []) : validAt o d lit = true := by
  cases lit with
  | nil => simp [pNumber, pInt] at h
  | cons c s => exact validAt_number o d c s (pNumber_head c s [] h) h

theorem pNumber_intDigits (i : Int) : pNumber (intDigits i) = some [] := pNumber_complete _ (jnumber_intDigits i)

theorem validAt_natDigits (o : Opt) (d n : Nat) : validAt o d (natDigits n) = true :=
  validAt_of_pNumber o d _ (pNumber_natDigits n)

theorem validAt_intDigits (o : Opt) (d : Nat) (i : Int) : validAt o d (intDigits i) = true :=
  validAt_of_pNumber o d _ (pNumber_intDigits i)

theorem validAt_null (o : Opt) (d : Nat) : validAt o d [0x6e, 0x75, 0x6c, 0x6c] = true := by
  rw [validAt_iff, parse_null]; rfl
theorem validAt_true (o : Opt) (d : Nat) : validAt o d [0x74, 0x72, 0x75, 0x65] = true := by
  rw [validAt_iff, parse_true]; rfl
theorem validAt_false (o : Opt) (d : Nat) : validAt o d [0x66, 0x61, 0x6c, 0x73, 0x65] = true := by
  rw [validAt_iff, parse_false]; rfl
theorem validAt_emptyArr (o : Opt) (d : Nat) (h : d < o.maxDepth) : validAt o d [0x5b, 0x5d] = true := by
  rw [validAt_iff, parse_arr o h, if_pos rfl]
theorem validAt_emptyObj (o : Opt) (d : Nat) (h : d < o.maxDepth) : validAt o d [0x7b, 0x7d] = true := by
  rw [validAt_iff, parse_obj o h, if_pos rfl]
theorem invalid_beyond_maxDepth (o : Opt) (d : Nat) (h : ¬ d < o.maxDepth) (c : UInt8) (hc : c = 0x5b ∨ c = 0x7b)
    (s : Bytes) : validAt o d (c :: s) = false := by
  rcases hc with rfl | rfl <;> (unfold validAt parse; simp [h])

theorem validString_iff (o : Opt) (s : Bytes) :
    validString o s = true ↔ ∃ body, s = 0x22 :: body ∧ strBody o.strict body = some [] := by
  cases s with
  | nil => simp [validString]
  | cons c r =>
    simp only [validString, Bool.and_eq_true, beq_iff_eq, List.cons.injEq]
    exact ⟨fun ⟨hc, h⟩ => ⟨r, ⟨hc, rfl⟩, h⟩, fun ⟨_, ⟨hc, hr⟩, h⟩ => ⟨hc, hr ▸ h⟩⟩

theorem validAt_string (o : Opt) (d : Nat) (s : Bytes) (h : validString o s = true) : validAt o d s = true := by
  obtain ⟨body, rfl, hb⟩ := (validString_iff o s).mp h
  rw [validAt_iff, parse_string, hb]

theorem value_ne_nil (o : Opt) (d : Nat) (x : Bytes) (h : validAt o d x = true) : x ≠ [] := by
  rintro rfl; rw [validAt_iff] at h; unfold parse at h; simp at h

theorem value_head (o : Opt) (d : Nat) (c : UInt8) (s t : Bytes) (h : parse o .value d (c :: s) = some t) :
    c ≠ 0x5d ∧ c ≠ 0x7d := by
  constructor <;> (rintro rfl; unfold parse at h; simp [pNumber, pInt, isDigit] at h)

theorem elem_step (o : Opt) (d : Nat) (x tail : Bytes) (c : UInt8) (hx : validAt o d x = true)
    (hc : c = 0x2c ∨ c = 0x5d) :
    parse o .elems d (x ++ c :: tail) = if c = 0x2c then parse o .elems d tail else some tail := by
  have e := parse_append o .value d x (c :: tail) [] ((validAt_iff o d x).mp hx) (fun _ => okFollow_cons _ (hc.imp_right .inl))
  rw [parse_elems o d e (by simp; omega)]
  rcases hc with rfl | rfl <;> rfl

theorem elems_compose (o : Opt) (d : Nat) : ∀ (xs : List Bytes) (r : Bytes), xs ≠ [] →
    (∀ x ∈ xs, validAt o d x = true) → parse o .elems d (joinElems xs ++ 0x5d :: r) = some r
  | [], _, h, _ => absurd rfl h
  | [x], r, _, hx => by
    simp only [joinElems]
    rw [elem_step o d x r 0x5d (hx x (by simp)) (.inr rfl)]; simp
  | x :: y :: ys, r, _, hx => by
    simp only [joinElems, List.append_assoc, List.cons_append]
    rw [elem_step o d x _ 0x2c (hx x (by simp)) (.inl rfl)]
    simp only [if_true]
    exact elems_compose o d (y :: ys) r (by simp) (fun z hz => hx z (by simp at hz ⊢; exact .inr hz))

theorem joinElems_cons_head (c : UInt8) (x' : Bytes) (xs : List Bytes) :
    ∃ r', joinElems ((c :: x') :: xs) = c :: r' := by
  cases xs with
  | nil => exact ⟨x', rfl⟩
  | cons y ys => exact ⟨x' ++ 0x2c :: joinElems (y :: ys), rfl⟩

theorem array_compose' (o : Opt) (d : Nat) (xs : List Bytes) (hd : d < o.maxDepth)
    (h : ∀ x ∈ xs, validAt o (d + 1) x = true) : validAt o d (arr xs) = true := by
  cases xs with
  | nil => exact validAt_emptyArr o d hd
  | cons x xs' =>
    have hx := h x (by simp)
    cases x with
    | nil => exact absurd rfl (value_ne_nil o _ _ hx)
    | cons c x' =>
      obtain ⟨r', hr'⟩ := joinElems_cons_head c x' xs'
      have hc := (value_head o (d + 1) c x' [] ((validAt_iff _ _ _).mp hx)).1
      have e := elems_compose o (d + 1) ((c :: x') :: xs') [] (by simp) h
      rw [hr'] at e
      rw [validAt_iff, arr, hr', List.cons_append, parse_arr o hd, if_neg hc]
      exact e

theorem member_step (o : Opt) (d : Nat) (nm v tail : Bytes) (seen : List Bytes) (c : UInt8)
    (hn : validString o nm = true) (hv : validAt o d v = true) (hc : c = 0x2c ∨ c = 0x7d)
    (hk : o.noDup = true → o.key nm ∉ seen) :
    parse o (.members seen) d (nm ++ 0x3a :: (v ++ c :: tail)) =
      if c = 0x2c then parse o (.members (o.key nm :: seen)) d tail else some tail := by
  obtain ⟨body, rfl, hb⟩ := (validString_iff o nm).mp hn
  have e1 := strBody_append o.strict body (0x3a :: (v ++ c :: tail)) [] hb
  have e2 := parse_append o .value d v (c :: tail) [] ((validAt_iff o d v).mp hv) (fun _ => okFollow_cons _ (hc.imp_right (.inr ∘ .inl)))
  -- the spelling cut out of the input is the name
  have htake : List.take ((body ++ 0x3a :: (v ++ c :: tail)).length - (v ++ c :: tail).length)
      (0x22 :: (body ++ 0x3a :: (v ++ c :: tail))) = 0x22 :: body := by
    have : (body ++ 0x3a :: (v ++ c :: tail)).length - (v ++ c :: tail).length = (0x22 :: body).length := by
      simp; omega
    rw [this, ← List.cons_append, List.take_left']
    rfl
  have hk' : ¬ (o.noDup && seen.contains (o.key (0x22 :: body))) = true := by
    cases hnd : o.noDup with
    | false => simp
    | true => simpa using hk hnd
  rw [List.cons_append, parse_members o d e1 (by simp; omega) (by rw [htake]; exact hk') e2 (by simp; omega), htake]
  rcases hc with rfl | rfl <;> rfl

theorem members_compose (o : Opt) (d : Nat) : ∀ (ms : List (Bytes × Bytes)) (seen : List Bytes) (r : Bytes),
    ms ≠ [] → (∀ m ∈ ms, validString o m.1 = true ∧ validAt o d m.2 = true) →
    (o.noDup = true → (ms.map fun m => o.key m.1).Nodup ∧ ∀ m ∈ ms, o.key m.1 ∉ seen) →
    parse o (.members seen) d (joinElems (ms.map member) ++ 0x7d :: r) = some r
  | [], _, _, h, _, _ => absurd rfl h
  | [m], seen, r, _, hm, hk => by
    simp only [List.map, joinElems, member, List.append_assoc, List.cons_append]
    rw [member_step o d m.1 m.2 r seen 0x7d (hm m (by simp)).1 (hm m (by simp)).2 (.inr rfl)
      (fun hnd => (hk hnd).2 m (by simp))]
    simp
  | m :: m2 :: ms, seen, r, _, hm, hk => by
    simp only [List.map, joinElems, member, List.append_assoc, List.cons_append]
    rw [member_step o d m.1 m.2 _ seen 0x2c (hm m (by simp)).1 (hm m (by simp)).2 (.inl rfl)
      (fun hnd => (hk hnd).2 m (by simp))]
    simp only [if_true]
    have ih := members_compose o d (m2 :: ms) (o.key m.1 :: seen) r (by simp)
      (fun z hz => hm z (by simp at hz ⊢; exact .inr hz))
      (fun hnd => by
        obtain ⟨hnod, hseen⟩ := hk hnd
        obtain ⟨hnew, hnod⟩ := List.nodup_cons.mp hnod
        refine ⟨hnod, fun z hz => ?_⟩
        rw [List.mem_cons, not_or]
        exact ⟨fun heq => hnew (List.mem_map.mpr ⟨z, hz, heq⟩), hseen z (List.mem_cons_of_mem _ hz)⟩)
    simpa [List.map, member] using ih

theorem object_compose' (o : Opt) (d : Nat) (ms : List (Bytes × Bytes)) (hd : d < o.maxDepth)
    (h : ∀ m ∈ ms, validString o m.1 = true ∧ validAt o (d + 1) m.2 = true)
    (hk : o.noDup = true → (ms.map fun m => o.key m.1).Nodup) : validAt o d (obj ms) = true := by
  cases ms with
  | nil => exact validAt_emptyObj o d hd
  | cons m ms' =>
    obtain ⟨body, hn, _⟩ := (validString_iff o m.1).mp (h m List.mem_cons_self).1
    have e := members_compose o (d + 1) (m :: ms') [] [] (by simp) h (fun hnd => ⟨hk hnd, by simp⟩)
    obtain ⟨r', hr'⟩ : ∃ r', joinElems ((m :: ms').map member) = 0x22 :: r' := by
      rw [List.map_cons, member, hn]
      exact joinElems_cons_head _ _ _
    rw [hr'] at e
    rw [validAt_iff, obj, hr', List.cons_append, parse_obj o hd, if_neg (by decide)]
    exact e

end JsonV.Lemmas.EncInvCompose
