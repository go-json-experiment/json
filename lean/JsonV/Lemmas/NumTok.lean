/-
C10 lemmas: Token.Int / Token.Uint on a token built with jsontext.Float or jsontext.Float32.
-/
import JsonV.Model.Number

namespace JsonV.Lemmas.NumTok
open JsonV JsonV.Model.Number

/-- The signed truncation toward zero of a finite value. -/
def truncInt (f : Fl) : Int := if f.neg then -(f.truncAbs : Int) else f.truncAbs

theorem absGe_iff (f : Fl) (hf : f.inf = false) (k : Nat) : f.absGe k = true ↔ k ≤ f.truncAbs := by
  simp only [Fl.absGe, hf, Bool.false_or, Fl.truncAbs]
  by_cases he : f.exp ≥ 0
  · simp [he]
  · simp only [he, if_false, decide_eq_true_eq, ge_iff_le]
    exact (Nat.le_div_iff_mul_le (Nat.pow_pos (by decide))).symm

theorem absGt_of_trunc (f : Fl) (hf : f.inf = false) (k : Nat) (h : k < f.truncAbs) : f.absGt k = true := by
  simp only [Fl.absGt, hf, Bool.false_or, Fl.truncAbs] at h ⊢
  by_cases he : f.exp ≥ 0
  · simpa [he] using h
  · simp only [he, if_false, decide_eq_true_eq, gt_iff_lt] at h ⊢
    have hp : 0 < 2 ^ (-f.exp).toNat := Nat.pow_pos (by decide)
    have := (Nat.le_div_iff_mul_le hp).1 (show k + 1 ≤ f.mant / 2 ^ (-f.exp).toNat from h)
    rw [Nat.add_mul] at this
    omega

theorem trunc_of_absGt (f : Fl) (hf : f.inf = false) (k : Nat) (h : f.absGt k = true) : k ≤ f.truncAbs := by
  simp only [Fl.absGt, hf, Bool.false_or, Fl.truncAbs] at h ⊢
  by_cases he : f.exp ≥ 0
  · simp only [he, if_true, decide_eq_true_eq] at h ⊢; omega
  · simp only [he, if_false, decide_eq_true_eq, gt_iff_lt] at h ⊢
    exact (Nat.le_div_iff_mul_le (Nat.pow_pos (by decide))).2 (by omega)

theorem absGt_iff_integral (f : Fl) (hf : f.inf = false) (hi : f.isIntegral = true) (k : Nat) :
    f.absGt k = true ↔ k < f.truncAbs := by
  refine ⟨fun h => ?_, absGt_of_trunc f hf k⟩
  simp only [Fl.absGt, hf, Bool.false_or, Fl.truncAbs] at h ⊢
  simp only [Fl.isIntegral, hf, Bool.false_or, Bool.or_eq_true, decide_eq_true_eq, beq_iff_eq] at hi
  by_cases he : f.exp ≥ 0
  · simpa [he] using h
  · simp only [he, if_false, decide_eq_true_eq, gt_iff_lt] at h ⊢
    have hm := Nat.div_add_mod f.mant (2 ^ (-f.exp).toNat)
    rw [hi.resolve_left he, Nat.add_zero] at hm
    rw [← hm, Nat.mul_comm] at h
    exact Nat.lt_of_mul_lt_mul_left h

theorem f64toi64_clamp (f : Fl) (hf : f.inf = false) :
    f64toi64 f = if truncInt f < -(2 ^ 63) then -(2 ^ 63) else if truncInt f ≥ 2 ^ 63 then 2 ^ 63 - 1 else truncInt f := by
  have hge := absGe_iff f hf (2 ^ 63)
  cases hn : f.neg with
  | false =>
    simp only [f64toi64, truncInt, hn, Bool.not_false, Bool.true_and, Bool.false_and, Bool.false_eq_true, if_false]
    by_cases h : 2 ^ 63 ≤ f.truncAbs
    · rw [if_pos (hge.2 h), if_neg (by omega), if_pos (by omega)]
    · rw [if_neg (fun hh => h (hge.1 hh)), if_neg (by omega), if_neg (by omega)]
  | true =>
    simp only [f64toi64, truncInt, hn, Bool.not_true, Bool.false_and, Bool.false_eq_true, if_false, Bool.true_and, if_true]
    by_cases h : f.absGt (2 ^ 63) = true
    · have := trunc_of_absGt f hf _ h
      rw [if_pos h]
      by_cases h2 : 2 ^ 63 < f.truncAbs
      · rw [if_pos (by omega)]
      · rw [if_neg (by omega), if_neg (by omega)]; omega
    · have : ¬ 2 ^ 63 < f.truncAbs := fun hh => h (absGt_of_trunc f hf _ hh)
      rw [if_neg h, if_neg (by omega), if_neg (by omega)]

theorem truncAbs_zero (f : Fl) (h : f.isZero = true) : f.truncAbs = 0 := by
  simp only [Fl.isZero, Bool.and_eq_true, beq_iff_eq] at h
  simp [Fl.truncAbs, h.2]

theorem f64tou64_clamp (f : Fl) (hf : f.inf = false) :
    f64tou64 f = if f.neg then 0 else if f.truncAbs ≥ 2 ^ 64 then 2 ^ 64 - 1 else f.truncAbs := by
  unfold f64tou64
  have hge := absGe_iff f hf (2 ^ 64)
  cases hn : f.neg with
  | false =>
    simp only [Bool.not_false, Bool.true_and, Bool.false_and, Bool.false_eq_true, if_false]
    by_cases h : 2 ^ 64 ≤ f.truncAbs
    · rw [if_pos (hge.2 h), if_pos h]
    · rw [if_neg (fun hh => h (hge.1 hh)), if_neg h]
  | true =>
    simp only [Bool.not_true, Bool.false_and, Bool.false_eq_true, if_false, Bool.true_and, if_true]
    by_cases hz : f.isZero = true
    · simp [hz, truncAbs_zero f hz]
    · simp [hz]

theorem tokInt_float (pf : Bytes → Fl) (f : Fl) (b : Bool) (hf : f.inf = false) :
    tokInt pf (.float f b) =
      if f.isIntegral = false then (f64toi64 f, .syntax)
      else if -(2 ^ 63 : Int) ≤ truncInt f ∧ truncInt f < 2 ^ 63 then (truncInt f, .none)
      else if truncInt f < 0 then (-(2 ^ 63), .range) else (2 ^ 63 - 1, .range) := by
  cases hi : f.isIntegral with
  | false => simp only [tokInt, hi, Bool.not_false, if_true]
  | true =>
    have hge : f.absGe (2 ^ 63) = decide (2 ^ 63 ≤ f.truncAbs) := Bool.eq_iff_iff.2 (by rw [absGe_iff f hf, decide_eq_true_eq])
    have hgt : f.absGt (2 ^ 63) = decide (2 ^ 63 < f.truncAbs) :=
      Bool.eq_iff_iff.2 (by rw [absGt_iff_integral f hf hi, decide_eq_true_eq])
    rw [if_neg (by decide)]
    cases hn : f.neg with
    | true =>
      simp only [tokInt, f64toi64, truncInt, hi, hn, hgt, Bool.not_true, Bool.false_and, Bool.and_false, Bool.or_false,
        Bool.and_true, Bool.true_and, Bool.false_eq_true, if_false, if_true]
      by_cases h : 2 ^ 63 < f.truncAbs
      · simp only [h, decide_true, if_true, beq_self_eq_true, Bool.and_self]
        rw [if_neg (by omega), if_pos (by omega)]
      · simp only [h, decide_false, Bool.false_eq_true, if_false, Bool.and_false]
        rw [if_pos (by omega)]
    | false =>
      simp only [tokInt, f64toi64, truncInt, hi, hn, hge, Bool.not_true, Bool.not_false, Bool.false_and, Bool.and_false,
        Bool.false_or, Bool.and_true, Bool.true_and, Bool.false_eq_true, if_false, if_true]
      by_cases h : 2 ^ 63 ≤ f.truncAbs
      · simp only [h, decide_true, if_true, beq_self_eq_true, Bool.and_self]
        rw [if_neg (by omega), if_neg (by omega)]
      · simp only [h, decide_false, Bool.false_eq_true, if_false, Bool.and_false]
        rw [if_pos (by omega)]

theorem tokUint_float (pf : Bytes → Fl) (f : Fl) (b : Bool) (hf : f.inf = false) :
    tokUint pf (.float f b) =
      if f.isIntegral = false ∨ f.neg = true then (f64tou64 f, .syntax)
      else if f.truncAbs < 2 ^ 64 then (f.truncAbs, .none) else (2 ^ 64 - 1, .range) := by
  simp only [tokUint]
  by_cases hc : f.isIntegral = false ∨ f.neg = true
  · rw [if_pos hc, if_pos]
    rcases hc with h | h <;> simp [h]
  · have hi : f.isIntegral = true := by
      cases hh : f.isIntegral with
      | true => rfl
      | false => exact absurd (Or.inl hh) hc
    have hn : f.neg = false := by
      cases hh : f.neg with
      | false => rfl
      | true => exact absurd (Or.inr hh) hc
    have hclamp := f64tou64_clamp f hf
    have hge := absGe_iff f hf (2 ^ 64)
    rw [if_neg hc]
    simp only [hi, hn, Bool.not_true, Bool.or_self, Bool.false_eq_true, if_false]
    simp only [hn, Bool.false_eq_true, if_false] at hclamp
    by_cases h : 2 ^ 64 ≤ f.truncAbs
    · rw [if_pos h] at hclamp
      rw [hclamp, if_pos (by simp [hge.2 h]), if_neg (by omega)]
    · rw [if_neg h] at hclamp
      have hng : f.absGe (2 ^ 64) = false := by
        cases hh : f.absGe (2 ^ 64) with
        | false => rfl
        | true => exact absurd (hge.1 hh) h
      rw [hclamp, if_neg (by simp [hng]), if_pos (by omega)]

end JsonV.Lemmas.NumTok
