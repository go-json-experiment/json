/-
ConsumeNumberResumable of Model/Resume.lean, label by label (C05): resuming at the saved (offset, state) over an
extended buffer is equivalent to a scan from scratch (`Good`, `num_good`); hence the refill loop answers alike on
every chunking.
-/
import JsonV.Model.Resume
import JsonV.Lemmas.Basics

namespace JsonV.Model.Resume

/-- The caller may resume after this result: io.ErrUnexpectedEOF, or nil with the whole buffer consumed
(`err == io.ErrUnexpectedEOF || d.needMore(pos+n)` in decoderState.consumeNumber). -/
def Resumable (len : Nat) (r : NumRes) : Prop := r.2.2 = .eof ∨ (r.2.2 = .ok ∧ r.1 = len)

/-- Same offset and error class; same state whenever the state can still be used (the result is resumable). -/
def NumEquiv (len : Nat) (r1 r2 : NumRes) : Prop :=
  r1.1 = r2.1 ∧ r1.2.2 = r2.2.2 ∧ (Resumable len r1 → r1.2.1 = r2.2.1)

theorem NumEquiv.refl (len : Nat) (r : NumRes) : NumEquiv len r r := ⟨rfl, rfl, fun _ => rfl⟩

theorem NumEquiv.trans {len : Nat} {a b c : NumRes} (h1 : NumEquiv len a b) (h2 : NumEquiv len b c) :
    NumEquiv len a c := by
  obtain ⟨h11, h12, h13⟩ := h1
  obtain ⟨h21, h22, h23⟩ := h2
  refine ⟨h11.trans h21, h12.trans h22, fun hr => ?_⟩
  have hb : Resumable len b := by
    unfold Resumable at hr ⊢
    rw [← h11, ← h12]; exact hr
  exact (h13 hr).trans (h23 hb)

theorem countDigits_eq (r : Bytes) : countDigits r = (r.takeWhile isDigit).length := by
  induction r with
  | nil => rfl
  | cons c r ih =>
    rw [countDigits, List.takeWhile_cons]
    by_cases hc : isDigit c = true
    · rw [if_pos hc, if_pos hc, ih]; rfl
    · rw [if_neg hc, if_neg hc]; rfl

theorem countDigits_le (r : Bytes) : countDigits r ≤ r.length := by
  rw [countDigits_eq]; exact (List.takeWhile_sublist _).length_le

theorem countDigits_append_full (r e : Bytes) (h : countDigits r = r.length) :
    countDigits (r ++ e) = r.length + countDigits e := by
  rw [countDigits_eq] at h
  rw [countDigits_eq, countDigits_eq, List.takeWhile_append, if_pos h, List.length_append]

theorem countDigits_append_lt (r e : Bytes) (h : countDigits r < r.length) :
    countDigits (r ++ e) = countDigits r := by
  rw [countDigits_eq] at h
  rw [countDigits_eq, countDigits_eq, List.takeWhile_append, if_neg (Nat.ne_of_lt h)]

theorem drop_countDigits_ne_nil (r : Bytes) (h : countDigits r < r.length) :
    ∃ c r', r.drop (countDigits r) = c :: r' :=
  ⟨_, _, List.drop_eq_getElem_cons h⟩

theorem length_of_drop_eq {b r : Bytes} {n : Nat} (h : b.drop n = r) (hr : r ≠ []) : b.length = n + r.length := by
  have h1 := congrArg List.length h
  rw [List.length_drop] at h1
  have : r.length > 0 := List.length_pos_iff.mpr hr
  omega

/-- `for len(b) > n && '0' <= b[n] && b[n] <= '9' { n++ }` at offset `n` (`r = b[n:]`), then label `F`. -/
def afterDigits (F : Bytes → Nat → Nat → NumRes) (r : Bytes) (n st : Nat) : NumRes :=
  F (r.drop (countDigits r)) (n + countDigits r) st

/-- the label reached after the digits of the exponent: `return n, state, nil`. -/
def numDone (_ : Bytes) (n st : Nat) : NumRes := (n, st, .ok)

theorem afterDigits_full (F : Bytes → Nat → Nat → NumRes) {r : Bytes} (h : countDigits r = r.length) (n st : Nat) :
    afterDigits F r n st = F [] (n + r.length) st := by
  unfold afterDigits; rw [h, List.drop_length]

theorem afterDigits_append_full (F : Bytes → Nat → Nat → NumRes) {r : Bytes} (h : countDigits r = r.length)
    (e : Bytes) (n st : Nat) : afterDigits F (r ++ e) n st = afterDigits F e (n + r.length) st := by
  unfold afterDigits
  rw [countDigits_append_full r e h, ← List.drop_drop, List.drop_left, Nat.add_assoc]

theorem afterDigits_append_lt (F : Bytes → Nat → Nat → NumRes) {r : Bytes} (h : countDigits r < r.length)
    (e : Bytes) (n st : Nat) :
    afterDigits F (r ++ e) n st = F (r.drop (countDigits r) ++ e) (n + countDigits r) st := by
  unfold afterDigits
  rw [countDigits_append_lt r e h, List.drop_append_of_le_length (Nat.le_of_lt h)]

theorem beforeExponent_nil (n st : Nat) : beforeExponent [] n st = (n, st, .ok) := rfl

theorem beforeExponent_other {c : UInt8} (hc : ¬ (c == 0x65 || c == 0x45) = true) (r1 : Bytes) (n st : Nat) :
    beforeExponent (c :: r1) n st = (n, st, .ok) := by
  simp only [beforeExponent]; rw [if_neg hc]

theorem beforeExponent_e {c : UInt8} (hc : (c == 0x65 || c == 0x45) = true) (n st : Nat) :
    beforeExponent [c] n st = (n, 5, .eof) := by
  simp only [beforeExponent]; rw [if_pos hc]

theorem beforeExponent_e_sign {c s : UInt8} (hc : (c == 0x65 || c == 0x45) = true)
    (hs : (s == 0x2D || s == 0x2B) = true) (n st : Nat) :
    beforeExponent [c, s] n st = (n, 5, .eof) := by
  simp only [beforeExponent]; rw [if_pos hc, if_pos hs]

theorem beforeExponent_e_sign_cons {c s : UInt8} (hc : (c == 0x65 || c == 0x45) = true)
    (hs : (s == 0x2D || s == 0x2B) = true) (d : UInt8) (r3 : Bytes) (n st : Nat) :
    beforeExponent (c :: s :: d :: r3) n st =
      if isDigit d then afterDigits numDone r3 (n + 3) 6 else (n + 2, st, .invalidChar) := by
  simp only [beforeExponent]; rw [if_pos hc, if_pos hs]; rfl

theorem beforeExponent_e_cons {c s : UInt8} (hc : (c == 0x65 || c == 0x45) = true)
    (hs : ¬ (s == 0x2D || s == 0x2B) = true) (r2 : Bytes) (n st : Nat) :
    beforeExponent (c :: s :: r2) n st =
      if isDigit s then afterDigits numDone r2 (n + 2) 6 else (n + 1, st, .invalidChar) := by
  simp only [beforeExponent]; rw [if_pos hc, if_neg hs]; rfl

theorem beforeFractional_nil (n st : Nat) : beforeFractional [] n st = (n, st, .ok) := rfl

theorem beforeFractional_other {c : UInt8} (hc : ¬ (c == 0x2E) = true) (r1 : Bytes) (n st : Nat) :
    beforeFractional (c :: r1) n st = beforeExponent (c :: r1) n st := by
  simp only [beforeFractional]; rw [if_neg hc]

theorem beforeFractional_dot {c : UInt8} (hc : (c == 0x2E) = true) (n st : Nat) :
    beforeFractional [c] n st = (n, 3, .eof) := by
  simp only [beforeFractional]; rw [if_pos hc]

theorem beforeFractional_dot_cons {c : UInt8} (hc : (c == 0x2E) = true) (d : UInt8) (r2 : Bytes) (n st : Nat) :
    beforeFractional (c :: d :: r2) n st =
      if isDigit d then afterDigits beforeExponent r2 (n + 2) 4 else (n + 1, st, .invalidChar) := by
  simp only [beforeFractional]; rw [if_pos hc]; rfl

theorem integerBody_nil (n n1 st : Nat) : integerBody [] n n1 st = (n, 1, .eof) := rfl

theorem integerBody_zero {c : UInt8} (h0 : (c == 0x30) = true) (r1 : Bytes) (n n1 st : Nat) :
    integerBody (c :: r1) n n1 st = beforeFractional r1 (n1 + 1) 3 := by
  simp only [integerBody]; rw [if_pos h0]

theorem integerBody_nonzero {c : UInt8} (h0 : ¬ (c == 0x30) = true) (h1 : (0x31 ≤ c && c ≤ 0x39) = true)
    (r1 : Bytes) (n n1 st : Nat) :
    integerBody (c :: r1) n n1 st = afterDigits beforeFractional r1 (n1 + 1) 2 := by
  simp only [integerBody]; rw [if_neg h0, if_pos h1]; rfl

theorem integerBody_other {c : UInt8} (h0 : ¬ (c == 0x30) = true) (h1 : ¬ (0x31 ≤ c && c ≤ 0x39) = true)
    (r1 : Bytes) (n n1 st : Nat) :
    integerBody (c :: r1) n n1 st = (n1, st, .invalidChar) := by
  simp only [integerBody]; rw [if_neg h0, if_neg h1]

theorem beforeInteger_nil (n st : Nat) : beforeInteger [] n st = (n, 1, .eof) := by
  simp only [beforeInteger, List.drop_nil]; rfl

theorem beforeInteger_minus {c : UInt8} (hm : (c == 0x2D) = true) (t : Bytes) (n st : Nat) :
    beforeInteger (c :: t) n st = integerBody (t.drop n) n (n + 1) st := by
  simp only [beforeInteger]; rw [if_pos hm]; rfl

theorem beforeInteger_other {c : UInt8} (hm : ¬ (c == 0x2D) = true) (t : Bytes) (n st : Nat) :
    beforeInteger (c :: t) n st = integerBody ((c :: t).drop n) n n st := by
  simp only [beforeInteger]; rw [if_neg hm]

/-- `cnr` is `consumeNumberResumable`: what the resume prologue does in each state, here in the states of a digit loop. -/
theorem cnr_within (b : Bytes) (n st : Nat) (h : st = 2 ∨ st = 4 ∨ st = 6) :
    consumeNumberResumable b n st =
      if b.length ≤ n + countDigits (b.drop n) then (n + countDigits (b.drop n), st, .ok)
      else numDispatch b (n + countDigits (b.drop n)) (st + 1) := by
  rcases h with h | h | h <;> subst h <;> rfl

theorem cnr_3 (b : Bytes) (n : Nat) : consumeNumberResumable b n 3 = beforeFractional (b.drop n) n 3 := rfl

theorem cnr_5 (b : Bytes) (n : Nat) : consumeNumberResumable b n 5 = beforeExponent (b.drop n) n 5 := rfl

theorem cnr_1 (b : Bytes) (n : Nat) : consumeNumberResumable b n 1 = beforeInteger b n 1 := rfl

theorem cnr_0 (b : Bytes) (n : Nat) : consumeNumberResumable b n 0 = beforeInteger b n 0 := rfl

theorem not_resumable_invalid (len m st : Nat) : ¬ Resumable len (m, st, .invalidChar) := by
  rintro (h | ⟨h, _⟩) <;> cases h

theorem not_resumable_lt {len m : Nat} (h : m < len) (st : Nat) : ¬ Resumable len (m, st, .ok) := by
  rintro (h' | ⟨_, h'⟩)
  · cases h'
  · exact Nat.ne_of_lt h h'

theorem NumEquiv.of_not_resumable {len : Nat} {a b : NumRes} (h1 : a.1 = b.1) (h2 : a.2.2 = b.2.2)
    (hn : ¬ Resumable len a) : NumEquiv len a b := ⟨h1, h2, fun h => absurd h hn⟩

theorem beforeExponent_state (c : UInt8) (r1 : Bytes) (n st st' : Nat) :
    NumEquiv (n + r1.length + 1) (beforeExponent (c :: r1) n st) (beforeExponent (c :: r1) n st') := by
  by_cases hc : (c == 0x65 || c == 0x45) = true
  · cases r1 with
    | nil => rw [beforeExponent_e hc, beforeExponent_e hc]; exact NumEquiv.refl _ _
    | cons s r2 =>
      by_cases hs : (s == 0x2D || s == 0x2B) = true
      · cases r2 with
        | nil => rw [beforeExponent_e_sign hc hs, beforeExponent_e_sign hc hs]; exact NumEquiv.refl _ _
        | cons d r3 =>
          rw [beforeExponent_e_sign_cons hc hs, beforeExponent_e_sign_cons hc hs]
          by_cases hd : isDigit d = true
          · rw [if_pos hd, if_pos hd]; exact NumEquiv.refl _ _
          · rw [if_neg hd, if_neg hd]; exact .of_not_resumable rfl rfl (not_resumable_invalid _ _ _)
      · rw [beforeExponent_e_cons hc hs, beforeExponent_e_cons hc hs]
        by_cases hd : isDigit s = true
        · rw [if_pos hd, if_pos hd]; exact NumEquiv.refl _ _
        · rw [if_neg hd, if_neg hd]; exact .of_not_resumable rfl rfl (not_resumable_invalid _ _ _)
  · rw [beforeExponent_other hc, beforeExponent_other hc]
    exact .of_not_resumable rfl rfl (not_resumable_lt (by omega) _)

theorem beforeFractional_state (c : UInt8) (r1 : Bytes) (n st st' : Nat) :
    NumEquiv (n + r1.length + 1) (beforeFractional (c :: r1) n st) (beforeFractional (c :: r1) n st') := by
  by_cases hc : (c == 0x2E) = true
  · cases r1 with
    | nil => rw [beforeFractional_dot hc, beforeFractional_dot hc]; exact NumEquiv.refl _ _
    | cons d r2 =>
      rw [beforeFractional_dot_cons hc, beforeFractional_dot_cons hc]
      by_cases hd : isDigit d = true
      · rw [if_pos hd, if_pos hd]; exact NumEquiv.refl _ _
      · rw [if_neg hd, if_neg hd]; exact .of_not_resumable rfl rfl (not_resumable_invalid _ _ _)
  · rw [beforeFractional_other hc, beforeFractional_other hc]; exact beforeExponent_state c r1 n st st'

theorem integerBody_state (r : Bytes) (n n1 st st' : Nat) (len : Nat) :
    NumEquiv len (integerBody r n n1 st) (integerBody r n n1 st') := by
  cases r with
  | nil => exact NumEquiv.refl _ _
  | cons c r1 =>
    by_cases h0 : (c == 0x30) = true
    · rw [integerBody_zero h0, integerBody_zero h0]; exact NumEquiv.refl _ _
    · by_cases h1 : (0x31 ≤ c && c ≤ 0x39) = true
      · rw [integerBody_nonzero h0 h1, integerBody_nonzero h0 h1]; exact NumEquiv.refl _ _
      · rw [integerBody_other h0 h1, integerBody_other h0 h1]
        exact .of_not_resumable rfl rfl (not_resumable_invalid _ _ _)

theorem beforeInteger_state (b : Bytes) (n st st' : Nat) (len : Nat) :
    NumEquiv len (beforeInteger b n st) (beforeInteger b n st') :=
  integerBody_state _ _ _ _ _ _

/-- a definitive result: the decoder neither refills nor resumes -/
def Definitive (len : Nat) (r : NumRes) : Prop := r.2.2 ≠ .eof ∧ r.1 ≠ len

/-- The shape of every result of the number scanner on a buffer of length `len`; an invalid character lies strictly
inside the buffer. -/
def NumShape (len : Nat) (r : NumRes) : Prop :=
  r.1 ≤ len ∧ (r.2.2 = .ok ∨ r.2.2 = .eof ∨ (r.2.2 = .invalidChar ∧ r.1 < len))

theorem numShape_ok {len m : Nat} (h : m ≤ len) (st : Nat) : NumShape len (m, st, .ok) := ⟨h, Or.inl rfl⟩

theorem numShape_eof {len m : Nat} (h : m ≤ len) (st : Nat) : NumShape len (m, st, .eof) :=
  ⟨h, Or.inr (Or.inl rfl)⟩

theorem numShape_invalid {len m : Nat} (h : m < len) (st : Nat) : NumShape len (m, st, .invalidChar) :=
  ⟨Nat.le_of_lt h, Or.inr (Or.inr ⟨rfl, h⟩)⟩

/-- What is proved of a label entered at offset `n` with `r = b[n:]`, `x` being its result on `r` and `g e` its result
on `r ++ e`: the shape of `x`, that a definitive `x` is final, and that after a resumable `x` the resumed call is
equivalent to `g e`. -/
def Good (n : Nat) (r : Bytes) (x : NumRes) (g : Bytes → NumRes) : Prop :=
  NumShape (n + r.length) x ∧
  (Definitive (n + r.length) x → ∀ e, g e = x) ∧
  (Resumable (n + r.length) x → ∀ e b, b.drop n = r ++ e → b.length = n + (r.length + e.length) →
    NumEquiv b.length (consumeNumberResumable b x.1 x.2.1) (g e))

theorem Good.congr {n : Nat} {r : Bytes} {x x' : NumRes} {g g' : Bytes → NumRes} (hx : x = x')
    (hg : ∀ e, g e = g' e) (h : Good n r x' g') : Good n r x g := by
  rw [hx, funext hg]; exact h

theorem Good.of_drop {n k : Nat} {r : Bytes} {x : NumRes} {g : Bytes → NumRes} (hk : k ≤ r.length)
    (h : Good (n + k) (r.drop k) x g) : Good n r x g := by
  have hl : n + k + (r.drop k).length = n + r.length := by rw [List.length_drop]; omega
  unfold Good at h ⊢
  rw [hl] at h
  refine ⟨h.1, h.2.1, fun hr e b hb hlen => h.2.2 hr e b ?_ ?_⟩
  · rw [List.drop_add_of_drop hb, List.drop_append_of_le_length hk]
  · rw [List.length_drop]; omega

theorem good_const {n : Nat} {r : Bytes} {x : NumRes} (hs : NumShape (n + r.length) x)
    (hn : ¬ Resumable (n + r.length) x) : Good n r x (fun _ => x) :=
  ⟨hs, fun _ _ => rfl, fun h => absurd h hn⟩

theorem good_invalid (d : UInt8) (r : Bytes) (n st : Nat) :
    Good n (d :: r) (n, st, .invalidChar) (fun _ => (n, st, .invalidChar)) :=
  good_const (numShape_invalid (Nat.lt_add_of_pos_right (Nat.succ_pos _)) st) (not_resumable_invalid _ _ _)

theorem good_stop (c : UInt8) (r : Bytes) (n st : Nat) : Good n (c :: r) (n, st, .ok) (fun _ => (n, st, .ok)) :=
  good_const (numShape_ok (Nat.le_add_right _ _) st) (not_resumable_lt (Nat.lt_add_of_pos_right (Nat.succ_pos _)) st)

/-- io.ErrUnexpectedEOF at the label's own offset: the resumed call enters the label again. -/
theorem good_eof {n : Nat} {r : Bytes} {g : Bytes → NumRes} (k : Nat)
    (hstart : ∀ e b, b.drop n = r ++ e → NumEquiv b.length (consumeNumberResumable b n k) (g e)) :
    Good n r (n, k, .eof) g :=
  ⟨numShape_eof (Nat.le_add_right _ _) k, fun h => absurd rfl h.1, fun _ e b hb _ => hstart e b hb⟩

theorem NumEquiv.of_drop_cons {G : Bytes → Nat → Nat → NumRes}
    (hstate : ∀ c r n st st', NumEquiv (n + r.length + 1) (G (c :: r) n st) (G (c :: r) n st'))
    {b r : Bytes} {n : Nat} {c : UInt8} (hb : b.drop n = c :: r) (st st' : Nat) :
    NumEquiv b.length (G (b.drop n) n st) (G (c :: r) n st') := by
  rw [hb, length_of_drop_eq hb (List.cons_ne_nil _ _), List.length_cons, ← Nat.add_assoc]
  exact hstate c r n st st'

/-- A label `G` that the second `switch` of the resume prologue enters in state `s + 1`, `s` being the state of the
digit loop in front of it. -/
structure Label (G : Bytes → Nat → Nat → NumRes) (s : Nat) : Prop where
  nil : ∀ n st, G [] n st = (n, st, .ok)
  disp : ∀ b n, numDispatch b n (s + 1) = G (b.drop n) n (s + 1)
  state : ∀ c r n st st', NumEquiv (n + r.length + 1) (G (c :: r) n st) (G (c :: r) n st')
  good : ∀ c r n st, Good n (c :: r) (G (c :: r) n st) (fun e => G (c :: (r ++ e)) n st)

/-- A run of digits followed by label `G`: either the run ends inside the buffer and `G` decides, or it reaches the
end of the buffer and the resumed call goes on counting digits in state `s`. -/
theorem good_afterDigits {G : Bytes → Nat → Nat → NumRes} {s : Nat} (hG : Label G s) (hs : s = 2 ∨ s = 4 ∨ s = 6)
    (r : Bytes) (m : Nat) : Good m r (afterDigits G r m s) (fun e => afterDigits G (r ++ e) m s) := by
  have hle := countDigits_le r
  by_cases hfull : countDigits r = r.length
  · rw [show afterDigits G r m s = (m + r.length, s, .ok) by rw [afterDigits_full G hfull, hG.nil]]
    refine ⟨numShape_ok (Nat.le_refl _) s, fun h => absurd rfl h.2, fun _ e b hb hlen => ?_⟩
    show NumEquiv b.length (consumeNumberResumable b (m + r.length) s) (afterDigits G (r ++ e) m s)
    rw [afterDigits_append_full G hfull, cnr_within b _ s hs, List.drop_add_of_drop hb, List.drop_left]
    have hlee := countDigits_le e
    by_cases he : countDigits e = e.length
    · rw [if_pos (by omega), afterDigits_full G he, hG.nil, he]; exact NumEquiv.refl _ _
    · rw [if_neg (by omega), hG.disp]
      obtain ⟨c', r', hcr⟩ := drop_countDigits_ne_nil e (Nat.lt_of_le_of_ne hlee he)
      have hd : b.drop (m + r.length + countDigits e) = c' :: r' := by
        rw [Nat.add_assoc, List.drop_add_of_drop hb, ← List.drop_drop, List.drop_left, hcr]
      unfold afterDigits; rw [hcr]
      exact NumEquiv.of_drop_cons hG.state hd (s + 1) s
  · have hlt : countDigits r < r.length := Nat.lt_of_le_of_ne hle hfull
    obtain ⟨c', r', hcr⟩ := drop_countDigits_ne_nil r hlt
    refine Good.of_drop (k := countDigits r) hle ?_
    rw [hcr]
    refine Good.congr (by unfold afterDigits; rw [hcr]) (fun e => ?_) (hG.good c' r' (m + countDigits r) s)
    rw [afterDigits_append_lt G hlt, hcr]; rfl

theorem label_numDone : Label numDone 6 where
  nil _ _ := rfl
  disp _ _ := rfl
  state _ r n _ _ := .of_not_resumable rfl rfl (not_resumable_lt (Nat.lt_succ_of_le (Nat.le_add_right n r.length)) _)
  good c r n st := good_stop c r n st

theorem beforeExponent_good (c : UInt8) (r1 : Bytes) (n st : Nat) :
    Good n (c :: r1) (beforeExponent (c :: r1) n st) (fun e => beforeExponent (c :: (r1 ++ e)) n st) := by
  -- after io.ErrUnexpectedEOF the label is entered again, in state 5 instead of `st`
  have heof : Good n (c :: r1) (n, 5, .eof) (fun e => beforeExponent (c :: (r1 ++ e)) n st) :=
    good_eof 5 (fun e b hb => NumEquiv.of_drop_cons beforeExponent_state hb 5 st)
  by_cases hc : (c == 0x65 || c == 0x45) = true
  · cases r1 with
    | nil => rw [beforeExponent_e hc]; exact heof
    | cons s r2 =>
      by_cases hs : (s == 0x2D || s == 0x2B) = true
      · cases r2 with
        | nil => rw [beforeExponent_e_sign hc hs]; exact heof
        | cons d r3 =>
          refine Good.congr (beforeExponent_e_sign_cons hc hs d r3 n st)
            (fun e => beforeExponent_e_sign_cons hc hs d (r3 ++ e) n st) ?_
          by_cases hd : isDigit d = true
          · simp only [if_pos hd]
            exact Good.of_drop (k := 3) (Nat.le_add_left 3 _)
              (good_afterDigits label_numDone (Or.inr (Or.inr rfl)) r3 (n + 3))
          · simp only [if_neg hd]
            exact Good.of_drop (k := 2) (Nat.le_add_left 2 _) (good_invalid d r3 (n + 2) st)
      · refine Good.congr (beforeExponent_e_cons hc hs r2 n st)
          (fun e => beforeExponent_e_cons hc hs (r2 ++ e) n st) ?_
        by_cases hd : isDigit s = true
        · simp only [if_pos hd]
          exact Good.of_drop (k := 2) (Nat.le_add_left 2 _)
            (good_afterDigits label_numDone (Or.inr (Or.inr rfl)) r2 (n + 2))
        · simp only [if_neg hd]
          exact Good.of_drop (k := 1) (Nat.le_add_left 1 _) (good_invalid s r2 (n + 1) st)
  · exact Good.congr (beforeExponent_other hc r1 n st) (fun e => beforeExponent_other hc (r1 ++ e) n st)
      (good_stop c r1 n st)

theorem label_beforeExponent : Label beforeExponent 4 :=
  ⟨beforeExponent_nil, fun _ _ => rfl, beforeExponent_state, beforeExponent_good⟩

theorem beforeFractional_good (c : UInt8) (r1 : Bytes) (n st : Nat) :
    Good n (c :: r1) (beforeFractional (c :: r1) n st) (fun e => beforeFractional (c :: (r1 ++ e)) n st) := by
  by_cases hc : (c == 0x2E) = true
  · cases r1 with
    | nil =>
      rw [beforeFractional_dot hc]
      exact good_eof 3 (fun e b hb => NumEquiv.of_drop_cons beforeFractional_state hb 3 st)
    | cons d r2 =>
      refine Good.congr (beforeFractional_dot_cons hc d r2 n st)
        (fun e => beforeFractional_dot_cons hc d (r2 ++ e) n st) ?_
      by_cases hd : isDigit d = true
      · simp only [if_pos hd]
        exact Good.of_drop (k := 2) (Nat.le_add_left 2 _)
          (good_afterDigits label_beforeExponent (Or.inr (Or.inl rfl)) r2 (n + 2))
      · simp only [if_neg hd]
        exact Good.of_drop (k := 1) (Nat.le_add_left 1 _) (good_invalid d r2 (n + 1) st)
  · exact Good.congr (beforeFractional_other hc r1 n st) (fun e => beforeFractional_other hc (r1 ++ e) n st)
      (beforeExponent_good c r1 n st)

theorem label_beforeFractional : Label beforeFractional 2 :=
  ⟨beforeFractional_nil, fun _ _ => rfl, beforeFractional_state, beforeFractional_good⟩

theorem integerBody_good (c : UInt8) (r1 : Bytes) (n1 : Nat) :
    Good n1 (c :: r1) (integerBody (c :: r1) 0 n1 0) (fun e => integerBody (c :: (r1 ++ e)) 0 n1 0) := by
  by_cases h0 : (c == 0x30) = true
  · refine Good.congr (integerBody_zero h0 r1 0 n1 0) (fun e => integerBody_zero h0 (r1 ++ e) 0 n1 0)
      (Good.of_drop (k := 1) (Nat.le_add_left 1 _) ?_)
    cases r1 with
    | nil =>
      -- "0" at the end of the buffer: nil in state 3, and the resumed call enters `beforeFractional` at once
      refine ⟨numShape_ok (Nat.le_refl _) 3, fun h => absurd rfl h.2, fun _ e b hb _ => ?_⟩
      show NumEquiv b.length (consumeNumberResumable b (n1 + 1) 3) _
      rw [cnr_3, hb]; exact NumEquiv.refl _ _
    | cons c' r' => exact beforeFractional_good c' r' (n1 + 1) 3
  · by_cases h1 : (0x31 ≤ c && c ≤ 0x39) = true
    · exact Good.congr (integerBody_nonzero h0 h1 r1 0 n1 0) (fun e => integerBody_nonzero h0 h1 (r1 ++ e) 0 n1 0)
        (Good.of_drop (k := 1) (Nat.le_add_left 1 _)
          (good_afterDigits label_beforeFractional (Or.inl rfl) r1 (n1 + 1)))
    · exact Good.congr (integerBody_other h0 h1 r1 0 n1 0) (fun e => integerBody_other h0 h1 (r1 ++ e) 0 n1 0)
        (good_invalid c r1 n1 0)

theorem num_good (b : Bytes) :
    Good 0 b (consumeNumberResumable b 0 0) (fun e => consumeNumberResumable (b ++ e) 0 0) := by
  show Good 0 b (beforeInteger b 0 0) (fun e => beforeInteger (b ++ e) 0 0)
  -- after io.ErrUnexpectedEOF before any digit the label is entered again, in state 1 instead of 0
  have heof : Good 0 b (0, 1, .eof) (fun e => beforeInteger (b ++ e) 0 0) :=
    good_eof 1 (fun e b' hb => by rw [cnr_1, ← hb]; exact beforeInteger_state b' 0 1 0 _)
  cases b with
  | nil => exact heof
  | cons c0 b1 =>
    by_cases hm : (c0 == 0x2D) = true
    · cases b1 with
      | nil => rw [beforeInteger_minus hm]; exact heof
      | cons c r1 =>
        exact Good.congr (beforeInteger_minus hm (c :: r1) 0 0) (fun e => beforeInteger_minus hm (c :: (r1 ++ e)) 0 0)
          (Good.of_drop (k := 1) (Nat.le_add_left 1 _) (integerBody_good c r1 1))
    · exact Good.congr (beforeInteger_other hm b1 0 0) (fun e => beforeInteger_other hm (b1 ++ e) 0 0)
        (integerBody_good c0 b1 0)

/-- `num_resume` (C05): where a scan of `b` from scratch stops for a refill, resuming at the returned (offset, state)
over any extension `b ++ e` is equivalent to scanning `b ++ e` from scratch. -/
theorem num_resume_equiv (b e : Bytes)
    (hres : Resumable b.length (consumeNumberResumable b 0 0)) :
    NumEquiv (b ++ e).length
      (consumeNumberResumable (b ++ e) (consumeNumberResumable b 0 0).1 (consumeNumberResumable b 0 0).2.1)
      (consumeNumberResumable (b ++ e) 0 0) :=
  (num_good b).2.2 (by rw [Nat.zero_add]; exact hres) e (b ++ e) rfl (by rw [List.length_append, Nat.zero_add])

theorem num_stable (b e : Bytes) (h : Definitive b.length (consumeNumberResumable b 0 0)) :
    consumeNumberResumable (b ++ e) 0 0 = consumeNumberResumable b 0 0 :=
  (num_good b).2.1 (by rw [Nat.zero_add]; exact h) e

theorem num_shape (b : Bytes) : NumShape b.length (consumeNumberResumable b 0 0) := by
  have h := (num_good b).1
  rwa [Nat.zero_add] at h

theorem refill_iff_resumable (b : Bytes) :
    ((consumeNumberResumable b 0 0).2.2 = .eof ∨ (consumeNumberResumable b 0 0).1 = b.length) ↔
    Resumable b.length (consumeNumberResumable b 0 0) := by
  unfold Resumable
  constructor
  · rintro (h | h)
    · exact Or.inl h
    · rcases (num_shape b).2 with hc | hc | ⟨_, hc⟩
      · exact Or.inr ⟨hc, h⟩
      · exact Or.inl hc
      · omega
  · rintro (h | ⟨_, h⟩)
    · exact Or.inl h
    · exact Or.inr h

theorem num_bound (b : Bytes) : (consumeNumberResumable b 0 0).1 ≤ b.length := (num_shape b).1

/-- `(n, st)` is as good as a fresh start on every extension of `b` -/
def FreshEquiv (b : Bytes) (n st : Nat) : Prop :=
  ∀ e, NumEquiv (b ++ e).length (consumeNumberResumable (b ++ e) n st) (consumeNumberResumable (b ++ e) 0 0)

theorem freshEquiv_init (b : Bytes) : FreshEquiv b 0 0 := fun _ => NumEquiv.refl _ _

theorem consumeNumberChunks_nil (b : Bytes) (n st : Nat) :
    consumeNumberChunks b n st [] =
      (let r := consumeNumberResumable b n st
       if r.2.2 = .eof ∨ r.1 = b.length then (if r.2.2 = .ok then (r.1, .ok) else (0, .eof)) else (r.1, r.2.2)) := by
  rw [consumeNumberChunks]

theorem consumeNumberChunks_cons (b : Bytes) (n st : Nat) (c : Bytes) (cs : List Bytes) :
    consumeNumberChunks b n st (c :: cs) =
      (let r := consumeNumberResumable b n st
       if r.2.2 = .eof ∨ r.1 = b.length then consumeNumberChunks (b ++ c) r.1 r.2.1 cs else (r.1, r.2.2)) := by
  rw [consumeNumberChunks]

theorem consumeNumberChunks_congr {b : Bytes} {n st : Nat}
    (h : NumEquiv b.length (consumeNumberResumable b n st) (consumeNumberResumable b 0 0)) (cs : List Bytes) :
    consumeNumberChunks b n st cs = consumeNumberChunks b 0 0 cs := by
  obtain ⟨hn, herr, hst⟩ := h
  cases cs with
  | nil => simp only [consumeNumberChunks_nil, hn, herr]
  | cons c cs =>
    simp only [consumeNumberChunks_cons, hn, herr]
    by_cases hc : (consumeNumberResumable b 0 0).2.2 = .eof ∨ (consumeNumberResumable b 0 0).1 = b.length
    · have hres : Resumable b.length (consumeNumberResumable b n st) := by
        unfold Resumable; rw [hn, herr]; exact (refill_iff_resumable b).mp hc
      rw [if_pos hc, if_pos hc, hst hres]
    · rw [if_neg hc, if_neg hc]

/-- `chunk_indep` (C05) for numbers: on every chunking the refill loop of decoderState.consumeNumber returns what it
returns on the input in one piece. -/
theorem num_chunk_indep (b : Bytes) (cs : List Bytes) :
    consumeNumberChunks b 0 0 cs = consumeNumberChunks (b ++ cs.flatten) 0 0 [] := by
  induction cs generalizing b with
  | nil => rw [List.flatten_nil, List.append_nil]
  | cons c cs ih =>
    rw [consumeNumberChunks_cons]
    by_cases hc : (consumeNumberResumable b 0 0).2.2 = .eof ∨ (consumeNumberResumable b 0 0).1 = b.length
    · rw [if_pos hc, consumeNumberChunks_congr (num_resume_equiv b c ((refill_iff_resumable b).mp hc)), ih,
        List.flatten_cons, List.append_assoc]
    · have hdef : Definitive b.length (consumeNumberResumable b 0 0) :=
        ⟨fun h => hc (Or.inl h), fun h => hc (Or.inr h)⟩
      have hb := num_bound b
      have hne : ¬ ((consumeNumberResumable b 0 0).2.2 = .eof ∨
          (consumeNumberResumable b 0 0).1 = (b ++ (c :: cs).flatten).length) := by
        rintro (h | h)
        · exact hdef.1 h
        · have := hdef.2; rw [List.length_append] at h; omega
      rw [if_neg hc, consumeNumberChunks_nil, num_stable b _ hdef]
      exact (if_neg hne).symm

end JsonV.Model.Resume
