/-
Glue C12 ↔ C01, part 2: every token list accepted by the push-down grammar is the token list of a tree
(the direction that slice C13's `accepts_tree` does not give).
-/
import JsonV.Lemmas.GlueTreeLex

namespace JsonV.Fmt
open JsonV.Canon JsonV.Lemmas.CanonNest

theorem accepts_nil_frame (g : Fr) (s : Stack) (hg : g ≠ .top1) : accepts (g :: s) [] = false := by
  simp only [accepts, beq_eq_false_iff_ne, ne_eq, List.cons.injEq, not_and]
  intro h; exact absurd h hg

theorem accepts_after_value (t : JV) (ht : AtomsOK t = true) (f : Fr) (s : Stack) (rest : List Tok)
    (h : accepts (f :: s) (t.toks ++ rest) = true) :
    ∃ dl f', f.value (isStrT t) = some (dl, f') ∧ depthOK t s.length = true ∧ accepts (f' :: s) rest = true := by
  rw [accV t ht f s rest] at h
  cases hv : f.value (isStrT t) with
  | none => simp [hv] at h
  | some p =>
    obtain ⟨dl, f'⟩ := p
    simp only [hv, Option.map_some, Option.getD_some, Bool.and_eq_true] at h
    exact ⟨dl, f', rfl, h.1, h.2⟩

/-- `ts` does not begin with a closing bracket -/
def NotCloser (ts : List Tok) : Prop := ∀ ks, ts ≠ .ea :: ks ∧ ts ≠ .eo :: ks

/-- One value is peeled off an accepted list at a time, by induction on a bound `n` on its length: a list that does
not begin with a closing bracket begins with the tokens of a tree; in an array (object) frame it is the tokens of
elements (members) up to the closing bracket.  The frame `accepts_after_value` leaves behind says which of the three
parts continues. -/
theorem decompose : ∀ n : Nat,
    (∀ (ts : List Tok) (f : Fr) (s : Stack), ts.length < n → ts ≠ [] → NotCloser ts → accepts (f :: s) ts = true →
      ∃ t rest, ts = t.toks ++ rest ∧ AtomsOK t = true ∧ rest.length < ts.length) ∧
    (∀ (ts : List Tok) (g : Fr) (s : Stack), ts.length < n → (g = .arr0 ∨ g = .arrN) → accepts (g :: s) ts = true →
      ∃ es rest, ts = toksL es ++ .ea :: rest ∧ AtomsOKL es = true ∧ rest.length < ts.length) ∧
    (∀ (ts : List Tok) (g : Fr) (s : Stack), ts.length < n → (g = .obj0 ∨ g = .objV) → accepts (g :: s) ts = true →
      ∃ ms rest, ts = toksM ms ++ .eo :: rest ∧ AtomsOKM ms = true ∧ rest.length < ts.length) := by
  intro n
  induction n with
  | zero =>
    exact ⟨fun _ _ _ hl => absurd hl (Nat.not_lt_zero _), fun _ _ _ hl => absurd hl (Nat.not_lt_zero _),
      fun _ _ _ hl => absurd hl (Nat.not_lt_zero _)⟩
  | succ n ih =>
    obtain ⟨ihV, ihL, ihM⟩ := ih
    have hV : ∀ (ts : List Tok) (f : Fr) (s : Stack), ts.length < n + 1 → ts ≠ [] → NotCloser ts →
        accepts (f :: s) ts = true → ∃ t rest, ts = t.toks ++ rest ∧ AtomsOK t = true ∧ rest.length < ts.length := by
      intro ts f s hl hne hnc h
      cases ts with
      | nil => exact absurd rfl hne
      | cons k ks =>
        simp only [List.length_cons] at hl
        have scalar : atomOK k = true → ∃ t rest, k :: ks = t.toks ++ rest ∧ AtomsOK t = true ∧ rest.length < (k :: ks).length :=
          fun hk => ⟨.atom k, ks, by simp [JV.toks], by simpa [AtomsOK] using hk, by simp⟩
        cases k with
        | ea => exact absurd rfl (hnc ks).1
        | eo => exact absurd rfl (hnc ks).2
        | ba =>
          obtain ⟨d, st', hs, h'⟩ := accepts_cons h
          obtain ⟨f', _, _, rfl⟩ := step_open_inv (.inl ⟨rfl, rfl⟩) hs
          obtain ⟨es, rest, rfl, hes, hr⟩ := ihL ks .arr0 (f' :: s) (by omega) (Or.inl rfl) h'
          refine ⟨.arr es, rest, by simp [JV.toks], by simpa [AtomsOK] using hes, ?_⟩
          simp only [List.length_cons] at hr ⊢; omega
        | bo =>
          obtain ⟨d, st', hs, h'⟩ := accepts_cons h
          obtain ⟨f', _, _, rfl⟩ := step_open_inv (.inr ⟨rfl, rfl⟩) hs
          obtain ⟨ms, rest, rfl, hms, hr⟩ := ihM ks .obj0 (f' :: s) (by omega) (Or.inl rfl) h'
          refine ⟨.obj ms, rest, by simp [JV.toks], by simpa [AtomsOK] using hms, ?_⟩
          simp only [List.length_cons] at hr ⊢; omega
        | _ => exact scalar rfl
    refine ⟨hV, ?_, ?_⟩
    · intro ts g s hl hg h
      cases ts with
      | nil => rw [accepts_nil_frame g s (by rcases hg with rfl | rfl <;> simp)] at h; simp at h
      | cons k ks =>
        by_cases hk : k = .ea
        · subst hk; exact ⟨[], ks, by simp [toksL], rfl, by simp⟩
        · have hnc : NotCloser (k :: ks) := by
            intro ks'
            refine ⟨fun e => hk (List.cons.inj e).1, fun e => ?_⟩
            have : k = .eo := (List.cons.inj e).1
            subst this
            obtain ⟨d, st', hs, _⟩ := accepts_cons h
            rcases hg with rfl | rfl <;> simp [step] at hs
          obtain ⟨e, r1, hts, he, hr1⟩ := hV (k :: ks) g s hl (by simp) hnc h
          rw [hts] at h
          obtain ⟨dl, f', hv, _, h'⟩ := accepts_after_value e he g s r1 h
          have hf' : f' = .arrN := by
            rcases hg with rfl | rfl <;> simp [Fr.value] at hv <;> exact hv.2.symm
          subst hf'
          obtain ⟨es, rest, rfl, hes, hr⟩ := ihL r1 .arrN s (by omega) (Or.inr rfl) h'
          refine ⟨e :: es, rest, by rw [hts]; simp [toksL], by simp [AtomsOKL, he, hes], ?_⟩
          omega
    · intro ts g s hl hg h
      cases ts with
      | nil => rw [accepts_nil_frame g s (by rcases hg with rfl | rfl <;> simp)] at h; simp at h
      | cons k ks =>
        simp only [List.length_cons] at hl
        obtain ⟨d, st', hs, h'⟩ := accepts_cons h
        cases k with
        | eo => exact ⟨[], ks, by simp [toksM], rfl, by simp⟩
        | str nm =>
          have hst : st' = .objK :: s := by
            rcases hg with rfl | rfl <;> simp [step, Fr.value] at hs <;> exact hs.2.symm
          subst hst
          have hne : ks ≠ [] := by
            intro e; subst e
            rw [accepts_nil_frame .objK s (by simp)] at h'; simp at h'
          have hnc : NotCloser ks := by
            intro ks'
            constructor <;> intro e <;> subst e <;> obtain ⟨_, _, hs2, _⟩ := accepts_cons h' <;> simp [step] at hs2
          obtain ⟨v, r1, hks, hv, hr1⟩ := ihV ks .objK s (by omega) hne hnc h'
          rw [hks] at h'
          obtain ⟨dl, f', hval, _, h''⟩ := accepts_after_value v hv .objK s r1 h'
          have hf' : f' = .objV := by simp [Fr.value] at hval; exact hval.2.symm
          subst hf'
          obtain ⟨ms, rest, rfl, hms, hr⟩ := ihM r1 .objV s (by omega) (Or.inr rfl) h''
          refine ⟨(nm, v) :: ms, rest, by rw [hks]; simp [toksM], by simp [AtomsOKM, hv, hms], ?_⟩
          simp only [List.length_cons]; omega
        | _ => rcases hg with rfl | rfl <;> simp [step, Fr.value] at hs

theorem accepts_top1 (ts : List Tok) (h : accepts [.top1] ts = true) : ts = [] := by
  cases ts with
  | nil => rfl
  | cons k ks =>
    obtain ⟨_, _, hs, _⟩ := accepts_cons h
    cases k <;> simp [step, Fr.value] at hs

theorem accepts_is_tree (ts : List Tok) (h : accepts [.top0] ts = true) :
    ∃ t, ts = t.toks ∧ AtomsOK t = true ∧ depthOK t 0 = true := by
  have hnc : NotCloser ts := by
    intro ks
    constructor <;> intro e <;> subst e <;> obtain ⟨_, _, hs, _⟩ := accepts_cons h <;> simp [step] at hs
  obtain ⟨t, rest, rfl, ht, _⟩ := (decompose (ts.length + 1)).1 ts .top0 [] (Nat.lt_succ_self _) (accepts_ne_nil h) hnc h
  obtain ⟨dl, f', hv, hd, h'⟩ := accepts_after_value t ht .top0 [] rest h
  have : f' = .top1 := by simp [Fr.value] at hv; exact hv.2.symm
  subst this
  have := accepts_top1 rest h'
  subst this
  exact ⟨t, by simp, ht, by simpa using hd⟩

end JsonV.Fmt
