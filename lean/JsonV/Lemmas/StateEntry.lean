/-
Arithmetic view of `Model.Entry` (the packed 64-bit `stateEntry`): the predicates of jsontext/state.go:456-530 that the
refinement needs (`length`, `isObject`, `isArray`, `needObjectName`, `needObjectValue`, the two namespace tests) and
`increment`, expressed on `e.toNat`, so that the refinement proofs (Lemmas/StateRefine.lean) are `omega` exercises.  At the
end the Tie A theorem for `needImplicitComma` (`tie_comma`).
-/
import JsonV.Model.State
import JsonV.Gen.Straight

namespace JsonV.Lemmas.StateEntry
open JsonV.Model

theorem and_pow2 (x i : Nat) : x &&& 2^i = if x / 2^i % 2 = 1 then 2^i else 0 := by
  apply Nat.eq_of_testBit_eq; intro j
  rw [Nat.testBit_and, Nat.testBit_two_pow]
  by_cases hj : i = j
  · subst hj
    by_cases hb : x / 2^i % 2 = 1
    · simp [hb, Nat.testBit_eq_decide_div_mod_eq, Nat.div_self (Nat.two_pow_pos i)]
    · simp [hb, Nat.testBit_eq_decide_div_mod_eq]
  · by_cases hb : x / 2^i % 2 = 1
    · simp [hb, hj]
    · simp [hb, hj]

theorem beq_iff_toNat {a b : BitVec 64} : (a == b) = decide (a.toNat = b.toNat) := by
  by_cases h : a = b
  · subst h; simp
  · have : a.toNat ≠ b.toNat := fun h' => h (BitVec.toNat_eq.mpr h')
    simp [h, this]

theorem lt64 (e : Entry) : e.toNat < 2^64 := e.isLt

theorem length_eq (e : Entry) : e.length = e.toNat % 2^61 := by
  simp only [Entry.length, Entry.countMask, BitVec.toNat_and]
  exact Nat.and_two_pow_sub_one_eq_mod e.toNat 61

theorem and_pow63 (x : Nat) (h : x < 2^64) : x &&& 2^63 = if 2^63 ≤ x then 2^63 else 0 := by
  rw [and_pow2]
  exact ite_congr (propext (by omega)) (fun _ => rfl) (fun _ => rfl)

theorem and_type (e : Entry) : (e &&& Entry.typeMask).toNat = if 2^63 ≤ e.toNat then 2^63 else 0 :=
  and_pow63 e.toNat (lt64 e)

theorem isObject_eq (e : Entry) : e.isObject = decide (2^63 ≤ e.toNat) := by
  simp only [Entry.isObject, beq_iff_toNat, and_type]
  show decide ((if 2^63 ≤ e.toNat then 2^63 else 0) = 2^63) = _
  split <;> simp_all

theorem isArray_eq (e : Entry) : e.isArray = decide (e.toNat < 2^63) := by
  simp only [Entry.isArray, beq_iff_toNat, and_type]
  show decide ((if 2^63 ≤ e.toNat then 2^63 else 0) = 0) = _
  split
  · simp; omega
  · simp; omega

theorem isArray_not (e : Entry) : e.isArray = !e.isObject := by
  rw [isArray_eq, isObject_eq]; by_cases h : 2^63 ≤ e.toNat <;> simp [h] <;> omega

theorem and_typeLSB (e : Entry) :
    (e &&& (Entry.typeMask ||| Entry.countLSBMask)).toNat =
      (if 2^63 ≤ e.toNat then 2^63 else 0) + e.toNat % 2 := by
  show e.toNat &&& (2^63 ||| 1) = _
  rw [Nat.and_or_distrib_left, Nat.and_one_is_mod, and_pow63 e.toNat (lt64 e)]
  rcases Nat.mod_two_eq_zero_or_one e.toNat with h2 | h2 <;> rw [h2] <;> split <;> rfl

theorem needObjectName_eq (e : Entry) :
    e.needObjectName = (decide (2^63 ≤ e.toNat) && decide (e.toNat % 2 = 0)) := by
  simp only [Entry.needObjectName, beq_iff_toNat, and_typeLSB]
  show decide (_ = 2^63) = _
  by_cases h : 2^63 ≤ e.toNat <;> simp [h] <;> omega

theorem needObjectValue_eq (e : Entry) :
    e.needObjectValue = (decide (2^63 ≤ e.toNat) && decide (e.toNat % 2 = 1)) := by
  simp only [Entry.needObjectValue, beq_iff_toNat, and_typeLSB]
  show decide (_ = (2^63 ||| 1)) = _
  have : (2^63 ||| 1 : Nat) = 2^63 + 1 := by decide
  rw [this]
  by_cases h : 2^63 ≤ e.toNat <;> simp [h] <;> omega

theorem isValidNamespace_eq (e : Entry) : e.isValidNamespace = decide (e.toNat / 2^61 % 2 = 0) := by
  simp only [Entry.isValidNamespace, Entry.invalidNamespaceBit, beq_iff_toNat, BitVec.toNat_and]
  show decide (e.toNat &&& 2^61 = 0) = _
  rw [and_pow2]
  split <;> simp <;> omega

theorem isActiveNamespace_eq (e : Entry) : e.isActiveNamespace = decide (e.toNat / 2^62 % 2 = 0) := by
  simp only [Entry.isActiveNamespace, Entry.disableNamespaceBit, beq_iff_toNat, BitVec.toNat_and]
  show decide (e.toNat &&& 2^62 = 0) = _
  rw [and_pow2]
  split <;> simp <;> omega

theorem increment_toNat (e : Entry) : e.increment.toNat = (e.toNat + 1) % 2^64 := by
  simp [Entry.increment, BitVec.toNat_add]

/-- Below `2^61 - 1` elements `increment` does not carry out of the 61-bit counter into the three flag bits. -/
theorem increment_toNat_of_lt (e : Entry) (h : e.length < 2^61 - 1) : e.increment.toNat = e.toNat + 1 := by
  rw [length_eq] at h
  have := lt64 e
  rw [increment_toNat]
  exact Nat.mod_eq_of_lt (by omega)

theorem increment_length (e : Entry) (h : e.length < 2^61 - 1) : e.increment.length = e.length + 1 := by
  rw [length_eq, increment_toNat_of_lt e h]
  rw [length_eq] at h ⊢
  omega

theorem increment_isObject (e : Entry) (h : e.length < 2^61 - 1) : e.increment.isObject = e.isObject := by
  rw [isObject_eq, isObject_eq, increment_toNat_of_lt e h, decide_eq_decide]
  rw [length_eq] at h
  omega

theorem typeObject_toNat : Entry.typeObject.toNat = 2^63 := rfl
theorem typeArray_toNat : Entry.typeArray.toNat = 0 := rfl

theorem slt_len (e : BitVec 64) : BitVec.slt 0#64 (e &&& 0x1fffffffffffffff#64) =
    decide ((e &&& 0x1fffffffffffffff#64).toNat > 0) := by
  have h : (e &&& 0x1fffffffffffffff#64).toNat < 2^61 := by
    rw [BitVec.toNat_and]
    exact Nat.lt_of_le_of_lt Nat.and_le_right (by decide)
  rw [BitVec.slt, decide_eq_decide, BitVec.toInt_eq_toNat_cond, BitVec.toInt_eq_toNat_cond]
  simp only [BitVec.toNat_ofNat]
  omega

theorem ne_u8 (a b : BitVec 8) : (a != b) = (UInt8.ofBitVec a != UInt8.ofBitVec b) := by
  by_cases h : a = b
  · subst h; simp
  · have : UInt8.ofBitVec a ≠ UInt8.ofBitVec b := fun h' => h (by injection h')
    rw [bne_iff_ne.mpr h, bne_iff_ne.mpr this]

/-- Tie A: the regenerated `needImplicitComma` compares `int64(Length) > 0` signed (`slt_len`). -/
theorem tie_comma (e : BitVec 64) (next : UInt8) :
    JsonV.Gen.jsontext_stateEntry_needImplicitComma e next.toBitVec = Entry.needImplicitComma e next := by
  simp only [JsonV.Gen.jsontext_stateEntry_needImplicitComma, Entry.needImplicitComma,
    JsonV.Gen.jsontext_stateEntry_Length, slt_len, ne_u8 next.toBitVec]
  rfl

end JsonV.Lemmas.StateEntry
