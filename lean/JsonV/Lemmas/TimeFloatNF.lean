/-
Normal forms of finite IEEE-754 values in slice C10's `Fl` representation (`(-1)^neg · mant · 2^exp`), the domain of C04's
float round trip.  `Fl` has several representations of one number; the normal forms are the ones `roundRat`/`parseFloatExact`
return for a format (not proved: `NormalFl` is only ever a hypothesis), and on them the bit pattern `Fl.toBits` is injective: "reads back as the same `Fl`"
means "reads back with identical bits".
-/
import JsonV.Model.Number

namespace JsonV.Lemmas.FloatNF
open JsonV JsonV.Model.Number

/-- finite normal form of format `ff`: `mant < 2^p`, `emin ≤ exp ≤ emax`, and the significand is normalised
(`mant ≥ 2^(p-1)`) unless `exp = emin` (subnormals and the two zeros, which are `mant = 0, exp = emin`). -/
def NormalFl (ff : FloatFmt) (f : Fl) : Prop :=
  f.inf = false ∧ f.mant < 2 ^ ff.p ∧ ff.emin ≤ f.exp ∧ f.exp ≤ ff.emax ∧ (f.mant < 2 ^ (ff.p - 1) → f.exp = ff.emin)

instance (ff : FloatFmt) (f : Fl) : Decidable (NormalFl ff f) := by unfold NormalFl; exact inferInstance

theorem quot_rem_unique {b q r q' r' : Nat} (hr : r < b) (hr' : r' < b) (h : q * b + r = q' * b + r') :
    q = q' ∧ r = r' := by
  have hb : 0 < b := Nat.lt_of_le_of_lt (Nat.zero_le r) hr
  have key : ∀ q r, r < b → (q * b + r) / b = q ∧ (q * b + r) % b = r := fun q r hr =>
    (Nat.div_mod_unique hb).2 ⟨by rw [Nat.add_comm, Nat.mul_comm], hr⟩
  obtain ⟨a1, a2⟩ := key q r hr
  obtain ⟨b1, b2⟩ := key q' r' hr'
  rw [h] at a1 a2
  exact ⟨a1.symm.trans b1, a2.symm.trans b2⟩

/-- Sign, biased exponent and significand of a normal form as one sum; `if ff.p == 53 then 11 else 8` is the width of the
exponent field. -/
theorem toBits_normal (ff : FloatFmt) (f : Fl) (hf : NormalFl ff f) :
    f.toBits ff = (if f.neg then 1 else 0) * 2 ^ ((if ff.p == 53 then 11 else 8) + ff.p - 1) +
      ((f.exp - ff.emin).toNat * 2 ^ (ff.p - 1) + f.mant) := by
  obtain ⟨hi, _, _, _, hsub⟩ := hf
  have hs : (if f.neg then 2 ^ ((if ff.p == 53 then 11 else 8) + ff.p - 1) else 0) =
      (if f.neg then 1 else 0) * 2 ^ ((if ff.p == 53 then 11 else 8) + ff.p - 1) := by
    cases f.neg <;> simp
  unfold Fl.toBits
  simp only [hi, Bool.false_eq_true, if_false, hs]
  by_cases hm : f.mant < 2 ^ (ff.p - 1)
  · rw [if_pos hm, hsub hm, Int.sub_self, Int.toNat_zero, Nat.zero_mul, Nat.zero_add]
  · rw [if_neg hm, Nat.add_mul, Nat.one_mul]
    omega

/-- `k * P + m` determines `k` when `m` is a significand (`m < 2P`) that is normalised (`P ≤ m`) unless `k = 0`. -/
theorem exp_of_field {P k m : Nat} (hm : m < 2 * P) (hk : m < P → k = 0) : k = (k * P + m) / P - 1 := by
  by_cases h : m < P
  · rw [hk h, Nat.zero_mul, Nat.zero_add, Nat.div_eq_of_lt h]
  · have e : k * P + m = (k + 1) * P + (m - P) := by rw [Nat.add_mul, Nat.one_mul]; omega
    have hP : 0 < P := by omega
    rw [e, ((Nat.div_mod_unique hP).2 ⟨by rw [Nat.add_comm, Nat.mul_comm], by omega⟩).1]
    rfl

theorem biased_lt {e emin emax : Int} {W : Nat} (he : e ≤ emax) (hw : (emax - emin).toNat + 2 ≤ W) :
    (e - emin).toNat + 2 ≤ W := by omega

theorem biased_inj {a b emin : Int} (ha : emin ≤ a) (hb : emin ≤ b) (h : (a - emin).toNat = (b - emin).toNat) :
    a = b := by omega

/-- The exponent-and-fraction field stays below the sign bit. -/
theorem field_lt {P W k m : Nat} (hk : k + 2 ≤ W) (hm : m < 2 * P) : k * P + m < W * P := by
  have := Nat.mul_le_mul_right P hk
  rw [Nat.add_mul] at this
  omega

theorem toBits_injective (ff : FloatFmt) (hp : 0 < ff.p)
    (hw : (ff.emax - ff.emin).toNat + 2 ≤ 2 ^ (if ff.p == 53 then 11 else 8))
    (f g : Fl) (hf : NormalFl ff f) (hg : NormalFl ff g) (h : f.toBits ff = g.toBits ff) : f = g := by
  rw [toBits_normal ff f hf, toBits_normal ff g hg] at h
  generalize (if ff.p == 53 then 11 else 8) = w at h hw
  obtain ⟨fn, fi, fm, fe⟩ := f
  obtain ⟨gn, gi, gm, ge⟩ := g
  obtain ⟨hfi, hfm, hfe, hfe', hfs⟩ := hf
  obtain ⟨hgi, hgm, hge, hge', hgs⟩ := hg
  simp only at *
  have e2 : 2 ^ ff.p = 2 * 2 ^ (ff.p - 1) := by
    rw [← Nat.pow_succ', Nat.succ_eq_add_one, Nat.sub_add_cancel hp]
  have eS : 2 ^ (w + ff.p - 1) = 2 ^ w * 2 ^ (ff.p - 1) := by
    rw [← Nat.pow_add, Nat.add_sub_assoc hp]
  rw [e2] at hfm hgm
  rw [eS] at h
  generalize 2 ^ (ff.p - 1) = P at *
  -- with `P = 2^(p-1)`: the sign is the quotient by `2^w · P`; the rest determines the exponent, then the significand
  obtain ⟨hs, hfield⟩ := quot_rem_unique (field_lt (biased_lt hfe' hw) hfm) (field_lt (biased_lt hge' hw) hgm) h
  have hk : (fe - ff.emin).toNat = (ge - ff.emin).toNat := by
    have kf := exp_of_field (k := (fe - ff.emin).toNat) hfm (fun h => by rw [hfs h, Int.sub_self]; rfl)
    have kg := exp_of_field (k := (ge - ff.emin).toNat) hgm (fun h => by rw [hgs h, Int.sub_self]; rfl)
    rw [hfield] at kf
    exact kf.trans kg.symm
  rw [hk] at hfield
  have hm : fm = gm := Nat.add_left_cancel hfield
  have he : fe = ge := biased_inj hfe hge hk
  have hn : fn = gn := by cases fn <;> cases gn <;> simp at hs <;> rfl
  subst hfi hgi hm he hn
  rfl

theorem toBits64_injective (f g : Fl) (hf : NormalFl fmt64 f) (hg : NormalFl fmt64 g)
    (h : f.toBits fmt64 = g.toBits fmt64) : f = g :=
  toBits_injective fmt64 (by decide) (by decide) f g hf hg h

theorem toBits32_injective (f g : Fl) (hf : NormalFl fmt32 f) (hg : NormalFl fmt32 g)
    (h : f.toBits fmt32 = g.toBits fmt32) : f = g :=
  toBits_injective fmt32 (by decide) (by decide) f g hf hg h

end JsonV.Lemmas.FloatNF
