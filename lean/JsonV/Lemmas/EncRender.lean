/-
`WriteToken` of the Encoder model in the terms of the specification: the separator in front of a token is
`Spec.Render.sepBytes`, and `writeToken` has a normal form (UTF-8 check, name check, state machine, commit).  `runToks`, a
script of tokens, is defined here for EncRaw, EncOps and Props/C06.
-/
import JsonV.Model.Encoder
import JsonV.Spec.Render
import JsonV.Lemmas.StateRun

namespace JsonV.Lemmas.EncRender
open JsonV JsonV.Model JsonV.Model.Encoder JsonV.Spec JsonV.Spec.PDA JsonV.Spec.Render
open JsonV.Lemmas.StateRefine JsonV.Lemmas.StateRun

theorem needIndent_congr (m : Machine) (a b : UInt8)
    (h : (a != 0x7d && a != 0x5d) = (b != 0x7d && b != 0x5d))
    (h' : (a == 0x7d || a == 0x5d) = (b == 0x7d || b == 0x5d)) : m.needIndent a = m.needIndent b := by
  simp only [Machine.needIndent, Entry.needImplicitComma, Bool.and_assoc, h, h']

theorem kind_closing1 (t : Tok) :
    (t.kind != 0x7d && t.kind != 0x5d) = ((kindOf t).byte != 0x7d && (kindOf t).byte != 0x5d) := by
  cases t <;> rfl
theorem kind_closing2 (t : Tok) :
    (t.kind == 0x7d || t.kind == 0x5d) = ((kindOf t).byte == 0x7d || (kindOf t).byte == 0x5d) := by
  cases t <;> rfl

theorem appendIndent_eq (o : Opts) (b : Bytes) (n : Nat) : appendIndent o b n = b ++ indentBytes o n := by
  unfold appendIndent indentBytes
  split <;> simp [List.append_assoc]

/-- `beforeToken` is the local buffer `b` at `pos` in WriteToken and WriteValue; `k` is any kind byte that is a closing
delimiter exactly when `K` is. -/
theorem beforeToken_of (e : Enc) (k : UInt8) (K : Kind)
    (h : (k != 0x7d && k != 0x5d) = (K.byte != 0x7d && K.byte != 0x5d))
    (h' : (k == 0x7d || k == 0x5d) = (K.byte == 0x7d || K.byte == 0x5d)) (hb : BottomArr (abs e.m)) :
    beforeToken e k = e.out ++ sepBytes e.o (abs e.m) K := by
  have hd : e.m.needDelim k = delimByte (delim (abs e.m) K) := by
    rw [needDelim_congr e.m k K.byte h]; exact needDelim_abs hb K
  have hi : e.m.needIndent k = indent (abs e.m) K := by
    rw [needIndent_congr e.m k K.byte h h']; exact needIndent_abs e.m K
  simp only [beforeToken, appendWhitespace, Machine.mayAppendDelim, hd, hi, sepBytes, appendIndent_eq]
  cases delim (abs e.m) K <;> simp [delimByte] <;>
    cases e.o.spaceAfterColon <;> cases e.o.spaceAfterComma <;> cases e.o.multiline <;> simp

theorem beforeToken_eq (e : Enc) (t : Tok) (hb : BottomArr (abs e.m)) :
    beforeToken e t.kind = e.out ++ sepBytes e.o (abs e.m) (kindOf t) :=
  beforeToken_of e t.kind (kindOf t) (kind_closing1 t) (kind_closing2 t) hb

theorem commit_out (e : Enc) (b : Bytes) (m : Machine) (ns : List (List Bytes)) :
    (commit e b m ns).out = b ++ (if m.stack.length = 0 then [0x0a] else []) := by
  simp only [commit]; split <;> simp

/-- `hasInvalidUTF8 && !AllowInvalidUTF8` for a string token, `false` for every other token. -/
def badUTF8 (o : Opts) : Tok → Bool
  | .str s => (appendQuote o s).2
  | _ => false

/-- The namespace check that precedes the state machine for a string token. -/
def nameCheck (e : Enc) : Tok → Except EncErr (List (List Bytes))
  | .str s => checkName e (appendQuote e.o s).1
  | _ => .ok e.ns

/-- The namespace stack after an accepted token (`ns` = result of `nameCheck`). -/
def nsAfter (e : Enc) (ns : List (List Bytes)) : Tok → List (List Bytes)
  | .beginObj => if e.o.allowDup then e.ns else [] :: e.ns
  | .endObj => if e.o.allowDup then e.ns else e.ns.drop 1
  | _ => ns

/-- Normal form of `writeToken`: UTF-8 check, name check, state machine, commit. -/
def writeTokenNF (e : Enc) (t : Tok) : Enc × Option EncErr :=
  if badUTF8 e.o t then (e, some .invalidUTF8) else
  match nameCheck e t with
  | .error x => (e, some x)
  | .ok ns =>
    match smStep e.o.maxDepth e.m (kindOf t) with
    | .error x => (e, some (.sm x))
    | .ok m => (commit e (beforeToken e t.kind ++ tokText e.o t) m (nsAfter e ns t), none)

theorem writeToken_nf (e : Enc) (t : Tok) : writeToken e t = writeTokenNF e t := by
  unfold writeToken writeTokenNF
  cases t <;> simp only [badUTF8, nameCheck, nsAfter, kindOf, smStep, tokText, Bool.false_eq_true, if_false]
  case str s =>
    by_cases hb : (appendQuote e.o s).2 = true
    · simp only [hb, ↓reduceIte]
    simp only [hb]
    cases checkName e (appendQuote e.o s).1 with
    | error x => rfl
    | ok ns => cases e.m.appendString <;> rfl
  case null => cases e.m.appendLiteral <;> rfl
  case fals => cases e.m.appendLiteral <;> rfl
  case tru => cases e.m.appendLiteral <;> rfl
  case num text => cases e.m.appendNumber <;> rfl
  case beginObj => cases e.m.pushObject e.o.maxDepth <;> rfl
  case endObj => cases e.m.popObject <;> rfl
  case beginArr => cases e.m.pushArray e.o.maxDepth <;> rfl
  case endArr => cases e.m.popArray <;> rfl

/-- Run a script of tokens all of which have to be accepted. -/
def runToks : Enc → List Tok → Option Enc
  | e, [] => some e
  | e, t :: ts =>
    match writeToken e t with
    | (e', none) => runToks e' ts
    | (_, some _) => none

theorem abs_length (m : Machine) : (abs m).length = m.stack.length + 1 := by simp [abs]

end JsonV.Lemmas.EncRender
