/-
Facts about the part of `makeStructFields` after the search (`finish`) and the one invariant of the
search they need: discovery ids are positions in `allFields` (so `allFields` has no duplicates).
-/
import JsonV.Lemmas.FieldsDom
import JsonV.Lemmas.FieldsStep

namespace JsonV.Lemmas.Fields
open JsonV JsonV.Model JsonV.Model.Fields JsonV.Spec.FieldRule

/-- A field is numbered with the length of the list it is appended to. -/
theorem search_ids (g : Graph) (root : StructId) :
    (search g root).all.map (·.id) = List.range (search g root).all.length := by
  refine bfs_preserves (I := fun s => s.all.map (·.id) = List.range s.all.length) g
    (fun s e h => by rwa [orErr_eq]) (fun qe i a s h => ?_) (fun s h => h) _ _ _ rfl
  cases a with
  | field o =>
    show (s.all ++ [_]).map RField.id = List.range (s.all ++ [_]).length
    rw [List.map_append, List.length_append, h]
    exact List.range_succ.symm
  | enqueue t => rwa [enqueue_all]
  | _ => exact h

theorem search_all_nodup (g : Graph) (root : StructId) : (search g root).all.Nodup := by
  have hn : ((search g root).all.map (·.id)).Nodup := search_ids g root ▸ List.nodup_range
  exact hn.of_map (·.id) (fun a b h e => h (e ▸ rfl))

theorem renumber_ids : ∀ (l : List RField) (i : Nat), (renumber i l).map (·.id) = List.range' i l.length
  | [], _ => rfl
  | f :: fs, i => by simp [renumber, renumber_ids fs (i + 1), List.range'_succ]

theorem renumber_keys : ∀ (l : List RField) (i : Nat),
    (renumber i l).map (fun f => (f.index, f.opts)) = l.map (fun f => (f.index, f.opts))
  | [], _ => rfl
  | f :: fs, i => by simp [renumber, renumber_keys fs (i + 1)]

theorem renumber_length : ∀ (l : List RField) (i : Nat), (renumber i l).length = l.length
  | [], _ => rfl
  | f :: fs, i => by simp [renumber, renumber_length fs (i + 1)]

theorem candSorted_mergeSort (l : List RField) : CandSorted (l.mergeSort candLe) :=
  List.pairwise_mergeSort candLe_trans candLe_total l

theorem winnerIn_perm {l₁ l₂ : List RField} (h : l₁.Perm l₂) (f : RField) : WinnerIn l₁ f ↔ WinnerIn l₂ f := by
  unfold WinnerIn
  constructor
  · rintro ⟨hm, hw⟩; exact ⟨h.mem_iff.mp hm, fun x hx => hw x (h.mem_iff.mpr hx)⟩
  · rintro ⟨hm, hw⟩; exact ⟨h.mem_iff.mpr hm, fun x hx => hw x (h.mem_iff.mp hx)⟩

/-- The fields that survive the dominance filter, before renumbering. -/
def kept (s : St) : List RField := dominant (s.all.mergeSort candLe)

theorem mem_kept_iff (s : St) (hnd : s.all.Nodup) (f : RField) : f ∈ kept s ↔ WinnerIn s.all f := by
  unfold kept
  rw [mem_dominant_iff _ (candSorted_mergeSort _) ((List.mergeSort_perm _ _).nodup_iff.mpr hnd)]
  exact winnerIn_perm (List.mergeSort_perm _ _) f

theorem kept_names_nodup (s : St) : ((kept s).map (·.name)).Nodup := by
  have h := dominant_names_nodup _ (candSorted_mergeSort s.all)
  unfold kept
  rw [List.nodup_iff_pairwise_ne, List.pairwise_map]
  exact h

theorem finish_perm (s : St) :
    (finish s).flattened.Perm (renumber 0 ((kept s).mergeSort (fun x y => decide (x.id ≤ y.id)))) := by
  simp only [finish, kept]
  exact List.mergeSort_perm _ _

theorem finish_keys_perm (s : St) :
    ((finish s).flattened.map (fun f => (f.index, f.opts))).Perm ((kept s).map (fun f => (f.index, f.opts))) := by
  refine ((finish_perm s).map _).trans ?_
  rw [renumber_keys]
  exact (List.mergeSort_perm _ _).map _

theorem finish_names_nodup (s : St) : ((finish s).flattened.map (·.name)).Nodup := by
  have h1 : ((finish s).flattened.map (·.name)) = ((finish s).flattened.map (fun f => (f.index, f.opts))).map (fun k => k.2.name) := by
    simp [List.map_map, RField.name, Function.comp_def]
  have h2 : ((kept s).map (·.name)) = ((kept s).map (fun f => (f.index, f.opts))).map (fun k => k.2.name) := by
    simp [List.map_map, RField.name, Function.comp_def]
  rw [h1, ((finish_keys_perm s).map _).nodup_iff, ← h2]
  exact kept_names_nodup s

theorem finish_sorted (s : St) :
    (finish s).flattened.Pairwise (fun a b => indexLe a.index b.index = true) := by
  simp only [finish]
  exact List.pairwise_mergeSort (le := fun x y : RField => indexLe x.index y.index)
    (fun a b c => indexLe_trans _ _ _) (fun a b => indexLe_total _ _) _

theorem finish_ids (s : St) : ((finish s).flattened.map (·.id)).Perm (List.range (finish s).flattened.length) := by
  have hp := finish_perm s
  have hl := hp.length_eq
  refine (hp.map _).trans ?_
  rw [renumber_ids, hl, renumber_length, List.range_eq_range']

theorem indexLe_iff : ∀ a b : List Nat, indexLe a b = true ↔ IndexLe a b
  | [], b => by simp [indexLe, IndexLe.nil]
  | _ :: _, [] => by
    simp only [indexLe, Bool.false_eq_true, false_iff]
    intro h; cases h
  | x :: a, y :: b => by
    simp only [indexLe, Bool.or_eq_true, decide_eq_true_eq, Bool.and_eq_true, beq_iff_eq]
    constructor
    · rintro (h | ⟨rfl, h⟩)
      · exact IndexLe.lt _ _ h
      · exact IndexLe.eq _ ((indexLe_iff a b).mp h)
    · intro h
      cases h with
      | lt _ _ h => exact Or.inl h
      | eq _ h => exact Or.inr ⟨rfl, (indexLe_iff a b).mpr h⟩

theorem kept_sorted_perm (s : St) :
    ∃ byId : List RField, byId.Perm (kept s) ∧ byId.Pairwise (fun a b => a.id ≤ b.id) ∧
      (finish s).flattened.Perm (renumber 0 byId) :=
  ⟨_, List.mergeSort_perm _ _, pairwise_mergeSort_id (kept s), finish_perm s⟩

theorem finish_fallback_iff (s : St) (hS : s.fbs.Pairwise (fun a b => a.depth ≤ b.depth)) (hN : s.fbs.Nodup) (f : RField) :
    (finish s).fallback = some f ↔ f ∈ s.fbs ∧ ∀ x ∈ s.fbs, x ≠ f → f.depth < x.depth := by
  show (match s.fbs with
      | [] => none
      | [f] => some f
      | f0 :: f1 :: _ => if f0.depth != f1.depth then some f0 else none) = some f ↔ _
  match s.fbs, hS, hN with
  | [], _, _ => simp
  | [a], _, _ =>
    simp only [Option.some.injEq, List.mem_singleton]
    exact ⟨fun h => ⟨h.symm, fun x hx hne => absurd (hx.trans h) hne⟩, fun h => h.1.symm⟩
  | a :: b :: t, hS, hN =>
    obtain ⟨ha, hS'⟩ := List.pairwise_cons.mp hS
    show (if a.depth != b.depth then some a else none) = some f ↔ _
    constructor
    · intro h
      by_cases hd : (a.depth != b.depth) = true
      · rw [if_pos hd] at h
        have e := Option.some.inj h
        subst e
        have hlt : a.depth < b.depth := by
          have := ha b (List.mem_cons_self ..)
          have : a.depth ≠ b.depth := by simpa using hd
          omega
        refine ⟨List.mem_cons_self .., fun x hx hne => ?_⟩
        rcases List.mem_cons.mp ((List.mem_cons.mp hx).resolve_left hne) with rfl | hx'
        · exact hlt
        · have := (List.pairwise_cons.mp hS').1 x hx'
          omega
      · rw [if_neg hd] at h
        cases h
    · rintro ⟨hf, hmin⟩
      have e : a = f := Decidable.byContradiction fun e => by
        have := hmin a (List.mem_cons_self ..) e
        have := ha f ((List.mem_cons.mp hf).resolve_left (Ne.symm e))
        omega
      subst e
      have hab : b ≠ a := fun e => (List.nodup_cons.mp hN).1 (e ▸ List.mem_cons_self ..)
      have := hmin b (List.mem_cons_of_mem _ (List.mem_cons_self ..)) hab
      rw [if_pos (by simpa using Nat.ne_of_lt this)]

end JsonV.Lemmas.Fields
