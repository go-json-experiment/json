/-
Helper lemmas for C19: bit-level facts, tie theorems between the regenerated
`Gen.jsonflags_Flags_*` bodies and the hand-written `Model.Flags`, and the map reading.
-/
import JsonV.Model.Flags
import JsonV.Gen.Straight
import JsonV.Lemmas.DupUintSet
namespace JsonV.Lemmas.FlagsL
open JsonV.Model JsonV.Gen

theorem one_bit (i : Nat) : (1#64).getLsbD i = decide (i = 0) := by
  by_cases h : i = 0
  · subst h; decide
  · simp [h]

theorem flagBit_getLsbD (k i : Nat) (hk : k < 64) : (flagBit k).getLsbD i = decide (i = k) := by
  rw [flagBit, ← BitVec.twoPow_eq, BitVec.getLsbD_twoPow, decide_eq_true hk, Bool.true_and]
  exact decide_eq_decide.mpr eq_comm

theorem bits_flag {w : BitVec 64} (k : Nat) (hk : k < 64) (h : w = flagBit k) (i : Nat) :
    w.getLsbD i = decide (i = k) := h ▸ flagBit_getLsbD k i hk

theorem bits_flagSet {w : BitVec 64} (k : Nat) (hk : k < 64) (h : w = flagBit k ||| 1#64) (i : Nat) :
    w.getLsbD i = (decide (i = 0) || decide (i = k)) := by
  rw [h, BitVec.getLsbD_or, flagBit_getLsbD k i hk, one_bit, Bool.or_comm]

theorem getLsbD_ite (c : Bool) (x : BitVec 64) (i : Nat) :
    (if c then x else 0#64).getLsbD i = (c && x.getLsbD i) := by
  cases c <;> simp

/-- `x &^ y` bit by bit; the bound that `~~~` brings in is implied by the bit of `x`. -/
theorem and_not_bit (x y : BitVec 64) (i : Nat) : (x &&& ~~~y).getLsbD i = (x.getLsbD i && !y.getLsbD i) := by
  rw [BitVec.getLsbD_and, BitVec.getLsbD_not]
  cases hx : x.getLsbD i
  · rfl
  · simp [BitVec.lt_of_getLsbD hx]

theorem and_congr_bits (a b f : BitVec 64) (h : ∀ i, f.getLsbD i = true → a.getLsbD i = b.getLsbD i) : a &&& f = b &&& f := by
  apply BitVec.eq_of_getLsbD_eq
  intro i _
  rw [BitVec.getLsbD_and, BitVec.getLsbD_and]
  cases hf : f.getLsbD i
  · simp
  · rw [h i hf]

theorem and_one (f : BitVec 64) : f &&& 1#64 = if f.getLsbD 0 then 1#64 else 0#64 := by
  apply BitVec.eq_of_getLsbD_eq
  intro i _
  rw [BitVec.getLsbD_and, getLsbD_ite, one_bit]
  by_cases h0 : i = 0
  · subst h0; rfl
  · simp [h0]

theorem mul_lsb (f id : BitVec 64) : (f &&& 1#64) * id = if f.getLsbD 0 then id else 0#64 := by
  rw [and_one]; split <;> simp

theorem ult_zero (x : BitVec 64) : BitVec.ult 0#64 x = (x != 0#64) := by
  by_cases h : x = 0#64
  · subst h; decide
  · have : x.toNat ≠ 0 := fun h' => h (BitVec.eq_of_toNat_eq (by simpa using h'))
    have h2 : (x == 0#64) = false := by simpa using h
    simp [BitVec.ult, bne, h2]; omega

theorem tie_join (a b c d : BitVec 64) :
    jsonflags_Flags_Join a b c d = ((Flags.join ⟨a,b⟩ ⟨c,d⟩).presence, (Flags.join ⟨a,b⟩ ⟨c,d⟩).values) := by
  simp [jsonflags_Flags_Join, Flags.join]

theorem tie_set (a b f : BitVec 64) :
    jsonflags_Flags_Set a b f = ((Flags.set ⟨a,b⟩ f).presence, (Flags.set ⟨a,b⟩ f).values) := by
  simp [jsonflags_Flags_Set, Flags.set, Flags.idBits, mul_lsb]

theorem tie_get (a b f : BitVec 64) : jsonflags_Flags_Get a b f = Flags.get ⟨a,b⟩ f := by
  simp [jsonflags_Flags_Get, Flags.get, ult_zero]
theorem tie_has (a b f : BitVec 64) : jsonflags_Flags_Has a b f = Flags.has ⟨a,b⟩ f := by
  simp [jsonflags_Flags_Has, Flags.has, ult_zero]
theorem tie_clear (a b f : BitVec 64) :
    jsonflags_Flags_Clear a b f = ((Flags.clear ⟨a,b⟩ f).presence, (Flags.clear ⟨a,b⟩ f).values) := by
  simp [jsonflags_Flags_Clear, Flags.clear]

theorem id_bit (f : BitVec 64) (i : Nat) : (Flags.idBits f).getLsbD i = (f.getLsbD i && decide (i ≠ 0)) := by
  rw [Flags.idBits, and_not_bit, one_bit, decide_not]

theorem join_presence_bit (a b : Flags) (i : Nat) :
    (a.join b).presence.getLsbD i = (a.presence.getLsbD i || b.presence.getLsbD i) :=
  BitVec.getLsbD_or ..

theorem join_values_bit (a b : Flags) (i : Nat) :
    (a.join b).values.getLsbD i = (a.values.getLsbD i && !b.presence.getLsbD i || b.values.getLsbD i) := by
  rw [Flags.join, BitVec.getLsbD_or, and_not_bit]

theorem set_presence_bit (fs : Flags) (f : BitVec 64) (i : Nat) :
    (fs.set f).presence.getLsbD i = (fs.presence.getLsbD i || (f.getLsbD i && decide (i ≠ 0))) := by
  rw [Flags.set, BitVec.getLsbD_or, id_bit]

theorem set_values_bit (fs : Flags) (f : BitVec 64) (i : Nat) :
    (fs.set f).values.getLsbD i = if f.getLsbD i && decide (i ≠ 0) then f.getLsbD 0 else fs.values.getLsbD i := by
  rw [Flags.set, BitVec.getLsbD_or, and_not_bit, getLsbD_ite, id_bit]
  cases f.getLsbD i && decide (i ≠ 0) <;> simp

theorem set_bits_of_not_named (fs : Flags) (w : BitVec 64) (i : Nat) (hw : (w.getLsbD i && decide (i ≠ 0)) = false) :
    (fs.set w).presence.getLsbD i = fs.presence.getLsbD i ∧ (fs.set w).values.getLsbD i = fs.values.getLsbD i := by
  rw [set_presence_bit, set_values_bit, hw]; simp

theorem clear_presence_bit (fs : Flags) (f : BitVec 64) (i : Nat) :
    (fs.clear f).presence.getLsbD i = (fs.presence.getLsbD i && !f.getLsbD i) :=
  and_not_bit ..

theorem clear_values_bit (fs : Flags) (f : BitVec 64) (i : Nat) :
    (fs.clear f).values.getLsbD i = (fs.values.getLsbD i && !f.getLsbD i) :=
  and_not_bit ..

theorem wf_iff (fs : Flags) :
    fs.WF ↔ (∀ i, fs.values.getLsbD i = true → fs.presence.getLsbD i = true) ∧ fs.presence.getLsbD 0 = false := by
  refine and_congr_left' ⟨fun h i hi => ?_, fun h => ?_⟩
  · have : (fs.values &&& ~~~fs.presence).getLsbD i = (0#64).getLsbD i := by rw [h]
    rw [and_not_bit, hi, BitVec.getLsbD_zero] at this
    simpa using this
  · apply BitVec.eq_of_getLsbD_eq
    intro i _
    rw [and_not_bit, BitVec.getLsbD_zero]
    cases hv : fs.values.getLsbD i
    · rfl
    · simp [h i hv]

theorem wf_values (b : Flags) (hb : b.WF) (j : Nat) (hj : b.values.getLsbD j = true) : b.presence.getLsbD j = true :=
  ((wf_iff b).mp hb).1 j hj

theorem wf_empty : Flags.empty.WF := by simp [Flags.WF, Flags.empty]

theorem wf_join (a b : Flags) (ha : a.WF) (hb : b.WF) : (a.join b).WF := by
  rw [wf_iff] at *
  refine ⟨fun i h => ?_, ?_⟩
  · rw [join_values_bit, Bool.or_eq_true, Bool.and_eq_true] at h
    rw [join_presence_bit, Bool.or_eq_true]
    exact h.imp (fun h => ha.1 i h.1) (hb.1 i)
  · rw [join_presence_bit, ha.2, hb.2]; rfl

theorem wf_set (a : Flags) (f : BitVec 64) (ha : a.WF) : (a.set f).WF := by
  rw [wf_iff] at *
  refine ⟨fun i h => ?_, ?_⟩
  · rw [set_values_bit] at h
    rw [set_presence_bit, Bool.or_eq_true]
    split at h
    · exact .inr ‹_›
    · exact .inl (ha.1 i h)
  · rw [set_presence_bit, ha.2]; simp

theorem wf_clear (a : Flags) (f : BitVec 64) (ha : a.WF) : (a.clear f).WF := by
  rw [wf_iff] at *
  refine ⟨fun i h => ?_, ?_⟩
  · rw [clear_values_bit, Bool.and_eq_true] at h
    rw [clear_presence_bit, Bool.and_eq_true]
    exact ⟨ha.1 i h.1, h.2⟩
  · rw [clear_presence_bit, ha.2]; rfl

theorem lookup_join (a b : Flags) (hb : b.WF) (i : Nat) :
    (a.join b).lookup i = (b.lookup i).orElse (fun _ => a.lookup i) := by
  simp only [Flags.lookup, join_presence_bit, join_values_bit]
  cases hp : b.presence.getLsbD i
  · have hv : b.values.getLsbD i = false := by
      cases hv : b.values.getLsbD i
      · rfl
      · rw [wf_values b hb i hv] at hp; cases hp
    simp [hv]
  · simp

theorem lookup_set (fs : Flags) (f : BitVec 64) (i : Nat) :
    (fs.set f).lookup i =
      if f.getLsbD i && decide (i ≠ 0) then some (f.getLsbD 0) else fs.lookup i := by
  simp only [Flags.lookup, set_presence_bit, set_values_bit]
  cases f.getLsbD i && decide (i ≠ 0) <;> simp

theorem lookup_clear (fs : Flags) (f : BitVec 64) (i : Nat) :
    (fs.clear f).lookup i = if f.getLsbD i then none else fs.lookup i := by
  simp only [Flags.lookup, clear_presence_bit, clear_values_bit]
  cases f.getLsbD i <;> simp

theorem join_assoc (a b c : Flags) : (a.join b).join c = a.join (b.join c) := by
  simp only [Flags.join, Flags.mk.injEq]
  constructor
  · exact BitVec.or_assoc _ _ _
  · apply BitVec.eq_of_getLsbD_eq; intro i hi
    simp only [BitVec.getLsbD_or, and_not_bit]
    cases a.values.getLsbD i <;> cases b.values.getLsbD i <;> cases c.values.getLsbD i <;>
      cases b.presence.getLsbD i <;> cases c.presence.getLsbD i <;> rfl

theorem join_empty_left (a : Flags) : Flags.empty.join a = a := by
  simp [Flags.join, Flags.empty]
theorem join_empty_right (a : Flags) : a.join Flags.empty = a := by
  have h : ~~~(0#64) = BitVec.allOnes 64 := by decide
  cases a; simp only [Flags.join, Flags.empty, BitVec.or_zero, h, BitVec.and_allOnes]

theorem join_idem (a : Flags) (h : a.WF) : a.join a = a := by
  cases a with | mk p v =>
  simp only [Flags.join, Flags.mk.injEq, BitVec.or_self, true_and]
  have := h.1; simp only at this
  rw [this]; simp

/-- `Get` of a single flag is the bit test `s&(1<<i) > 0` of the field-id sets (`Dup.has64_eq`). -/
theorem get_bit (fs : Flags) (i : Nat) (_hi : i < 64) : fs.get (flagBit i) = fs.values.getLsbD i :=
  (ult_zero _).symm.trans (Dup.has64_eq fs.values i)

theorem has_bit (fs : Flags) (i : Nat) (hi : i < 64) : fs.has (flagBit i) = fs.presence.getLsbD i :=
  get_bit ⟨fs.values, fs.presence⟩ i hi

end JsonV.Lemmas.FlagsL
