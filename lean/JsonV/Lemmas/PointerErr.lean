/-
Lemmas for C16: jsontext/errors.go — the reversed suffix of `pointerSuffixError`
(`wrapWithObjectName`, `wrapWithArrayIndex`, `appendPointer`) and the JSONPointer of `wrapSyntacticError`.
-/
import JsonV.Lemmas.PointerSim

namespace JsonV.Lemmas.Pointer
open JsonV JsonV.Model JsonV.Model.Pointer JsonV.Spec.Pointer

/-- The segments, each with a "/" before it. -/
def joinSegs (segs : List Bytes) : Bytes := segs.flatMap (fun a => cSlash :: a)

theorem joinSegs_snoc (segs : List Bytes) (a : Bytes) : joinSegs (segs ++ [a]) = joinSegs segs ++ cSlash :: a := by
  simp [joinSegs]

theorem appendPointer_nil (bo : Bytes) : appendPointer [] bo = some bo := by
  rw [appendPointer]; simp

theorem appendPointer_snoc (pre a bo : Bytes) (ha : ∀ b ∈ a, b ≠ cSlash) :
    appendPointer (pre ++ cSlash :: a) bo = appendPointer pre (bo ++ cSlash :: a) := by
  rw [appendPointer]
  have hne : pre ++ cSlash :: a ≠ [] := by simp
  rw [dif_neg hne]
  have hl := lastIndexByte_sep cSlash pre a ha
  split
  · rename_i h; rw [hl] at h; cases h
  · rename_i i h
    rw [hl] at h
    simp only [Option.some.injEq] at h
    subst h
    simp

theorem appendPointer_segs (segs : List Bytes) (hs : ∀ a ∈ segs, ∀ b ∈ a, b ≠ cSlash) (bo : Bytes) :
    appendPointer (joinSegs segs) bo = some (bo ++ joinSegs segs.reverse) := by
  generalize hn : segs.length = n
  induction n generalizing segs bo with
  | zero =>
    have : segs = [] := List.length_eq_zero_iff.mp hn
    subst this; simp [joinSegs, appendPointer_nil]
  | succ n ih =>
    rcases List.eq_nil_or_concat segs with rfl | ⟨pre, a, rfl⟩
    · simp at hn
    · rw [List.concat_eq_append] at hs hn ⊢
      rw [joinSegs_snoc, appendPointer_snoc _ _ _ (hs a (by simp))]
      rw [ih pre (fun x hx => hs x (by simp [hx])) _ (by simpa using hn)]
      simp [joinSegs]

theorem render_eq_joinSegs (ts : List Bytes) : render ts = joinSegs (ts.map escapeTok) := by
  induction ts with
  | nil => rfl
  | cons t ts ih => simp [render, joinSegs, ih, cSlash]

/-- One frame of the unwinding: `wrapWithObjectName` / `wrapWithArrayIndex`. -/
def wrapRef (rev : Bytes) : Ref → Bytes
  | .name n => wrapWithObjectName rev n
  | .index i => wrapWithArrayIndex rev i

/-- `reversePointer` after unwinding through `path` (given outermost first; the innermost frame wraps first). -/
def buildRev (path : List Ref) : Bytes := path.reverse.foldl wrapRef []

theorem wrapRef_eq (rev : Bytes) (x : Ref) : wrapRef rev x = rev ++ cSlash :: escapeTok (refToken x) := by
  cases x with
  | name n => exact appendName_eq rev n
  | index i => exact appendIndex_eq rev i

theorem foldl_wrapRef (xs : List Ref) (rev : Bytes) :
    xs.foldl wrapRef rev = rev ++ joinSegs (xs.map (fun x => escapeTok (refToken x))) := by
  induction xs generalizing rev with
  | nil => simp [joinSegs]
  | cons x xs ih => simp [List.foldl_cons, ih, wrapRef_eq, joinSegs]

theorem suffix_spec (path : List Ref) (ptr : Bytes) :
    appendPointer (buildRev path) ptr = some (ptr ++ render (path.map refToken)) := by
  unfold buildRev
  rw [foldl_wrapRef, List.nil_append, appendPointer_segs]
  · rw [render_eq_joinSegs]; simp [List.map_reverse, List.map_map]; rfl
  · intro a ha
    simp only [List.mem_map, List.mem_reverse] at ha
    obtain ⟨x, _, rfl⟩ := ha
    exact escapeTok_no_slash _

theorem pathOfFrames_container (w : Int) (f g : Frame) (rest : List Frame) :
    pathOfFrames w (f :: g :: rest) = containerOfFrames (f :: g :: rest) ++ (f.innermost w).toList := rfl

theorem innermost_nexts (w : Int) (f : Frame) : ∀ x, f.innermost w = some x → x ∈ f.nexts := by
  intro x hx
  cases f with
  | arr n =>
    simp only [Frame.innermost] at hx
    split at hx
    · split at hx
      · cases hx
      · rename_i hn; cases hx; simp [Frame.nexts, hn]
    · split at hx
      · cases hx
      · cases hx; simp [Frame.nexts]
  | obj last aw =>
    simp only [Frame.innermost] at hx
    have : last.map Ref.name = some x := by
      split at hx
      · exact hx
      · split at hx
        · exact hx
        · cases hx
    simp [Frame.nexts, this]

theorem parent_render_snoc (ts : List Bytes) (t : Bytes) : parent (render (ts ++ [t])) = render ts := by
  rw [render_snoc]; exact parent_sep _ _ (escapeTok_no_slash t)

/-- Acceptable set: `ptr(C)` or `ptr(C)/next`. -/
def Acceptable (fs : List Frame) (p : Bytes) : Prop :=
  p = render ((containerOfFrames fs).map refToken) ∨
  ∃ x, x ∈ nextsOfFrames fs ∧
    p = render ((containerOfFrames fs ++ [x]).map refToken)

/-- `hmm`: where = +1 whenever the mismatched-delimiter branch is taken, as in ReadToken/ReadValue. -/
theorem wrap_acceptable (w : Int) (hw : w = -1 ∨ w = 0 ∨ w = 1) (mm : Bool) (hmm : mm = true → w = 1)
    {s : AState} {fs : List Frame} (hr : Rel s.stack s.names fs) (hg : Good s) :
    ∃ p, wrapSyntacticErrorPtr s w none mm = some p ∧ Acceptable fs p := by
  have hp := pointer_of_rel w hw hr hg
  unfold wrapSyntacticErrorPtr
  rw [hp]
  simp only
  -- the unmodified pointer is acceptable
  have hbase : Acceptable fs (render ((pathOfFrames w fs).map refToken)) := by
    cases fs with
    | nil => exact Or.inl rfl
    | cons f below =>
      cases below with
      | nil => exact Or.inl rfl
      | cons g rest =>
        rw [pathOfFrames_container]
        cases hi : f.innermost w with
        | none => left; simp
        | some x => right; exact ⟨x, innermost_nexts w f x hi, by simp⟩
  -- so is its parent, when the innermost container contributes a step for where = +1
  have hparent {f g : Frame} {rest : List Frame} {x : Ref} (hx : f.innermost 1 = some x) :
      Acceptable (f :: g :: rest) (parent (render ((pathOfFrames 1 (f :: g :: rest)).map refToken))) := by
    rw [pathOfFrames_container, hx, Option.toList, List.map_append]
    exact Or.inl (parent_render_snoc _ _)
  cases hmmv : mm with
  | false => exact ⟨_, rfl, hbase⟩
  | true =>
    cases hmm hmmv
    simp only [if_true]
    obtain ⟨stack, names⟩ := s
    cases hr with
    | nil => exact ⟨_, rfl, hbase⟩
    | @arr n es ns fs0 h0 =>
      cases es with
      | nil => exact ⟨_, rfl, hbase⟩
      | cons e2 es2 =>
        obtain ⟨g, rest, rfl⟩ := h0.frames_cons
        by_cases hn : 0 < n
        · exact ⟨_, by simp [hn, SEntry.isArray], hparent rfl⟩
        · exact ⟨_, by simp [hn], hbase⟩
    | @obj n nm es ns fs0 h0 =>
      cases es with
      | nil => exact ⟨_, rfl, hbase⟩
      | cons e2 es2 =>
        obtain ⟨g, rest, rfl⟩ := h0.frames_cons
        by_cases hn : 0 < n
        · by_cases hpar : n % 2 = 0
          · -- a name is expected: the pointer is the parent object already
            exact ⟨_, by simp [hn, SEntry.isArray, SEntry.needObjectName, hpar], hbase⟩
          · have hodd : n % 2 = 1 := by omega
            exact ⟨_, by simp [hn, SEntry.isArray, SEntry.needObjectName, hpar],
              hparent (x := .name nm) (by simp [Frame.innermost, Nat.ne_of_gt hn, hodd])⟩
        · exact ⟨_, by simp [hn], hbase⟩

theorem wrap_suffix (w : Int) (hw : w = -1 ∨ w = 0 ∨ w = 1) {s : AState} {fs : List Frame}
    (hr : Rel s.stack s.names fs) (hg : Good s) (path : List Ref) :
    wrapSyntacticErrorPtr s w (some (buildRev path)) false =
      some (render ((pathOfFrames w fs ++ path).map refToken)) := by
  have hp := pointer_of_rel w hw hr hg
  unfold wrapSyntacticErrorPtr
  rw [hp]
  simp only [suffix_spec]
  rw [← render_append]; simp

/-- ReadToken raises `wrapWithObjectName(ErrDuplicateName, name)` with where = +1 while a name is expected. -/
theorem wrap_duplicate {s : AState} {fs : List Frame} (hr : Rel s.stack s.names fs) (hg : Good s)
    (hname : ∀ f rest, fs = f :: rest → f.innermost 1 = none) (dup : Bytes) :
    wrapSyntacticErrorPtr s 1 (some (wrapWithObjectName [] dup)) false =
      some (render ((containerOfFrames fs ++ [Ref.name dup]).map refToken)) := by
  -- the suffix is the one-step path `[name dup]`, and with a name expected the stack pointer is `ptr(C)`
  have hpath : pathOfFrames 1 fs = containerOfFrames fs := by
    cases fs with
    | nil => rfl
    | cons f below =>
      cases below with
      | nil => rfl
      | cons g rest => rw [pathOfFrames_container, hname f _ rfl]; simp
  exact hpath ▸ wrap_suffix 1 (Or.inr (Or.inr rfl)) hr hg [.name dup]

theorem acceptable_containerOf {hist : List Tok} {fs : List Frame} (hf : runFrames [.arr 0] hist = some fs) {p : Bytes}
    (h : Acceptable fs p) : ∃ C nexts, containerOf hist = some (C, nexts) ∧
      (p = render (C.map refToken) ∨ ∃ x ∈ nexts, p = render ((C ++ [x]).map refToken)) :=
  ⟨containerOfFrames fs, nextsOfFrames fs, by unfold containerOf; rw [hf]; rfl, h⟩

/-- **err_pointer** (ReadToken / ReadValue top level, no suffix): after any accepted token history the JSONPointer of
`wrapSyntacticError` is `ptr(C)` or `ptr(C)/next` for the innermost open container `C` — never an ancestor of `C`. -/
theorem err_pointer (hist : List Tok) (w : Int) (hw : w = -1 ∨ w = 0 ∨ w = 1) (mm : Bool) (hmm : mm = true → w = 1)
    (s : AState) (hrun : AState.init.run hist = some s) :
    ∃ p C nexts, containerOf hist = some (C, nexts) ∧ wrapSyntacticErrorPtr s w none mm = some p ∧
      (p = render (C.map refToken) ∨ ∃ x ∈ nexts, p = render ((C ++ [x]).map refToken)) := by
  obtain ⟨fs, hf, hr, hg⟩ := run_sim init_rel init_good hrun
  obtain ⟨p, hp, ha⟩ := wrap_acceptable w hw mm hmm hr hg
  obtain ⟨C, nexts, hc, hcase⟩ := acceptable_containerOf hf ha
  exact ⟨p, C, nexts, hc, hp, hcase⟩

/-- **err_pointer for a duplicate name** on the token path: exactly the duplicated member. -/
theorem err_pointer_dup (hist : List Tok) (s : AState) (hrun : AState.init.run hist = some s)
    (hneed : s.stack.head?.map SEntry.needObjectName = some true) (dup : Bytes) :
    ∃ C nexts, containerOf hist = some (C, nexts) ∧
      wrapSyntacticErrorPtr s 1 (some (wrapWithObjectName [] dup)) false =
        some (render ((C ++ [Ref.name dup]).map refToken)) := by
  obtain ⟨fs, hf, hr, hg⟩ := run_sim init_rel init_good hrun
  refine ⟨containerOfFrames fs, nextsOfFrames fs, by unfold containerOf; rw [hf]; rfl, ?_⟩
  apply wrap_duplicate hr hg
  intro f rest hfs
  subst hfs
  obtain ⟨stack, names⟩ := s
  simp only at hr hneed
  cases hr with
  | arr n h0 => simp [SEntry.needObjectName] at hneed
  | obj n nm h0 =>
    simp only [List.head?_cons, Option.map_some, SEntry.needObjectName, Bool.true_and, Option.some.injEq,
      beq_iff_eq] at hneed
    have : (n % 2 == 1) = false := by simp; omega
    simp [Frame.innermost, this]

/-- **err_pointer for errors nested in a value** (ReadValue / WriteValue): stack pointer, then the path inside the
value, every name escaped. -/
theorem err_pointer_nested (hist : List Tok) (w : Int) (hw : w = -1 ∨ w = 0 ∨ w = 1) (s : AState)
    (hrun : AState.init.run hist = some s) (path : List Ref) :
    ∃ base, pointerOf w hist = some base ∧
      wrapSyntacticErrorPtr s w (some (buildRev path)) false = some (render ((base ++ path).map refToken)) := by
  obtain ⟨fs, hf, hr, hg⟩ := run_sim init_rel init_good hrun
  exact ⟨pathOfFrames w fs, by simp [pointerOf, hf], wrap_suffix w hw hr hg path⟩

end JsonV.Lemmas.Pointer
