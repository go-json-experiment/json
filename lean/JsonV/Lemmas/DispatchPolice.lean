/-
Lemmas for C17 (policing): what the DepthLength comparison around a MarshalJSONTo / UnmarshalJSONFrom /
MarshalToFunc / UnmarshalFromFunc call accepts, stated against the operations of `Model.State.Machine`.
-/
import JsonV.Model.Dispatch
import JsonV.Lemmas.EncInvState
import JsonV.Lemmas.StateEntry

namespace JsonV.Lemmas.DispatchPolice
open JsonV.Model JsonV.Model.Dispatch

theorem police_done_iff (prev cur : Nat × Nat) (ret : Ret) :
    police prev cur ret = .done ↔ ret = .nil ∧ cur.1 = prev.1 ∧ cur.2 = prev.2 + 1 := by
  cases ret <;> simp only [police]
  · by_cases h1 : prev.1 = cur.1 <;> by_cases h2 : prev.2 + 1 = cur.2 <;> simp [h1, h2] <;> omega
  · split <;> simp
  · simp

theorem police_skip_iff (prev cur : Nat × Nat) (ret : Ret) :
    police prev cur ret = .skip ↔ ret = .unsupported ∧ cur = prev := by
  cases ret <;> simp only [police]
  · split <;> simp
  · by_cases h1 : prev.1 = cur.1 <;> by_cases h2 : prev.2 = cur.2 <;> simp [h1, h2, Prod.ext_iff] <;> omega
  · simp

theorem runScript_nil (maxDepth : Nat) (m : Machine) : runScript maxDepth [] m = (m, none) := rfl

theorem userCall_error (maxDepth : Nat) (m : Machine) (script : List Op) (ret : Ret)
    (h : (runPoliced maxDepth m.stack.length script m).2.isSome = true) : userCall maxDepth m script ret = .fail := by
  simp [userCall, userCallWithFloor, h, police]

/-- Effect of one call on (nesting depth relative to the start, number of values begun at the starting level);
`none` when the call would close a container the script did not open. -/
def shapeStep : Op → Nat → Nat → Option (Nat × Nat)
  | .lit, r, c => some (r, if r = 0 then c + 1 else c)
  | .str, r, c => some (r, if r = 0 then c + 1 else c)
  | .val, r, c => some (r, if r = 0 then c + 1 else c)
  | .pushO, r, c => some (r + 1, if r = 0 then c + 1 else c)
  | .pushA, r, c => some (r + 1, if r = 0 then c + 1 else c)
  | .popO, r, c => if r = 0 then none else some (r - 1, c)
  | .popA, r, c => if r = 0 then none else some (r - 1, c)

/-- Walk a script keeping the nesting depth relative to the start (`r`) and the number of values begun at the
starting level (`c`); `none` as soon as the script closes a container it did not open.
`shape script 0 0 = some (0, 1)` says: the script is exactly one complete value at the starting level. -/
def shape : List Op → Nat → Nat → Option (Nat × Nat)
  | [], r, c => some (r, c)
  | op :: rest, r, c =>
    match shapeStep op r c with
    | none => none
    | some (r1, c1) => shape rest r1 c1

/-- Length of the entry of the starting level: the current entry when we are at the starting level,
otherwise the first entry pushed above the original stack. -/
def baseLen (ext : List Entry) (last : Entry) : Nat :=
  match ext with
  | [] => last.length
  | e :: _ => e.length

/-- The state after a successfully executed prefix: original stack untouched, `r` entries above it,
starting-level entry incremented `c` times. -/
def Tracks (m0 m : Machine) (r c : Nat) : Prop :=
  ∃ ext : List Entry, m.stack = m0.stack ++ ext ∧ ext.length = r ∧ baseLen ext m.last = m0.last.length + c

theorem tracks_init (m0 : Machine) : Tracks m0 m0 0 0 := ⟨[], by simp, rfl, by simp [baseLen]⟩

theorem baseLen_increment (ext : List Entry) (last fresh : Entry) (hov : baseLen ext last < 2 ^ 61 - 1) :
    baseLen ext last.increment = baseLen ext last + (if ext.length = 0 then 1 else 0) ∧
    baseLen (ext ++ [last.increment]) fresh = baseLen ext last + (if ext.length = 0 then 1 else 0) := by
  cases ext with
  | nil => exact ⟨StateEntry.increment_length _ hov, StateEntry.increment_length _ hov⟩
  | cons x xs => exact ⟨rfl, rfl⟩

private theorem scalar_step (m0 m : Machine) (r c : Nat) (e' : Entry) (ht : Tracks m0 m r c)
    (he : e' = m.last.increment) (hov : m0.last.length + c < 2 ^ 61 - 1) :
    Tracks m0 { m with last := e' } r (if r = 0 then c + 1 else c) := by
  obtain ⟨ext, hs, hl, hb⟩ := ht
  refine ⟨ext, hs, hl, ?_⟩
  rw [he, (baseLen_increment ext m.last m.last (by omega)).1, hb, hl]
  split <;> omega

private theorem push_step (m0 m : Machine) (r c : Nat) (fresh : Entry) (ht : Tracks m0 m r c)
    (hov : m0.last.length + c < 2 ^ 61 - 1) :
    Tracks m0 { stack := m.stack ++ [m.last.increment], last := fresh } (r + 1) (if r = 0 then c + 1 else c) := by
  obtain ⟨ext, hs, hl, hb⟩ := ht
  refine ⟨ext ++ [m.last.increment], by simp [hs], by simp [hl], ?_⟩
  rw [(baseLen_increment ext m.last fresh (by omega)).2, hb, hl]
  split <;> omega

private theorem pop_step (m0 m : Machine) (r c : Nat) (e : Entry) (ht : Tracks m0 m r c) (hr : r ≠ 0)
    (hg : m.stack.getLast? = some e) :
    Tracks m0 { stack := m.stack.dropLast, last := e } (r - 1) c := by
  obtain ⟨ext, hs, hl, hb⟩ := ht
  have hne : ext ≠ [] := by intro h; subst h; simp at hl; omega
  have hlast : ext.getLast? = some e := by
    rw [hs, List.getLast?_append] at hg
    cases hx : ext.getLast? with
    | none => simp [List.getLast?_eq_none_iff] at hx; exact absurd hx hne
    | some y => simpa [hx] using hg
  refine ⟨ext.dropLast, ?_, by simp [hl], ?_⟩
  · simp only
    rw [hs, List.dropLast_append_of_ne_nil hne]
  · cases ext with
    | nil => exact absurd rfl hne
    | cons x xs =>
      cases xs with
      | nil =>
        simp only [List.getLast?_singleton, Option.some.injEq] at hlast
        subst hlast
        simpa [baseLen] using hb
      | cons y ys =>
        simpa [baseLen, List.dropLast] using hb

theorem apply_ok {maxDepth : Nat} {m m1 : Machine} {op : Op} (h : op.apply maxDepth m = .ok m1) :
    match (generalizing := false) op with
    | .lit | .val | .str => m1.stack = m.stack ∧ m1.last = m.last.increment
    | .pushO => m1 = { stack := m.stack ++ [m.last.increment], last := Entry.typeObject }
    | .pushA => m1 = { stack := m.stack ++ [m.last.increment], last := Entry.typeArray }
    | .popO | .popA => ∃ e, m.stack.getLast? = some e ∧ m1 = { stack := m.stack.dropLast, last := e } := by
  cases op
  case lit | val => exact EncInvState.scalar_step m m1 (.inl h)
  case str => exact EncInvState.scalar_step m m1 (.inr (.inl h))
  case pushO => exact EncInvState.pushObject_ok h
  case pushA => exact EncInvState.pushArray_ok h
  case popO => exact (EncInvState.popObject_ok h).2
  case popA => exact (EncInvState.popArray_ok h).2

theorem apply_tracks (maxDepth : Nat) (m0 m m1 : Machine) (op : Op) (r c : Nat) (ht : Tracks m0 m r c)
    (hap : op.apply maxDepth m = .ok m1) (hpop : op.isPop = true → r ≠ 0)
    (hov : m0.last.length + c < 2 ^ 61 - 1) :
    ∃ r1 c1, shapeStep op r c = some (r1, c1) ∧ Tracks m0 m1 r1 c1 ∧ c1 ≤ c + 1 := by
  have ha := apply_ok hap
  cases op
  case lit | val | str =>
    obtain ⟨st, la⟩ := m1
    obtain ⟨hs, hl⟩ := ha
    cases hs; cases hl
    exact ⟨_, _, rfl, scalar_step m0 m r c _ ht rfl hov, by split <;> omega⟩
  case pushO => subst ha; exact ⟨_, _, rfl, push_step m0 m r c _ ht hov, by split <;> omega⟩
  case pushA => subst ha; exact ⟨_, _, rfl, push_step m0 m r c _ ht hov, by split <;> omega⟩
  case popO | popA =>
    obtain ⟨e, hg, rfl⟩ := ha
    exact ⟨r - 1, c, if_neg (hpop rfl), pop_step m0 m r c e ht (hpop rfl) hg, by omega⟩

/-- The same without a floor, for a script whose shape is given (`runPoliced_tracks` is the form the policed calls use). -/
theorem runScript_tracks (maxDepth : Nat) (m0 : Machine) (script : List Op) :
    ∀ (m m' : Machine) (r c r' c' : Nat), Tracks m0 m r c →
      m0.last.length + c + script.length < 2 ^ 61 →
      runScript maxDepth script m = (m', none) → shape script r c = some (r', c') → Tracks m0 m' r' c' := by
  induction script with
  | nil =>
    intro m m' r c r' c' ht _ hrun hsh
    simp only [runScript, Prod.mk.injEq, and_true] at hrun
    simp only [shape, Option.some.injEq, Prod.mk.injEq] at hsh
    obtain ⟨rfl, rfl⟩ := hsh
    subst hrun
    exact ht
  | cons op rest ih =>
    intro m m' r c r' c' ht hov hrun hsh
    simp only [List.length_cons] at hov
    unfold runScript at hrun
    cases hap : op.apply maxDepth m with
    | error e => simp [hap] at hrun
    | ok m1 =>
      simp only [hap] at hrun
      have hpop : op.isPop = true → r ≠ 0 := by
        intro hp hr
        subst hr
        cases op <;> simp [Op.isPop] at hp <;> simp [shape, shapeStep] at hsh
      obtain ⟨r1, c1, hs1, ht1, hc1⟩ := apply_tracks maxDepth m0 m m1 op r c ht hap hpop (by omega)
      simp only [shape, hs1] at hsh
      exact ih _ _ _ _ _ _ ht1 (by omega) hrun hsh

theorem liftSM_ok {x : Except SMErr Machine} {m1 : Machine} (h : liftSM x = .ok m1) : x = .ok m1 := by
  cases x
  · cases h
  · exact congrArg _ (Except.ok.inj h)

theorem policedStep_ok (maxDepth floor : Nat) (m m1 : Machine) (op : Op) (h : policedStep maxDepth floor m op = .ok m1) :
    op.apply maxDepth m = .ok m1 ∧ (op.isPop = true → floor < m.stack.length) := by
  cases op
  case popO | popA =>
    obtain ⟨hfl, h⟩ := EncInvState.guard_ok.mp (EncInvState.guard_ok.mp h).2
    exact ⟨liftSM_ok h, fun _ => by omega⟩
  all_goals exact ⟨liftSM_ok h, fun hp => by cases hp⟩

theorem tracks_stack_length (m0 m : Machine) (r c : Nat) (ht : Tracks m0 m r c) :
    m.stack.length = m0.stack.length + r := by
  obtain ⟨ext, hs, hl, _⟩ := ht
  simp [hs, hl]

/-- Under the floor of the starting level EVERY script that the policed coder accepts has a shape
(it cannot have closed a container it did not open) and the machine follows it. -/
theorem runPoliced_tracks (maxDepth : Nat) (m0 : Machine) (script : List Op) :
    ∀ (m m' : Machine) (r c : Nat), Tracks m0 m r c →
      m0.last.length + c + script.length < 2 ^ 61 →
      runPoliced maxDepth m0.stack.length script m = (m', none) →
      ∃ r' c', shape script r c = some (r', c') ∧ Tracks m0 m' r' c' := by
  induction script with
  | nil =>
    intro m m' r c ht _ hrun
    simp only [runPoliced, Prod.mk.injEq, and_true] at hrun
    subst hrun
    exact ⟨r, c, rfl, ht⟩
  | cons op rest ih =>
    intro m m' r c ht hov hrun
    simp only [List.length_cons] at hov
    unfold runPoliced at hrun
    cases hst : policedStep maxDepth m0.stack.length m op with
    | error e => simp [hst] at hrun
    | ok m1 =>
      simp only [hst] at hrun
      obtain ⟨hap, hfl⟩ := policedStep_ok _ _ _ _ _ hst
      have hlen := tracks_stack_length m0 m r c ht
      have hpop : op.isPop = true → r ≠ 0 := fun hp => by have := hfl hp; omega
      obtain ⟨r1, c1, hs1, ht1, hc1⟩ := apply_tracks maxDepth m0 m m1 op r c ht hap hpop (by omega)
      obtain ⟨r', c', hsh, ht'⟩ := ih _ _ _ _ ht1 (by omega) hrun
      exact ⟨r', c', by simp [shape, hs1, hsh], ht'⟩

/-- Whatever the script, and whether or not it ends with an error, a machine that starts with at
least `floor` open containers never has fewer. -/
theorem no_pop_below_floor (maxDepth floor : Nat) (script : List Op) :
    ∀ (m : Machine), floor ≤ m.stack.length → floor ≤ (runPoliced maxDepth floor script m).1.stack.length := by
  induction script with
  | nil => intro m h; exact h
  | cons op rest ih =>
    intro m h
    unfold runPoliced
    cases hst : policedStep maxDepth floor m op with
    | error e => exact h
    | ok m1 =>
      simp only
      apply ih
      obtain ⟨hap, hfl⟩ := policedStep_ok _ _ _ _ _ hst
      have ha := apply_ok hap
      cases op
      case lit | val | str => rw [ha.1]; exact h
      case pushO | pushA => subst ha; simp; omega
      case popO | popA =>
        obtain ⟨e, _, rfl⟩ := ha
        have := hfl rfl
        simp; omega

/-- What the DepthLength comparison sees of a script the policed coder accepted: the depth is back where it was and
the length has grown by `d` iff the script ended at its starting level having begun `d` values there.
(`hov`: the 61-bit element counter of the starting level does not wrap.) -/
theorem runPoliced_depthLength (maxDepth : Nat) (m m' : Machine) (script : List Op)
    (hrun : runPoliced maxDepth m.stack.length script m = (m', none))
    (hov : m.last.length + script.length < 2 ^ 61) :
    ∃ r c, shape script 0 0 = some (r, c) ∧
      ∀ d, m'.depthLength = (m.depthLength.1, m.depthLength.2 + d) ↔ r = 0 ∧ c = d := by
  obtain ⟨r, c, hshape, ext, hs, hl, hb⟩ :=
    runPoliced_tracks maxDepth m script m m' 0 0 (tracks_init m) (by omega) hrun
  refine ⟨r, c, hshape, fun d => ?_⟩
  simp only [Machine.depthLength, Machine.depth, hs, List.length_append, hl, Prod.mk.injEq]
  constructor
  · rintro ⟨h1, h2⟩
    have hr : r = 0 := by omega
    subst hr
    cases ext with
    | nil => exact ⟨rfl, by simp only [baseLen] at hb; omega⟩
    | cons _ _ => cases hl
  · rintro ⟨rfl, rfl⟩
    cases ext with
    | nil => exact ⟨by omega, hb⟩
    | cons _ _ => cases hl

end JsonV.Lemmas.DispatchPolice
