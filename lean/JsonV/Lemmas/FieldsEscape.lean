/-
The fuel of `needEscapeAux` (= number of bytes) always suffices: more fuel never changes the answer.
-/
import JsonV.Model.Fields

namespace JsonV.Lemmas.Fields
open JsonV JsonV.Model JsonV.Model.Fields

/-- The loop only ever continues on a suffix. -/
theorem needEscapeAux_fuel_eq : ∀ (fuel fuel' : Nat) (b : Bytes), b.length ≤ fuel → b.length ≤ fuel' →
    needEscapeAux fuel b = needEscapeAux fuel' b
  | 0, 0, _, _, _ => rfl
  | 0, _ + 1, [], _, _ => rfl
  | _ + 1, 0, [], _, _ => rfl
  | _ + 1, _ + 1, [], _, _ => rfl
  | 0, _, _ :: _, h, _ => absurd h (Nat.not_succ_le_zero _)
  | _ + 1, 0, _ :: _, _, h => absurd h (Nat.not_succ_le_zero _)
  | fuel + 1, fuel' + 1, c :: rest, h, h' => by
    have hd : ∀ k, needEscapeAux fuel (rest.drop k) = needEscapeAux fuel' (rest.drop k) := fun k =>
      have hk : (rest.drop k).length ≤ rest.length := by rw [List.length_drop]; exact Nat.sub_le ..
      needEscapeAux_fuel_eq fuel fuel' _ (Nat.le_trans hk (Nat.le_of_succ_le_succ h)) (Nat.le_trans hk (Nat.le_of_succ_le_succ h'))
    unfold needEscapeAux
    exact ite_congr rfl (fun _ => ite_congr rfl (fun _ => rfl) (fun _ => hd 0))
      (fun _ => ite_congr rfl (fun _ => rfl) (fun _ => hd _))

theorem needEscape_fuel (fuel : Nat) (b : Bytes) (h : b.length ≤ fuel) : needEscapeAux fuel b = needEscape b :=
  needEscapeAux_fuel_eq fuel b.length b h (Nat.le_refl _)

end JsonV.Lemmas.Fields
