/-
Lemmas for C16: the bytes of a literal, number or string before the lexer's error offset can be completed
to a token of the same kind (byte-level viability of input[:ByteOffset] for lexical errors).
-/
import JsonV.Lemmas.WireTokenStep
import JsonV.Lemmas.WireNumberScan
import JsonV.Lemmas.WireString
import JsonV.Lemmas.WireComplete

namespace JsonV.Lemmas.Position
open JsonV JsonV.Model JsonV.Model.Wire JsonV.Model.Validate JsonV.Model.TokenLoop JsonV.Spec JsonV.Spec.Grammar
open JsonV.Lemmas.WireBasic JsonV.Lemmas.WireValue JsonV.Lemmas.WireNumber JsonV.Lemmas.WireString

theorem lexer_cases {o : VOpts} {r : Bytes} {x : Nat × Err} (h : lexer o r = some x) :
    (∃ lit, (lit = litNull ∨ lit = litFalse ∨ lit = litTrue) ∧ valueLiteral lit r = x) ∨
    (∃ t fl, r = 0x22 :: t ∧ valueString o r = (x.1, fl, x.2)) ∨
    (∃ c t, r = c :: t ∧ normKind c = 0x30 ∧ valueNumber r = x) := by
  match r with
  | [] => cases h
  | c :: t =>
    rcases normKind_cases c with hk | hk | ⟨-, rfl | rfl | rfl | rfl | rfl | rfl | rfl | rfl⟩
    · rw [lexer_of_num o t hk] at h
      exact .inr (.inr ⟨c, t, rfl, hk, Option.some.inj h⟩)
    · simp [lexer, hk] at h
    · exact .inl ⟨_, .inl rfl, Option.some.inj h⟩
    · exact .inl ⟨_, .inr (.inl rfl), Option.some.inj h⟩
    · exact .inl ⟨_, .inr (.inr rfl), Option.some.inj h⟩
    · cases Option.some.inj h
      exact .inr (.inl ⟨t, _, rfl, rfl⟩)
    -- the four delimiters are not lexed
    all_goals cases h

theorem lexer_lit (o : VOpts) {lit : Bytes} (h : lit = litNull ∨ lit = litFalse ∨ lit = litTrue) :
    lexer o lit = some (lit.length, .ok) := by
  rcases h with rfl | rfl | rfl <;> rfl

theorem lexer_zero (o : VOpts) : lexer o [0x30] = some (1, .ok) := rfl

theorem literal_completion (lit r : Bytes) (n : Nat) (e : Err) (h : valueLiteral lit r = (n, e)) (he : e ≠ .ok) :
    n ≤ lit.length ∧ r.take n ++ lit.drop n = lit := by
  unfold valueLiteral at h
  simp only at h
  split at h
  · cases h; exact absurd rfl he
  · rcases literal_class r lit with hc | hc | hc
    · rw [h] at hc; exact absurd hc he
    · rw [h] at hc; simp only at hc; subst hc
      obtain ⟨hn, ⟨t, ht⟩, _⟩ := (literal_eof_iff r lit n).mp h
      subst hn
      rw [← ht]
      simp
    · rw [h] at hc; simp only at hc; subst hc
      obtain ⟨_, h2, h3, _⟩ := (literal_invalid_iff r lit n).mp h
      exact ⟨by omega, by rw [h3, List.take_append_drop]⟩

theorem valueNumber_complete (b : Bytes) (h : JNumber b) : valueNumber b = (b.length, .ok) := by
  simpa only [List.append_nil] using WireComplete.valueNumber_complete b [] h (WireComplete.follow_nil b)

/-- A failing `valueNumber` reports offset 0 (truncated input: io.ErrUnexpectedEOF) or the end of a proper number prefix. -/
theorem number_error (r : Bytes) (n : Nat) (e : Err) (h : valueNumber r = (n, e)) (he : e ≠ .ok) :
    n = 0 ∨ (n < r.length ∧ NumPrefix (r.take n)) := by
  rcases valueNumber_eq r with ⟨h1, h2⟩ | ⟨-, h1⟩
  · have hg := good_consumeNumber r
    rw [h] at h1
    rw [← h1] at h2 hg
    rcases good_class _ _ _ _ hg with hk | hk | hk
    · exact absurd hk he
    · exact absurd hk h2
    · subst hk
      obtain ⟨g1, g2, -⟩ := (consumeNumber_invalid_iff r n).1 h1.symm
      exact .inr ⟨g1, g2⟩
  · rw [h] at h1; cases h1; exact .inl rfl

theorem valueString_of_body (o : VOpts) (body : Bytes) (hj : JChars (!o.allowInvalidUTF8) body) :
    ∃ f, valueString o (0x22 :: (body ++ [0x22])) = (body.length + 2, f, .ok) := by
  simpa using WireComplete.valueString_complete o (0x22 :: (body ++ [0x22])) [] ⟨body, hj, rfl⟩

theorem string_error (o : VOpts) (t : Bytes) (n : Nat) (fl : ValueFlags) (e : Err)
    (h : valueString o (0x22 :: t) = (n, fl, e)) (he : e ≠ .ok) :
    ∃ k, n = k + 1 ∧ k ≤ t.length ∧ JChars (!o.allowInvalidUTF8) (t.take k) := by
  rw [valueString_eq_consumeString, consumeString_cons, if_pos (beq_self_eq_true _)] at h
  obtain ⟨rfl, h2⟩ := Prod.mk.inj h
  obtain ⟨g1, body, g2, g3⟩ := loop_spec _ _ t _ fl e (Prod.ext rfl h2)
  rw [if_neg he, List.append_nil] at g3
  exact ⟨_, Nat.add_comm .., g1, g3 ▸ g2⟩

theorem lexical_completion (o : VOpts) (r : Bytes) (n : Nat) (e : Err) (h : lexer o r = some (n, e)) (he : e ≠ .ok) :
    ∃ ext m, lexer o (r.take n ++ ext) = some (m, .ok) ∧ n ≤ m := by
  rcases lexer_cases h with ⟨lit, hlit, hx⟩ | ⟨t, fl, rfl, hx⟩ | ⟨c, t, rfl, hk, hx⟩
  · obtain ⟨hn, hcomp⟩ := literal_completion lit r n e hx he
    exact ⟨lit.drop n, lit.length, by rw [hcomp]; exact lexer_lit o hlit, hn⟩
  · obtain ⟨k, rfl, hkl, hj⟩ := string_error o t n fl e hx he
    obtain ⟨f, hf⟩ := valueString_of_body o (t.take k) hj
    refine ⟨[0x22], (t.take k).length + 2, ?_, by rw [List.length_take]; omega⟩
    rw [List.take_succ_cons, List.cons_append, lexer_of_str o _ (by decide), hf]
  · rcases number_error (c :: t) n e hx he with h0 | ⟨hlt, s, hs⟩
    · exact ⟨[0x30], 1, by rw [h0]; exact lexer_zero o, by omega⟩
    · match n with
      | 0 => exact ⟨[0x30], 1, lexer_zero o, by omega⟩
      | k + 1 =>
        rw [List.take_succ_cons] at hs ⊢
        rw [List.cons_append] at hs
        refine ⟨s, _, (lexer_of_num o (t.take k ++ s) hk).trans (congrArg some (valueNumber_complete _ hs)), ?_⟩
        simp only [List.length_cons, List.length_append, List.length_take] at hlt ⊢
        omega

end JsonV.Lemmas.Position
