/-
Pool discipline (C18): a program that obeys the discipline observes the same values whatever the
pool holds, and leaves a pool that again holds no object twice.
-/
import JsonV.Model.Reset

namespace JsonV.Lemmas.ResetPoolL
open JsonV.Model.Reset.Pool

/-- `get` keeps the invariant whenever the object `o` it hands out is held by no live handle and
is not in the pool that remains: both a pooled object and a new one are of this kind. -/
theorem inv_get {p : PSt} {r : RSt} (hinv : Inv p r) (o next' : Nat) (pool' : List Nat)
    (hnd : pool'.Nodup) (hsub : ∀ x ∈ pool', x ∈ p.pool) (hop : o ∉ pool')
    (hol : ∀ h, r.live h = true → p.id h ≠ o) (ho : o < next') (hnx : p.next ≤ next') :
    Inv { p with nh := p.nh + 1, id := fun h => if h = p.nh then o else p.id h,
                 pool := pool', next := next' }
      { nh := r.nh + 1, live := fun h => if h = r.nh then true else r.live h,
        val := fun h => if h = r.nh then none else r.val h } := by
  have hn := hinv.nh
  constructor
  · simp [hn]
  · intro h hl
    show h < r.nh + 1
    simp only at hl
    split at hl
    · omega
    · have := hinv.bound h hl; omega
  · intro h h' hl hl' he
    simp only at hl hl' he
    by_cases e1 : h = r.nh <;> by_cases e2 : h' = r.nh
    · omega
    · simp [e1, e2, hn] at hl' he
      exact absurd he.symm (hol h' hl')
    · simp [e1, e2, hn] at hl he
      exact absurd he (hol h hl)
    · simp [e1, e2, hn] at hl hl' he
      exact hinv.inj h h' hl hl' he
  · exact hnd
  · intro h hl
    simp only at hl ⊢
    by_cases e1 : h = r.nh
    · simp [e1, hn]; exact hop
    · simp [e1, hn] at hl ⊢
      exact fun hm => hinv.notPooled h hl (hsub _ hm)
  · intro x hx
    have := hinv.poolOld x (hsub x hx)
    show x < next'
    omega
  · intro h hl
    simp only at hl ⊢
    by_cases e1 : h = r.nh
    · simp [e1, hn]; exact ho
    · simp [e1, hn] at hl ⊢
      have := hinv.liveOld h hl; omega
  · intro h v hl hv
    simp only at hl hv ⊢
    by_cases e1 : h = r.nh
    · simp [e1] at hv
    · simp [e1, hn] at hl hv ⊢
      exact hinv.agree h v hl hv

theorem step_sim (p : PSt) (r : RSt) (c : Cmd) (r' : RSt) (o : Option Val)
    (hinv : Inv p r) (hr : rstep r c = some (r', o)) :
    (pstep p c).2 = o ∧ Inv (pstep p c).1 r' := by
  cases c with
  | get =>
    simp only [rstep, Option.some.injEq, Prod.mk.injEq] at hr
    obtain ⟨rfl, rfl⟩ := hr
    cases hp : p.pool with
    | nil =>
      simp only [pstep, hp]
      refine ⟨trivial, inv_get hinv p.next (p.next + 1) [] List.nodup_nil ?_ ?_ ?_ ?_ ?_⟩
      · intro x hx; cases hx
      · intro hx; cases hx
      · intro h hl; have := hinv.liveOld h hl; omega
      · omega
      · omega
    | cons x rest =>
      simp only [pstep, hp]
      have hnd := hinv.nodup
      rw [hp] at hnd
      have hx : x ∈ p.pool := by simp [hp]
      refine ⟨trivial, inv_get hinv x p.next rest (List.nodup_cons.mp hnd).2 ?_
        (List.nodup_cons.mp hnd).1 ?_ (hinv.poolOld x hx) (Nat.le_refl _)⟩
      · intro y hy; simp [hp, hy]
      · intro h hl he; exact hinv.notPooled h hl (he ▸ hx)
  | write h v =>
    simp only [rstep] at hr
    split at hr
    · rename_i hl
      simp only [Option.some.injEq, Prod.mk.injEq] at hr
      obtain ⟨rfl, rfl⟩ := hr
      refine ⟨rfl, { hinv with agree := ?_ }⟩
      intro k w hk hw
      simp only [pstep] at hk hw ⊢
      by_cases e : k = h
      · subst e; simp at hw; simp [hw]
      · simp [e] at hw
        have hne : p.id k ≠ p.id h := fun he => e (hinv.inj k h hk hl he)
        simp [hne]
        exact hinv.agree k w hk hw
    · simp at hr
  | read h =>
    simp only [rstep] at hr
    split at hr
    · rename_i hl
      split at hr
      · rename_i v hv
        simp only [Option.some.injEq, Prod.mk.injEq] at hr
        obtain ⟨rfl, rfl⟩ := hr
        refine ⟨?_, hinv⟩
        simp [pstep, hinv.agree h v hl hv]
      · simp at hr
    · simp at hr
  | put h =>
    simp only [rstep] at hr
    split at hr
    · rename_i hl
      simp only [Option.some.injEq, Prod.mk.injEq] at hr
      obtain ⟨rfl, rfl⟩ := hr
      have hlive : ∀ k, (if k = h then false else r.live k) = true → k ≠ h ∧ r.live k = true := by
        intro k hk
        split at hk
        · simp at hk
        · exact ⟨‹_›, hk⟩
      refine ⟨rfl, hinv.nh, fun k hk => hinv.bound k (hlive k hk).2,
        fun k k' hk hk' => hinv.inj k k' (hlive k hk).2 (hlive k' hk').2,
        List.nodup_cons.mpr ⟨hinv.notPooled h hl, hinv.nodup⟩, ?_, ?_,
        fun k hk => hinv.liveOld k (hlive k hk).2, fun k w hk => hinv.agree k w (hlive k hk).2⟩
      · intro k hk hmem
        obtain ⟨hne, hk⟩ := hlive k hk
        rcases List.mem_cons.mp hmem with he | hm
        · exact hne (hinv.inj k h hk hl he)
        · exact hinv.notPooled k hk hm
      · intro o ho
        rcases List.mem_cons.mp ho with he | hm
        · rw [he]; exact hinv.liveOld h hl
        · exact hinv.poolOld o hm
    · simp at hr

theorem run_sim (cs : List Cmd) : ∀ (p : PSt) (r r' : RSt) (vs : List Val),
    Inv p r → rrun r cs = some (r', vs) → (prun p cs).2 = vs ∧ Inv (prun p cs).1 r' := by
  induction cs with
  | nil =>
    intro p r r' vs hinv hr
    simp only [rrun, Option.some.injEq, Prod.mk.injEq] at hr
    obtain ⟨rfl, rfl⟩ := hr
    exact ⟨rfl, hinv⟩
  | cons c cs ih =>
    intro p r r' vs hinv hr
    simp only [rrun] at hr
    cases h1 : rstep r c with
    | none => simp [h1] at hr
    | some x =>
      obtain ⟨r1, o⟩ := x
      simp only [h1] at hr
      cases h2 : rrun r1 cs with
      | none => simp [h2] at hr
      | some y =>
        obtain ⟨r2, ws⟩ := y
        simp only [h2, Option.some.injEq, Prod.mk.injEq] at hr
        obtain ⟨rfl, rfl⟩ := hr
        obtain ⟨ho, hinv1⟩ := step_sim p r c r1 o hinv h1
        obtain ⟨hv, hinv2⟩ := ih (pstep p c).1 r1 r2 ws hinv1 h2
        simp only [prun]
        exact ⟨by rw [ho, hv], hinv2⟩

theorem inv_of_good (p : PSt) (r : RSt) (hg : GoodPool p) (hn : p.nh = r.nh)
    (hidle : ∀ h, r.live h = false) : Inv p r := by
  constructor
  · exact hn
  · intro h hl; simp [hidle h] at hl
  · intro h h' hl; simp [hidle h] at hl
  · exact hg.nodup
  · intro h hl; simp [hidle h] at hl
  · exact hg.old
  · intro h hl; simp [hidle h] at hl
  · intro h v hl; simp [hidle h] at hl

theorem good_of_inv (p : PSt) (r : RSt) (h : Inv p r) : GoodPool p := ⟨h.nodup, h.poolOld⟩

end JsonV.Lemmas.ResetPoolL
