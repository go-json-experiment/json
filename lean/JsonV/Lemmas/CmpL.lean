/-
Lemmas about the model of `jsonwire.CompareUTF16`: the fuel of the loop never runs out, one loop
iteration on two encoded scalar values, and the refinement `compareUTF16 = lexCmp ∘ utf16` on
well-formed UTF-8.
-/
import JsonV.Model.Compare
import JsonV.Spec.Utf16Order
import JsonV.Lemmas.CmpUtf8
import JsonV.Lemmas.CmpLex

namespace JsonV.Lemmas.CmpL
open JsonV JsonV.Model.Utf8 JsonV.Model.Compare JsonV.Spec.Utf16Order JsonV.Lemmas.CmpUtf8 JsonV.Lemmas.CmpLex

theorem cmpNat_self (a : Nat) : cmpNat a a = 0 := by simp [cmpNat]

theorem cmpNat_range (a b : Nat) : cmpNat a b = -1 ∨ cmpNat a b = 0 ∨ cmpNat a b = 1 := by
  unfold cmpNat
  split
  · simp
  · split <;> simp

theorem cmpNat_lt {a b : Nat} (h : a < b) : cmpNat a b = -1 := if_pos h

theorem cmpNat_gt {a b : Nat} (h : b < a) : cmpNat a b = 1 := by
  rw [cmpNat, if_neg (Nat.lt_asymm h), if_pos h]

theorem cmpNat_swap (a b : Nat) : cmpNat b a = - cmpNat a b := by
  rcases Nat.lt_trichotomy a b with h | rfl | h
  · rw [cmpNat_lt h, cmpNat_gt h]; rfl
  · rw [cmpNat_self]; rfl
  · rw [cmpNat_lt h, cmpNat_gt h]

theorem lexCmp_cons_eq_cmpNat {x y : Nat} (h : x ≠ y) (as bs : List Nat) :
    lexCmp (x :: as) (y :: bs) = cmpNat x y := by
  rcases Nat.lt_or_gt_of_ne h with c | c
  · rw [lexCmp_cons_lt c, cmpNat_lt c]
  · rw [lexCmp_cons_gt c, cmpNat_gt c]

theorem lex_bmp (r s : Nat) (hr : r < 0x10000) (hs : s < 0x10000) :
    lexCmp (unitsOfRune r) (unitsOfRune s) = cmpNat r s := by
  unfold unitsOfRune
  rw [if_pos hr, if_pos hs]
  by_cases e : r = s
  · rw [e, lexCmp_self, cmpNat_self]
  · exact lexCmp_cons_eq_cmpNat e _ _

theorem split_supp (r : Nat) (hr : 0x10000 ≤ r) :
    ∃ q m, m < 1024 ∧ r = 0x10000 + 1024 * q + m ∧ (r - 0x10000) / 1024 = q ∧ (r - 0x10000) % 1024 = m :=
  ⟨(r - 0x10000) / 1024, (r - 0x10000) % 1024, by omega, by omega, rfl, rfl⟩

theorem lex_supp (r s : Nat) (hr : 0x10000 ≤ r) (hs : 0x10000 ≤ s) :
    lexCmp (unitsOfRune r) (unitsOfRune s) = cmpNat r s := by
  unfold unitsOfRune
  rw [if_neg (by omega), if_neg (by omega)]
  obtain ⟨q, m, bm, er, f1, f2⟩ := split_supp r hr
  obtain ⟨q', m', bm', es, f3, f4⟩ := split_supp s hs
  rw [f1, f2, f3, f4]
  clear f1 f2 f3 f4 hr hs
  subst er es
  rcases Nat.lt_trichotomy q q' with c | rfl | c
  · rw [lexCmp_cons_lt (by omega), cmpNat_lt (by omega)]
  · rw [lexCmp_cons_same]
    rcases Nat.lt_trichotomy m m' with d | rfl | d
    · rw [lexCmp_cons_lt (by omega), cmpNat_lt (by omega)]
    · rw [lexCmp_self, cmpNat_self]
    · rw [lexCmp_cons_gt (by omega), cmpNat_gt (by omega)]
  · rw [lexCmp_cons_gt (by omega), cmpNat_gt (by omega)]

/-- A BMP scalar value against a supplementary one: decided by the high surrogate. -/
theorem lex_bmp_supp (r s : Nat) (hr : IsScalar r) (hr' : r < 0x10000) (hs : 0x10000 ≤ s) (hs' : s ≤ 0x10FFFF) :
    lexCmp (unitsOfRune r) (unitsOfRune s) = cmpNat r (0xD800 + (s - 0x10000) / 1024) := by
  unfold IsScalar at hr
  unfold unitsOfRune
  rw [if_pos hr', if_neg (by omega)]
  exact lexCmp_cons_eq_cmpNat (by omega) _ _

theorem lex_supp_bmp (r s : Nat) (hs : IsScalar s) (hs' : s < 0x10000) (hr : 0x10000 ≤ r) (hr' : r ≤ 0x10FFFF) :
    lexCmp (unitsOfRune r) (unitsOfRune s) = cmpNat (0xD800 + (r - 0x10000) / 1024) s := by
  rw [lexCmp_swap, lex_bmp_supp s r hs hs' hr hr', cmpNat_swap]
  omega

theorem surrogateKey_eq (r s : Nat) (hr : IsScalar r) (hs : IsScalar s) : surrogateKey r s =
    if r < 0x10000 ∧ ¬ s < 0x10000 then (r, 0xD800 + (s - 0x10000) / 1024)
    else if s < 0x10000 ∧ ¬ r < 0x10000 then (0xD800 + (r - 0x10000) / 1024, s)
    else (r, s) := by
  unfold IsScalar at hr hs
  have sx : isUTF16Self r = decide (r < 0x10000) := by
    unfold isUTF16Self; by_cases a : r < 0x10000 <;> simp [a] <;> omega
  have sy : isUTF16Self s = decide (s < 0x10000) := by
    unfold isUTF16Self; by_cases a : s < 0x10000 <;> simp [a] <;> omega
  unfold surrogateKey utf16EncodeRune maxRune
  rw [sx, sy]
  by_cases a : r < 0x10000 <;> by_cases b : s < 0x10000
  · simp [a, b]
  · have n1 : ¬ (s > 1114111) := by omega
    simp [a, b, n1]
  · have n1 : ¬ (r > 1114111) := by omega
    simp [a, b, n1]
  · simp [a, b]

/-- `surrogateKey r s` is the pair of integers compared at wire.go:111-113. -/
theorem rune_order (r s : Nat) (hr : IsScalar r) (hs : IsScalar s) :
    cmpNat (surrogateKey r s).1 (surrogateKey r s).2 = lexCmp (unitsOfRune r) (unitsOfRune s) ∧
    ((surrogateKey r s).1 = (surrogateKey r s).2 ↔ r = s) := by
  rw [surrogateKey_eq r s hr hs]
  have hr0 := hr
  have hs0 := hs
  unfold IsScalar at hr hs
  by_cases a : r < 0x10000 <;> by_cases b : s < 0x10000
  · rw [if_neg (by omega), if_neg (by omega)]
    exact ⟨(lex_bmp r s a b).symm, Iff.rfl⟩
  · rw [if_pos (by omega)]
    refine ⟨(lex_bmp_supp r s hr0 a (by omega) (by omega)).symm, ?_⟩
    constructor
    · intro h; dsimp only at h; omega
    · intro h; omega
  · rw [if_neg (by omega), if_pos (by omega)]
    refine ⟨(lex_supp_bmp r s hs0 b (by omega) (by omega)).symm, ?_⟩
    constructor
    · intro h; dsimp only at h; omega
    · intro h; omega
  · rw [if_neg (by omega), if_neg (by omega)]
    exact ⟨(lex_supp r s (by omega) (by omega)).symm, Iff.rfl⟩

theorem lexCmp_unitsOfRune_ne_zero (r s : Nat) (hr : IsScalar r) (hs : IsScalar s) (e : r ≠ s) :
    lexCmp (unitsOfRune r) (unitsOfRune s) ≠ 0 := by
  obtain ⟨k1, k2⟩ := rune_order r s hr hs
  rw [← k1]
  intro h
  rcases Nat.lt_or_gt_of_ne (fun q => e (k2.mp q)) with c | c
  · rw [cmpNat_lt c] at h; cases h
  · rw [cmpNat_gt c] at h; cases h

theorem units_inj {rs ss : List Nat} (hr : ∀ r ∈ rs, IsScalar r) (hs : ∀ s ∈ ss, IsScalar s)
    (h : units rs = units ss) : rs = ss := by
  induction rs generalizing ss with
  | nil =>
    cases ss with
    | nil => rfl
    | cons s ss' =>
      rw [units_cons] at h
      exact absurd (List.append_eq_nil_iff.mp h.symm).1 (unitsOfRune_ne_nil s)
  | cons r rs' ih =>
    cases ss with
    | nil =>
      rw [units_cons] at h
      exact absurd (List.append_eq_nil_iff.mp h).1 (unitsOfRune_ne_nil r)
    | cons s ss' =>
      have hr0 := hr r (by simp)
      have hs0 := hs s (by simp)
      have h0 : lexCmp (units (r :: rs')) (units (s :: ss')) = 0 := by rw [h]; exact lexCmp_self _
      rw [units_cons, units_cons, lexCmp_units_append r s hr0 hs0] at h0
      by_cases e : r = s
      · subst e
        simp only [if_true] at h0
        have := ih (fun x hx => hr x (by simp [hx])) (fun x hx => hs x (by simp [hx])) (lexCmp_eq_zero.mp h0)
        rw [this]
      · simp only [e, if_false] at h0
        exact absurd h0 (lexCmp_unitsOfRune_ne_zero r s hr0 hs0 e)

theorem go_nil_left (f : Nat) (y : Bytes) : go f [] y = cmpNat 0 y.length := by
  cases f <;> simp [go]

theorem go_nil_right (f : Nat) (x : Bytes) : go f x [] = cmpNat x.length 0 := by
  cases f with
  | zero => simp [go]
  | succ f => cases x <;> simp [go]

theorem go_cons_ascii (f : Nat) {x0 y0 : UInt8} (xs ys : Bytes) (h : x0.toNat < runeSelf ∨ y0.toNat < runeSelf) :
    go (f + 1) (x0 :: xs) (y0 :: ys) = if x0 ≠ y0 then cmpNat x0.toNat y0.toNat else go f xs ys := by
  rw [go]
  exact if_pos h

theorem surrogateKey_swap (r s : Nat) : surrogateKey s r = ((surrogateKey r s).2, (surrogateKey r s).1) := by
  unfold surrogateKey
  cases isUTF16Self r <;> cases isUTF16Self s <;> simp

theorem go_cons_decode (f : Nat) {x0 y0 : UInt8} {xs ys : Bytes} {rx nx ry ny kx ky : Nat}
    (h : ¬ (x0.toNat < runeSelf ∨ y0.toNat < runeSelf))
    (hx : decodeRune (x0 :: xs) = (rx, nx)) (hy : decodeRune (y0 :: ys) = (ry, ny))
    (hk : surrogateKey rx ry = (kx, ky)) :
    go (f + 1) (x0 :: xs) (y0 :: ys) =
      (if kx ≠ ky then cmpNat kx ky
      else if (isInvalidUTF8 rx nx || isInvalidUTF8 ry ny) && x0 ≠ y0 then cmpNat x0.toNat y0.toNat
      else go f ((x0 :: xs).drop nx) ((y0 :: ys).drop ny)) ∧
    go (f + 1) (y0 :: ys) (x0 :: xs) =
      (if kx ≠ ky then cmpNat ky kx
      else if (isInvalidUTF8 rx nx || isInvalidUTF8 ry ny) && x0 ≠ y0 then cmpNat y0.toNat x0.toNat
      else go f ((y0 :: ys).drop ny) ((x0 :: xs).drop nx)) := by
  constructor
  · rw [go, if_neg h, hx, hy]
    simp only [hk]
  · rw [go, if_neg (fun c => h c.symm), hy, hx]
    simp only [surrogateKey_swap rx ry, hk, ne_comm (a := ky), ne_comm (a := y0),
      Bool.or_comm (isInvalidUTF8 ry ny)]

/-- One iteration on two non-empty operands, whatever the fuel and in either order of the operands: it
returns `cmp.Compare` of two integers, or goes on with a proper suffix of each operand. -/
theorem go_cons_cons (x0 y0 : UInt8) (xs ys : Bytes) :
    (∃ a b, ∀ f, go (f + 1) (x0 :: xs) (y0 :: ys) = cmpNat a b ∧ go (f + 1) (y0 :: ys) (x0 :: xs) = cmpNat b a) ∨
    (∃ x' y', x'.length ≤ xs.length ∧ y'.length ≤ ys.length ∧
      ∀ f, go (f + 1) (x0 :: xs) (y0 :: ys) = go f x' y' ∧ go (f + 1) (y0 :: ys) (x0 :: xs) = go f y' x') := by
  by_cases a : x0.toNat < runeSelf ∨ y0.toNat < runeSelf
  · by_cases e : x0 = y0
    · refine .inr ⟨xs, ys, Nat.le_refl _, Nat.le_refl _, fun f => ?_⟩
      rw [go_cons_ascii f xs ys a, go_cons_ascii f ys xs a.symm, if_neg (show ¬ x0 ≠ y0 from fun h => h e),
        if_neg (show ¬ y0 ≠ x0 from fun h => h e.symm)]
      exact ⟨rfl, rfl⟩
    · refine .inl ⟨x0.toNat, y0.toNat, fun f => ?_⟩
      rw [go_cons_ascii f xs ys a, go_cons_ascii f ys xs a.symm, if_pos e, if_pos (Ne.symm e)]
      exact ⟨rfl, rfl⟩
  have px := decodeRune_snd_pos x0 xs
  have py := decodeRune_snd_pos y0 ys
  cases hx : decodeRune (x0 :: xs) with | mk rx nx
  cases hy : decodeRune (y0 :: ys) with | mk ry ny
  cases hk : surrogateKey rx ry with | mk kx ky
  rw [hx] at px
  rw [hy] at py
  by_cases k : kx = ky
  · have nk : ¬ kx ≠ ky := fun h => h k
    by_cases c : ((isInvalidUTF8 rx nx || isInvalidUTF8 ry ny) && x0 ≠ y0) = true
    · refine .inl ⟨x0.toNat, y0.toNat, fun f => ?_⟩
      have e := go_cons_decode f a hx hy hk
      rwa [if_neg nk, if_pos c, if_neg nk, if_pos c] at e
    · refine .inr ⟨(x0 :: xs).drop nx, (y0 :: ys).drop ny, ?_, ?_, fun f => ?_⟩
      · rw [List.length_drop, List.length_cons]; omega
      · rw [List.length_drop, List.length_cons]; omega
      · have e := go_cons_decode f a hx hy hk
        rwa [if_neg nk, if_neg c, if_neg nk, if_neg c] at e
  · refine .inl ⟨kx, ky, fun f => ?_⟩
    have e := go_cons_decode f a hx hy hk
    rwa [if_pos k, if_pos k] at e

/-- The fuel never runs out: every fuel ≥ min(len x, len y) gives the same result. -/
theorem go_fuel (f f' : Nat) (x y : Bytes) (h : x.length ≤ f ∨ y.length ≤ f) (h' : x.length ≤ f' ∨ y.length ≤ f') :
    go f x y = go f' x y := by
  induction f generalizing f' x y with
  | zero =>
    have : x = [] ∨ y = [] := by
      rcases h with h | h
      · left; exact List.eq_nil_of_length_eq_zero (by omega)
      · right; exact List.eq_nil_of_length_eq_zero (by omega)
    rcases this with e | e <;> subst e
    · rw [go_nil_left, go_nil_left]
    · rw [go_nil_right, go_nil_right]
  | succ f ih =>
    cases x with
    | nil => rw [go_nil_left, go_nil_left]
    | cons x0 xs =>
      cases y with
      | nil => rw [go_nil_right, go_nil_right]
      | cons y0 ys =>
        cases f' with
        | zero => simp at h'
        | succ g =>
          simp only [List.length_cons] at h h'
          rcases go_cons_cons x0 y0 xs ys with ⟨a, b, e⟩ | ⟨x', y', lx, ly, e⟩
          · rw [(e f).1, (e g).1]
          · rw [(e f).1, (e g).1]
            exact ih g x' y' (by omega) (by omega)

theorem go_range (f : Nat) (x y : Bytes) : go f x y = -1 ∨ go f x y = 0 ∨ go f x y = 1 := by
  induction f generalizing x y with
  | zero => simp only [go]; exact cmpNat_range _ _
  | succ f ih =>
    cases x with
    | nil => rw [go_nil_left]; exact cmpNat_range _ _
    | cons x0 xs =>
      cases y with
      | nil => rw [go_nil_right]; exact cmpNat_range _ _
      | cons y0 ys =>
        rcases go_cons_cons x0 y0 xs ys with ⟨a, b, e⟩ | ⟨x', y', _, _, e⟩
        · rw [(e f).1]; exact cmpNat_range _ _
        · rw [(e f).1]; exact ih _ _

theorem go_swap (f : Nat) (x y : Bytes) : go f y x = - go f x y := by
  induction f generalizing x y with
  | zero => simp only [go]; exact cmpNat_swap _ _
  | succ f ih =>
    cases x with
    | nil => rw [go_nil_left, go_nil_right]; exact cmpNat_swap _ _
    | cons x0 xs =>
      cases y with
      | nil => rw [go_nil_left, go_nil_right]; exact cmpNat_swap _ _
      | cons y0 ys =>
        rcases go_cons_cons x0 y0 xs ys with ⟨a, b, e⟩ | ⟨x', y', _, _, e⟩
        · rw [(e f).1, (e f).2]; exact cmpNat_swap _ _
        · rw [(e f).1, (e f).2]; exact ih _ _

theorem go_self (f : Nat) (x : Bytes) : go f x x = 0 := by
  have := go_swap f x x
  omega

theorem lex_ascii_lt {r s : Nat} (h : r < 0x80) (h' : r < s) : lexCmp (unitsOfRune r) (unitsOfRune s) = -1 := by
  unfold unitsOfRune
  rw [if_pos (by omega)]
  by_cases hs : s < 0x10000
  · rw [if_pos hs]; exact lexCmp_cons_lt h' _ _
  · rw [if_neg hs]; exact lexCmp_cons_lt (by omega) _ _

/-- What `utf8.AppendRune` writes is never taken for an ill-formed byte: U+FFFD is written in three bytes. -/
theorem isInvalidUTF8_encodeRune (r : Nat) : isInvalidUTF8 r (encodeRune r).length = false := by
  apply Bool.eq_false_iff.mpr
  intro c
  simp only [isInvalidUTF8, Bool.and_eq_true, beq_iff_eq] at c
  have := QuoteWf.encodeRune_long (r := r) (by rw [c.1]; decide)
  omega

theorem go_step (f : Nat) (r s : Nat) (hr : IsScalar r) (hs : IsScalar s) (X Y : Bytes) :
    go (f + 1) (encodeRune r ++ X) (encodeRune s ++ Y) =
      if r = s then go f X Y else lexCmp (unitsOfRune r) (unitsOfRune s) := by
  have dx := decodeRune_encodeRune r X (isScalar_iff.mp hr).1 (isScalar_iff.mp hr).2
  have dy := decodeRune_encodeRune s Y (isScalar_iff.mp hs).1 (isScalar_iff.mp hs).2
  have ix := isInvalidUTF8_encodeRune r
  have iy := isInvalidUTF8_encodeRune s
  obtain ⟨b0, t, ex, fx, gx⟩ := encodeRune_cons r
  obtain ⟨c0, u, ey, fy, gy⟩ := encodeRune_cons s
  rw [ex] at dx ix ⊢
  rw [ey] at dy iy ⊢
  rw [List.cons_append] at dx dy ⊢
  rw [List.cons_append]
  by_cases ha : r < 0x80 ∨ s < 0x80
  · have mx := fun h => (fx h).2
    have my := fun h => (fy h).2
    -- the first bytes are ordered like the runes, and one of them is ASCII (one `omega` on a cleared context: it is
    -- slow with every hypothesis in scope)
    have ord : (b0.toNat < 0x80 ∨ c0.toNat < 0x80) ∧ (r < s → b0.toNat < c0.toNat ∧ r < 0x80) ∧
        (s < r → c0.toNat < b0.toNat ∧ s < 0x80) := by
      clear fx fy dx dy ix iy
      omega
    rw [go_cons_ascii f _ _ ord.1]
    rcases Nat.lt_trichotomy r s with lt | rfl | gt
    · obtain ⟨hlt, h80⟩ := ord.2.1 lt
      rw [if_pos (fun h : b0 = c0 => Nat.lt_irrefl _ (h ▸ hlt)), if_neg (Nat.ne_of_lt lt), lex_ascii_lt h80 lt,
        cmpNat_lt hlt]
    · have h80 : r < 0x80 := ha.elim id id
      have hb : b0 = c0 := UInt8.toNat_inj.mp ((mx h80).trans (my h80).symm)
      rw [if_neg (fun h => h hb), if_pos rfl, (fx h80).1, (fy h80).1]
      rfl
    · obtain ⟨hgt, h80⟩ := ord.2.2 gt
      rw [if_pos (fun h : b0 = c0 => Nat.lt_irrefl _ (h ▸ hgt)), if_neg (Nat.ne_of_gt gt), lexCmp_swap,
        lex_ascii_lt h80 gt, cmpNat_gt hgt]
      rfl
  · obtain ⟨k1, k2⟩ := rune_order r s hr hs
    rw [(go_cons_decode f (kx := (surrogateKey r s).1) (ky := (surrogateKey r s).2) (by unfold runeSelf; clear fx fy; omega) dx dy rfl).1,
      ix, iy, k1, ← List.cons_append, ← List.cons_append, List.drop_left, List.drop_left, Bool.or_false,
      Bool.false_and]
    by_cases e : r = s
    · rw [if_neg (fun h => h (k2.mpr e)), if_neg Bool.false_ne_true, if_pos e]
    · rw [if_pos (fun h => e (k2.mp h)), if_neg e]

theorem go_encode (rs ss : List Nat) (hr : ∀ r ∈ rs, IsScalar r) (hs : ∀ s ∈ ss, IsScalar s)
    (f : Nat) (hf : (encode rs).length ≤ f) :
    go f (encode rs) (encode ss) = lexCmp (units rs) (units ss) := by
  induction rs generalizing ss f with
  | nil =>
    show go f [] (encode ss) = lexCmp [] (units ss)
    rw [go_nil_left]
    cases ss with
    | nil => rfl
    | cons s ss' =>
      have l := encodeRune_length_pos s
      rw [encode_cons, units_cons, List.length_append, lexCmp_nil_left_ne _ (by simp [unitsOfRune_ne_nil]),
        cmpNat_lt (by omega)]
  | cons r rs' ih =>
    have hr0 := hr r (by simp)
    have lr := encodeRune_length_pos r
    cases ss with
    | nil =>
      show go f (encode (r :: rs')) [] = lexCmp (units (r :: rs')) []
      rw [go_nil_right, units_cons, lexCmp_nil_right_ne _ (by simp [unitsOfRune_ne_nil]), encode_cons,
        List.length_append, cmpNat_gt (by omega)]
    | cons s ss' =>
      have hs0 := hs s (by simp)
      rw [encode_cons, List.length_append] at hf
      cases f with
      | zero => omega
      | succ f =>
        rw [encode_cons, encode_cons, units_cons, units_cons, go_step f r s hr0 hs0,
          lexCmp_units_append r s hr0 hs0]
        by_cases e : r = s
        · simp only [e, if_true]
          exact ih ss' (fun x hx => hr x (by simp [hx])) (fun x hx => hs x (by simp [hx])) f (by omega)
        · simp only [e, if_false]

theorem compareUTF16_swap (x y : Bytes) : compareUTF16 y x = - compareUTF16 x y := by
  unfold compareUTF16
  rw [go_fuel y.length x.length y x (Or.inl (Nat.le_refl _)) (Or.inr (Nat.le_refl _))]
  exact go_swap _ _ _

theorem compareUTF16_lex (x y : Bytes) (hx : valid x = true) (hy : valid y = true) :
    compareUTF16 x y = lexCmp (utf16 x) (utf16 y) := by
  obtain ⟨sx, ex⟩ := valid_encode x hx
  obtain ⟨sy, ey⟩ := valid_encode y hy
  unfold compareUTF16 utf16
  have := go_encode (runes x) (runes y) sx sy x.length (by rw [ex]; exact Nat.le_refl _)
  rw [ex, ey] at this
  exact this

theorem utf16_inj {x y : Bytes} (hx : valid x = true) (hy : valid y = true) (h : utf16 x = utf16 y) : x = y := by
  obtain ⟨sx, ex⟩ := valid_encode x hx
  obtain ⟨sy, ey⟩ := valid_encode y hy
  rw [← ex, ← ey, units_inj sx sy h]

end JsonV.Lemmas.CmpL
