/-
Termination of `makeStructFields` on every (also recursive) type graph: the level-by-level search with fuel
`g.length + 2` always ends with an empty queue.  Each level either queues a visiting entry for a struct type
that was not seen before (the number of unseen types drops) or queues nothing that can queue anything.
-/
import JsonV.Lemmas.FieldsStep
import JsonV.Lemmas.FieldsCount

namespace JsonV.Lemmas.Fields
open JsonV JsonV.Model JsonV.Model.Fields

/-- Queue entries that can still queue something: visiting and in range. -/
def vcount (n : Nat) (l : List QE) : Nat := l.countP fun e => decide (e.visit = true ∧ e.sid < n)

/-- The measure of the search: the unseen struct types in range plus the queue entries that can still queue something. -/
def W (n : Nat) (s : St) : Nat := U n s.seen + vcount n s.queue

theorem W_orErr (n : Nat) (s : St) (e : Option Err) : W n (s.orErr e) = W n s := by
  rw [orErr_eq]
  rfl

theorem W_applyAction (n : Nat) (qe : QE) (i : Nat) (a : Action) (s : St) : W n (applyAction qe i a s) ≤ W n s := by
  cases a with
  | skip => exact Nat.le_refl _
  | fallback o => exact Nat.le_refl _
  | field o => exact Nat.le_refl _
  | enqueue t =>
    cases hc : s.seen.contains t with
    | true =>
      have hm : t ∈ s.seen := by simpa using hc
      cases hv : qe.visit <;> simp [W, enqueue_queue, enqueue_seen, hv, hm, vcount, List.countP_append, List.countP_cons]
    | false =>
      have hm : t ∉ s.seen := by simpa using hc
      by_cases hlt : t < n
      · have hU := U_cons_new n t s.seen hlt hc
        cases hv : qe.visit <;> simp [W, enqueue_queue, enqueue_seen, hv, hm, vcount, List.countP_append, List.countP_cons, hlt] <;> omega
      · have hU := U_cons_eq n t s.seen (.inl (Nat.le_of_not_lt hlt))
        cases hv : qe.visit <;> simp [W, enqueue_queue, enqueue_seen, hv, hm, vcount, List.countP_append, List.countP_cons, hlt, hU]

theorem queue_applyAction_novisit (qe : QE) (i : Nat) (a : Action) (s : St) (hv : qe.visit = false) :
    (applyAction qe i a s).queue = s.queue := by
  cases a with
  | enqueue t => rw [enqueue_queue, hv]; rfl
  | _ => rfl

theorem W_processLevel (g : Graph) (F : List QE) (s : St) : W g.length (processLevel g F s) ≤ W g.length s :=
  processLevel_preserves (I := fun s' => W g.length s' ≤ W g.length s) g (fun s' e h => by rwa [W_orErr]) F s
    (fun qe _ i a s' h => Nat.le_trans (W_applyAction _ qe i a s') h) (Nat.le_refl _)

theorem queue_processStruct_idle (g : Graph) (qe : QE) (s : St) (h : ¬ (qe.visit = true ∧ qe.sid < g.length)) :
    (processStruct g qe s).queue = s.queue := by
  by_cases hv : qe.visit = true
  · have hr : ¬ qe.sid < g.length := fun hlt => h ⟨hv, hlt⟩
    have : g.fieldsOf qe.sid = [] := by
      unfold Graph.fieldsOf
      simp [List.getD, List.getElem?_eq_none (Nat.le_of_not_lt hr)]
    obtain ⟨e, he⟩ := processStruct_eq g qe s
    rw [he, this, orErr_eq]
    rfl
  · exact processStruct_preserves (I := fun s' => s'.queue = s.queue) g qe (fun s' e h => by rwa [orErr_eq])
      (fun i a s' h => by rwa [queue_applyAction_novisit qe i a s' (by simpa using hv)]) rfl

theorem queue_processLevel_idle (g : Graph) : ∀ (F : List QE) (s : St), vcount g.length F = 0 →
    (processLevel g F s).queue = s.queue
  | [], s, _ => by simp [processLevel]
  | qe :: rest, s, h => by
    have h0 := List.countP_eq_zero.1 h
    simp only [processLevel]
    rw [queue_processLevel_idle g rest _ (List.countP_eq_zero.2 fun e he => h0 e (.tail _ he)),
      queue_processStruct_idle g qe s fun hc => h0 qe (.head _) (decide_eq_true hc)]

/-- Fuel needed from a frontier `F` with `seen`. -/
def need (g : Graph) (F : List QE) (seen : List StructId) : Nat :=
  if vcount g.length F = 0 then 1 else U g.length seen + 2

theorem bfs_fuel (g : Graph) : ∀ (fuel : Nat) (F : List QE) (s : St),
    (F = [] → s.queue = []) → need g F s.seen ≤ fuel → (bfs g fuel F s).queue = []
  | 0, F, s, _, hn => by
    unfold need at hn; split at hn <;> omega
  | fuel + 1, [], s, hF, _ => by simp [bfs, hF rfl]
  | fuel + 1, qe :: rest, s, _, hn => by
    simp only [bfs]
    let s' := processLevel g (qe :: rest) { s with queue := [] }
    have hW : W g.length s' ≤ W g.length { s with queue := [] } := W_processLevel g _ _
    simp only [W, show vcount g.length [] = 0 from rfl, Nat.add_zero] at hW
    by_cases hv : vcount g.length (qe :: rest) = 0
    · have hq : s'.queue = [] := queue_processLevel_idle g _ _ hv
      show (bfs g fuel s'.queue s').queue = []
      rw [hq]
      cases fuel <;> simp [bfs, hq]
    · have hn' : U g.length s.seen + 2 ≤ fuel + 1 := by
        unfold need at hn; rw [if_neg hv] at hn; exact hn
      apply bfs_fuel g fuel s'.queue s' (fun h => h)
      unfold need
      split
      · omega
      · rename_i hv'
        have : U g.length s'.seen + 1 ≤ U g.length s.seen := by
          have : 0 < vcount g.length s'.queue := Nat.pos_of_ne_zero hv'
          omega
        omega

theorem search_queue_nil (g : Graph) (root : StructId) : (search g root).queue = [] := by
  unfold search
  apply bfs_fuel
  · intro h; cases h
  · unfold need
    have : U g.length ({ seen := [root] } : St).seen ≤ g.length := U_le g.length [root]
    split <;> omega

end JsonV.Lemmas.Fields
