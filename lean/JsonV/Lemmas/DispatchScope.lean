/-
Lemmas for C17 `options_visible` and `reset_panics`, on C19's scope machinery (Model/Scope.lean, Lemmas/ScopeL.lean).
`exec g a s` runs a callee tree on the one option struct of the coder; `observe` and `userPoints` list what the user code
inside such a tree gets to see of it.  In every clause the struct handed down is the argument of `exec g body` in the
corresponding closed form (`user_closed`, `member_closed`, `call_closed`).
-/
import JsonV.Model.Scope
import JsonV.Lemmas.ScopeL

namespace JsonV.Lemmas.DispatchScope
open JsonV.Model JsonV.Model.Scope JsonV.Gen JsonV.Lemmas.FlagsL JsonV.Lemmas.ScopeL

/-- `xe.Flags.Set(jsonflags.WithinArshalCall | 1)`: the struct user code runs with. -/
def withinSet (s : Struct) : Struct := { s with flags := s.flags.set (bv (jsonflags.c_WithinArshalCall + 1)) }

/-- The option struct at the entry of every user call of the tree, in execution order. -/
def observe (g : Bool) : Act → Struct → List Struct
  | .skip, _ => []
  | .fail _, _ => []
  | .clear _, _ => []
  | .seq a b, s => observe g a s ++ (if (exec g a s).2.isFatal then [] else observe g b (exec g a s).1)
  | .user body, s => withinSet s :: observe g body (withinSet s)
  | .member _ str fmt body, s => observe g body (tagged str fmt s)
  | .call mar opts nn body, s =>
    match effective g mar opts nn s with
    | some s' => observe g body s'
    | none => []

/-- The states at the sequence boundaries of an act: where the code that runs it has control. -/
def bounds (g : Bool) : Act → Struct → List Struct
  | .seq a b, s => bounds g a s ++ (if (exec g a s).2.isFatal then [] else bounds g b (exec g a s).1)
  | a, s => [s, (exec g a s).1]

/-- The option struct at every moment some user code holds the coder. -/
def userPoints (g : Bool) : Act → Struct → List Struct
  | .skip, _ => []
  | .fail _, _ => []
  | .clear _, _ => []
  | .seq a b, s => userPoints g a s ++ (if (exec g a s).2.isFatal then [] else userPoints g b (exec g a s).1)
  | .user body, s => bounds g body (withinSet s) ++ userPoints g body (withinSet s)
  | .member _ str fmt body, s => userPoints g body (tagged str fmt s)
  | .call mar opts nn body, s =>
    match effective g mar opts nn s with
    | some s' => userPoints g body s'
    | none => []

theorem withinSet_bits (s : Struct) (i : Nat) :
    (withinSet s).flags.presence.getLsbD i = (s.flags.presence.getLsbD i || decide (i = 3)) ∧
    (withinSet s).flags.values.getLsbD i = (s.flags.values.getLsbD i || decide (i = 3)) := by
  have h := set_within_bits s.flags (bv (jsonflags.c_WithinArshalCall + 1)) (fun i h0 => by simp [bits_withinSet, h0]) i
  refine ⟨h.1, h.2.trans ?_⟩
  by_cases h3 : i = 3 <;> simp [h3, bits_withinSet]

/-- `Reset` panics iff `Flags.Get(WithinArshalCall)` (jsontext/encode.go:107, decode.go:138). -/
def resetPanics (s : Struct) : Bool := s.flags.get (bv jsonflags.c_WithinArshalCall)

theorem resetPanics_eq (s : Struct) : resetPanics s = s.flags.values.getLsbD 3 := get_within s.flags

theorem resetPanics_withinSet (s : Struct) : resetPanics (withinSet s) = true := by
  rw [resetPanics_eq, (withinSet_bits s 3).2]; simp

/-- No callee tree changes the VALUE of WithinArshalCall (this is `Frame.vals` at bit 3). -/
theorem resetPanics_exec (g : Bool) (a : Act) (s : Struct) : resetPanics (exec g a s).1 = resetPanics s := by
  rw [resetPanics_eq, resetPanics_eq]
  exact (exec_frame g a s).vals 3 (by decide) (by decide)

/-- What stays the same below a call: everything except bits 3, 27, 28 and `Format`. -/
structure SameOff (s s' : Struct) : Prop where
  indent : s'.indent = s.indent
  indentPrefix : s'.indentPrefix = s.indentPrefix
  byteLimit : s'.byteLimit = s.byteLimit
  depthLimit : s'.depthLimit = s.depthLimit
  marshalers : s'.marshalers = s.marshalers
  unmarshalers : s'.unmarshalers = s.unmarshalers
  pres : ∀ i, i ≠ 3 → i ≠ 27 → i ≠ 28 → s'.flags.presence.getLsbD i = s.flags.presence.getLsbD i
  vals : ∀ i, i ≠ 3 → i ≠ 27 → i ≠ 28 → s'.flags.values.getLsbD i = s.flags.values.getLsbD i

theorem SameOff.refl (s : Struct) : SameOff s s := ⟨rfl, rfl, rfl, rfl, rfl, rfl, fun _ _ _ _ => rfl, fun _ _ _ _ => rfl⟩

theorem SameOff.trans {a b c : Struct} (h1 : SameOff a b) (h2 : SameOff b c) : SameOff a c :=
  ⟨h2.indent.trans h1.indent, h2.indentPrefix.trans h1.indentPrefix, h2.byteLimit.trans h1.byteLimit,
   h2.depthLimit.trans h1.depthLimit, h2.marshalers.trans h1.marshalers, h2.unmarshalers.trans h1.unmarshalers,
   fun i a b c => (h2.pres i a b c).trans (h1.pres i a b c), fun i a b c => (h2.vals i a b c).trans (h1.vals i a b c)⟩

theorem SameOff.of_frame {s s' : Struct} (h : Frame s s') : SameOff s s' :=
  ⟨h.indent, h.indentPrefix, h.byteLimit, h.depthLimit, h.marshalers, h.unmarshalers, h.pres, fun i _ b c => h.vals i b c⟩

theorem sameOff_withinSet (s : Struct) : SameOff s (withinSet s) := by
  refine ⟨rfl, rfl, rfl, rfl, rfl, rfl, ?_, ?_⟩
  · intro i h3 _ _; rw [(withinSet_bits s i).1]; simp [h3]
  · intro i h3 _ _; rw [(withinSet_bits s i).2]; simp [h3]

theorem sameOff_tagged (str : Bool) (fmt : Bytes) (s : Struct) : SameOff s (tagged str fmt s) := by
  obtain ⟨h1, h2, h3, h4, h5, h6⟩ := tagged_nonflag str fmt s
  exact ⟨h1, h2, h3, h4, h5, h6, fun i _ h27 h28 => (tagged_bits str fmt s i h27 h28).1,
    fun i _ h27 h28 => (tagged_bits str fmt s i h27 h28).2⟩

/-- A callee tree without a nested MarshalEncode/UnmarshalDecode call (such a call starts a new scope, see
`Props.C17.options_visible_call`). -/
inductive NoCall : Act → Prop where
  | skip : NoCall .skip
  | fail (f : Bool) : NoCall (.fail f)
  | clear (k : ClearKind) : NoCall (.clear k)
  | seq {a b : Act} : NoCall a → NoCall b → NoCall (.seq a b)
  | user {body : Act} : NoCall body → NoCall (.user body)
  | member (mar str : Bool) (fmt : Bytes) {body : Act} : NoCall body → NoCall (.member mar str fmt body)

/-- `(root, seen)`: `seen` is the struct at the entry of a user call, `root` the struct the body of the innermost
MarshalEncode/UnmarshalDecode call with options of its own around it started with (or the struct the tree started with). -/
def observeS (g : Bool) : Act → Struct → Struct → List (Struct × Struct)
  | .skip, _, _ => []
  | .fail _, _, _ => []
  | .clear _, _, _ => []
  | .seq a b, r, s => observeS g a r s ++ (if (exec g a s).2.isFatal then [] else observeS g b r (exec g a s).1)
  | .user body, r, s => (r, withinSet s) :: observeS g body r (withinSet s)
  | .member _ str fmt body, r, s => observeS g body r (tagged str fmt s)
  | .call mar opts nn body, r, s =>
    if (callOpts g opts).isEmpty then observeS g body r s      -- no options: the same scope goes on
    else match effective g mar opts nn s with
      | some s0 => observeS g body s0 s0                        -- a new scope: the effective options of this call
      | none => []

theorem observeS_sameOff (g : Bool) (a : Act) : ∀ r s, SameOff r s → ∀ p ∈ observeS g a r s, SameOff p.1 p.2 := by
  induction a with
  | skip | fail _ | clear _ => intro r s _ p h; simp [observeS] at h
  | seq a b iha ihb =>
    intro r s hrs p h
    simp only [observeS, List.mem_append] at h
    rcases h with h | h
    · exact iha r s hrs p h
    · split at h
      · simp at h
      · exact ihb r _ (hrs.trans (SameOff.of_frame (exec_frame g a s))) p h
  | user body ih =>
    intro r s hrs p h
    simp only [observeS, List.mem_cons] at h
    rcases h with h | h
    · subst h; exact hrs.trans (sameOff_withinSet s)
    · exact ih r _ (hrs.trans (sameOff_withinSet s)) p h
  | member mar str fmt body ih =>
    intro r s hrs p h
    simp only [observeS] at h
    exact ih r _ (hrs.trans (sameOff_tagged str fmt s)) p h
  | call mar opts nn body ih =>
    intro r s hrs p h
    simp only [observeS] at h
    split at h
    · exact ih r s hrs p h
    · split at h
      · exact ih _ _ (SameOff.refl _) p h
      · simp at h

theorem observeS_of_noCall (g : Bool) {a : Act} (hn : NoCall a) : ∀ r s, observeS g a r s = (observe g a s).map (r, ·) := by
  induction hn with
  | skip | fail _ | clear _ => intro r s; rfl
  | seq _ _ iha ihb => intro r s; simp only [observe, observeS, iha, ihb, List.map_append]; split <;> rfl
  | user _ ih => intro r s; simp only [observe, observeS, ih, List.map_cons]
  | member mar str fmt _ ih => intro r s; simp only [observe, observeS, ih]

theorem observe_sameOff (g : Bool) (a : Act) (hn : NoCall a) (s s' : Struct) (h : s' ∈ observe g a s) : SameOff s s' :=
  observeS_sameOff g a s s (.refl s) (s, s') (observeS_of_noCall g hn s s ▸ List.mem_map_of_mem h)

/-- A flag word that names none of WithinArshalCall, StringTag, FormatTag. -/
def OffWord (f : BitVec 64) : Prop := f.getLsbD 3 = false ∧ f.getLsbD 27 = false ∧ f.getLsbD 28 = false

instance (f : BitVec 64) : Decidable (OffWord f) := by unfold OffWord; infer_instance

theorem offWord_ne {f : BitVec 64} (h : OffWord f) (i : Nat) (hi : f.getLsbD i = true) : i ≠ 3 ∧ i ≠ 27 ∧ i ≠ 28 := by
  refine ⟨?_, ?_, ?_⟩ <;> (intro e; subst e)
  · rw [h.1] at hi; cases hi
  · rw [h.2.1] at hi; cases hi
  · rw [h.2.2] at hi; cases hi

theorem get_sameOff {s s' : Struct} (h : SameOff s s') (f : BitVec 64) (hf : OffWord f) : s'.flags.get f = s.flags.get f := by
  unfold Flags.get
  rw [and_congr_bits s'.flags.values s.flags.values f]
  intro i hi
  obtain ⟨a, b, c⟩ := offWord_ne hf i hi
  exact h.vals i a b c

theorem has_sameOff {s s' : Struct} (h : SameOff s s') (f : BitVec 64) (hf : OffWord f) : s'.flags.has f = s.flags.has f := by
  unfold Flags.has
  rw [and_congr_bits s'.flags.presence s.flags.presence f]
  intro i hi
  obtain ⟨a, b, c⟩ := offWord_ne hf i hi
  exact h.pres i a b c

/-- Keys whose `GetOption` answer does not involve the internal flags: every public setter except that
StringifyNumbers additionally reads the `string` tag of the enclosing struct member (options.go:89, documented:
"the string option specifies that StringifyNumbers be set"). -/
def PlainKey : Key → Prop
  | .flag f => OffWord f ∧ (f == F.stringifyNumbers) = false
  | _ => True

theorem getOption_sameOff {s s' : Struct} (h : SameOff s s') (k : Key) (hk : PlainKey k) : s'.getOption k = s.getOption k := by
  cases k with
  | flag f =>
    obtain ⟨hw, hs⟩ := hk
    simp only [Struct.getOption, get_sameOff h f hw, has_sameOff h f hw, hs, Bool.false_and, Bool.and_false]
  | formatTagSupport =>
    have hw : OffWord F.formatTagSupported := by decide
    simp only [Struct.getOption, get_sameOff h _ hw, has_sameOff h _ hw]
  | indent => simp only [Struct.getOption, has_sameOff h _ (by decide : OffWord F.indent), h.indent]
  | indentPrefix => simp only [Struct.getOption, has_sameOff h _ (by decide : OffWord F.indentPrefix), h.indentPrefix]
  | byteLimit => simp only [Struct.getOption, has_sameOff h _ (by decide : OffWord F.byteLimit), h.byteLimit]
  | depthLimit => simp only [Struct.getOption, has_sameOff h _ (by decide : OffWord F.depthLimit), h.depthLimit]
  | marshalers => simp only [Struct.getOption, has_sameOff h _ (by decide : OffWord F.marshalers), h.marshalers]
  | unmarshalers => simp only [Struct.getOption, has_sameOff h _ (by decide : OffWord F.unmarshalers), h.unmarshalers]

/-- StringifyNumbers itself: outside a `string` member it reads as in the call's options; inside one it may read
`(true, true)` instead — never anything else. -/
theorem getOption_stringify {s s' : Struct} (h : SameOff s s') :
    s'.getOption (.flag F.stringifyNumbers) = (if !s'.flags.has F.stringifyNumbers && s'.flags.get F.stringTag then (.bool true, true)
      else (.bool (s.flags.get F.stringifyNumbers), s.flags.has F.stringifyNumbers)) := by
  have hw : OffWord F.stringifyNumbers := by decide
  simp only [Struct.getOption, get_sameOff h _ hw, has_sameOff h _ hw, beq_self_eq_true, Bool.and_true]

theorem resetPanics_tagged (str : Bool) (fmt : Bytes) (s : Struct) : resetPanics (tagged str fmt s) = resetPanics s := by
  rw [resetPanics_eq, resetPanics_eq]
  exact (tagged_bits str fmt s 3 (by decide) (by decide)).2

theorem bounds_resetPanics (g : Bool) (a : Act) : ∀ s, resetPanics s = true → ∀ s' ∈ bounds g a s, resetPanics s' = true := by
  induction a with
  | seq a b iha ihb =>
    intro s hs s' h
    simp only [bounds, List.mem_append] at h
    rcases h with h | h
    · exact iha s hs s' h
    · split at h
      · simp at h
      · exact ihb _ ((resetPanics_exec g a s).trans hs) s' h
  | skip | fail _ | clear _ | user _ _ | member _ _ _ _ _ | call _ _ _ _ _ =>
    intro s hs s' h
    simp only [bounds, List.mem_cons, List.not_mem_nil, or_false] at h
    rcases h with h | h
    · rw [h]; exact hs
    · rw [h, resetPanics_exec]; exact hs

/-- At every moment user code holds the coder, `Reset` panics — whatever the tree: nested user calls (the flag is set
again on entry and NOT cleared when the nested call returns), struct members, nested MarshalEncode/
UnmarshalDecode calls with or without options. -/
theorem userPoints_resetPanics (g : Bool) (a : Act) : ∀ s, ∀ s' ∈ userPoints g a s, resetPanics s' = true := by
  induction a with
  | skip | fail _ | clear _ => intro s s' h; simp [userPoints] at h
  | seq a b iha ihb =>
    intro s s' h
    simp only [userPoints, List.mem_append] at h
    rcases h with h | h
    · exact iha s s' h
    · split at h
      · simp at h
      · exact ihb _ s' h
  | user body ih =>
    intro s s' h
    simp only [userPoints, List.mem_append] at h
    rcases h with h | h
    · exact bounds_resetPanics g _ _ (resetPanics_withinSet s) s' h
    · exact ih _ s' h
  | member mar str fmt body ih =>
    intro s s' h
    simp only [userPoints] at h
    exact ih _ s' h
  | call mar opts nn body ih =>
    intro s s' h
    simp only [userPoints] at h
    split at h
    · exact ih _ s' h
    · simp at h

end JsonV.Lemmas.DispatchScope
