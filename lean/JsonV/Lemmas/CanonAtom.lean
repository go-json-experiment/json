/-
Facts about the re-spelling of single literals in Model/Canon.lean, from the theorems of slices C11 (strings)
and C10 (numbers): the number step is `reformat_cases` of Lemmas/NumReformat with both flags set.
-/
import JsonV.Model.Canon
import JsonV.Props.C11
import JsonV.Props.C10
import JsonV.Lemmas.NumReformat

namespace JsonV.Lemmas.CanonAtom
open JsonV JsonV.Canon JsonV.Model JsonV.Model.Utf8 JsonV.Model.Quote JsonV.Spec.StringSpec
open JsonV.Fmt
open JsonV.Model.Number

theorem canonStr_minimal (lit : Bytes) : canonStr lit = canonQuote (unq lit) :=
  JsonV.Props.C11.quote_minimal {} (unq lit) rfl rfl

theorem strOK_iff (lit : Bytes) : strOK lit = true ↔ (appendUnquote lit).2 = Err.ok ∧ valid (unq lit) = true := by
  simp [strOK]

theorem unquote_canonStr (lit : Bytes) (h : strOK lit = true) : appendUnquote (canonStr lit) = (unq lit, Err.ok) :=
  (JsonV.Props.C11.unquote_quote {} (unq lit)
    (JsonV.Props.C11.wellFormed_of_valid _ ((strOK_iff lit).mp h).2)).1

theorem unq_canonStr (lit : Bytes) (h : strOK lit = true) : unq (canonStr lit) = unq lit := by
  show (appendUnquote (canonStr lit)).1 = unq lit
  rw [unquote_canonStr lit h]

theorem strOK_canonStr (lit : Bytes) (h : strOK lit = true) : strOK (canonStr lit) = true := by
  rw [strOK_iff, unq_canonStr lit h, unquote_canonStr lit h]
  exact ⟨rfl, ((strOK_iff lit).mp h).2⟩

theorem canonStr_idem (lit : Bytes) (h : strOK lit = true) : canonStr (canonStr lit) = canonStr lit := by
  show (appendQuote {} (unq (canonStr lit))).1 = canonStr lit
  rw [unq_canonStr lit h]; rfl

theorem canonStr_congr (a b : Bytes) (h : unq a = unq b) : canonStr a = canonStr b := by
  unfold canonStr; rw [h]

theorem canonStr_of_meaning (a b m : Bytes) (ha : StringLiteral a m) (hb : StringLiteral b m) : canonStr a = canonStr b := by
  apply canonStr_congr
  unfold unq
  rw [JsonV.Props.C11.unquote_meaning a m ha, JsonV.Props.C11.unquote_meaning b m hb]

theorem canonNum_eq (fp : FloatCodec) (lit : Bytes) :
    canonNum fp lit = if shortInt lit then lit else fp.append (numValue fp lit) :=
  (NumReformat.reformat_cases fp true true lit).trans (by rw [NumReformat.verbatimB_on])

theorem append_ecma (fp : FloatCodec) (f : Fl)
    (h : JsonV.Lemmas.NumFloat.WFD (fp.shortest f).1 (fp.shortest f).2) :
    fp.append f = JsonV.Spec.Ecma.numberToString f.neg (fp.shortest f).1 (fp.shortest f).2 :=
  JsonV.Props.C10.float_layout f.neg _ _ h

theorem canonAtom_cases (fp : FloatCodec) (k : Fmt.Tok) :
    (∃ lit, k = .str lit) ∨ (∃ lit, k = .num lit) ∨ canonAtom fp k = k := by
  cases k with
  | str lit => exact .inl ⟨lit, rfl⟩
  | num lit => exact .inr (.inl ⟨lit, rfl⟩)
  | _ => exact .inr (.inr rfl)

theorem canonAtom_eq_str {fp : FloatCodec} {k : Fmt.Tok} {r : Bytes} (e : canonAtom fp k = .str r) :
    ∃ lit, k = .str lit ∧ canonStr lit = r := by
  cases k with
  | str lit => exact ⟨lit, rfl, Fmt.Tok.str.inj e⟩
  | _ => cases e

theorem canonAtom_eq_num {fp : FloatCodec} {k : Fmt.Tok} {r : Bytes} (e : canonAtom fp k = .num r) :
    ∃ lit, k = .num lit ∧ canonNum fp lit = r := by
  cases k with
  | num lit => exact ⟨lit, rfl, Fmt.Tok.num.inj e⟩
  | _ => cases e

theorem canonAtom_idem (fp : FloatCodec) (hn : ∀ lit, canonNum fp (canonNum fp lit) = canonNum fp lit) (k : Fmt.Tok)
    (hs : ∀ lit, k = .str lit → strOK lit = true) : canonAtom fp (canonAtom fp k) = canonAtom fp k := by
  cases k with
  | str lit => exact congrArg Fmt.Tok.str (canonStr_idem lit (hs lit rfl))
  | num lit => exact congrArg Fmt.Tok.num (hn lit)
  | _ => rfl

end JsonV.Lemmas.CanonAtom
