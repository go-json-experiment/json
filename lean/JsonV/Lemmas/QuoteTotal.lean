/-
`needEscape` (NeedEscape, encode.go:35) is sound: a string it clears is quoted verbatim under every flag set.  The two
`panic("BUG: unhandled character")` default branches (AppendUnquote, ConsumeString) are unreachable.
-/
import JsonV.Lemmas.QuoteL

namespace JsonV.Lemmas.QuoteTotal
open JsonV JsonV.Model.Utf8 JsonV.Model.Quote JsonV.Lemmas.QuoteL JsonV.Spec.StringSpec JsonV.Lemmas.QuoteHead

theorem quoteLoop_of_not_needEscape (html js : Bool) (s : Bytes) (h : needEscape s = false) :
    quoteLoop html js s = (s, false) := by
  fun_induction needEscape s with
  | case1 => simp [quoteLoop]
  | case2 c t h0 hesc => simp at h
  | case3 c t h0 hesc ih =>
    have he : escapeASCII c.toNat = 0 := by omega
    rw [quoteLoop, quoteStep_ascii html js t h0, if_neg (fun h => h.1 he)]
    simp only [List.drop_succ_cons, List.drop_zero, ih h]
    simp
  | case4 c t h0 d hsp => simp at h
  | case5 c t h0 d hsp ih =>
    have hn : (decodeRune (c :: t)).1 ≠ runeError ∧ (decodeRune (c :: t)).1 ≠ 0x2028 ∧ (decodeRune (c :: t)).1 ≠ 0x2029 := by
      show d.1 ≠ runeError ∧ d.1 ≠ 0x2028 ∧ d.1 ≠ 0x2029
      omega
    have h1 := (decodeRune_high c t h0).resolve_right fun hb => hn.1 (congrArg Prod.fst hb)
    rw [quoteLoop, quoteStep_multi html js h0 h1, if_neg (fun hj => by have := hj.1; omega)]
    show (List.take d.2 (c :: t) ++ (quoteLoop html js (List.drop d.2 (c :: t))).1, false || (quoteLoop html js (List.drop d.2 (c :: t))).2) = _
    rw [ih h]
    simp

theorem unqStep_ne_bug (src : Bytes) :
    (∀ o k, unqStep src ≠ .cont o k (some .bug)) ∧ (∀ o, unqStep src ≠ .stop o (some .bug)) := by
  rw [unqStep_eq]
  have hs := headOf_shape src
  generalize headOf src = hd at hs
  cases hs with
  | @close t => cases t <;> exact ⟨nofun, nofun⟩
  | _ => exact ⟨nofun, nofun⟩

theorem getD_ne_bug {e' : Option Err} {e : Err} (h' : e' ≠ some .bug) (he : e ≠ .bug) : e'.getD e ≠ .bug := by
  cases e' with
  | none => exact he
  | some x => exact fun hx => h' (congrArg some hx)

theorem unqLoop_no_bug (src : Bytes) (e : Err) (he : e ≠ .bug) : (unqLoop src e).2 ≠ .bug := by
  fun_induction unqLoop src e with
  | case1 src e o e' h =>
    exact getD_ne_bug (fun hb => (unqStep_ne_bug src).2 o (by rw [h, hb])) he
  | case2 src e o k e' h r ih =>
    exact ih (getD_ne_bug (fun hb => (unqStep_ne_bug src).1 o k (by rw [h, hb])) he)

theorem appendUnquote_no_bug (src : Bytes) : (appendUnquote src).2 ≠ .bug := by
  simp only [appendUnquote]
  split
  · simp
  · split
    · exact unqLoop_no_bug _ _ (by simp)
    · simp

theorem csStep_ne_bug (v : Bool) (src : Bytes) (off : Nat) (nc : Bool) : csStep v src ≠ .stop off .bug nc := by
  rw [csStep_eq]
  have hs := headOf_shape src
  generalize headOf src = hd at hs
  cases hs <;> cases v <;> nofun

theorem csLoop_no_bug (v : Bool) (src : Bytes) (n : Nat) (nc : Bool) : (csLoop v src n nc).2.1 ≠ .bug := by
  fun_induction csLoop v src n nc with
  | case1 src n nc off e nc' h =>
    exact fun (hb : e = .bug) => csStep_ne_bug v src off nc' (by rw [h, hb])
  | case2 src n nc k nc' h ih => exact ih

theorem consumeString_no_bug (v : Bool) (b : Bytes) : (consumeString v b).2.1 ≠ .bug := by
  simp only [consumeString]
  split
  · simp
  · split
    · exact csLoop_no_bug _ _ _ _
    · simp

end JsonV.Lemmas.QuoteTotal
