/-
One unfolding of `reformatValue`, `objectLoop` and `arrayLoop` (Model/Encoder.lean): the equation of
`reformatValue` for each kind of first byte, and for the two loops the exact condition under which an
iteration with fuel `f + 1` succeeds, in terms of the calls with fuel `f`.  The inductions over these three
functions (the rendering of raw values in EncRaw, the two simulations with the decoder-side validator in
EncValid) start from these and never unfold the model again.
-/
import JsonV.Lemmas.EncRender

namespace JsonV.Lemmas.EncReformat
open JsonV JsonV.Model JsonV.Model.Encoder JsonV.Spec.Render JsonV.Lemmas.EncRender

variable {o : Opts} {f : Nat} {dst : Bytes} {c : UInt8} {s : Bytes} {d : Nat}

/-- The indentation `reformatValue` writes at depth `k` (nothing unless Multiline). -/
def ind (o : Opts) (k : Nat) : Bytes := if o.multiline then indentBytes o k else []
/-- The space after a colon, if the options ask for one; `spComma` likewise. -/
def spColon (o : Opts) : Bytes := if o.spaceAfterColon then [0x20] else []
def spComma (o : Opts) : Bytes := if o.spaceAfterComma then [0x20] else []

theorem ind_eq (o : Opts) (dst : Bytes) (k : Nat) :
    (if o.multiline then appendIndent o dst k else dst) = dst ++ ind o k := by
  unfold ind; split <;> simp [appendIndent_eq]

theorem ind_zero (o : Opts) : ind o 0 = [] := by unfold ind indentBytes; split <;> simp

theorem colon_eq (o : Opts) (dst : Bytes) :
    (if o.spaceAfterColon = true then dst ++ [0x3a] ++ [0x20] else dst ++ [0x3a]) = dst ++ 0x3a :: spColon o := by
  unfold spColon; split <;> simp

theorem comma_eq (o : Opts) (dst : Bytes) :
    (if o.spaceAfterComma = true then dst ++ [0x2c] ++ [0x20] else dst ++ [0x2c]) = dst ++ 0x2c :: spComma o := by
  unfold spComma; split <;> simp

theorem scanLiteral_ok_iff {src lit r : Bytes} :
    scanLiteral src lit = .ok r ↔ ∃ n, Validate.valueLiteral lit src = (n, .ok) ∧ r = src.drop n := by
  unfold scanLiteral
  rcases Validate.valueLiteral lit src with ⟨n, e⟩
  by_cases he : e = .ok
  · subst he
    simp only [if_true, Except.ok.injEq, Prod.mk.injEq, and_true, exists_eq_left', eq_comm]
  · simp only [if_neg he, Prod.mk.injEq, reduceCtorEq, false_iff, not_exists, not_and]
    exact fun _ h => absurd h.2 he

theorem scanNumber_ok_iff {src t r : Bytes} :
    scanNumber src = .ok (t, r) ↔ ∃ n, Validate.valueNumber src = (n, .ok) ∧ t = src.take n ∧ r = src.drop n := by
  unfold scanNumber
  rcases Validate.valueNumber src with ⟨n, e⟩
  by_cases he : e = .ok
  · subst he
    simp only [if_true, Except.ok.injEq, Prod.mk.injEq, and_true, exists_eq_left', eq_comm]
  · simp only [if_neg he, Prod.mk.injEq, reduceCtorEq, false_iff, not_exists, not_and]
    exact fun _ h => absurd h.2 he

theorem reformatString_ok_iff {src q name r : Bytes} :
    reformatString o src = .ok (q, name, r) ↔
      ∃ n fl, Validate.valueString (vopts o) src = (n, fl, .ok) ∧
        name = Validate.unescapedName (src.take n) fl ∧ q = (appendQuote o name).1 ∧ r = src.drop n := by
  unfold reformatString
  rcases Validate.valueString (vopts o) src with ⟨n, fl, e⟩
  by_cases he : e = .ok
  · subst he
    simp only [if_true, Except.ok.injEq, Prod.mk.injEq, and_true]
    constructor
    · rintro ⟨h1, h2, h3⟩; exact ⟨n, fl, ⟨rfl, rfl⟩, h2.symm, by rw [← h1, h2], h3.symm⟩
    · rintro ⟨_, _, ⟨rfl, rfl⟩, h2, h1, h3⟩; exact ⟨by rw [h1, h2], h2.symm, h3.symm⟩
  · simp only [if_neg he, Prod.mk.injEq, reduceCtorEq, false_iff, not_exists, not_and]
    exact fun _ _ h => absurd h.2.2 he

/-- The seven kinds a value can start with. -/
def IsValueKind (k : UInt8) : Prop :=
  k = 0x6e ∨ k = 0x66 ∨ k = 0x74 ∨ k = 0x22 ∨ k = 0x30 ∨ k = 0x7b ∨ k = 0x5b

theorem reformatValue_zero : reformatValue o 0 dst s d = .error .bug := rfl
theorem objectLoop_zero {names : List Bytes} : objectLoop o 0 dst s d names = .error .bug := rfl
theorem arrayLoop_zero : arrayLoop o 0 dst s d = .error .bug := rfl

theorem reformatValue_null (hk : normKind c = 0x6e) :
    reformatValue o (f + 1) dst (c :: s) d =
      (scanLiteral (c :: s) [0x6e, 0x75, 0x6c, 0x6c]).map fun r => (dst ++ [0x6e, 0x75, 0x6c, 0x6c], r) := by
  simp [reformatValue, hk]

theorem reformatValue_false (hk : normKind c = 0x66) :
    reformatValue o (f + 1) dst (c :: s) d =
      (scanLiteral (c :: s) [0x66, 0x61, 0x6c, 0x73, 0x65]).map fun r => (dst ++ [0x66, 0x61, 0x6c, 0x73, 0x65], r) := by
  simp [reformatValue, hk]

theorem reformatValue_true (hk : normKind c = 0x74) :
    reformatValue o (f + 1) dst (c :: s) d =
      (scanLiteral (c :: s) [0x74, 0x72, 0x75, 0x65]).map fun r => (dst ++ [0x74, 0x72, 0x75, 0x65], r) := by
  simp [reformatValue, hk]

theorem reformatValue_str (hk : normKind c = 0x22) :
    reformatValue o (f + 1) dst (c :: s) d = (reformatString o (c :: s)).map fun (q, _, r) => (dst ++ q, r) := by
  simp [reformatValue, hk]

theorem reformatValue_num (hk : normKind c = 0x30) :
    reformatValue o (f + 1) dst (c :: s) d = (scanNumber (c :: s)).map fun (n, r) => (dst ++ n, r) := by
  simp [reformatValue, hk]

/-- The shape shared by the object and the array case of `reformatValue`. -/
theorem container_ok_iff {cls : UInt8} {opn : Bytes} {loop : UInt8 → Bytes → Except EncErr (Bytes × Bytes)}
    {dst' rest : Bytes} :
    (if d = o.maxDepth + 1 then Except.error (EncErr.sm .maxDepth) else
      match skipWS s with
      | [] => .error .unexpectedEOF
      | c1 :: r1 => if c1 = cls then .ok (opn ++ [cls], r1) else loop c1 r1) = .ok (dst', rest) ↔
    d ≠ o.maxDepth + 1 ∧ ∃ c1 r1, skipWS s = c1 :: r1 ∧
      (c1 = cls ∧ dst' = opn ++ [cls] ∧ rest = r1 ∨ c1 ≠ cls ∧ loop c1 r1 = .ok (dst', rest)) := by
  by_cases hd : d = o.maxDepth + 1
  · rw [if_pos hd]
    exact ⟨nofun, fun h => absurd hd h.1⟩
  rw [if_neg hd]
  cases hs : skipWS s with
  | nil => exact ⟨nofun, fun ⟨_, _, _, h, _⟩ => nomatch h⟩
  | cons c1 r1 =>
    simp only
    by_cases hc : c1 = cls
    · rw [if_pos hc]
      constructor
      · intro h
        simp only [Except.ok.injEq, Prod.mk.injEq] at h
        exact ⟨hd, c1, r1, rfl, Or.inl ⟨hc, h.1.symm, h.2.symm⟩⟩
      · rintro ⟨_, _, _, he, h | h⟩ <;> cases he
        · rw [h.2.1, h.2.2]
        · exact absurd hc h.1
    · rw [if_neg hc]
      constructor
      · intro h; exact ⟨hd, c1, r1, rfl, Or.inr ⟨hc, h⟩⟩
      · rintro ⟨_, _, _, he, h | h⟩ <;> cases he
        · exact absurd h.1 hc
        · exact h.2

theorem reformatValue_obj_ok_iff (hk : normKind c = 0x7b) {dst' rest : Bytes} :
    reformatValue o (f + 1) dst (c :: s) d = .ok (dst', rest) ↔
      d ≠ o.maxDepth + 1 ∧ ∃ c1 r1, skipWS s = c1 :: r1 ∧
        (c1 = 0x7d ∧ dst' = dst ++ [0x7b] ++ [0x7d] ∧ rest = r1 ∨
          c1 ≠ 0x7d ∧ objectLoop o f (dst ++ [0x7b]) (c1 :: r1) (d + 1) [] = .ok (dst', rest)) := by
  simp only [reformatValue, hk, List.drop_succ_cons, List.drop_zero]
  exact container_ok_iff (loop := fun c1 r1 => objectLoop o f (dst ++ [0x7b]) (c1 :: r1) (d + 1) [])

theorem reformatValue_arr_ok_iff (hk : normKind c = 0x5b) {dst' rest : Bytes} :
    reformatValue o (f + 1) dst (c :: s) d = .ok (dst', rest) ↔
      d ≠ o.maxDepth + 1 ∧ ∃ c1 r1, skipWS s = c1 :: r1 ∧
        (c1 = 0x5d ∧ dst' = dst ++ [0x5b] ++ [0x5d] ∧ rest = r1 ∨
          c1 ≠ 0x5d ∧ arrayLoop o f (dst ++ [0x5b]) (c1 :: r1) (d + 1) = .ok (dst', rest)) := by
  simp only [reformatValue, hk, List.drop_succ_cons, List.drop_zero]
  exact container_ok_iff (loop := fun c1 r1 => arrayLoop o f (dst ++ [0x5b]) (c1 :: r1) (d + 1))

theorem reformat_ok_kind {fuel : Nat} {src : Bytes} {r : Bytes × Bytes}
    (h : reformatValue o fuel dst src d = .ok r) : ∃ c rest, src = c :: rest ∧ IsValueKind (normKind c) := by
  cases fuel with
  | zero => simp [reformatValue] at h
  | succ fuel =>
    cases src with
    | nil => simp [reformatValue] at h
    | cons c rest =>
      refine ⟨c, rest, rfl, Classical.byContradiction fun hk => ?_⟩
      simp only [IsValueKind, not_or] at hk
      simp [reformatValue, hk] at h

theorem loopEnd_ok_iff {cls c : UInt8} (hcls : cls ≠ 0x2c) {s dst dst' rest : Bytes}
    {next : Except EncErr (Bytes × Bytes)} :
    (if c = 0x2c then next else if c = cls then .ok (dst ++ [cls], s) else .error .invalidChar) = .ok (dst', rest) ↔
      (c = 0x2c ∧ next = .ok (dst', rest) ∨ c = cls ∧ dst' = dst ++ [cls] ∧ rest = s) := by
  by_cases hc : c = 0x2c
  · rw [if_pos hc]
    exact ⟨fun h => Or.inl ⟨hc, h⟩, fun h => h.elim (·.2) fun h => absurd (h.1.symm.trans hc) hcls⟩
  rw [if_neg hc]
  by_cases hc2 : c = cls
  · rw [if_pos hc2]
    simp only [Except.ok.injEq, Prod.mk.injEq]
    exact ⟨fun h => Or.inr ⟨hc2, h.1.symm, h.2.symm⟩,
      fun h => h.elim (fun h => absurd h.1 hc) fun h => ⟨h.2.1.symm, h.2.2.symm⟩⟩
  · rw [if_neg hc2]
    exact ⟨nofun, fun h => h.elim (fun h => absurd h.1 hc) fun h => absurd h.1 hc2⟩

theorem arrayLoop_ok_iff {src dst' rest : Bytes} :
    arrayLoop o (f + 1) dst src d = .ok (dst', rest) ↔
      ∃ c0 s0 dst2 s1 c2 s2, skipWS src = c0 :: s0 ∧
        reformatValue o f (dst ++ ind o d) (c0 :: s0) d = .ok (dst2, s1) ∧ skipWS s1 = c2 :: s2 ∧
        (c2 = 0x2c ∧ arrayLoop o f (dst2 ++ 0x2c :: spComma o) s2 d = .ok (dst', rest) ∨
          c2 = 0x5d ∧ dst' = dst2 ++ ind o (d - 1) ++ [0x5d] ∧ rest = s2) := by
  constructor
  · intro h
    simp only [arrayLoop, ind_eq, comma_eq] at h
    cases hs : skipWS src with
    | nil => rw [hs] at h; cases h
    | cons c0 s0 =>
      rw [hs] at h
      simp only at h
      cases hv : reformatValue o f (dst ++ ind o d) (c0 :: s0) d with
      | error x => rw [hv] at h; cases h
      | ok p =>
        obtain ⟨dst2, s1⟩ := p
        rw [hv] at h
        simp only at h
        cases hw : skipWS s1 with
        | nil => rw [hw] at h; cases h
        | cons c2 s2 =>
          rw [hw] at h
          exact ⟨c0, s0, dst2, s1, c2, s2, rfl, hv, hw, (loopEnd_ok_iff (by decide)).mp h⟩
  · rintro ⟨c0, s0, dst2, s1, c2, s2, hs, hv, hw, h⟩
    simp only [arrayLoop, ind_eq, comma_eq, hs, hv, hw]
    exact (loopEnd_ok_iff (by decide)).mpr h

theorem objectLoop_ok_iff {src dst' rest : Bytes} {names : List Bytes} :
    objectLoop o (f + 1) dst src d names = .ok (dst', rest) ↔
      ∃ c0 s0 q name s1 s2 c3 s3 dst5 s4 c5 s5, skipWS src = c0 :: s0 ∧
        reformatString o (c0 :: s0) = .ok (q, name, s1) ∧ (!o.allowDup && names.contains name) = false ∧
        skipWS s1 = 0x3a :: s2 ∧ skipWS s2 = c3 :: s3 ∧
        reformatValue o f (dst ++ ind o d ++ q ++ 0x3a :: spColon o) (c3 :: s3) d = .ok (dst5, s4) ∧
        skipWS s4 = c5 :: s5 ∧
        (c5 = 0x2c ∧ objectLoop o f (dst5 ++ 0x2c :: spComma o) s5 d
            (if o.allowDup then names else names ++ [name]) = .ok (dst', rest) ∨
          c5 = 0x7d ∧ dst' = dst5 ++ ind o (d - 1) ++ [0x7d] ∧ rest = s5) := by
  constructor
  · intro h
    simp only [objectLoop, ind_eq, comma_eq, colon_eq] at h
    cases hs : skipWS src with
    | nil => rw [hs] at h; cases h
    | cons c0 s0 =>
      rw [hs] at h
      simp only at h
      cases hq : reformatString o (c0 :: s0) with
      | error x => rw [hq] at h; cases h
      | ok p =>
        obtain ⟨q, name, s1⟩ := p
        rw [hq] at h
        simp only at h
        by_cases hdup : (!o.allowDup && names.contains name) = true
        · rw [if_pos hdup] at h; cases h
        rw [if_neg hdup] at h
        cases hw : skipWS s1 with
        | nil => rw [hw] at h; cases h
        | cons c2 s2 =>
          rw [hw] at h
          simp only at h
          by_cases hc : c2 ≠ 0x3a
          · rw [if_pos hc] at h; cases h
          rw [if_neg hc] at h
          cases hw3 : skipWS s2 with
          | nil => rw [hw3] at h; cases h
          | cons c3 s3 =>
            rw [hw3] at h
            simp only at h
            cases hv : reformatValue o f (dst ++ ind o d ++ q ++ 0x3a :: spColon o) (c3 :: s3) d with
            | error x => rw [hv] at h; cases h
            | ok p =>
              obtain ⟨dst5, s4⟩ := p
              rw [hv] at h
              simp only at h
              cases hw5 : skipWS s4 with
              | nil => rw [hw5] at h; cases h
              | cons c5 s5 =>
                rw [hw5] at h
                simp only at h
                exact ⟨c0, s0, q, name, s1, s2, c3, s3, dst5, s4, c5, s5, rfl, hq, Bool.eq_false_iff.mpr hdup,
                  by rw [← Decidable.not_not.mp hc]; exact hw, hw3, hv, hw5, (loopEnd_ok_iff (by decide)).mp h⟩
  · rintro ⟨c0, s0, q, name, s1, s2, c3, s3, dst5, s4, c5, s5, hs, hq, hdup, hw, hw3, hv, hw5, h⟩
    simp only [objectLoop, ind_eq, comma_eq, colon_eq, hs, hq, hdup, hw, hw3, hv, hw5, ne_eq, not_true_eq_false,
      if_false, Bool.false_eq_true]
    exact (loopEnd_ok_iff (by decide)).mpr h

end JsonV.Lemmas.EncReformat
