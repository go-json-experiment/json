/-
Lemmas for C19 "scoped": closed forms of the interpreted scripts (`call_closed`, stated with `effective`, the struct a call's body
runs with; `member_closed`, `user_closed`), the frame relation `Frame` and its induction over `Act` (`exec_frame`), and what the
frame leaves of a struct without tag state (`TagFree`, `eq_of_frame`).
-/
import JsonV.Model.Scope
import JsonV.Lemmas.FlagsL

namespace JsonV.Lemmas.ScopeL
open JsonV.Model JsonV.Model.Scope JsonV.Gen JsonV.Gen.Scope JsonV.Lemmas.FlagsL

theorem step_returned (e : Env) (m : M) (st : Stmt) (h : m.returned = true) : step e m st = m := by
  simp [step, h]

theorem foldl_returned (e : Env) (script : List Stmt) (m : M) (h : m.returned = true) :
    script.foldl (step e) m = m := by
  induction script with
  | nil => rfl
  | cons st t ih => rw [List.foldl_cons, step_returned e m st h, ih]

/-! `MarshalEncode` / `UnmarshalDecode` after `mayAppendSupportFormatTag`, cut into stages.  What a stage does is stated for an
arbitrary machine state, so the scripts are run by composing stages and not statement by statement. -/

/-- Save the coder's struct, defer its restoration, join the call's options into it. -/
def enterS : List Stmt := [⟨[.opts], .saveStruct⟩, ⟨[.opts], .deferRestoreStruct⟩, ⟨[.opts], .joinOpts⟩]
/-- The two guards at an object-name position: the options may not have changed AllowDuplicateNames or AllowInvalidUTF8. -/
def nameGuardS : List Stmt :=
  [⟨[.opts, .needName], .guardGet jsonflags.c_AllowDuplicateNames⟩, ⟨[.opts, .needName], .guardGet jsonflags.c_AllowInvalidUTF8⟩]
/-- The whitespace guard (marshal only): `InitializeMultiline` where Multiline is set, then the whitespace settings must be
the saved struct's. -/
def wsGuardS : List Stmt :=
  [⟨[.opts], .test (.has jsonflags.c_AnyWhitespace)⟩, ⟨[.opts, .reg 0], .test (.get jsonflags.c_Multiline)⟩,
   ⟨[.opts, .reg 0, .reg 1], .initMultiline⟩, ⟨[.opts, .reg 0], .guardWhitespace⟩]
/-- The body of the call, and the return. -/
def bodyS : List Stmt := [⟨[], .body⟩, ⟨[], .transformErr⟩, ⟨[], .ret⟩]

theorem enterS_run (e : Env) (m : M) (hr : m.returned = false) (ho : m.opts.isEmpty = false) :
    enterS.foldl (step e) m = { m with s := m.s.join m.opts, savedStruct := m.s, deferRestore := true } := by
  simp [enterS, step, stepPrim, guardOK, hr, ho]

theorem nameGuardS_run (e : Env) (m : M) (hr : m.returned = false) (ho : m.opts.isEmpty = false) :
    nameGuardS.foldl (step e) m =
      if nameGuardFails e.needName m.savedStruct m.s then { m with err := .err true, returned := true } else m := by
  cases hnn : e.needName
  · simp [nameGuardS, nameGuardFails, step, guardOK, hr, ho, hnn]
  · by_cases h1 : m.savedStruct.flags.get (bv jsonflags.c_AllowDuplicateNames) = m.s.flags.get (bv jsonflags.c_AllowDuplicateNames) <;>
      by_cases h2 : m.savedStruct.flags.get (bv jsonflags.c_AllowInvalidUTF8) = m.s.flags.get (bv jsonflags.c_AllowInvalidUTF8) <;>
      simp [nameGuardS, nameGuardFails, step, stepPrim, guardOK, hr, ho, hnn, h1, h2]

theorem bodyS_run (e : Env) (m : M) (hr : m.returned = false) :
    bodyS.foldl (step e) m = { m with s := (e.child m.s).1, err := (e.child m.s).2, returned := true } := by
  simp [bodyS, step, stepPrim, hr]

theorem wsGuardS_run (e : Env) (m : M) (hr : m.returned = false) (ho : m.opts.isEmpty = false) (hg : m.regs = [])
    (hj : m.s = m.savedStruct.join m.opts) :
    wsGuardS.foldl (step e) m =
      let ws := m.s.flags.has (bv jsonflags.c_AnyWhitespace)
      let m' := { m with s := enterMarshal m.opts m.savedStruct, regs := [ws, ws && m.s.flags.get (bv jsonflags.c_Multiline)] }
      if wsGuardFails m.opts m.savedStruct then { m' with err := .err true, returned := true } else m' := by
  simp only [wsGuardFails, enterMarshal, ← hj]
  cases hw : m.s.flags.has (bv jsonflags.c_AnyWhitespace)
  · simp [wsGuardS, step, stepPrim, guardOK, evalCond, hr, ho, hg, hw]
  · cases hm : m.s.flags.get (bv jsonflags.c_Multiline)
    · cases hc : changedWhitespace m.savedStruct m.s <;>
        simp [wsGuardS, step, stepPrim, guardOK, evalCond, hr, ho, hg, hw, hm, hc]
    · cases hc : changedWhitespace m.savedStruct (initializeMultiline m.s) <;>
        simp [wsGuardS, step, stepPrim, guardOK, evalCond, hr, ho, hg, hw, hm, hc]

/-- `MarshalEncode` / `UnmarshalDecode` with options, after `mayAppendSupportFormatTag`: the two scripts differ in the
whitespace stage only. -/
theorem call_tail_nonempty (e : Env) (mar : Bool) (o : List Opt) (s : Struct) (ho : o ≠ []) :
    runOn e (enterS ++ (nameGuardS ++ ((if mar then wsGuardS else []) ++ bodyS))) o s =
      if nameGuardFails e.needName s (s.join o) then (s, .err true)
      else if mar && wsGuardFails o s then (s, .err true)
      else (s, (e.child (if mar then enterMarshal o s else s.join o)).2) := by
  have he : o.isEmpty = false := by simpa using ho
  simp only [runOn, run, List.foldl_append]
  rw [enterS_run e _ rfl he, nameGuardS_run e _ rfl he]
  by_cases hn : nameGuardFails e.needName s (s.join o)
  · simp [hn, foldl_returned]
  · cases mar
    · simp [hn, bodyS_run]
    · simp only [hn, Bool.false_eq_true, ↓reduceIte]
      rw [wsGuardS_run e _ rfl he rfl rfl]
      by_cases hw : wsGuardFails o s
      · simp [hw, foldl_returned]
      · simp [hw, bodyS_run]

/-- The head of both member scripts: save the flags, then set the member's tag options. -/
def tagS : List Stmt :=
  [⟨[], .saveFlags⟩, ⟨[.str], .set (jsonflags.c_StringTag + 1)⟩, ⟨[.fmt], .set (jsonflags.c_FormatTag + 1)⟩,
   ⟨[.fmt], .assignFormat⟩]

theorem tagS_run (e : Env) (m : M) (hr : m.returned = false) :
    tagS.foldl (step e) m = { m with s := tagged e.str e.fmt m.s, savedFlags := m.s.flags } := by
  cases hs : e.str <;> by_cases hf : e.fmt = [] <;> simp [tagS, tagged, step, stepPrim, guardOK, hr, hs, hf]

theorem member_closed (g mar : Bool) (str : Bool) (fmt : Bytes) (body : Act) (s : Struct) :
    exec g (.member mar str fmt body) s =
      let r := exec g body (tagged str fmt s)
      ({ r.1 with flags := s.flags, format := [] }, r.2) := by
  have hs : (if mar then memberMarshal else memberUnmarshal) =
      tagS ++ [⟨[], .child⟩, ⟨[], .restoreFlags⟩, ⟨[], .clearFormat⟩, ⟨[], if mar then .retIfErr else .retIfFatal⟩] := by
    cases mar <;> rfl
  rw [exec, hs]
  simp only [runOn, run, List.foldl_append]
  rw [tagS_run _ _ rfl]
  cases mar <;> simp [step, stepPrim] <;> split <;> simp

theorem runOn_appendFormatTag (e : Env) (t : List Stmt) (o : List Opt) (s : Struct) :
    runOn e (⟨[], .appendFormatTag⟩ :: t) o s = runOn e t (callOpts e.globalFormatTag o) s := by
  cases hg : e.globalFormatTag <;> simp [runOn, run, step, stepPrim, callOpts, hg]

/-- The struct the body of a MarshalEncode/UnmarshalDecode call runs with, `none` when a guard refuses the call. -/
def _root_.JsonV.Lemmas.DispatchScope.effective (g mar : Bool) (opts : List Opt) (nn : Bool) (s : Struct) : Option Struct :=
  if (callOpts g opts).isEmpty then some s
  else if nameGuardFails nn s (s.join (callOpts g opts)) then none
  else if mar then (if wsGuardFails (callOpts g opts) s then none else some (enterMarshal (callOpts g opts) s))
  else some (enterUnmarshal (callOpts g opts) s)

open JsonV.Lemmas.DispatchScope (effective)

theorem call_closed (g mar : Bool) (opts : List Opt) (nn : Bool) (body : Act) (s : Struct) :
    exec g (.call mar opts nn body) s =
      if (callOpts g opts).isEmpty then exec g body s
      else match effective g mar opts nn s with
        | some s0 => (s, (exec g body s0).2)
        | none => (s, .err true) := by
  rw [exec, show (if mar then marshalEncodeS else unmarshalDecodeS) =
      ⟨[], .appendFormatTag⟩ :: (enterS ++ (nameGuardS ++ ((if mar then wsGuardS else []) ++ bodyS))) by cases mar <;> rfl,
    runOn_appendFormatTag]
  by_cases ho : callOpts g opts = []
  · rw [ho]; cases mar <;> simp [runOn, run, enterS, nameGuardS, wsGuardS, bodyS, step, stepPrim, guardOK]
  · rw [call_tail_nonempty _ _ _ _ ho, effective, show (callOpts g opts).isEmpty = false by simpa using ho]
    dsimp only
    cases nameGuardFails nn s (s.join (callOpts g opts)) <;> cases mar <;>
      first | rfl | (cases wsGuardFails (callOpts g opts) s <;> rfl)

theorem user_closed (g : Bool) (body : Act) (s : Struct) :
    exec g (.user body) s =
      let saved := s.flags.get (bv jsonflags.c_WithinArshalCall)
      let r := exec g body { s with flags := s.flags.set (bv (jsonflags.c_WithinArshalCall + 1)) }
      (if saved then r.1 else { r.1 with flags := r.1.flags.set (bv jsonflags.c_WithinArshalCall) }, r.2) := by
  cases h : s.flags.get (bv jsonflags.c_WithinArshalCall) <;>
    simp [exec, runOn, run, userCallS, step, stepPrim, guardOK, h]

theorem bits_withinSet (i : Nat) : (bv (jsonflags.c_WithinArshalCall + 1)).getLsbD i = (decide (i = 0) || decide (i = 3)) :=
  bits_flagSet 3 (by decide) (by decide) i
theorem bits_within (i : Nat) : W.withinArshalCall.getLsbD i = decide (i = 3) :=
  bits_flag 3 (by decide) (by decide) i
theorem bits_stringSet (i : Nat) : (bv (jsonflags.c_StringTag + 1)).getLsbD i = (decide (i = 0) || decide (i = 27)) :=
  bits_flagSet 27 (by decide) (by decide) i
theorem bits_formatSet (i : Nat) : (bv (jsonflags.c_FormatTag + 1)).getLsbD i = (decide (i = 0) || decide (i = 28)) :=
  bits_flagSet 28 (by decide) (by decide) i
theorem bits_stringTag (i : Nat) : W.stringTag.getLsbD i = decide (i = 27) :=
  bits_flag 27 (by decide) (by decide) i
theorem bits_formatTag (i : Nat) : W.formatTag.getLsbD i = decide (i = 28) :=
  bits_flag 28 (by decide) (by decide) i
theorem bits_tagFlags (i : Nat) : W.tagFlags.getLsbD i = (decide (i = 27) || decide (i = 28)) := by
  rw [show W.tagFlags = W.stringTag ||| W.formatTag by decide, BitVec.getLsbD_or, bits_stringTag, bits_formatTag]

theorem clearKind_bits (k : ClearKind) (i : Nat) (h27 : i ≠ 27) (h28 : i ≠ 28) : k.word.getLsbD i = false := by
  cases k <;> simp [ClearKind.word, bits_tagFlags, bits_stringTag, bits_formatTag, h27, h28]

/-- `s'` differs from `s` at most in: the presence bit of WithinArshalCall (3) may have been added, the tag flags
StringTag (27) / FormatTag (28) may have been cleared, `Format` may have been emptied. -/
structure Frame (s s' : Struct) : Prop where
  indent : s'.indent = s.indent
  indentPrefix : s'.indentPrefix = s.indentPrefix
  byteLimit : s'.byteLimit = s.byteLimit
  depthLimit : s'.depthLimit = s.depthLimit
  marshalers : s'.marshalers = s.marshalers
  unmarshalers : s'.unmarshalers = s.unmarshalers
  pres : ∀ i, i ≠ 3 → i ≠ 27 → i ≠ 28 → s'.flags.presence.getLsbD i = s.flags.presence.getLsbD i
  vals : ∀ i, i ≠ 27 → i ≠ 28 → s'.flags.values.getLsbD i = s.flags.values.getLsbD i
  tags : ∀ i, i = 27 ∨ i = 28 →
    (s'.flags.presence.getLsbD i = s.flags.presence.getLsbD i ∧ s'.flags.values.getLsbD i = s.flags.values.getLsbD i) ∨
    (s'.flags.presence.getLsbD i = false ∧ s'.flags.values.getLsbD i = false)
  within : s.flags.presence.getLsbD 3 = true → s'.flags.presence.getLsbD 3 = true
  format : s'.format = s.format ∨ s'.format = []

theorem Frame.refl (s : Struct) : Frame s s :=
  ⟨rfl, rfl, rfl, rfl, rfl, rfl, fun _ _ _ _ => rfl, fun _ _ _ => rfl, fun _ _ => .inl ⟨rfl, rfl⟩, id, .inl rfl⟩

theorem Frame.trans {a b c : Struct} (h1 : Frame a b) (h2 : Frame b c) : Frame a c := by
  refine ⟨h2.indent.trans h1.indent, h2.indentPrefix.trans h1.indentPrefix, h2.byteLimit.trans h1.byteLimit,
    h2.depthLimit.trans h1.depthLimit, h2.marshalers.trans h1.marshalers, h2.unmarshalers.trans h1.unmarshalers,
    fun i a b c => (h2.pres i a b c).trans (h1.pres i a b c), fun i a b => (h2.vals i a b).trans (h1.vals i a b),
    ?_, fun h => h2.within (h1.within h), ?_⟩
  · intro i hi
    rcases h2.tags i hi with ⟨p2, v2⟩ | ⟨p2, v2⟩
    · rcases h1.tags i hi with ⟨p1, v1⟩ | ⟨p1, v1⟩
      · exact .inl ⟨p2.trans p1, v2.trans v1⟩
      · exact .inr ⟨p2.trans p1, v2.trans v1⟩
    · exact .inr ⟨p2, v2⟩
  · rcases h2.format with f2 | f2
    · rcases h1.format with f1 | f1
      · exact .inl (f2.trans f1)
      · exact .inr (f2.trans f1)
    · exact .inr f2

theorem frame_clear (s : Struct) (k : ClearKind) : Frame s { s with flags := s.flags.clear k.word } := by
  refine ⟨rfl, rfl, rfl, rfl, rfl, rfl, ?_, ?_, ?_, ?_, .inl rfl⟩
  · intro i _ h27 h28; simp [clear_presence_bit, clearKind_bits k i h27 h28]
  · intro i h27 h28; simp [clear_values_bit, clearKind_bits k i h27 h28]
  · intro i _
    simp only [clear_presence_bit, clear_values_bit]
    cases hk : k.word.getLsbD i <;> simp
  · intro h; simp [clear_presence_bit, clearKind_bits k 3 (by decide) (by decide), h]

theorem frame_setWithin (s : Struct) (w : BitVec 64) (hw : ∀ i, i ≠ 0 → i ≠ 3 → w.getLsbD i = false)
    (hv : (s.flags.set w).values.getLsbD 3 = s.flags.values.getLsbD 3) :
    Frame s { s with flags := s.flags.set w } := by
  have hn (i : Nat) (h3 : i ≠ 3) := set_bits_of_not_named s.flags w i
    (by by_cases h0 : i = 0
        · simp [h0]
        · simp [hw i h0 h3])
  refine ⟨rfl, rfl, rfl, rfl, rfl, rfl, fun i h3 _ _ => (hn i h3).1, fun i _ _ => ?_,
    fun i hi => .inl (hn i (by omega)), fun h => ?_, .inl rfl⟩
  · by_cases h3 : i = 3
    · subst h3; exact hv
    · exact (hn i h3).2
  · simp [set_presence_bit, h]

theorem tagged_nonflag (str : Bool) (fmt : Bytes) (s : Struct) :
    (tagged str fmt s).indent = s.indent ∧ (tagged str fmt s).indentPrefix = s.indentPrefix ∧
    (tagged str fmt s).byteLimit = s.byteLimit ∧ (tagged str fmt s).depthLimit = s.depthLimit ∧
    (tagged str fmt s).marshalers = s.marshalers ∧ (tagged str fmt s).unmarshalers = s.unmarshalers := by
  cases str <;> by_cases hf : fmt = [] <;> simp [tagged, hf]

theorem tagged_bits (str : Bool) (fmt : Bytes) (s : Struct) (i : Nat) (h27 : i ≠ 27) (h28 : i ≠ 28) :
    (tagged str fmt s).flags.presence.getLsbD i = s.flags.presence.getLsbD i ∧
    (tagged str fmt s).flags.values.getLsbD i = s.flags.values.getLsbD i := by
  have hs (t : Flags) := set_bits_of_not_named t (bv (jsonflags.c_StringTag + 1)) i
    (by rw [bits_stringSet]; by_cases h0 : i = 0 <;> simp [h0, h27])
  have hf (t : Flags) := set_bits_of_not_named t (bv (jsonflags.c_FormatTag + 1)) i
    (by rw [bits_formatSet]; by_cases h0 : i = 0 <;> simp [h0, h28])
  cases str <;> by_cases hfm : fmt = [] <;> simp only [tagged, hfm, bne_self_eq_false, Bool.false_eq_true, ↓reduceIte,
    bne_iff_ne, ne_eq, not_false_eq_true, and_self]
  · exact hf _
  · exact hs _
  · exact ⟨(hf _).1.trans (hs _).1, (hf _).2.trans (hs _).2⟩

theorem get_within (fs : Flags) : fs.get (bv jsonflags.c_WithinArshalCall) = fs.values.getLsbD 3 := by
  have : bv jsonflags.c_WithinArshalCall = flagBit 3 := by decide
  rw [this]; exact get_bit fs 3 (by decide)

theorem set_within_bits (fs : Flags) (w : BitVec 64) (hw : ∀ i, i ≠ 0 → w.getLsbD i = decide (i = 3)) (i : Nat) :
    (fs.set w).presence.getLsbD i = (fs.presence.getLsbD i || decide (i = 3)) ∧
    (fs.set w).values.getLsbD i = if i = 3 then w.getLsbD 0 else fs.values.getLsbD i := by
  rw [set_presence_bit, set_values_bit]
  by_cases h0 : i = 0
  · subst h0; simp
  · simp [hw i h0, h0]

/-- The wrapper around user code: the callee ran with WithinArshalCall forced to true and stayed within the frame of
that struct (`ih1`); afterwards the struct `R` has the callee's presence bits and the caller's value of the flag. -/
theorem frame_user (s r R : Struct)
    (ih1 : Frame { s with flags := s.flags.set (bv (jsonflags.c_WithinArshalCall + 1)) } r)
    (hnf : { R with flags := r.flags } = r)
    (hp : ∀ i, R.flags.presence.getLsbD i = r.flags.presence.getLsbD i)
    (hv : ∀ i, R.flags.values.getLsbD i = if i = 3 then s.flags.values.getLsbD 3 else r.flags.values.getLsbD i) :
    Frame s R := by
  have h1 := set_within_bits s.flags (bv (jsonflags.c_WithinArshalCall + 1)) (fun i h0 => by simp [bits_withinSet, h0])
  have hpres (i : Nat) (h3 : i ≠ 3) : s.flags.presence.getLsbD i =
      (s.flags.set (bv (jsonflags.c_WithinArshalCall + 1))).presence.getLsbD i := by rw [(h1 i).1]; simp [h3]
  have hvals (i : Nat) (h3 : i ≠ 3) : s.flags.values.getLsbD i =
      (s.flags.set (bv (jsonflags.c_WithinArshalCall + 1))).values.getLsbD i := by rw [(h1 i).2, if_neg h3]
  refine ⟨(congrArg Struct.indent hnf).trans ih1.indent, (congrArg Struct.indentPrefix hnf).trans ih1.indentPrefix,
    (congrArg Struct.byteLimit hnf).trans ih1.byteLimit, (congrArg Struct.depthLimit hnf).trans ih1.depthLimit,
    (congrArg Struct.marshalers hnf).trans ih1.marshalers, (congrArg Struct.unmarshalers hnf).trans ih1.unmarshalers,
    fun i h3 h27 h28 => ?_, fun i h27 h28 => ?_, fun i hi => ?_, fun _ => ?_, ?_⟩
  · rw [hp, hpres i h3]; exact ih1.pres i h3 h27 h28
  · rw [hv]
    split
    · subst i; rfl
    · next h3 => rw [hvals i h3]; exact ih1.vals i h27 h28
  · have h3 : i ≠ 3 := by omega
    rw [hp, hv, if_neg h3, hpres i h3, hvals i h3]
    exact ih1.tags i hi
  · rw [hp]; exact ih1.within (by rw [(h1 3).1]; simp)
  · have hf := congrArg Struct.format hnf
    exact hf ▸ ih1.format

theorem exec_frame (g : Bool) (a : Act) : ∀ s, Frame s (exec g a s).1 := by
  induction a with
  | skip | fail _ => intro s; exact Frame.refl s
  | clear k => intro s; exact frame_clear s k
  | seq a b iha ihb =>
    intro s
    simp only [exec, seqResult]
    split
    · exact iha s
    · exact (iha s).trans (ihb _)
  | user body ih =>
    intro s
    rw [user_closed]
    have ih1 := ih { s with flags := s.flags.set (bv (jsonflags.c_WithinArshalCall + 1)) }
    have h1 := set_within_bits s.flags (bv (jsonflags.c_WithinArshalCall + 1)) (fun i h0 => by simp [bits_withinSet, h0]) 3
    generalize exec g body { s with flags := s.flags.set (bv (jsonflags.c_WithinArshalCall + 1)) } = r at ih1 ⊢
    rw [get_within]
    cases hs3 : s.flags.values.getLsbD 3
    · -- the outermost user call: the flag is reset to false
      have h0 := set_within_bits r.1.flags (bv jsonflags.c_WithinArshalCall) (fun i _ => bits_within i)
      refine frame_user s r.1 _ ih1 rfl (fun i => ?_) (fun i => ?_)
      · refine (h0 i).1.trans ?_
        by_cases h3 : i = 3
        · subst h3; rw [ih1.within (by rw [h1.1]; simp)]; rfl
        · simp [h3]
      · rw [hs3]; exact (h0 i).2
    · -- a nested user call: the flag stays set
      refine frame_user s r.1 r.1 ih1 rfl (fun _ => rfl) (fun i => ?_)
      split
      · subst i; rw [hs3, ih1.vals 3 (by decide) (by decide), h1.2]; simp [bits_withinSet]
      · rfl
  | member mar str fmt body ih =>
    intro s
    rw [member_closed]
    have ih1 := ih (tagged str fmt s)
    obtain ⟨t1, t2, t3, t4, t5, t6⟩ := tagged_nonflag str fmt s
    exact ⟨ih1.indent.trans t1, ih1.indentPrefix.trans t2, ih1.byteLimit.trans t3, ih1.depthLimit.trans t4,
      ih1.marshalers.trans t5, ih1.unmarshalers.trans t6, fun _ _ _ _ => rfl, fun _ _ _ => rfl,
      fun _ _ => .inl ⟨rfl, rfl⟩, id, .inr rfl⟩
  | call mar opts nn body ih =>
    intro s
    rw [call_closed]
    split
    · exact ih s
    · split <;> exact Frame.refl s

/-- No `string`/`format` tag state in the struct: true of every coder constructed from public options
(`newCoder_tagFree`); the tag flags are internal and only set while a struct member is being processed. -/
def TagFree (s : Struct) : Prop :=
  s.flags.presence.getLsbD 27 = false ∧ s.flags.presence.getLsbD 28 = false ∧
  s.flags.values.getLsbD 27 = false ∧ s.flags.values.getLsbD 28 = false ∧ s.format = []

instance (s : Struct) : Decidable (TagFree s) := by unfold TagFree; infer_instance

theorem eq_of_frame {s s' : Struct} (h : Frame s s') (ht : TagFree s) :
    s' = s ∨ s' = { s with flags := ⟨s.flags.presence ||| W.withinArshalCall, s.flags.values⟩ } := by
  obtain ⟨p27, p28, v27, v28, hf⟩ := ht
  -- a tag flag that was cleared was not there in the first place
  have htag : ∀ i, i = 27 ∨ i = 28 → s'.flags.presence.getLsbD i = s.flags.presence.getLsbD i ∧
      s'.flags.values.getLsbD i = s.flags.values.getLsbD i := by
    intro i hi
    rcases h.tags i hi with t | ⟨a, b⟩
    · exact t
    · rcases hi with rfl | rfl
      · exact ⟨a.trans p27.symm, b.trans v27.symm⟩
      · exact ⟨a.trans p28.symm, b.trans v28.symm⟩
  have hv : s'.flags.values = s.flags.values := by
    apply BitVec.eq_of_getLsbD_eq; intro i _
    by_cases hi : i = 27 ∨ i = 28
    · exact (htag i hi).2
    · exact h.vals i (by omega) (by omega)
  have hp : s'.flags.presence = s.flags.presence ||| (if s'.flags.presence.getLsbD 3 then W.withinArshalCall else 0#64) := by
    apply BitVec.eq_of_getLsbD_eq; intro i _
    rw [BitVec.getLsbD_or, getLsbD_ite, bits_within]
    by_cases h3 : i = 3
    · subst h3; cases hs : s.flags.presence.getLsbD 3
      · simp
      · simp [h.within hs]
    · rw [decide_eq_false h3, Bool.and_false, Bool.or_false]
      by_cases hi : i = 27 ∨ i = 28
      · exact (htag i hi).1
      · exact h.pres i h3 (by omega) (by omega)
  have hfmt : s'.format = s.format := h.format.elim id (·.trans hf.symm)
  have e : s' = { s with flags := ⟨s'.flags.presence, s.flags.values⟩ } := by
    cases s; cases s'
    simp only [Struct.mk.injEq]
    exact ⟨congrArg (Flags.mk _) hv, h.indent, h.indentPrefix, h.byteLimit, h.depthLimit, h.marshalers, h.unmarshalers, hfmt⟩
  rw [e, hp]
  cases s'.flags.presence.getLsbD 3
  · left; simp
  · right; rfl

end JsonV.Lemmas.ScopeL
