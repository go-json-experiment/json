/-
The streaming decoder of Model/Stream.lean simulates the whole-buffer decoder call by call (C05: `sim_tokens`,
`fault_stutter`, `value_span_tokens`).
-/
import JsonV.Lemmas.ResumeStreamSim
import JsonV.Lemmas.ResumeWindow
import JsonV.Lemmas.ResumeStreamCons

namespace JsonV.Model.Stream
open JsonV JsonV.Model JsonV.Model.Validate JsonV.Model.TokenLoop JsonV.Model.Window

theorem append_split (a b c d : Bytes) (h : a ++ b = c ++ d) (hl : c.length ≤ a.length) :
    a = c ++ d.take (a.length - c.length) ∧ b = d.drop (a.length - c.length) := by
  constructor
  · have h1 : a = (a ++ b).take a.length := by simp
    rw [h1, h, List.take_append]
    simp [List.take_of_length_le hl]
  · have h1 : b = (a ++ b).drop a.length := by simp
    rw [h1, h, List.drop_append]
    simp [List.drop_of_length_le hl]

theorem ite_le_right {c : Prop} [Decidable c] {a n : Nat} (h : a ≤ n) : (if c then a else n) ≤ n := by
  split
  · exact h
  · exact Nat.le_refl n

/-- a window that differs from `w` only in what a caller may no longer look at, with `prevStart ≤ prevEnd ≤ len(buf)` -/
def SameUnread (w0 w : Window) : Prop :=
  w0.unread = w.unread ∧ w0.inputOffset = w.inputOffset ∧ w0.pending = w.pending ∧
    w0.prevStart ≤ w0.prevEnd ∧ w0.prevEnd ≤ w0.buf.length

theorem invalidate_facts (w : Window) (h1 : w.prevStart ≤ w.prevEnd) (h2 : w.prevEnd ≤ w.buf.length) :
    SameUnread (invalidate w) w := by
  unfold invalidate
  split
  · rename_i hg
    exact ⟨List.drop_set_of_lt hg.1, rfl, rfl, Nat.le_refl _, by rw [List.length_set]; exact h2⟩
  · exact ⟨rfl, rfl, rfl, h1, h2⟩

theorem fetch_facts (w : Window) (k : Nat) (h1 : w.prevStart ≤ w.prevEnd) (h2 : w.prevEnd ≤ w.buf.length) :
    (Window.fetch w k).unread = w.unread ++ w.pending.take k ∧ (Window.fetch w k).inputOffset = w.inputOffset ∧
    (Window.fetch w k).pending = w.pending.drop k ∧
    (Window.fetch w k).prevStart ≤ (Window.fetch w k).prevEnd ∧ (Window.fetch w k).prevEnd ≤ (Window.fetch w k).buf.length :=
  ⟨List.drop_sub_drop_append w.buf _ h1 h2,
   by simp only [Window.fetch, Window.inputOffset]; rw [Nat.add_assoc, Nat.add_sub_of_le h1],
   rfl, Nat.zero_le _, fetch_prevEnd_le w k h2⟩

theorem commit_facts (w : Window) (f : Bool) (u' rest' : Bytes)
    (h1 : w.prevStart ≤ w.prevEnd) (h2 : w.prevEnd ≤ w.buf.length)
    (hT : u' ++ rest' = w.unread ++ w.pending) (hu : w.unread.length ≤ u'.length) :
    (commitFetch w f (u'.length - w.unread.length)).unread = u' ∧
    (commitFetch w f (u'.length - w.unread.length)).inputOffset = w.inputOffset ∧
    (commitFetch w f (u'.length - w.unread.length)).pending = rest' ∧
    (commitFetch w f (u'.length - w.unread.length)).prevStart ≤ (commitFetch w f (u'.length - w.unread.length)).prevEnd ∧
    (commitFetch w f (u'.length - w.unread.length)).prevEnd ≤ (commitFetch w f (u'.length - w.unread.length)).buf.length := by
  obtain ⟨ha, hb⟩ := append_split u' rest' w.unread w.pending hT hu
  unfold commitFetch
  by_cases hc : (f || (u'.length - w.unread.length) != 0) = true
  · rw [if_pos hc]
    obtain ⟨g1, g2, g3, g4, g5⟩ := fetch_facts w (u'.length - w.unread.length) h1 h2
    exact ⟨by rw [g1]; exact ha.symm, g2, by rw [g3]; exact hb.symm, g4, g5⟩
  · rw [if_neg hc]
    have hk : u'.length - w.unread.length = 0 := by simp at hc; exact hc.2
    rw [hk] at ha hb
    simp at ha hb
    exact ⟨ha.symm, rfl, hb.symm, h1, h2⟩

/-- the streaming decoder `s` and the whole-slice decoder `ws` are at the same point of the same input -/
def Sim (s : SState) (ws : WState) : Prop :=
  s.w.prevStart ≤ s.w.prevEnd ∧ s.w.prevEnd ≤ s.w.buf.length ∧ s.w.pending = avail s.events ∧
  ws.st = s.st ∧ ws.r = s.w.unread ++ avail s.events ∧ ws.off = s.w.inputOffset

theorem sim_init (es : List Event) : Sim (init es) { r := avail es } := by
  simp [Sim, init, Window.init, Window.unread, Window.inputOffset]

theorem advance_unread {w : Window} {u' : Bytes} (hu : w.unread = u') (hw : w.prevEnd ≤ w.buf.length) {x n : Nat}
    (hx : x ≤ n) (hn : n ≤ u'.length) :
    (Window.advance w (w.prevEnd + x) (w.prevEnd + n)).unread = u'.drop n ∧
    (Window.advance w (w.prevEnd + x) (w.prevEnd + n)).inputOffset = w.inputOffset + n ∧
    Window.advance w (w.prevEnd + x) (w.prevEnd + n) = { w with prevStart := w.prevEnd + x, prevEnd := w.prevEnd + n } ∧
    w.prevEnd + n ≤ w.buf.length := by
  have hle : w.prevEnd + n ≤ w.buf.length := by
    rw [← List.length_drop_add w.buf hw]
    exact Nat.add_le_add_left (by rw [← hu] at hn; exact hn) _
  unfold Window.advance
  rw [if_pos ⟨Nat.le_add_right _ _, Nat.add_le_add_left hx _, hle⟩]
  exact ⟨by rw [← hu]; simp only [Window.unread, List.drop_drop], by simp only [Window.inputOffset, Nat.add_assoc], rfl, hle⟩

theorem take_drop_input (pre u rest : Bytes) {i j : Nat} (hij : i ≤ j) (hj : j ≤ u.length) :
    ((pre ++ (u ++ rest)).drop (pre.length + i)).take (j - i) = (u.drop i).take (j - i) := by
  rw [List.drop_length_add_append, List.drop_append_of_le_length (Nat.le_trans hij hj), List.take_append_of_le_length]
  rw [List.length_drop]
  exact Nat.sub_le_sub_right hj i

theorem kindAt_append (u e : Bytes) (p : Nat) (h : p < u.length) : kindAt (u ++ e) p = kindAt u p := by
  unfold kindAt
  rw [List.drop_append_of_le_length (Nat.le_of_lt h)]
  obtain ⟨c, vt, hd⟩ := drop_cons_of_lt u p h
  rw [hd]; rfl

/-- What ReadToken and ReadValue do with the outcome `S` of the scan on the unread part of `w0` (the window after
`invalidatePreviousRead`, or the window itself when the call starts at a cached position). -/
def finish (span : UInt8 → Bool) (s : SState) (w0 : Window) : SRes → Out × SState
  | .fault u' es' => (.fault, { s with w := commitFetch w0 true (u'.length - w0.unread.length), events := es' })
  | .res (.err off e) _ u' es' fetched =>
    (.err ((commitFetch w0 fetched (u'.length - w0.unread.length)).inputOffset + off) e,
     { s with w := commitFetch w0 fetched (u'.length - w0.unread.length), events := es' })
  | .res (.tok n st') start u' es' fetched =>
    let w1 := commitFetch w0 fetched (u'.length - w0.unread.length)
    (.tok (kindAt u' start) (w1.inputOffset + start) (w1.inputOffset + n),
     { st := st', events := es',
       w := Window.advance w1 (w1.prevEnd + (if span (kindAt u' start) then start else n)) (w1.prevEnd + n) })

theorem readWith_eq (lex : TState → Bytes → Nat → List Event → Bool → SRes) (span : UInt8 → Bool) (s : SState) :
    readWith lex span s =
      finish span s (Window.invalidate s.w) (scanWith s.st (lex s.st) (Window.invalidate s.w).unread s.events) := by
  unfold readWith
  simp only
  cases scanWith s.st (lex s.st) (Window.invalidate s.w).unread s.events with
  | fault u' es' => rfl
  | res r start u' es' f => cases r <;> rfl

theorem commit_sim {s : SState} {ws : WState} (h : Sim s ws) {w0 : Window} (h0 : SameUnread w0 s.w) (f : Bool)
    {u' : Bytes} {es' : List Event} (hT : u' ++ avail es' = w0.unread ++ avail s.events)
    (hu : w0.unread.length ≤ u'.length) :
    Sim { s with w := commitFetch w0 f (u'.length - w0.unread.length), events := es' } ws ∧
      (commitFetch w0 f (u'.length - w0.unread.length)).unread = u' ∧
      (commitFetch w0 f (u'.length - w0.unread.length)).inputOffset = ws.off ∧ ws.r = u' ++ avail es' := by
  obtain ⟨_, _, h3, h4, h5, h6⟩ := h
  obtain ⟨i1, i2, i3, i4, i5⟩ := h0
  obtain ⟨c1, c2, c3, c4, c5⟩ := commit_facts w0 f u' (avail es') i4 i5 (by rw [i3, h3]; exact hT) hu
  have hr : ws.r = u' ++ avail es' := by rw [h5, ← i1]; exact hT.symm
  exact ⟨⟨c4, c5, c3, h4, by rw [c1]; exact hr, by rw [c2, i2]; exact h6⟩, c1, by rw [c2, i2]; exact h6.symm, hr⟩

/-- One call `r` of the streaming decoder from `s` against the same call `rw` from `ws`: either the reader faulted (the
I/O error is returned, the decoders are still at the same point, a fault event was consumed), or the call returns
what the whole-slice decoder returns and the decoders are again at the same point. -/
def Step1 (s : SState) (ws : WState) (r : Out × SState) (rw : Out × WState) : Prop :=
  (r.1 = .fault ∧ Sim r.2 ws ∧ Consumed s.events r.2.events true) ∨
  (r.1 = rw.1 ∧ Sim r.2 rw.2 ∧ Consumed s.events r.2.events false)

theorem finish_sim (lexW : TState → Nat → Bytes → TRes) (span : UInt8 → Bool) (s : SState) (ws : WState) (h : Sim s ws)
    (w0 : Window) (h0 : SameUnread w0 s.w) (S : SRes) (hS : ScanAdv s.st (lexW s.st) w0.unread s.events S) :
    Step1 s ws (finish span s w0 S) (wholeReadWith lexW ws) := by
  have hst : ws.st = s.st := h.2.2.2.1
  have hr0 : ws.r = w0.unread ++ avail s.events := by rw [h0.1]; exact h.2.2.2.2.1
  cases S with
  | fault u' es' => exact .inl ⟨rfl, (commit_sim h h0 true hS.same hS.len).1, hS.cons⟩
  | res r start u' es' f =>
    obtain ⟨g0, ⟨g1, g3, g2⟩, g4⟩ := hS
    obtain ⟨hsim, c1, hoff, hTu⟩ := commit_sim h h0 f g1 g3
    have hw : wholeWith ws.st (lexW ws.st) ws.r = r := by rw [hst, hr0]; exact g0.symm
    right
    cases r with
    | err off e =>
      simp only [finish, wholeReadWith, hw]
      exact ⟨by rw [hoff], hsim, g2⟩
    | tok n st' =>
      obtain ⟨t1, t2, t3, t4⟩ := g4 n st' rfl
      obtain ⟨c4, c5, c3, _, _, _⟩ := hsim
      simp only [finish, wholeReadWith, hw] at c1 hoff c3 c4 c5 ⊢
      generalize commitFetch w0 f (u'.length - w0.unread.length) = w1 at *
      have hsel : (if span (kindAt u' start) = true then start else n) ≤ n := ite_le_right t2
      obtain ⟨a1, a2, a3, a4⟩ := advance_unread c1 c5 hsel t3
      have hstart : wholeStart ws.r = start := by rw [hr0]; exact t1.symm
      refine ⟨?_, ⟨?_, ?_, ?_, rfl, ?_, ?_⟩, g2⟩
      · rw [hstart, hoff, hTu, kindAt_append u' _ start t4]
      · rw [a3]; exact Nat.add_le_add_left hsel _
      · rw [a3]; exact a4
      · rw [a3]; exact c3
      · rw [a1, hTu, List.drop_append_of_le_length t3]
      · rw [a2, hoff]

theorem readWith_sim (lex : TState → Bytes → Nat → List Event → Bool → SRes) (lexW : TState → Nat → Bytes → TRes)
    (span : UInt8 → Bool)
    (hlex : ∀ st, LexSim (lex st) (lexW st))
    (s : SState) (ws : WState) (h : Sim s ws) :
    Step1 s ws (readWith lex span s) (wholeReadWith lexW ws) := by
  rw [readWith_eq]
  exact finish_sim lexW span s ws h _ (invalidate_facts s.w h.1 h.2.1) _ (scanWith_ok s.st (lex s.st) (lexW s.st) (hlex s.st) _ _)

theorem readToken_sim (o : VOpts) (s : SState) (ws : WState) (h : Sim s ws) :
    Step1 s ws (readToken o s) (wholeRead o ws) :=
  readWith_sim (lexS o) (lexToken o) _ (fun st => lexS_ok o st) s ws h

/-- a call that cannot fault: same result as on the whole input, decoders at the same point again -/
def StepNF (r : Out × SState) (rw : Out × WState) : Prop :=
  r.1 = rw.1 ∧ Sim r.2 rw.2 ∧ NoFault r.2.events

theorem stepNF_of_sim {r : Out × SState} {rw : Out × WState} {s : SState} {ws : WState} (hn : NoFault s.events)
    (h : Step1 s ws r rw) : StepNF r rw := by
  rcases h with ⟨_, _, hc⟩ | ⟨ho, hs', hc⟩
  · exact absurd (noFault_of_consumed hc hn).1 (by decide)
  · exact ⟨ho, hs', (noFault_of_consumed hc hn).2⟩

theorem readToken_nf (o : VOpts) (s : SState) (ws : WState) (h : Sim s ws) (hn : NoFault s.events) :
    StepNF (readToken o s) (wholeRead o ws) :=
  stepNF_of_sim hn (readToken_sim o s ws h)

theorem wholeReadWith_ne_fault (lexW : TState → Nat → Bytes → TRes) (ws : WState) : (wholeReadWith lexW ws).1 ≠ .fault := by
  unfold wholeReadWith; split <;> simp

theorem wholeRead_ne_fault (o : VOpts) (ws : WState) : (wholeRead o ws).1 ≠ .fault :=
  wholeReadWith_ne_fault _ ws

/-- `sim_tokens` (C05): with a reader that never faults, any number of ReadToken calls on the streaming decoder
returns, call by call, what the calls return on the whole-slice decoder at the same point. -/
theorem run_sim (o : VOpts) (n : Nat) : ∀ (s : SState) (ws : WState), Sim s ws → NoFault s.events →
    run o n s = wholeRun o n ws := by
  induction n with
  | zero => intros; rfl
  | succ n ih =>
    intro s ws h hn
    obtain ⟨ho, hs', hn'⟩ := readToken_nf o s ws h hn
    simp only [run, wholeRun]
    rw [ho, ih _ _ hs' hn']

/-- `fault_stutter_run` (C05): for any reader, dropping the calls that returned the transient error from the
transcript leaves the transcript of the whole-slice decoder. -/
theorem run_stutter (o : VOpts) (n : Nat) : ∀ (s : SState) (ws : WState), Sim s ws →
    (run o n s).filter (fun x => x != .fault) =
      wholeRun o ((run o n s).filter (fun x => x != .fault)).length ws := by
  induction n with
  | zero => intros; rfl
  | succ n ih =>
    intro s ws h
    simp only [run]
    rcases readToken_sim o s ws h with ⟨hf, hs', _⟩ | ⟨ho, hs', _⟩
    · rw [hf]
      simp only [List.filter_cons, bne_self_eq_false, Bool.false_eq_true, if_false]
      exact ih _ _ hs'
    · have hne : ((readToken o s).1 != Out.fault) = true := by
        rw [ho]; simpa using wholeRead_ne_fault o ws
      simp only [List.filter_cons, hne, if_true, List.length_cons, wholeRun]
      rw [ho, ← ih _ _ hs']

theorem avail_chunks (cs : List Bytes) : avail (cs.map Event.chunk) = cs.flatten := by
  induction cs with
  | nil => rfl
  | cons c cs ih => simp [avail, ih]

theorem noFault_chunks (cs : List Bytes) : NoFault (cs.map Event.chunk) := by
  intro h; simp at h

/-- the raw bytes a caller sees for the previous token: `d.buf[d.prevStart:d.prevEnd]` -/
def SState.prevBytes (s : SState) : Bytes := (s.w.buf.drop s.w.prevStart).take (s.w.prevEnd - s.w.prevStart)

/-- a token or value handed out at `[a, b)`: where it lies in the input, and that the window holds its bytes -/
def SpanOk (ws : WState) (pre : Bytes) (s' : SState) (spans : Bool) (a b : Nat) : Prop :=
  ws.off ≤ a ∧ a ≤ b ∧ b ≤ (pre ++ ws.r).length ∧ s'.w.baseOffset + s'.w.prevEnd = b ∧
  (spans = true → s'.w.baseOffset + s'.w.prevStart = a ∧ s'.prevBytes = ((pre ++ ws.r).drop a).take (b - a))

theorem finish_span (lexW : TState → Nat → Bytes → TRes) (span : UInt8 → Bool) (s : SState) (ws : WState) (h : Sim s ws)
    (w0 : Window) (h0 : SameUnread w0 s.w) (S : SRes) (hS : ScanAdv s.st (lexW s.st) w0.unread s.events S)
    (pre : Bytes) (hpre : pre.length = ws.off) (k : UInt8) (a b : Nat) (ht : (finish span s w0 S).1 = .tok k a b) :
    SpanOk ws pre (finish span s w0 S).2 (span k) a b := by
  cases S with
  | fault u' es' => cases ht
  | res r start u' es' f =>
    obtain ⟨_, ⟨g1, g3, _⟩, g4⟩ := hS
    obtain ⟨hsim, c1, hoff, hr⟩ := commit_sim h h0 f g1 g3
    have c5 := hsim.2.1
    cases r with
    | err off e => cases ht
    | tok n st' =>
      obtain ⟨_, t2, t3, _⟩ := g4 n st' rfl
      simp only [finish] at ht c5 ⊢
      generalize commitFetch w0 f (u'.length - w0.unread.length) = w1 at *
      injection ht with hk ha hb
      subst hk
      have hsel : (if span (kindAt u' start) = true then start else n) ≤ n := ite_le_right t2
      obtain ⟨_, a2, a3, _⟩ := advance_unread c1 c5 hsel t3
      rw [hoff] at ha hb a2
      subst ha hb
      refine ⟨Nat.le_add_right _ _, Nat.add_le_add_left t2 _, ?_, a2, ?_⟩
      · rw [hr, List.length_append, List.length_append, hpre]
        exact Nat.add_le_add_left (Nat.le_trans t3 (Nat.le_add_right _ _)) _
      · intro hkk
        rw [if_pos hkk] at a3 ⊢
        have hbase : w1.baseOffset + (w1.prevEnd + start) = ws.off + start := by rw [← Nat.add_assoc]; exact congrArg (· + start) hoff
        refine ⟨by rw [a3]; exact hbase, ?_⟩
        unfold SState.prevBytes
        rw [a3, hr, ← hpre]
        simp only [← c1, Window.unread, Nat.add_sub_add_left]
        rw [take_drop_input pre _ _ t2 (by rw [← c1] at t3; exact t3), List.drop_drop]

theorem readWith_span (lex : TState → Bytes → Nat → List Event → Bool → SRes) (lexW : TState → Nat → Bytes → TRes)
    (span : UInt8 → Bool)
    (hlex : ∀ st, LexSim (lex st) (lexW st))
    (s : SState) (ws : WState) (h : Sim s ws) (pre : Bytes) (hpre : pre.length = ws.off)
    (k : UInt8) (a b : Nat) (ht : (readWith lex span s).1 = .tok k a b) :
    SpanOk ws pre (readWith lex span s).2 (span k) a b := by
  rw [readWith_eq] at ht ⊢
  exact finish_span lexW span s ws h _ (invalidate_facts s.w h.1 h.2.1) _
    (scanWith_ok s.st (lex s.st) (lexW s.st) (hlex s.st) _ _) pre hpre k a b ht

theorem readToken_span (o : VOpts) (s : SState) (ws : WState) (h : Sim s ws) (pre : Bytes) (hpre : pre.length = ws.off)
    (k : UInt8) (a b : Nat) (ht : (readToken o s).1 = .tok k a b) :
    SpanOk ws pre (readToken o s).2 (k == 0x22 || k == 0x30) a b :=
  readWith_span (lexS o) (lexToken o) _ (fun st => lexS_ok o st) s ws h pre hpre k a b ht

end JsonV.Model.Stream
